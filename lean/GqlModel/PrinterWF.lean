import GqlModel.PrinterTokens
import GqlModel.ValueReader
/-! # Well-formed documents and the plain token sequence of a document

`WFDocument d` collects what every parser-produced tree satisfies (it is the range of lexer + parser; the parser
worker's soundness theorem `parseToks_sound` plus the lexer's token invariants give it for everything the parser
accepts without the `bad` flag):

* every name is a GraphQL Name, number texts are well-formed (`Reader.WFValue`, `Reader.WFType`);
* enum *values* are not `true` / `false` / `null`, fragment names are not `on`;
* default values are constant (contain no variable);
* selection sets, `schema { … }`, union member lists and directive location lists are not empty;
* a variable definition has a type (`none` only arises through the flagged malformed-type path D-03b), and `!` is
  never applied twice.

`docT d` is the token sequence written directly after the grammar, without the printer's `join`/`wrap` emptiness
tests; `GqlProofs/PrinterPrintsDoc.lean` proves `printTokens d = docT d` for well-formed `d`. -/
namespace GqlModel.Printer
open GqlModel GqlModel.Reader

abbrev KV := TokenKind × String

def pT (k : TokenKind) : List KV := [(k, "")]
def nT (s : String) : List KV := [(.name, s)]

/-! ## plain token sequences -/

def typeT : TypeRef → List KV
  | .named n _ => nT n
  | .list t _ => pT .bracketL ++ typeT t ++ pT .bracketR
  | .nonNull t _ => typeT t ++ pT .bang

def optTypeT : Option TypeRef → List KV
  | none => []
  | some t => typeT t

mutual
def valueT : Value → List KV
  | .var n _ => pT .dollar ++ nT n
  | .int raw _ => [(.int, raw)]
  | .float raw _ => [(.float, raw)]
  | .str s _ => [(.string, s)]
  | .bool b _ => nT (if b then "true" else "false")
  | .enum v _ => nT v
  | .list vs _ => pT .bracketL ++ valuesT vs ++ pT .bracketR
  | .obj fs _ => pT .braceL ++ fieldsT fs ++ pT .braceR
def valuesT : List Value → List KV
  | [] => []
  | v :: vs => valueT v ++ valuesT vs
def fieldT : ObjField → List KV
  | .mk n v _ => nT n.value ++ pT .colon ++ valueT v
def fieldsT : List ObjField → List KV
  | [] => []
  | f :: fs => fieldT f ++ fieldsT fs
end

def argT (a : Argument) : List KV := nT a.name.value ++ pT .colon ++ valueT a.value

def argListT : List Argument → List KV
  | [] => []
  | a :: as => argT a ++ argListT as

def argsT (as : List Argument) : List KV :=
  match as with
  | [] => []
  | _ :: _ => pT .parenL ++ argListT as ++ pT .parenR

def directiveT (d : Directive) : List KV := pT .at ++ nT d.name.value ++ argsT d.args

def directivesT : List Directive → List KV
  | [] => []
  | d :: ds => directiveT d ++ directivesT ds

def aliasT : Option Name → List KV
  | none => []
  | some a => nT a.value ++ pT .colon

def typeCondT : Option TypeRef → List KV
  | none => []
  | some t => nT "on" ++ typeT t

mutual
def selectionT : Selection → List KV
  | .field alias name args dirs sel _ => aliasT alias ++ nT name.value ++ argsT args ++ directivesT dirs ++ optSelSetT sel
  | .spread name dirs _ => pT .spread ++ nT name.value ++ directivesT dirs
  | .inline tc dirs sel _ => pT .spread ++ typeCondT tc ++ directivesT dirs ++ selSetT sel
def selSetT : SelectionSet → List KV
  | .mk sels _ => pT .braceL ++ selectionsT sels ++ pT .braceR
def optSelSetT : Option SelectionSet → List KV
  | none => []
  | some s => selSetT s
def selectionsT : List Selection → List KV
  | [] => []
  | s :: ss => selectionT s ++ selectionsT ss
end

def defaultT : Option Value → List KV
  | none => []
  | some v => pT .equals ++ valueT v

def varDefT (v : VarDef) : List KV :=
  pT .dollar ++ nT v.var.value ++ pT .colon ++ optTypeT v.type ++ defaultT v.default

def varDefListT : List VarDef → List KV
  | [] => []
  | v :: vs => varDefT v ++ varDefListT vs

def varDefsT (vs : List VarDef) : List KV :=
  match vs with
  | [] => []
  | _ :: _ => pT .parenL ++ varDefListT vs ++ pT .parenR

def descT : Option String → List KV
  | none => []
  | some s => [(if descBlockSafeC s.toList then .blockString else .string, s)]

def inputValueDefT (d : InputValueDef) : List KV :=
  descT d.description ++ nT d.name.value ++ pT .colon ++ typeT d.type ++ defaultT d.default ++ directivesT d.dirs

def inputValueDefListT : List InputValueDef → List KV
  | [] => []
  | d :: ds => inputValueDefT d ++ inputValueDefListT ds

def argDefsT (ds : List InputValueDef) : List KV :=
  match ds with
  | [] => []
  | _ :: _ => pT .parenL ++ inputValueDefListT ds ++ pT .parenR

def fieldDefT (d : FieldDef) : List KV :=
  descT d.description ++ nT d.name.value ++ argDefsT d.args ++ pT .colon ++ typeT d.type ++ directivesT d.dirs

def fieldDefListT : List FieldDef → List KV
  | [] => []
  | d :: ds => fieldDefT d ++ fieldDefListT ds

def enumValueDefT (d : EnumValueDef) : List KV := descT d.description ++ nT d.name.value ++ directivesT d.dirs

def enumValueDefListT : List EnumValueDef → List KV
  | [] => []
  | d :: ds => enumValueDefT d ++ enumValueDefListT ds

def opTypeDefT (d : OpTypeDef) : List KV := nT d.operation.toString ++ pT .colon ++ typeT d.type

def opTypeDefListT : List OpTypeDef → List KV
  | [] => []
  | d :: ds => opTypeDefT d ++ opTypeDefListT ds

/-- `x (sep x)*` -/
def sepByT (k : TokenKind) : List (List KV) → List KV
  | [] => []
  | [x] => x
  | x :: y :: rest => x ++ pT k ++ sepByT k (y :: rest)

def optNameT : Option Name → List KV
  | none => []
  | some n => nT n.value

def isShortForm (op : OpType) (name : Option Name) (vars : List VarDef) (dirs : List Directive) : Bool :=
  name.isNone && vars.isEmpty && dirs.isEmpty && op == .query

def operationT (op : OpType) (name : Option Name) (vars : List VarDef) (dirs : List Directive) (sel : SelectionSet) :
    List KV :=
  if isShortForm op name vars dirs then selSetT sel
  else nT op.toString ++ optNameT name ++ varDefsT vars ++ directivesT dirs ++ selSetT sel

def fragmentT (name : Name) (tc : TypeRef) (dirs : List Directive) (sel : SelectionSet) : List KV :=
  nT "fragment" ++ nT name.value ++ nT "on" ++ typeT tc ++ directivesT dirs ++ selSetT sel

def schemaT (dirs : List Directive) (ops : List OpTypeDef) : List KV :=
  nT "schema" ++ directivesT dirs ++ pT .braceL ++ opTypeDefListT ops ++ pT .braceR

def scalarT (desc : Option String) (name : Name) (dirs : List Directive) : List KV :=
  descT desc ++ nT "scalar" ++ nT name.value ++ directivesT dirs

def implementsT (ifs : List TypeRef) : List KV :=
  match ifs with
  | [] => []
  | _ :: _ => nT "implements" ++ sepByT .amp (ifs.map typeT)

def objectDefT (d : ObjectDef) : List KV :=
  descT d.description ++ nT "type" ++ nT d.name.value ++ implementsT d.interfaces ++ directivesT d.dirs ++
    pT .braceL ++ fieldDefListT d.fields ++ pT .braceR

def interfaceT (desc : Option String) (name : Name) (dirs : List Directive) (fields : List FieldDef) : List KV :=
  descT desc ++ nT "interface" ++ nT name.value ++ directivesT dirs ++ pT .braceL ++ fieldDefListT fields ++ pT .braceR

def unionT (desc : Option String) (name : Name) (dirs : List Directive) (types : List TypeRef) : List KV :=
  descT desc ++ nT "union" ++ nT name.value ++ directivesT dirs ++ pT .equals ++ sepByT .pipe (types.map typeT)

def enumT (desc : Option String) (name : Name) (dirs : List Directive) (values : List EnumValueDef) : List KV :=
  descT desc ++ nT "enum" ++ nT name.value ++ directivesT dirs ++ pT .braceL ++ enumValueDefListT values ++ pT .braceR

def inputObjectT (desc : Option String) (name : Name) (dirs : List Directive) (fields : List InputValueDef) : List KV :=
  descT desc ++ nT "input" ++ nT name.value ++ directivesT dirs ++ pT .braceL ++ inputValueDefListT fields ++ pT .braceR

def extendT (d : ObjectDef) : List KV := nT "extend" ++ objectDefT d

def directiveDefT (desc : Option String) (name : Name) (args : List InputValueDef) (locations : List Name) : List KV :=
  descT desc ++ nT "directive" ++ pT .at ++ nT name.value ++ argDefsT args ++ nT "on" ++
    sepByT .pipe (locations.map (fun n => nT n.value))

def definitionT : Definition → List KV
  | .operation op name vars dirs sel _ => operationT op name vars dirs sel
  | .fragment name tc dirs sel _ => fragmentT name tc dirs sel
  | .schema dirs ops _ => schemaT dirs ops
  | .scalar desc name dirs _ => scalarT desc name dirs
  | .object d => objectDefT d
  | .interface desc name dirs fields _ => interfaceT desc name dirs fields
  | .union desc name dirs types _ => unionT desc name dirs types
  | .enum desc name dirs values _ => enumT desc name dirs values
  | .inputObject desc name dirs fields _ => inputObjectT desc name dirs fields
  | .extend d _ => extendT d
  | .directive desc name args locations _ => directiveDefT desc name args locations

def definitionListT : List Definition → List KV
  | [] => []
  | d :: ds => definitionT d ++ definitionListT ds

def docT (d : Document) : List KV := definitionListT d.defs

/-! ## well-formedness -/

def isBaseTypeB : TypeRef → Bool
  | .nonNull _ _ => false
  | _ => true

def WFName (s : String) : Prop := isNameC s.toList = true

mutual
/-- no variable anywhere inside (`Value[Const]`) -/
def ConstValue : Value → Prop
  | .var _ _ => False
  | .list vs _ => ConstValues vs
  | .obj fs _ => ConstFields fs
  | _ => True
def ConstValues : List Value → Prop
  | [] => True
  | v :: vs => ConstValue v ∧ ConstValues vs
def ConstField : ObjField → Prop
  | .mk _ v _ => ConstValue v
def ConstFields : List ObjField → Prop
  | [] => True
  | f :: fs => ConstField f ∧ ConstFields fs
end

def WFArgument (a : Argument) : Prop := WFName a.name.value ∧ WFValue a.value

def WFArguments : List Argument → Prop
  | [] => True
  | a :: as => WFArgument a ∧ WFArguments as

def WFDirective (d : Directive) : Prop := WFName d.name.value ∧ WFArguments d.args

def WFDirectives : List Directive → Prop
  | [] => True
  | d :: ds => WFDirective d ∧ WFDirectives ds

/-- constant arguments (directives on type-system definitions are parsed with the general value grammar, so no
constness is required there; kept for default values only) -/
def WFDefault : Option Value → Prop
  | none => True
  | some v => WFValue v ∧ ConstValue v

def WFOptName : Option Name → Prop
  | none => True
  | some n => WFName n.value

/-- a type condition / interface / union member: a named type -/
def WFNamedType : TypeRef → Prop
  | .named n _ => WFName n
  | _ => False

def WFTypeCond : Option TypeRef → Prop
  | none => True
  | some t => WFNamedType t

mutual
def WFSelection : Selection → Prop
  | .field alias name args dirs sel _ =>
    WFOptName alias ∧ WFName name.value ∧ WFArguments args ∧ WFDirectives dirs ∧ WFOptSelSet sel
  | .spread name dirs _ => WFName name.value ∧ name.value ≠ "on" ∧ WFDirectives dirs
  | .inline tc dirs sel _ => WFTypeCond tc ∧ WFDirectives dirs ∧ WFSelSet sel
def WFSelSet : SelectionSet → Prop
  | .mk sels _ => sels ≠ [] ∧ WFSelections sels
def WFOptSelSet : Option SelectionSet → Prop
  | none => True
  | some s => WFSelSet s
def WFSelections : List Selection → Prop
  | [] => True
  | s :: ss => WFSelection s ∧ WFSelections ss
end

def WFVarDef (v : VarDef) : Prop :=
  WFName v.var.value ∧ (∃ t, v.type = some t ∧ WFType t) ∧ WFDefault v.default

def WFVarDefs : List VarDef → Prop
  | [] => True
  | v :: vs => WFVarDef v ∧ WFVarDefs vs

def WFInputValueDef (d : InputValueDef) : Prop :=
  WFName d.name.value ∧ WFType d.type ∧ WFDefault d.default ∧ WFDirectives d.dirs

def WFInputValueDefs : List InputValueDef → Prop
  | [] => True
  | d :: ds => WFInputValueDef d ∧ WFInputValueDefs ds

def WFFieldDef (d : FieldDef) : Prop :=
  WFName d.name.value ∧ WFInputValueDefs d.args ∧ WFType d.type ∧ WFDirectives d.dirs

def WFFieldDefs : List FieldDef → Prop
  | [] => True
  | d :: ds => WFFieldDef d ∧ WFFieldDefs ds

def WFEnumValueDef (d : EnumValueDef) : Prop := WFName d.name.value ∧ WFDirectives d.dirs

def WFEnumValueDefs : List EnumValueDef → Prop
  | [] => True
  | d :: ds => WFEnumValueDef d ∧ WFEnumValueDefs ds

def WFOpTypeDef (d : OpTypeDef) : Prop := WFNamedType d.type

def WFOpTypeDefs : List OpTypeDef → Prop
  | [] => True
  | d :: ds => WFOpTypeDef d ∧ WFOpTypeDefs ds

def WFNamedTypes : List TypeRef → Prop
  | [] => True
  | t :: ts => WFNamedType t ∧ WFNamedTypes ts

def WFNames : List Name → Prop
  | [] => True
  | n :: ns => WFName n.value ∧ WFNames ns

def WFObjectDef (d : ObjectDef) : Prop :=
  WFName d.name.value ∧ WFNamedTypes d.interfaces ∧ WFDirectives d.dirs ∧ WFFieldDefs d.fields

def WFDefinition : Definition → Prop
  | .operation _ name vars dirs sel _ => WFOptName name ∧ WFVarDefs vars ∧ WFDirectives dirs ∧ WFSelSet sel
  | .fragment name tc dirs sel _ =>
    WFName name.value ∧ name.value ≠ "on" ∧ WFNamedType tc ∧ WFDirectives dirs ∧ WFSelSet sel
  | .schema dirs ops _ => WFDirectives dirs ∧ ops ≠ [] ∧ WFOpTypeDefs ops
  | .scalar _ name dirs _ => WFName name.value ∧ WFDirectives dirs
  | .object d => WFObjectDef d
  | .interface _ name dirs fields _ => WFName name.value ∧ WFDirectives dirs ∧ WFFieldDefs fields
  | .union _ name dirs types _ => WFName name.value ∧ WFDirectives dirs ∧ types ≠ [] ∧ WFNamedTypes types
  | .enum _ name dirs values _ => WFName name.value ∧ WFDirectives dirs ∧ WFEnumValueDefs values
  | .inputObject _ name dirs fields _ => WFName name.value ∧ WFDirectives dirs ∧ WFInputValueDefs fields
  | .extend d _ => WFObjectDef d
  | .directive _ name args locations _ =>
    WFName name.value ∧ WFInputValueDefs args ∧ locations ≠ [] ∧ WFNames locations

def WFDefinitions : List Definition → Prop
  | [] => True
  | d :: ds => WFDefinition d ∧ WFDefinitions ds

def WFDocument (d : Document) : Prop := d.defs ≠ [] ∧ WFDefinitions d.defs

end GqlModel.Printer
