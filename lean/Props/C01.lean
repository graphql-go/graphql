import GqlProofs.ExecCollect
import GqlProofs.ExecSelectOp
import GqlProofs.ExecFuel
import GqlProofs.ExecExample
/-! # C01 — CollectFields and request-level selection (theorem side)

Property theorems only.  `collect` / `collectMerged` / `selectOperation` / `execute` are the executable
specification in `GqlModel/Exec.lean`; `Occurs` (in `GqlModel/Occurs.lean`) is the independent declarative
reference: an inductive predicate with no visited set and no fuel.  Every statement holds for EVERY context
(schema, fragment definitions — cyclic, undefined, duplicated ones included —, variables), runtime type,
selection list and accumulator; there is no validity premise. -/
namespace GqlModel.Exec

/-! ## 1. `collect` stores exactly the occurring nodes -/

/-- Every node `collect` stores occurs in the selection list (and sits in the group of its own key). -/
theorem collect_sound (c : Ctx) (rt : String) (sels : List Selection) (l : Loc) (f : FieldNode)
    (h : Stored (collect c rt (.mk sels l) ([], [])).1 f) : Occurs c rt sels f :=
  allQ_of_stored ((collect_reach sels l ([], [])).allQ allQ_nil) h

/-- Every occurring node is stored by `collect` (in the group of its key) — also on cyclic, undefined or duplicated
fragment definitions. (DFS closure argument, section `dfs` of `GqlProofs/ExecCollect.lean`.) -/
theorem collect_complete (c : Ctx) (rt : String) (sels : List Selection) (l : Loc) (f : FieldNode)
    (h : Occurs c rt sels f) : Stored (collect c rt (.mk sels l) ([], [])).1 f := by
  have hg := collect_good (c := c) (rt := rt) sels l ([], []) (unvisited_lt_fragFuel c [])
  exact stored_of_occurs (hg.1.allClosed allClosed_nil) h hg.2

/-- `collect` is sound and complete w.r.t. the declarative `Occurs`. -/
theorem stored_iff_occurs (c : Ctx) (rt : String) (sels : List Selection) (l : Loc) (f : FieldNode) :
    Stored (collect c rt (.mk sels l) ([], [])).1 f ↔ Occurs c rt sels f :=
  ⟨collect_sound c rt sels l f, collect_complete c rt sels l f⟩

/-- A response key is present iff some occurrence with that key is included (directives evaluated at that
occurrence and along its path; type conditions against `rt`). -/
theorem key_present_iff_some_occurrence_included (c : Ctx) (rt : String) (sels : List Selection) (l : Loc) (k : String) :
    k ∈ ((collect c rt (.mk sels l) ([], [])).1).map (·.1) ↔ ∃ f, Occurs c rt sels f ∧ f.key = k :=
  mem_collect_keys_iff sels l k

/-! ## 2. fuel: termination on cyclic fragments -/

/-- The collection does not depend on the fuel once it exceeds the number of not-yet-visited fragment
definitions; `collect`'s own `fragFuel` always does (for EVERY visited set, so also inside `collectMerged`). -/
theorem collect_fuel_sufficient (c : Ctx) (rt : String) (fuel : Nat) (sel : SelectionSet) (acc : Groups × List String)
    (h : unvisited c acc.2 < fuel) :
    collectSet c rt (expandSpread c rt fuel) sel acc = collect c rt sel acc :=
  collectSet_fuel_irrelevant fuel c.fragFuel sel acc h (unvisited_lt_fragFuel c acc.2)

/-- …in particular for every `fuel ≥ c.fragFuel`, whatever the accumulator. -/
theorem collect_fuel_sufficient' (c : Ctx) (rt : String) (fuel : Nat) (sel : SelectionSet) (acc : Groups × List String)
    (h : c.fragFuel ≤ fuel) :
    collectSet c rt (expandSpread c rt fuel) sel acc = collect c rt sel acc :=
  collect_fuel_sufficient c rt fuel sel acc (Nat.lt_of_lt_of_le (unvisited_lt_fragFuel c acc.2) h)

/-! ## 3. groups: distinct keys, non-empty, order of first insertion -/

/-- `Groups.add` appends a new key at the END and never reorders or removes keys. -/
theorem groups_add_keys (g : Groups) (f : FieldNode) :
    (g.add f).map (·.1) = if f.key ∈ g.map (·.1) then g.map (·.1) else g.map (·.1) ++ [f.key] :=
  keys_add g f

/-- The collected groups have pairwise distinct keys; no group is empty; every node of a group has the group's
key (and occurs in the selection list). -/
theorem groups_in_first_occurrence_order (c : Ctx) (rt : String) (sels : List Selection) (l : Loc) :
    let g := (collect c rt (.mk sels l) ([], [])).1
    (g.map (·.1)).Nodup ∧ ∀ p ∈ g, p.2 ≠ [] ∧ ∀ f ∈ p.2, f.key = p.1 ∧ Occurs c rt sels f := by
  have hq := (collect_reach (c := c) (rt := rt) sels l ([], [])).allQ allQ_nil
  have hwf := collect_wf c rt (.mk sels l) ([], []) Groups.wf_nil
  exact ⟨rootGroups_keys_nodup c rt (.mk sels l), fun p hp =>
    ⟨(hwf p.1 p.2 hp).1, fun f hf => ⟨(hwf p.1 p.2 hp).2 f hf, (hq p hp f hf).2⟩⟩⟩

/-- Order of first insertion: processing more selections only APPENDS keys — the key list after the first
selection `s` is a prefix of the key list after `s :: rest` (for any accumulator and any fuel). -/
theorem collect_keys_first_insertion_order (c : Ctx) (rt : String) (fuel : Nat) (s : Selection)
    (rest : List Selection) (acc : Groups × List String) :
    acc.1.map (·.1) <+: (collectSel c rt (expandSpread c rt fuel) s acc).1.map (·.1) ∧
    (collectSel c rt (expandSpread c rt fuel) s acc).1.map (·.1)
      <+: (collectList c rt (expandSpread c rt fuel) (s :: rest) acc).1.map (·.1) :=
  ⟨(collectList_steps fuel [s] acc).keys_prefix, (collectList_steps fuel rest _).keys_prefix⟩

/-- …and for any split `pre ++ post` of a selection list: every key first contributed by `pre` precedes every key
first contributed by `post`. Together with `key_present_iff_some_occurrence_included` (applied to `pre`): the keys
appear in the order of the first top-level selection in which an included occurrence of them is found. -/
theorem collect_keys_prefix_of_prefix (c : Ctx) (rt : String) (fuel : Nat) (pre post : List Selection)
    (acc : Groups × List String) :
    (collectList c rt (expandSpread c rt fuel) pre acc).1.map (·.1)
      <+: (collectList c rt (expandSpread c rt fuel) (pre ++ post) acc).1.map (·.1) := by
  rw [collectList_append]
  exact (collectList_steps fuel post _).keys_prefix

/-! ## 4. a named fragment is entered at most once per selection set -/

/-- (i) A spread of an already visited fragment changes nothing, whatever the fuel.
(ii) Entering a fragment body (the only place where `expandSpread` recurses) happens only for a NOT yet visited
name and marks it first.
(iii) Along any `collectList` the visited list only grows, at the front, and stays duplicate-free: since every
entry pushes the entered name, no fragment body is entered twice. -/
theorem collect_fragment_once (c : Ctx) (rt : String) (fuel : Nat) :
    (∀ n g vis, n ∈ vis → expandSpread c rt fuel n (g, vis) = (g, vis)) ∧
    (∀ n g vis tc sel, n ∉ vis → c.frag? n = some (tc, sel) →
        expandSpread c rt (fuel + 1) n (g, vis) =
          if condApplies c.schema (some tc) rt then collectSet c rt (expandSpread c rt fuel) sel (g, n :: vis)
          else (g, n :: vis)) ∧
    (∀ sels acc, acc.2 <:+ (collectList c rt (expandSpread c rt fuel) sels acc).2 ∧
        (acc.2.Nodup → (collectList c rt (expandSpread c rt fuel) sels acc).2.Nodup)) :=
  ⟨fun _ _ _ h => expandSpread_visited fuel h, fun _ _ _ _ _ hn hf => expandSpread_new fuel hn hf,
    fun sels acc => (collectList_steps fuel sels acc).vis⟩

/-- A spread of a fragment that is visited after the selections before it (at any depth) contributes nothing:
the selection list collects as if that spread were not there. -/
theorem visited_spread_contributes_nothing (c : Ctx) (rt : String) (fuel : Nat) (pre post : List Selection)
    (name : Name) (dirs : List Directive) (l : Loc) (acc : Groups × List String)
    (h : name.value ∈ (collectList c rt (expandSpread c rt fuel) pre acc).2) :
    collectList c rt (expandSpread c rt fuel) (pre ++ .spread name dirs l :: post) acc
      = collectList c rt (expandSpread c rt fuel) (pre ++ post) acc :=
  collectList_drop (by rw [collectSel_spread, expandSpread_visited fuel h, ite_self]) post

/-- A second (included) top-level spread of the same fragment name in the same selection list contributes nothing
(given fuel within budget, e.g. `c.fragFuel`). -/
theorem second_spread_contributes_nothing (c : Ctx) (rt : String) (fuel : Nat) (pre1 pre2 post : List Selection)
    (name name' : Name) (dirs dirs' : List Directive) (l l' : Loc) (acc : Groups × List String)
    (hfuel : unvisited c acc.2 < fuel) (hname : name'.value = name.value)
    (hinc : included c.schema c.vars dirs' = true) :
    collectList c rt (expandSpread c rt fuel) ((pre1 ++ .spread name' dirs' l' :: pre2) ++ .spread name dirs l :: post) acc
      = collectList c rt (expandSpread c rt fuel) ((pre1 ++ .spread name' dirs' l' :: pre2) ++ post) acc := by
  rcases hf : c.frag? name.value with _ | x
  · exact collectList_drop (by rw [collectSel_spread, expandSpread_undefined fuel _ hf, ite_self]) post
  · apply visited_spread_contributes_nothing
    have hg := collectList_good_of_fuel (c := c) (rt := rt) (pre1 ++ .spread name' dirs' l' :: pre2) acc hfuel
    refine hg.2.2 name.value ?_ (hf ▸ rfl)
    rw [← hname]
    exact .spread (List.mem_append_right _ List.mem_cons_self) hinc

/-! ## 5. the merged sub-selection of a field -/

/-- `collectMerged` (all occurrences of a field, ONE shared visited set) stores exactly the nodes occurring in the
sub-selection of some occurrence: sharing the visited set across occurrences loses nothing. -/
theorem merged_subselection_is_union_of_occurrences (c : Ctx) (rt : String) (nodes : List FieldNode) (f : FieldNode) :
    Stored (collectMerged c rt nodes) f ↔
      ∃ n ∈ nodes, ∃ sels l, n.sel = some (.mk sels l) ∧ Occurs c rt sels f := by
  rw [collectMerged_eq]
  constructor
  · intro h
    exact allQ_of_stored ((mergeFold_reach (c := c) (rt := rt) nodes ([], [])).allQ
      allQ_nil) h
  · rintro ⟨n, hn, sels, l, hs, ho⟩
    have hg := mergeFold_good (c := c) (rt := rt) nodes ([], [])
    exact stored_of_occurs (hg.1.allClosed allClosed_nil) ho (hg.2 n hn sels l hs)

/-- The merged groups are well formed too: distinct keys, no empty group, every node under its own key. -/
theorem merged_groups_well_formed (c : Ctx) (rt : String) (nodes : List FieldNode) :
    ((collectMerged c rt nodes).map (·.1)).Nodup ∧
    ∀ p ∈ collectMerged c rt nodes, p.2 ≠ [] ∧ ∀ f ∈ p.2, f.key = p.1 :=
  ⟨collectMerged_keys_nodup c rt nodes, fun p hp => collectMerged_wf c rt nodes p.1 p.2 hp⟩

/-! ## 6. operation selection -/

/-- A selected operation is an operation definition of the document; without a name it is the ONLY operation,
with a name it is the LAST operation of that name; and the document has no non-executable definition. -/
theorem operation_selected_by_name {doc : Document} {opName : String} {d : Definition}
    (h : selectOperation doc opName = .ok d) :
    d ∈ doc.defs ∧ isOperation d = true ∧ doc.defs.all isExecutable = true ∧
    (opName = "" → doc.defs.filter isOperation = [d]) ∧
    (opName ≠ "" → opName? d = some opName ∧ (doc.defs.filter (isOperationNamed opName)).getLast? = some d) := by
  have hs := selectOperation_spec doc opName
  rw [h] at hs
  cases hs with
  | only hn ha hl =>
    have hm := List.mem_filter.1 (hl ▸ List.mem_singleton.2 rfl : d ∈ doc.defs.filter isOperation)
    exact ⟨hm.1, hm.2, ha, fun _ => hl, fun hne => absurd hn hne⟩
  | last hn ha hd =>
    have hm := List.mem_filter.1 (List.mem_of_getLast? hd)
    have hk := Bool.and_eq_true_iff.1 hm.2
    exact ⟨hm.1, hk.1, ha, fun he => absurd he hn, fun _ => ⟨eq_of_beq hk.2, hd⟩⟩

/-- The four selection errors, each with what it implies about the document. -/
theorem operation_selection_errors {doc : Document} {opName : String} {e : OpError}
    (h : selectOperation doc opName = .error e) :
    (e = .notExecutable → doc.defs.all isExecutable = false) ∧
    (e = .noOperation → opName = "" ∧ doc.defs.filter isOperation = []) ∧
    (e = .unknownOperation → opName ≠ "" ∧ doc.defs.filter (isOperationNamed opName) = []) ∧
    (e = .mustProvideName → opName = "" ∧ 2 ≤ ((doc.defs.takeWhile isExecutable).filter isOperation).length) ∧
    e ≠ .noRootType := by
  have hs := selectOperation_spec doc opName
  rw [h] at hs
  cases hs with
  | mustProvideName hn h2 => exact ⟨nofun, nofun, nofun, fun _ => ⟨hn, h2⟩, nofun⟩
  | notExecutable ha => exact ⟨fun _ => ha, nofun, nofun, nofun, nofun⟩
  | noOperation hn _ hl => exact ⟨nofun, fun _ => ⟨hn, hl⟩, nofun, nofun, nofun⟩
  | unknownOperation hn _ hl => exact ⟨nofun, nofun, fun _ => ⟨hn, hl⟩, nofun, nofun⟩

/-! ## 7. request errors: no resolver runs -/

/-- A request error carries no data and no resolver log: the response is `.requestError _`, never `.result …`. -/
theorem variable_error_no_resolver (s : Schema) (doc : Document) (opName : String) (inputs : Coerce.Vars) (w : World)
    (fuel : Nat) {op : OpType} {name : Option Name} {varDefs : List VarDef} {dirs : List Directive}
    {sel : SelectionSet} {loc : Loc} {root e : String}
    (hop : selectOperation doc opName = .ok (.operation op name varDefs dirs sel loc))
    (hroot : s.rootFor op.toString = some root)
    (hv : Coerce.getVariableValues s varDefs inputs = .error e) :
    execute s doc opName inputs w fuel = .requestError ("variables: " ++ e) := by
  simp only [execute, hop, hroot, hv]

/-- An operation-selection error is the response; nothing is executed. -/
theorem selection_error_no_resolver (s : Schema) (doc : Document) (opName : String) (inputs : Coerce.Vars) (w : World)
    (fuel : Nat) {e : OpError} (hop : selectOperation doc opName = .error e) :
    execute s doc opName inputs w fuel = .requestError (reprStr e) := by
  simp only [execute, hop]

/-- A missing root type (mutation / subscription not configured) is a request error; nothing is executed. -/
theorem missing_root_no_resolver (s : Schema) (doc : Document) (opName : String) (inputs : Coerce.Vars) (w : World)
    (fuel : Nat) {op : OpType} {name : Option Name} {varDefs : List VarDef} {dirs : List Directive}
    {sel : SelectionSet} {loc : Loc}
    (hop : selectOperation doc opName = .ok (.operation op name varDefs dirs sel loc))
    (hroot : s.rootFor op.toString = none) :
    execute s doc opName inputs w fuel = .requestError "noRootType" := by
  simp only [execute, hop, hroot]

/-- Conversely: whenever execution produced a result (data / errors / a resolver log), an operation was selected,
its root type exists and its variables coerced without error. -/
theorem result_implies_variables_ok (s : Schema) (doc : Document) (opName : String) (inputs : Coerce.Vars) (w : World)
    (fuel : Nat) {data errs log kf}
    (h : execute s doc opName inputs w fuel = .result data errs log kf) :
    ∃ op name varDefs dirs sel loc root vars,
      selectOperation doc opName = .ok (.operation op name varDefs dirs sel loc) ∧
      s.rootFor op.toString = some root ∧ Coerce.getVariableValues s varDefs inputs = .ok vars := by
  obtain ⟨c, root, sel, -, -, hc, -⟩ := execute_result h
  obtain ⟨op, name, varDefs, dirs, loc, vars, hop, hroot, hv, -⟩ := requestCtx_eq_some_iff.mp hc
  exact ⟨op, name, varDefs, dirs, sel, loc, root, vars, hop, hroot, hv⟩

/-! ## Non-vacuity: a concrete context with CYCLIC fragments (A ↔ B), an inapplicable one (C), an undefined one,
a skipped field, an alias merged into an existing key, a repeated spread -/

def exL : Loc := Loc.none
def exN (s : String) : Name := ⟨s, exL⟩
def exFld (s : String) : Selection := .field none (exN s) [] [] none exL
def exSchema : Schema :=
  { types := [.object "Q" [] [] false "", .scalar "Boolean" .boolean "", .scalar "Int" .int ""],
    query := "Q", mutation := none, subscription := none, directives := [] }
def exFrags : List (String × Definition) :=
  [("A", .fragment (exN "A") (.named "Q" exL) [] (.mk [exFld "a", .spread (exN "B") [] exL] exL) exL),
   ("B", .fragment (exN "B") (.named "Q" exL) [] (.mk [exFld "b", .spread (exN "A") [] exL] exL) exL),
   ("C", .fragment (exN "C") (.named "Other" exL) [] (.mk [exFld "c"] exL) exL)]
def exCtx : Ctx := { schema := exSchema, frags := exFrags, vars := [], world := default }
def exSkip : Directive := ⟨exN "skip", [⟨exN "if", .bool true exL, exL⟩], exL⟩
def exSels : List Selection :=
  [exFld "x", .spread (exN "A") [] exL, .field none (exN "s") [] [exSkip] none exL,
   .inline none [] (.mk [.field (some (exN "x")) (exN "y") [] [] none exL] exL) exL,
   .spread (exN "A") [] exL, .spread (exN "C") [] exL, .spread (exN "Undefined") [] exL]

/-- keys in order of first occurrence; `y` aliased to `x` joins the first group; `s` skipped; `c` not applicable -/
example : ((collect exCtx "Q" (.mk exSels exL) ([], [])).1).map (fun p => (p.1, p.2.map (·.name)))
    = [("x", ["x", "y"]), ("a", ["a"]), ("b", ["b"])] := by decide +kernel
/-- each fragment entered once; the inapplicable one is marked too, the undefined one is not -/
example : (collect exCtx "Q" (.mk exSels exL) ([], [])).2 = ["C", "B", "A"] := by decide +kernel
/-- fuel: 1 is not enough here (B is not expanded), 2 already is (and `fragFuel` = 4) -/
example : ((collectSet exCtx "Q" (expandSpread exCtx "Q" 1) (.mk exSels exL) ([], [])).1).map (·.1) = ["x", "a"] ∧
    ((collectSet exCtx "Q" (expandSpread exCtx "Q" 2) (.mk exSels exL) ([], [])).1).map (·.1) = ["x", "a", "b"] := by
  decide +kernel
/-- `Occurs` is inhabited through two nested spreads of the cycle -/
example : Occurs exCtx "Q" exSels (mkNode none (exN "b") [] none exL) :=
  .spread (name := exN "A") (dirs := []) (l := exL) (tc := .named "Q" exL) (l1 := exL)
    (.tail _ (.head _)) (by decide +kernel) rfl (by decide +kernel)
    (.spread (name := exN "B") (dirs := []) (l := exL) (tc := .named "Q" exL) (l1 := exL)
      (.tail _ (.head _)) (by decide +kernel) rfl (by decide +kernel)
      (.field (.head _) (by decide +kernel)))
/-- merged sub-selection over two occurrences sharing the visited set -/
example : ((collectMerged exCtx "Q"
      [mkNode none (exN "f") [] (some (.mk [.spread (exN "A") [] exL] exL)) exL,
       mkNode none (exN "f") [] (some (.mk [exFld "z", .spread (exN "B") [] exL] exL)) exL]).map (·.1))
    = ["a", "b", "z"] := by decide +kernel

def exVar : VarDef :=
  { var := exN "v", varLoc := exL, type := some (.nonNull (.named "Int" exL) exL), default := none, loc := exL }
def exDoc : Document :=
  ⟨[.operation .query (some (exN "q1")) [exVar] [] (.mk exSels exL) exL,
    .operation .query (some (exN "q2")) [] [] (.mk exSels exL) exL,
    .operation .mutation (some (exN "q1")) [] [] (.mk exSels exL) exL], exL⟩

example : (match selectOperation exDoc "" with | .error e => some e | .ok _ => none) = some .mustProvideName := by
  decide +kernel
example : (match selectOperation exDoc "q3" with | .error e => some e | .ok _ => none) = some .unknownOperation := by
  decide +kernel
/-- the LAST operation named `q1` is selected (the mutation); the schema has no mutation root -/
example : (match execute exSchema exDoc "q1" [] default 10 with | .requestError e => e | _ => "") = "noRootType" := by
  decide +kernel
example : (match execute exSchema ⟨exDoc.defs.take 2, exL⟩ "q1" [] default 10 with | .requestError e => e | _ => "")
    = "variables: Variable \"$v\" of required type \"Int!\" was not provided." := by
  decide +kernel
/-- a request without errors does produce a result (no field of `exSels` is defined on `Q`, so the data is empty) -/
example : (match execute exSchema exDoc "q2" [] default 100 with
    | .result (some fs) _ _ _ => fs.map (·.1) | _ => ["<no result>"]) = [] := by decide +kernel

/-! ## 8. the response does not depend on the fuel -/

/-- A response that is not `fuelOut` is THE response: every larger fuel gives the same data, errors, log (and the
same request error). So "for every fuel whose response is not `fuelOut`" in C01/C04/C13/C20 speaks about one
well-defined response, the one the driver computes with `defaultFuel` whenever that suffices. -/
theorem response_independent_of_fuel (s : Schema) (doc : Document) (opName : String) (inputs : Coerce.Vars) (w : World)
    (fuel : Nat) (r : Response) (h : execute s doc opName inputs w fuel = r) (hr : r ≠ .fuelOut) (k : Nat) :
    execute s doc opName inputs w (fuel + k) = r :=
  execute_fuel_add s doc opName inputs w fuel r h hr k

/-- the same at every level of the recursion (here: a selection set) -/
theorem selection_set_independent_of_fuel (c : Ctx) (fuel : Nat) (dfr : Bool) (rt : String) (src : GoVal) (path : Path)
    (groups : Groups) (acc : List (String × JVal)) (st : St) (r : Res (List (String × JVal))) (st' : St)
    (h : execGroups c fuel dfr rt src path groups acc st = (r, st')) (hr : r ≠ .fuelOut) (k : Nat) :
    execGroups c (fuel + k) dfr rt src path groups acc st = (r, st') :=
  execGroups_fuel_add c fuel dfr rt src path groups acc st r st' h hr k

open Ex in
/-- fuel 5 is not enough for the example request, fuel 12 is, and 50 gives the same log -/
example : obsLog (execute schema doc "Q" varsF world 5) = ["<no result>"]
    ∧ obsLog (execute schema doc "Q" varsF world 12) = obsLog (execute schema doc "Q" varsF world 50) := by
  decide +kernel

end GqlModel.Exec
