import GqlProofs.ValidateCycles
import GqlProofs.ValidateOverlapSound
import GqlProofs.ValidateOverlapComplete
/-! # C02 (graph rules, overlap rule) and the C09 / C19 termination-and-cost facts of validation

Every theorem here is about the models of `GqlModel/Validate/Graph.lean` and `GqlModel/Validate/Overlap.lean`
(M = the algorithms as coded in /repo/validator.go, /repo/rules.go, /repo/rules_overlapping_fields_can_be_merged.go;
S = the declarative rules); the models are tied to /repo on every run by `harness/cmd/c02` and
`harness/cmd/c02overlap`.

Names: for the four graph rules `R_iff` is the membership form `e ∈ R s d ↔ …` (`R_mem` in `Props/C02Typed.lean`);
`R s d = [] ↔ specification` is `R_nil_iff` in `Props/C02All.lean`. -/
namespace GqlModel.Validate.Graph

/-- `FragmentSpreads`: the explicit-stack loop terminates within its fuel and returns exactly the spreads that occur
anywhere below the selection set. -/
theorem fragmentSpreads_eq_spreads (ss : SelectionSet) :
    (fragmentSpreadsF ss).2 = false ∧ ∀ x, x ∈ fragmentSpreads ss ↔ x ∈ spreadsSet ss :=
  ⟨fragmentSpreads_no_oof ss, mem_fragmentSpreads ss⟩

/-- `RecursivelyReferencedFragments(operation)`: the worklist with `collectedNames` never exhausts its fuel
(`|fragment table| + 1`), on arbitrary — also cyclic — tables, and returns exactly the fragment definitions
`Fragment(name)` resolves to for the names reachable in the spread graph from a spread of the operation. -/
theorem recursivelyReferenced_eq_reachable (tbl : List Frag) (sel : SelectionSet) :
    (recursivelyReferencedF tbl sel).2 = false ∧
    ∀ f, f ∈ recursivelyReferenced tbl sel ↔
      (FragUsed tbl sel f.name.value ∧ lookupFrag tbl f.name.value = some f) :=
  rrf_spec tbl sel

/-- C09: the cycle DFS terminates on every fragment table (cyclic, duplicate names, undefined spreads):
the fuel `|table| + 1` bounding the recursion depth is never exhausted. -/
theorem cycles_no_fuel_exhaustion (d : Document) : (cycleRun (fragDefs d)).oof = false :=
  cycleRun_no_oof (fragDefs d)

/-- With unique fragment names (UniqueFragmentNames is a rule of its own) the DFS with `visitedFrags`,
`spreadPath` and `spreadPathIndexByName` reports at least one error iff the spread graph has a cycle. -/
theorem cycles_iff (s : Schema) (d : Document) (h : uniqueFragNames d = true) :
    noFragmentCycles s d ≠ [] ↔ Cyclic (fragDefs d) :=
  cycleRun_spec (fragDefs d) (of_decide_eq_true h)

/- Full statement without the hypothesis is FALSE for the code as it is: `visitedFrags` is keyed by name while
`Fragment()` resolves a name to its last definition, so a first definition can mark the name visited and the
cycle through the second one is never explored (probed on the real rule: accepted).
   theorem cycles_iff_full (s d) : noFragmentCycles s d ≠ [] ↔ Cyclic (fragDefs d)
Negation witness: -/
private def nm (v : String) : Name := ⟨v, Loc.none⟩
private def sp (v : String) : Selection := .spread (nm v) [] Loc.none
private def fld (v : String) : Selection := .field none (nm v) [] [] none Loc.none
private def frag (n : String) (sels : List Selection) : Definition :=
  .fragment (nm n) (.named "Q" Loc.none) [] (.mk sels Loc.none) Loc.none

/-- `fragment A on Q { n }  fragment B on Q { ...A }  fragment A on Q { ...B }` -/
def dupCycleDoc : Document := ⟨[frag "A" [fld "n"], frag "B" [sp "A"], frag "A" [sp "B"]], Loc.none⟩

theorem cycles_iff_needs_unique_names (s : Schema) :
    uniqueFragNames dupCycleDoc = false ∧ Cyclic (fragDefs dupCycleDoc) ∧ noFragmentCycles s dupCycleDoc = [] := by
  have e1 : SpreadEdge (fragDefs dupCycleDoc) "A" "B" := by unfold SpreadEdge; decide
  have e2 : SpreadEdge (fragDefs dupCycleDoc) "B" "A" := by unfold SpreadEdge; decide
  have h3 : (cycleRun (fragDefs dupCycleDoc)).errs = [] := by decide
  exact ⟨by decide, ⟨"A", "B", e1, .step e2 (.refl _)⟩, h3⟩

/-- non-vacuity: a cyclic and an acyclic document with unique names -/
def cycleDoc : Document := ⟨[frag "A" [sp "B"], frag "B" [fld "n", sp "A"]], Loc.none⟩
def chainDoc : Document := ⟨[frag "A" [sp "B"], frag "B" [fld "n"]], Loc.none⟩
example : uniqueFragNames cycleDoc = true ∧ noFragmentCycles default cycleDoc ≠ [] := by decide
example : uniqueFragNames chainDoc = true ∧ noFragmentCycles default chainDoc = [] := by decide

/-- The rule reports exactly the fragment definitions whose name no operation reaches in the spread graph,
each at the definition (`≥ 1 error ⇔ violated` and location soundness in one statement). No uniqueness hypothesis:
the rule and the graph are both by NAME. -/
theorem noUnusedFragments_iff (s : Schema) (d : Document) (e : VErr) :
    e ∈ noUnusedFragments s d ↔
      ∃ f, f ∈ fragDefs d ∧ e = ⟨ruleUnusedFrag, [f.loc]⟩ ∧
        ∀ sel, sel ∈ opSels d → ¬ FragUsed (fragDefs d) sel f.name.value := by
  simp only [noUnusedFragments, mem_filterMap_ite]
  constructor
  · rintro ⟨f, hf, hnot, rfl⟩
    refine ⟨f, hf, rfl, fun sel hsel hu => hnot ?_⟩
    exact (mem_usedFragNames _ _ _).2 ⟨sel, hsel, hu, List.mem_map.2 ⟨f, hf, rfl⟩⟩
  · rintro ⟨f, hf, rfl, hno⟩
    refine ⟨f, hf, fun h => ?_, rfl⟩
    rcases (mem_usedFragNames _ _ _).1 h with ⟨sel, hsel, hu, _⟩
    exact hno sel hsel hu

/-- An error for exactly every usage, in the operation or a fragment it reaches, of a variable the operation
does not define — located at the usage and the operation. -/
theorem noUndefinedVariables_iff (s : Schema) (d : Document) (e : VErr) :
    e ∈ noUndefinedVariables s d ↔
      ∃ o u, o ∈ opDefs d ∧ UsageIn s (fragDefs d) o u ∧ ¬ VarDefined o u.name ∧
        e = ⟨ruleUndefVar, [u.loc, o.loc]⟩ := by
  simp only [noUndefinedVariables, List.mem_flatMap, mem_filterMap_ite, mem_recursiveUsages]
  exact ⟨fun ⟨o, ho, u, h⟩ => ⟨o, u, ho, h⟩, fun ⟨o, u, ho, h⟩ => ⟨o, ho, u, h⟩⟩

/-- An error for exactly every variable definition whose variable is not used in the operation's reachable
selection — located at the definition. (The code never records the EMPTY name as used, rules.go:1096; the parser
cannot produce it.) -/
theorem noUnusedVariables_iff (s : Schema) (d : Document) (e : VErr) :
    e ∈ noUnusedVariables s d ↔
      ∃ o v, o ∈ opDefs d ∧ v ∈ o.vars ∧ e = ⟨ruleUnusedVar, [v.loc]⟩ ∧
        ¬ (v.var.value ≠ "" ∧ VarUsedIn s (fragDefs d) o v.var.value) := by
  have key : ∀ (o : Op) (n : String), n ∈ usedVars (recursiveUsages s (fragDefs d) o) ↔
      (n ≠ "" ∧ VarUsedIn s (fragDefs d) o n) := by
    intro o n
    rw [mem_usedVars]
    constructor
    · rintro ⟨h, u, hu, rfl⟩; exact ⟨h, u, (mem_recursiveUsages _ _ _ _).1 hu, rfl⟩
    · rintro ⟨h, u, hu, rfl⟩; exact ⟨h, u, (mem_recursiveUsages _ _ _ _).2 hu, rfl⟩
  simp only [noUnusedVariables, List.mem_flatMap, mem_filterMap_ite, key]
  exact ⟨fun ⟨o, ho, v, hv, hnot, he⟩ => ⟨o, v, ho, hv, he, hnot⟩,
    fun ⟨o, v, ho, hv, he, hnot⟩ => ⟨o, ho, v, hv, hnot, he⟩⟩

/-- corollary for parser-produced documents (variable names are non-empty) -/
theorem noUnusedVariables_iff_nonempty (s : Schema) (d : Document)
    (hne : ∀ o v, o ∈ opDefs d → v ∈ o.vars → v.var.value ≠ "") :
    noUnusedVariables s d ≠ [] ↔
      ∃ o v, o ∈ opDefs d ∧ v ∈ o.vars ∧ ¬ VarUsedIn s (fragDefs d) o v.var.value := by
  constructor
  · intro h
    rcases List.exists_mem_of_ne_nil _ h with ⟨e, he⟩
    rcases (noUnusedVariables_iff s d e).1 he with ⟨o, v, ho, hv, _, hnot⟩
    exact ⟨o, v, ho, hv, fun hu => hnot ⟨hne o v ho hv, hu⟩⟩
  · rintro ⟨o, v, ho, hv, hnot⟩
    exact List.ne_nil_of_mem ((noUnusedVariables_iff s d _).2 ⟨o, v, ho, hv, rfl, fun h => hnot h.2⟩)

/-- An error for exactly every usage (in the operation's reachable selection) of a variable the operation
defines whose effective type is not a subtype of the type the position expects — located at the definition and the
usage. `varDefFor` is the last definition of that name, `Usage.type` the `TypeInfo.InputType()` of the position. -/
theorem variablesInAllowedPosition_iff (s : Schema) (d : Document) (e : VErr) :
    e ∈ variablesInAllowedPosition s d ↔
      ∃ o u v, o ∈ opDefs d ∧ UsageIn s (fragDefs d) o u ∧ varDefFor o.vars u.name = some v ∧
        varPosBad s v u = true ∧ e = ⟨ruleVarPos, [v.loc, u.loc]⟩ := by
  simp only [variablesInAllowedPosition, List.mem_flatMap, List.mem_filterMap]
  constructor
  · rintro ⟨o, ho, u, hu, he⟩
    split at he
    · rename_i v hv
      split at he
      · rename_i hbad
        exact ⟨o, u, v, ho, (mem_recursiveUsages _ _ _ _).1 hu, hv, hbad, (Option.some.inj he).symm⟩
      · cases he
    · cases he
  · rintro ⟨o, u, v, ho, hu, hv, hbad, rfl⟩
    exact ⟨o, ho, u, (mem_recursiveUsages _ _ _ _).2 hu, by simp [hv, hbad]⟩

end GqlModel.Validate.Graph

namespace GqlModel.Validate.Overlap
open GqlModel.Validate.Graph

/-! ## OverlappingFieldsCanBeMerged: memoisation (C19 cost model, C09 termination) -/

/-- General form (any environment whose fragment table comes from the document, any
fuel, any list of the document's selection sets as the visitor's input).
The body of `collectConflictsBetweenFieldsAndFragment` executes at most once per key (fieldsInfo, fragment, excl)
— `logFF` logs the key at the `verifCount(VerifSiteFieldsAndFragment)` site — and the body of
`collectConflictsBetweenFragments` at most once per key (frag₁, frag₂, excl) (`logBF`,
`VerifSiteBetweenFragments`). Hence the number of body executions is at most `2·S·F` resp. `2·F²`
(S selection sets, F distinct spread names resp. fragment definitions; the factor 2 is the flag). -/
theorem memo_body_at_most_once_gen (d : Document) (e : Env) (hT : ∀ f, f ∈ e.tbl → f.sel ∈ allSets d) (fuel : Nat)
    (sets : List (TCtx × SelectionSet)) (hsets : ∀ cs, cs ∈ sets → cs.2 ∈ allSets d) :
    (overlapRun e fuel sets).1.logFF.Nodup ∧ (overlapRun e fuel sets).1.logBF.Nodup ∧
    (overlapRun e fuel sets).1.cntFF ≤ 2 * (nSets d * nSpreadNames d) ∧
    (overlapRun e fuel sets).1.cntBF ≤ 2 * (e.tbl.length * e.tbl.length) := by
  have h := overlapRun_inv (d := d) (e := e) hT fuel sets hsets
  exact ⟨h.ffNodup, h.bfNodup, h.counts.1, h.counts.2⟩

/-- The same for the rule as run on a document (`overlapM` = M; its counters `cntFF`, `cntBF` are
what the `verif` hooks count in /repo). -/
theorem memo_body_at_most_once (s : Schema) (d : Document) :
    (overlapM s d).1.logFF.Nodup ∧ (overlapM s d).1.logBF.Nodup ∧
    (overlapM s d).1.cntFF ≤ 2 * (nSets d * nSpreadNames d) ∧
    (overlapM s d).1.cntBF ≤ 2 * (nFrags d * nFrags d) :=
  memo_body_at_most_once_gen d (envM s d) (fragDefs_sel_sub d) (fuelFor d) (typedSelSets s d) (typedSelSets_sub s d)

/-- C09 / C19 termination: on a document whose selection sets have pairwise distinct locations (every parsed
document; the location stands for the pointer identity the Go memo tables are keyed by) the recursion of the
overlap rule never exhausts `fuelFor d = (2·S·F + 2·F² + 1)·(S + 2) + 1` — also on cyclic fragments, where the memo
tables are the only thing that stops it. Proof: potential = number of memo keys not yet logged. -/
theorem overlap_no_fuel_exhaustion (s : Schema) (d : Document) (hloc : locsDistinct d = true) :
    (overlapM s d).1.oof = false := by
  exact overlapRun_fuel (d := d) (e := envM s d) hloc (fragDefs_sel_sub d) (fuelFor d) (fuelFor_enough d)
    (typedSelSets s d) (typedSelSets_sub s d)

/-! ## OverlappingFieldsCanBeMerged: soundness (every reported conflict is a conflict of S) -/

/-- Soundness of the overlap rule, general form: for any environment (field-definition lookup) and any coherent parent typing
`π` — the parent type the visitor passes for a selection set, the one `findConflict` derives for a sub-selection and
the one a fragment's type condition names coincide (`Coh`) — every conflict the memoised algorithm reports while
visiting a selection set blames two fields of that set's fully flattened field set (through inline fragments and
any chain of named spreads), with one response key, that cannot be merged (`PairConflict`). Any fuel: running out
of fuel only loses reports. -/
theorem overlap_sound_gen (d : Document) (e : Env) (π : SelectionSet → Option String) (hc : Coh d e π) (fuel : Nat)
    (sets : List (TCtx × SelectionSet)) (hsets : ∀ cs, cs ∈ sets → cs.2 ∈ allSets d ∧ π cs.2 = cs.1.parent) :
    ∀ x, x ∈ (overlapRun e fuel sets).2 →
      ∃ cs, cs ∈ sets ∧ ∃ a b, a ∈ flat e cs.1.parent cs.2 ∧ b ∈ flat e cs.1.parent cs.2 ∧
        a.node.key = b.node.key ∧ Blames x a b ∧ PairConflict e false a b := by
  suffices h : CacheCoh d e π (overlapRun e fuel sets).1 ∧ ∀ x, x ∈ (overlapRun e fuel sets).2 →
      ∃ cs, cs ∈ sets ∧ ∃ a b, a ∈ flat e cs.1.parent cs.2 ∧ b ∈ flat e cs.1.parent cs.2 ∧
        a.node.key = b.node.key ∧ Blames x a b ∧ PairConflict e false a b from h.2
  induction sets using snoc_induction with
  | nil => exact ⟨fun p hp => (by cases hp), fun x hx => (by cases hx)⟩
  | snoc sets cs ih =>
    have ih := ih fun x hx => hsets x (List.mem_append_left _ hx)
    have hcs := hsets cs (List.mem_append_right _ List.mem_cons_self)
    have hv := visitSet_sound hc fuel hcs.1 _ ih.1
    rw [hcs.2] at hv
    rw [(overlapRun_snoc e fuel sets cs).1, (overlapRun_snoc e fuel sets cs).2]
    refine ⟨hv.1, fun x hx => ?_⟩
    rcases List.mem_append.1 hx with hx | hx
    · rcases ih.2 x hx with ⟨c, hc', h'⟩
      exact ⟨c, List.mem_append_left _ hc', h'⟩
    · exact ⟨cs, List.mem_append_right _ List.mem_cons_self, hv.2 x hx⟩

/-- Soundness for the rule as run on a document whose parent types are coherent (`cohB`, evaluated by the
drivers on every input; it fails only for sub-selections under `__schema` / `__type` or under leaf-typed fields and
for fragments on non-composite types). -/
theorem overlap_sound (s : Schema) (d : Document) (h : cohB s d (envM s d) = true) :
    ∀ x, x ∈ (overlapM s d).2 →
      ∃ cs, cs ∈ typedSelSets s d ∧ ∃ a b, a ∈ flat (envM s d) cs.1.parent cs.2 ∧
        b ∈ flat (envM s d) cs.1.parent cs.2 ∧ a.node.key = b.node.key ∧ Blames x a b ∧
        PairConflict (envM s d) false a b := by
  have hc := coh_of_cohB s d (envM s d) (fragDefs_sel_sub d) h
  exact overlap_sound_gen d (envM s d) (piOf s d) hc.1 (fuelFor d) (typedSelSets s d)
    (fun cs hcs => ⟨typedSelSets_sub s d cs hcs, hc.2 cs hcs⟩)

/-- corollary: the rule rejects only documents in which some selection set violates FieldsInSetCanMerge -/
theorem overlap_reject_sound (s : Schema) (d : Document) (h : cohB s d (envM s d) = true)
    (hrej : overlappingFieldsCanBeMerged s d ≠ []) :
    ∃ cs, cs ∈ typedSelSets s d ∧ SetConflict (envM s d) cs.1.parent cs.2 := by
  have hne : (overlapM s d).2 ≠ [] := by
    intro h0
    apply hrej
    simp [overlappingFieldsCanBeMerged, h0]
  rcases List.exists_mem_of_ne_nil _ hne with ⟨x, hx⟩
  rcases overlap_sound s d h x hx with ⟨cs, hcs, a, b, ha, hb, hk, _, hp⟩
  exact ⟨cs, hcs, a, b, ha, hb, hk, hp⟩

/-! ## OverlappingFieldsCanBeMerged: completeness on acyclic fragment tables, and the iff -/

/-- Completeness: on a document whose fragment spread graph is acyclic (`acyclicB` = the cycle rule
reports nothing), with unique fragment names and the decidable side conditions of `compB` (parent-type coherence
`cohB`, `argsFaithfulB`: printing is injective on the argument values that occur, `apartB`: locations separate
fragment bodies from the other selection sets — all evaluated by the drivers on every input), if SOME visited
selection set violates FieldsInSetCanMerge — two fields of its fully flattened field set, however deeply nested in
fragment spreads, with one response key that cannot be merged — then the memoised algorithm reports an error.
The argument consults `cohB` and `argsFaithfulB` only (`complete_any` holds for every document, cyclic fragment tables
included); the other conjuncts of `compB` are hypotheses of this statement, not of the proof. -/
theorem overlap_complete_acyclic (s : Schema) (d : Document) (h : compB s d (envM s d) = true)
    (hconf : ∃ cs, cs ∈ typedSelSets s d ∧ SetConflict (envM s d) cs.1.parent cs.2) :
    overlappingFieldsCanBeMerged s d ≠ [] := by
  intro hnil
  apply complete_any s d (compB_cohB h) (compB_argsFaithfulB h) hconf
  simpa [overlappingFieldsCanBeMerged] using hnil

/-- On acyclic fragment tables the memoised A–J algorithm reports a conflict iff some
selection set violates the brute-force FieldsInSetCanMerge, document-wide. -/
theorem overlap_iff_naive_acyclic (s : Schema) (d : Document) (h : compB s d (envM s d) = true) :
    overlappingFieldsCanBeMerged s d ≠ [] ↔
      ∃ cs, cs ∈ typedSelSets s d ∧ SetConflict (envM s d) cs.1.parent cs.2 := by
  exact ⟨overlap_reject_sound s d (compB_cohB h), overlap_complete_acyclic s d h⟩

/-- the side conditions of `compB` that are not rules of their own -/
def sideB (s : Schema) (d : Document) : Bool :=
  cohB s d (envM s d) && argsFaithfulB s d (envM s d) && apartB d (fragDefs d)

theorem compB_of_sideB {s : Schema} {d : Document} (hside : sideB s d = true) (hcyc : noFragmentCycles s d = [])
    (huniq : uniqueFragNames d = true) : compB s d (envM s d) = true := by
  simp only [sideB, Bool.and_eq_true] at hside
  simp only [compB, Bool.and_eq_true, acyclicB, List.isEmpty_iff]
  exact ⟨⟨⟨⟨hside.1.1, huniq⟩, hcyc⟩, hside.1.2⟩, hside.2⟩

/-- **the headline clause of C02**: if NoFragmentCycles, UniqueFragmentNames (`uniqueFragNames`) and
OverlappingFieldsCanBeMerged all report nothing, then no selection set of the document violates
FieldsInSetCanMerge — no two fields that can land on one response key differ in name, arguments or response shape,
however deeply one of them is nested in fragment spreads. (`sideB`: decidable side conditions, true for
parser-produced documents apart from `__schema`/`__type` sub-selections, checked by the drivers on every input.) -/
theorem accepted_document_has_no_conflict (s : Schema) (d : Document) (hside : sideB s d = true)
    (hcyc : noFragmentCycles s d = []) (huniq : uniqueFragNames d = true)
    (hov : overlappingFieldsCanBeMerged s d = []) :
    ∀ cs, cs ∈ typedSelSets s d → FieldsInSetCanMerge (envM s d) cs.1.parent cs.2 := by
  intro cs hcs hconf
  exact overlap_complete_acyclic s d (compB_of_sideB hside hcyc huniq) ⟨cs, hcs, hconf⟩ hov

/- Without the acyclicity hypothesis: the direction "a conflict is reported" is `complete_any`
   (GqlProofs/ValidateOverlapComplete.lean), for every document with `cohB` and `argsFaithfulB` — cyclic fragment tables
   and repeated fragment names included; with `overlap_reject_sound` the memoised algorithm therefore reports a
   conflict iff some visited selection set violates FieldsInSetCanMerge under these two conditions alone. The
   statements above assume all of `compB`. Documents with spread cycles are rejected by NoFragmentCycles anyway. -/

/-! ### non-vacuity: a coherent document on which the rule reports a conflict through a fragment spread -/

private def fdS (n : String) (t : GType) : FieldDefS := { name := n, type := t, args := [] }
/-- `type Q { i: I }  interface I { n: Int  s: String }` -/
def exSchema : Schema :=
  { types := [.scalar "Int" .int "", .scalar "String" .string "",
      .interface "I" [fdS "n" (.named "Int"), fdS "s" (.named "String")] true "",
      .object "Q" [] [fdS "i" (.named "I")] false ""],
    query := "Q", mutation := none, subscription := none, directives := [] }

private def nmAt (v : String) (a : Nat) : Name := ⟨v, ⟨a, a + 1⟩⟩
/-- `{ i { x: n ...F } }  fragment F on I { x: s }` with the selection-set locations a parser would assign -/
def exDoc : Document :=
  ⟨[.operation .query none [] []
      (.mk [.field none (nmAt "i" 2) [] []
        (some (.mk [.field (some (nmAt "x" 6)) (nmAt "n" 9) [] [] none ⟨6, 10⟩, .spread (nmAt "F" 14) [] ⟨11, 15⟩]
          ⟨4, 17⟩)) ⟨2, 17⟩] ⟨0, 19⟩) ⟨0, 19⟩,
    .fragment (nmAt "F" 30) (.named "I" ⟨35, 36⟩) []
      (.mk [.field (some (nmAt "x" 39)) (nmAt "s" 42) [] [] none ⟨39, 43⟩] ⟨37, 45⟩) ⟨21, 45⟩], ⟨0, 45⟩⟩

example : cohB exSchema exDoc (envM exSchema exDoc) = true ∧ locsDistinct exDoc = true := by decide +kernel
example : overlappingFieldsCanBeMerged exSchema exDoc ≠ [] := by decide +kernel
example : compB exSchema exDoc (envM exSchema exDoc) = true := by decide +kernel
example : (overlapM exSchema exDoc).1.oof = false ∧ (overlapM exSchema exDoc).1.cntFF ≥ 1 := by decide +kernel

/-- `{ i { x: n ...F } }  fragment F on I { x: n }` — accepted; all hypotheses of the headline corollary hold -/
def okDoc : Document :=
  ⟨[.operation .query none [] []
      (.mk [.field none (nmAt "i" 2) [] []
        (some (.mk [.field (some (nmAt "x" 6)) (nmAt "n" 9) [] [] none ⟨6, 10⟩, .spread (nmAt "F" 14) [] ⟨11, 15⟩]
          ⟨4, 17⟩)) ⟨2, 17⟩] ⟨0, 19⟩) ⟨0, 19⟩,
    .fragment (nmAt "F" 30) (.named "I" ⟨35, 36⟩) []
      (.mk [.field (some (nmAt "x" 39)) (nmAt "n" 42) [] [] none ⟨39, 43⟩] ⟨37, 45⟩) ⟨21, 45⟩], ⟨0, 45⟩⟩

example : sideB exSchema okDoc = true ∧ noFragmentCycles exSchema okDoc = [] ∧ uniqueFragNames okDoc = true ∧
    overlappingFieldsCanBeMerged exSchema okDoc = [] := by decide +kernel

end GqlModel.Validate.Overlap
