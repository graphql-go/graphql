import GqlProofs.PlanReach
import GqlProofs.PlanMutSettled
import GqlProofs.PlanRootSim
import GqlProofs.PlanFuelRoot
import GqlProofs.ExecExample
/-! # C01 — the refinement: what plan.go does (model M, `GqlModel/Plan.lean`) is what the algorithm prescribes (S, `GqlModel/Exec.lean`)

Property theorems only. M is tied to /repo on every run by an EXACT correspondence (harness c01, `ComparePlanModel`: data, error
paths, order of resolver calls and thunk calls, number of lazily planned sub-selections per execution — also on D-04c cases).

Premises used below, all explicit:
* `Acyclic frags rank` — the spread graph of the fragment table has a topological rank (all valid documents: NoFragmentCycles);
* `worldFuncFree w` — no resolver outcome contains a func value (no deferred value), for the EXACT refinement (error list, log order);
* `… ≠ .fuelOut` — M's dethunk loops were given enough fuel (the driver reports `fuelOut` as a check error, never as a response). -/
namespace GqlModel.Plan
open GqlModel.Exec GqlModel.Coerce

/-- A plan specialised with the request's variables (`planVars = some vars`: what `ExecutePlan` does
whenever a directive mentions a variable) collects, for every runtime type and every list of merged field nodes, exactly the
algorithm's groups — keys, order, occurrence lists. No premise on directives. -/
theorem specialised_collect_eq_spec (c : Ctx) (rank : String → Nat) (hac : Acyclic c.frags rank) (rt : String)
    (nodes : List (FieldNode × Chain))
    (hch : ∀ x ∈ nodes, ∀ sel, x.1.sel = some sel → ChainOK rank x.2 (setSpreads sel)) :
    liveGroups c.schema c.vars (planMerged c.schema c.frags (some c.vars) rt nodes) = collectMerged c rt (nodes.map (·.1)) :=
  liveGroups_planMerged hac (fun _ _ _ _ => .inl rfl) nodes (fun x hx sel hs => ⟨.inl rfl, hch x hx sel hs⟩) c.vars

/-- If no directive in the selection sets at hand and in the fragment table mentions a variable, the
STATIC plan (`planVars = none`, built once by `PlanQuery`) together with its run-time predicates yields the algorithm's groups for
EVERY variable assignment. -/
theorem collect_static_indep_vars (c : Ctx) (rank : String → Nat) (hac : Acyclic c.frags rank)
    (hstatic : ∀ n tc sel, fragOf c.frags n = some (tc, sel) → setDynamic sel = false) (rt : String)
    (nodes : List (FieldNode × Chain))
    (hn : ∀ x ∈ nodes, ∀ sel, x.1.sel = some sel → setDynamic sel = false ∧ ChainOK rank x.2 (setSpreads sel))
    (vars : Vars) :
    liveGroups c.schema vars (planMerged c.schema c.frags none rt nodes) =
      collectMerged { c with vars := vars } rt (nodes.map (·.1)) :=
  liveGroups_planMerged (c := { c with vars := vars }) hac (fun n tc sel hf => .inr ⟨rfl, hstatic n tc sel hf⟩) nodes
    (fun x hx sel hs => ⟨.inr ⟨rfl, (hn x hx sel hs).1⟩, (hn x hx sel hs).2⟩) vars

/-- In both regimes every run-time predicate (`skipPredicate`) the planner produces is nil: the
`andPredicates` / `skipPredicate` machinery of plan.go is never exercised by a plan that `PlanQuery` / `specialise` built. -/
theorem static_plan_preds_trivial (c : Ctx) (pv : Option Vars) (rank : String → Nat) (hac : Acyclic c.frags rank)
    (hfr : FragsOK c pv) (rt : String) (sel : SelectionSet) (hreg : Regime pv c.vars (setDynamic sel)) :
    ∀ fp ∈ planSelectionSet c.schema c.frags pv rt sel, fp.pred = [] :=
  fun fp hfp => ((planSelectionSet_sim (rt := rt) hac hfr sel hreg).2 fp hfp).pred

/-- On a fragment table without spread cycles the descent-path guard
(`chain.has(fragName)`) never fires: planning the merged sub-selection of field nodes under their chains gives the same groups as
planning it with the guard disabled (empty chains). -/
theorem chain_guard_inert_on_acyclic (c : Ctx) (pv : Option Vars) (rank : String → Nat) (hac : Acyclic c.frags rank)
    (hfr : FragsOK c pv) (rt : String) (nodes : List (FieldNode × Chain))
    (hn : ∀ x ∈ nodes, NodeOK c pv rank x.1 x.2) :
    groupsOf (planMerged c.schema c.frags pv rt nodes) =
      groupsOf (planMerged c.schema c.frags pv rt (nodes.map (fun x => (x.1, ([] : Chain))))) := by
  rw [(planMerged_sim (rt := rt) hac hfr nodes hn).1]
  have hn' : ∀ x ∈ nodes.map (fun x => (x.1, ([] : Chain))), NodeOK c pv rank x.1 x.2 := by
    intro x hx
    obtain ⟨y, hy, rfl⟩ := List.mem_map.1 hx
    intro sel hs
    exact ⟨(hn y hy sel hs).1, fun _ h => by cases h⟩
  rw [(planMerged_sim (rt := rt) hac hfr _ hn').1, List.map_map]
  rfl

/-- For a plan built by `PlanQuery` and ANY request variables: the plan that `ExecutePlan` walks (the
static plan, or its per-request specialisation when a directive mentions a variable) yields at the root exactly the groups of
`CollectFields` on the operation's selection set, and at every field plan it can ever reach (any depth, any runtime type — this
is what the lazily planned, memoised sub-selections hold) exactly the merged groups of that field's nodes. -/
theorem planCollect_eq_collect (s : Schema) (doc : Document) (opName : String) (p : Plan)
    (hp : planQuery s doc opName = .ok p) (rank : String → Nat) (hac : Acyclic doc.fragments rank) (vars : Vars) (w : World) :
    let q := if p.dynamicDirectives then p.specialise vars else p
    let c : Ctx := { schema := s, frags := doc.fragments, vars := vars, world := w }
    liveGroups s vars q.root = (collect c p.rootType p.sel ([], [])).1 ∧
    ∀ fid fp, At s doc.fragments q.planVars q.rootType q.root fid fp → ∀ rt,
      liveGroups s vars (planMerged s doc.fragments q.planVars rt fp.nodes) = collectMerged c rt fp.fieldNodes := by
  intro q c
  obtain ⟨-, -, hrt, -, hroot, hreg, hfr⟩ := planQuery_walked hp vars w (q := q) rfl
  obtain ⟨h1, h2⟩ := planSelectionSet_sim (c := c) (rt := q.rootType) hac hfr p.sel hreg
  rw [← hroot] at h1 h2
  refine ⟨?_, fun fid fp hat rt => ?_⟩
  · rw [liveGroups_eq_groupsOf (fun fp hfp => (h2 fp hfp).pred), h1, hrt]
  · obtain ⟨rt0, hok⟩ := at_fpOK (c := c) hac hfr h2 hat
    exact liveGroups_planMerged hac hfr fp.nodes hok.nodes vars

/-- What `Plan.abstractAlternative` returns for the field plan at address `fid` and a runtime type —
from the memo on a hit, freshly planned on a miss — is `planMergedSelectionsForType` of that field plan's nodes: a pure function
of (runtime type, field nodes, chains). The memo stays valid. Any schema, any document. -/
theorem memo_lookup_eq_recompute (p : Plan) (hr : KeysNodup p.root) (m : Memo) (hv : p.MemoValid m) (fid : FpId)
    (fp : FieldPlan) (hat : At p.schema p.frags p.planVars p.rootType p.root fid fp) (rt : String) :
    (abstractAlternative p.schema p.frags p.planVars m fid fp rt).1 = planMerged p.schema p.frags p.planVars rt fp.nodes ∧
    p.MemoValid (abstractAlternative p.schema p.frags p.planVars m fid fp rt).2 :=
  alt_agree (c := { schema := p.schema, frags := p.frags, vars := [], world := default }) hr hv hat rt

/-- Executing a plan with ANY valid pre-populated memo gives the response of executing it with the empty
memo (data, errors, event order — everything M observes), and leaves a valid memo. Every schema, document, variables, world, fuel;
no premise on thunks, validity of the document or fuel. -/
theorem memo_transparent (p : Plan) (hr : KeysNodup p.root) (inputs : Vars) (w : World) (m : Memo) (hv : p.MemoValid m)
    (fuel : Nat) :
    (executePlan p inputs w m fuel).1 = (executePlan p inputs w [] fuel).1 ∧ p.MemoValid (executePlan p inputs w m fuel).2 := by
  have h1 := executePlanCore_eq_ref p hr inputs w m hv fuel
  have h2 := executePlanCore_eq_ref p hr inputs w [] (memoValid_nil p) fuel
  refine ⟨h1.1.trans h2.1.symm, ?_⟩
  show p.MemoValid (if p.dynamicDirectives then m else (executePlanCore p inputs w m fuel).2)
  cases hd : p.dynamicDirectives with
  | true => exact hv
  | false => exact h1.2 hd

/-- one plan executed for a list of requests, the memo threaded through (what a `PlanCache` hit or a caller holding a `*Plan` does) -/
def executeMany (p : Plan) (fuel : Nat) : List (Vars × World) → Memo → List MResponse
  | [], _ => []
  | (inputs, w) :: rest, m =>
    let out := executePlan p inputs w m fuel
    out.1 :: executeMany p fuel rest out.2

/-- Any number of executions of one plan built by `PlanQuery`, with different variables and different
worlds, each answer what a freshly built plan answers for that request. -/
theorem plan_reuse_transparent (s : Schema) (doc : Document) (opName : String) (p : Plan)
    (hp : planQuery s doc opName = .ok p) (fuel : Nat) (reqs : List (Vars × World)) :
    executeMany p fuel reqs [] = reqs.map (fun r => run s doc opName r.1 r.2 fuel) := by
  have hr := planQuery_root_nodup hp
  have key : ∀ (reqs : List (Vars × World)) (m : Memo), p.MemoValid m →
      executeMany p fuel reqs m = reqs.map (fun r => (executePlan p r.1 r.2 [] fuel).1) := by
    intro reqs
    induction reqs with
    | nil => intro m _; rfl
    | cons r rest ih =>
      intro m hv
      obtain ⟨inputs, w⟩ := r
      obtain ⟨h1, h2⟩ := memo_transparent p hr inputs w m hv fuel
      simp only [executeMany, List.map_cons, h1, ih _ h2]
  rw [key reqs [] (memoValid_nil p)]
  apply List.map_congr_left
  intro r _
  simp only [run, hp]

/-- The refinement, exact form. For every schema, document whose fragment table has no spread cycle,
operation name, variables and fuel, and every world WITHOUT func values: what `PlanQuery` + `ExecutePlan` compute (static plan with
folded directives or per-request specialisation, lazily planned and memoised sub-selections, pre-coerced arguments, the recover
points, the dethunk passes) is what the execution algorithm computes — same class of response, the same data tree, the same
errors in the same order, the same resolver invocations (path, runtime parent type, field, coerced arguments, source, number of
merged nodes) in the same order. Only premise on fuel: M did not run out of it. -/
theorem plan_exec_eq_spec_nothunk (s : Schema) (doc : Document) (opName : String) (inputs : Vars) (w : World) (fuel : Nat)
    (rank : String → Nat) (hw : worldFuncFree w = true) (hac : Acyclic doc.fragments rank)
    (hM : run s doc opName inputs w fuel ≠ .fuelOut) :
    RespEq (execute s doc opName inputs w fuel) (run s doc opName inputs w fuel) := by
  rcases execute_cases s doc opName inputs w with ⟨c, root, sel, hc, he⟩ | ⟨hc, what, he⟩
  · obtain ⟨pv, q, hcf, hcw, rfl, hroot, hreg, hfr, hrun⟩ := run_of_ctx hc
    rw [he, hrun] at *
    have hy := mt mresponse_of_eq_fuelOut.2 hM
    rcases runPlan_corr (rank := rank) (by rw [hcw]; exact hw) (by rw [hcf]; exact hac) hfr q sel hroot hreg fuel with hc | hc
    · exact absurd hc hy
    · exact respEq_of_corr hc hy
  · obtain ⟨what', hrun⟩ := run_of_no_ctx hc
    rw [he, hrun]; exact .reqErr _ _

/-- data, errors and invocations in one statement — everything `execute` and `run` observe,
with deferred values, outside the known finding. -/
theorem plan_exec_eq_spec_outside_d04c (s : Schema) (doc : Document) (opName : String) (inputs : Vars) (w : World) (fuel : Nat)
    (rank : String → Nat) (hac : Acyclic doc.fragments rank)
    (d : Option (List (String × JVal))) (errs : List (Path × Bool)) (log : List LogEntry)
    (hS : execute s doc opName inputs w fuel = .result d errs log [])
    (hM : run s doc opName inputs w fuel ≠ .fuelOut) :
    ∃ md merrs mev, run s doc opName inputs w fuel = .result md merrs mev ∧
      (d = none ↔ md = none) ∧
      (∀ fs pfs, d = some fs → md = some pfs → PVal.fieldsToJ? pfs = some fs) ∧
      merrs.filter (fun e => !e.2) = errs.filter (fun e => !e.2) ∧
      (calls mev).filter (fun e => !e.deferred) = log.filter (fun e => !e.deferred) ∧
      (∃ dropE dropL, (errs.filter (fun e => e.2)).Perm (merrs.filter (fun e => e.2) ++ dropE) ∧
        (log.filter (fun e => e.deferred)).Perm ((calls mev).filter (fun e => e.deferred) ++ dropL)) ∧
      (∀ e ∈ merrs, e ∈ errs) ∧ (∀ e ∈ calls mev, e ∈ log) := by
  obtain ⟨c, root, sel, rS, stS, hctx, hrun, he, hl, hkf, hdata⟩ := execute_result hS
  obtain ⟨pv, q, hcf, _, rfl, hroot, hreg, hfr, hrunM⟩ := run_of_ctx hctx
  have hrS : rS ≠ .fuelOut := by
    rcases hdata with ⟨fs, h1, _⟩ | ⟨h1, _⟩ <;> rw [h1] <;> simp
  have hsim := runPlan_sim (c := c) (pv := pv) (rank := rank) (F := fuel) (by rw [hcf]; exact hac) hfr q sel hroot hreg
    { errs := [], events := [], memo := [] }
  rw [show execGroups c fuel false q.rootType .nil [] (collect c q.rootType sel ([], [])).1 [] St.empty = (rS, stS) from hrun] at hsim
  replace hsim := hsim hrS hkf.symm
  rw [hrunM] at hM ⊢
  generalize runPlan c (recompute c.schema c.frags pv) q fuel { errs := [], events := [], memo := [] } = out at hsim hM ⊢
  obtain ⟨rM, mstM⟩ := out
  rcases hsim with hf | ⟨hdat, dS, dM, D, e, mm, ⟨pe, pl⟩, nn⟩
  · simp only at hf; subst hf; exact absurd rfl hM
  -- from empty states: the algorithm's state is its effects `dS`, M's state holds exactly `dM`
  obtain rfl : stS = dS := e.trans (St.app_empty dS)
  obtain rfl : fxM mstM = dM := Eq.trans mm (Fx.app_nil dM)
  obtain ⟨h4, h6, h8⟩ := acct_in_order (S := stS.errs) (M := mstM.errs) (D := D.errs) pe (fun e => e.2) (congrArg Fx.errs nn)
  obtain ⟨h5, h7, h9⟩ := acct_in_order (S := stS.log) (M := calls mstM.events) (D := D.log) pl (fun e => e.deferred)
    (congrArg Fx.log nn)
  rw [← calls_reverse] at h5 h7 h9
  rw [← he] at h4 h6 h8
  rw [← hl] at h5 h7 h9
  have hres : ∃ md, MResponse.of (rM, mstM) = .result md mstM.errs.reverse mstM.events.reverse ∧ (d = none ↔ md = none) ∧
      ∀ fs pfs, d = some fs → md = some pfs → PVal.fieldsToJ? pfs = some fs := by
    rcases hdata with ⟨fs, rfl, rfl⟩ | ⟨rfl, rfl⟩
    · obtain ⟨pfs, rfl, _, hj⟩ := hdat
      refine ⟨some pfs, rfl, by simp, ?_⟩
      intro fs' pfs' h1 h2
      cases h1; cases h2
      exact hj
    · cases hdat
      exact ⟨none, rfl, by simp, fun _ _ h1 => by cases h1⟩
  obtain ⟨md, hmd, h2, h3⟩ := hres
  exact ⟨md, _, _, hmd, h2, h3, h4, h5, ⟨_, _, h6, h7⟩, h8, h9⟩

/-- The refinement WITH deferred values — data. For every schema, document whose fragment table has
no spread cycle, operation name, variables, fuel and every world (deferred values at any depth, deferred values that yield deferred
values): if the algorithm's response is outside the known finding D-04c (its `kfThunk` is empty: no deferred value fails, or yields
null, under a non-null type) then `PlanQuery` + `ExecutePlan` answer in the same class (data / no data), M's data contains no
closure (everything deferred was forced: breadth-first for a query, depth-first per top-level field for a mutation), and read as a
JSON value it IS the algorithm's data tree. PARTIAL w.r.t. the `plan_exec_eq_spec` planned in DESIGN §4 (§10 records what was built) in two respects: the premise
`kf = []` (D-04c, see the witness below) and the ERROR component, which is not part of this statement (see the comment below).
Premise on fuel: M did not run out of it. -/
theorem plan_exec_eq_spec_partial (s : Schema) (doc : Document) (opName : String) (inputs : Vars) (w : World) (fuel : Nat)
    (rank : String → Nat) (hac : Acyclic doc.fragments rank)
    (d : Option (List (String × JVal))) (errs : List (Path × Bool)) (log : List LogEntry)
    (hS : execute s doc opName inputs w fuel = .result d errs log [])
    (hM : run s doc opName inputs w fuel ≠ .fuelOut) :
    ∃ md merrs mev, run s doc opName inputs w fuel = .result md merrs mev ∧
      (d = none ↔ md = none) ∧
      (∀ fs pfs, d = some fs → md = some pfs → PVal.fieldsToJ? pfs = some fs) := by
  obtain ⟨md, merrs, mev, h1, h2, h3, _⟩ := plan_exec_eq_spec_outside_d04c s doc opName inputs w fuel rank hac d errs log hS hM
  exact ⟨md, merrs, mev, h1, h2, h3⟩

/-- The refinement WITH deferred values — errors and resolver invocations. Same premises as
`plan_exec_eq_spec_partial` (every world; outside D-04c: `kf = []`; `Acyclic`; M not out of fuel). `errs`, `log` are the
algorithm's errors and invocations, `merrs`, `calls mev` M's (= the library's, by the exact correspondence), all in order of
recording; the flag of an error / the field `deferred` of an invocation says "recorded while a deferred value is forced".
* OUTSIDE deferred values the two executions record the same errors and the same invocations (path, runtime parent type, field,
  coerced arguments, source, number of merged nodes), in the SAME ORDER: equal lists.
* INSIDE deferred values the algorithm's records are, up to a permutation, M's records PLUS some dropped ones (`dropE`, `dropL`):
  M's deferred errors / invocations are a sub-multiset of the algorithm's. (The algorithm forces a deferred value where it meets
  it; when a later failure nulls an ancestor of that position the library never forces it, and what the algorithm recorded inside
  is dropped: `dropped_deferred_error_witness`. Equality of the multisets is therefore NOT a theorem.) -/
theorem plan_exec_eq_spec_effects (s : Schema) (doc : Document) (opName : String) (inputs : Vars) (w : World) (fuel : Nat)
    (rank : String → Nat) (hac : Acyclic doc.fragments rank)
    (d : Option (List (String × JVal))) (errs : List (Path × Bool)) (log : List LogEntry)
    (hS : execute s doc opName inputs w fuel = .result d errs log [])
    (hM : run s doc opName inputs w fuel ≠ .fuelOut) :
    ∃ md merrs mev, run s doc opName inputs w fuel = .result md merrs mev ∧
      merrs.filter (fun e => !e.2) = errs.filter (fun e => !e.2) ∧
      (calls mev).filter (fun e => !e.deferred) = log.filter (fun e => !e.deferred) ∧
      ∃ dropE dropL, (errs.filter (fun e => e.2)).Perm (merrs.filter (fun e => e.2) ++ dropE) ∧
        (log.filter (fun e => e.deferred)).Perm ((calls mev).filter (fun e => e.deferred) ++ dropL) := by
  obtain ⟨md, merrs, mev, h1, _, _, h4, h5, h6, _⟩ :=
    plan_exec_eq_spec_outside_d04c s doc opName inputs w fuel rank hac d errs log hS hM
  exact ⟨md, merrs, mev, h1, h4, h5, h6⟩

/-- One call of a closure whose deferred value the algorithm forced (witness `Wit`) never runs out of
the request's fuel; neither does phase one (part of `GenP`). -/
theorem force_never_out_of_fuel (c : Ctx) (pv : Option Vars) (rank : String → Nat) (F : Nat) (hac : Acyclic c.frags rank)
    (hfr : FragsOK c pv) (cl : Closure) (j : JVal) (hwit : Wit c pv rank F cl j) (mst : MSt) :
    (force c (recompute c.schema c.frags pv) F cl mst).1 ≠ .fuelOut :=
  force_no_fuelOut hac hfr cl j hwit mst

/-- The loop at a dethunk site (call the closure, and what it yields, until something that is no
closure comes out; counter: the request's fuel + 2) never runs out on a closure whose deferred value the algorithm forced: the
algorithm unwraps one level of nesting per unit of its fuel, so the nesting depth is at most the fuel + 1. -/
theorem site_loop_never_out_of_fuel (c : Ctx) (pv : Option Vars) (rank : String → Nat) (F : Nat) (hac : Acyclic c.frags rank)
    (hfr : FragsOK c pv) (cl : Closure) (j : JVal) (hwit : Wit c pv rank F cl j) (mst : MSt) :
    (forceAll c (recompute c.schema c.frags pv) F cl mst).1 ≠ .fuelOut :=
  forceAll_nf hac hfr cl j hwit mst

/-- The fuel premise discharged. With deferred values, outside D-04c, acyclic fragment table: when the
algorithm answers WITH DATA `fs` from fuel `fuelS`, M answers (is not `fuelOut`) from every fuel `F ≥ fuelS` with
`F ≥ dethunkFuel fs = max (jdep (.obj fs)) (jcont (.obj fs) + 1)`, two measures of the RESPONSE: `jcont` = the number of maps and
lists in it (the breadth-first queue of a query pops each once, plus the final empty pop), `jdep` = along the deepest path the sum
of (entries + 2) per level (the depth-first recursion of a mutation). Tight for the queue: `fuel_bound_tight_witness`. Not covered:
a MUTATION answering `data: null` — the values forced before the failing top-level field are not in the response, so no bound in
terms of the response exists (M still only needs fuel ≥ their `jdep`). -/
theorem plan_fuel_sufficient (s : Schema) (doc : Document) (opName : String) (inputs : Vars) (w : World) (fuelS : Nat)
    (rank : String → Nat) (hac : Acyclic doc.fragments rank)
    (fs : List (String × JVal)) (errs : List (Path × Bool)) (log : List LogEntry)
    (hS : execute s doc opName inputs w fuelS = .result (some fs) errs log [])
    (F : Nat) (h1 : fuelS ≤ F) (h2 : dethunkFuel fs ≤ F) : run s doc opName inputs w F ≠ .fuelOut := by
  obtain ⟨k, rfl⟩ := Nat.le.dest h1
  have hS' := execute_fuel_add s doc opName inputs w fuelS _ hS (by simp) k
  obtain ⟨c, root, sel, rS, stS, hctx, hrun, _, _, hkf, hdata⟩ := execute_result hS'
  obtain ⟨pv, q, hcf, _, rfl, hroot, hreg, hfr, hrunM⟩ := run_of_ctx hctx
  rcases hdata with ⟨fs', h3, h4⟩ | ⟨_, h4⟩
  · simp only [Option.some.injEq] at h4
    subst h4
    subst h3
    have hb1 : jdep (.obj fs) ≤ fuelS + k := Nat.le_trans (Nat.le_max_left _ _) h2
    have hb2 : jcont (.obj fs) + 1 ≤ fuelS + k := Nat.le_trans (Nat.le_max_right _ _) h2
    have hnf := runPlan_nf (c := c) (pv := pv) (rank := rank) (F := fuelS + k) (by rw [hcf]; exact hac) hfr q sel hroot hreg fs stS
      hrun hkf.symm hb1 hb2 { errs := [], events := [], memo := [] }
    rw [hrunM]
    exact mt mresponse_of_eq_fuelOut.1 hnf
  · cases h4

/-- `plan_exec_eq_spec_outside_d04c` for a response with data, WITHOUT the premise on M's fuel: the
algorithm answers from `fuelS`; M, run with any fuel `F` that covers `fuelS` and the response's `dethunkFuel`, answers with data
that read as a JSON value IS the algorithm's, the same non-deferred errors and invocations in the same order, and deferred ones a
sub-multiset. -/
theorem plan_exec_eq_spec_fueled (s : Schema) (doc : Document) (opName : String) (inputs : Vars) (w : World) (fuelS : Nat)
    (rank : String → Nat) (hac : Acyclic doc.fragments rank)
    (fs : List (String × JVal)) (errs : List (Path × Bool)) (log : List LogEntry)
    (hS : execute s doc opName inputs w fuelS = .result (some fs) errs log [])
    (F : Nat) (h1 : fuelS ≤ F) (h2 : dethunkFuel fs ≤ F) :
    ∃ pfs merrs mev, run s doc opName inputs w F = .result (some pfs) merrs mev ∧
      PVal.fieldsToJ? pfs = some fs ∧
      merrs.filter (fun e => !e.2) = errs.filter (fun e => !e.2) ∧
      (calls mev).filter (fun e => !e.deferred) = log.filter (fun e => !e.deferred) ∧
      (∃ dropE dropL, (errs.filter (fun e => e.2)).Perm (merrs.filter (fun e => e.2) ++ dropE) ∧
        (log.filter (fun e => e.deferred)).Perm ((calls mev).filter (fun e => e.deferred) ++ dropL)) := by
  have hM := plan_fuel_sufficient s doc opName inputs w fuelS rank hac fs errs log hS F h1 h2
  obtain ⟨k, rfl⟩ := Nat.le.dest h1
  have hS' := execute_fuel_add s doc opName inputs w fuelS _ hS (by simp) k
  obtain ⟨md, merrs, mev, a1, a2, a3, a4, a5, a6, _, _⟩ :=
    plan_exec_eq_spec_outside_d04c s doc opName inputs w (fuelS + k) rank hac (some fs) errs log hS' hM
  cases md with
  | none => exact absurd (a2.2 rfl) (by simp)
  | some pfs => exact ⟨pfs, merrs, mev, a1, a3 fs pfs rfl rfl, a4, a5, a6⟩

/- What is left of the `plan_exec_eq_spec` planned in DESIGN §4 (§10 records what was built;
   "equal data, equal multisets of error paths, equal logs" for every request):
   (a) the known finding D-04c (a deferred value that fails, or yields null, under a NON-NULL type is forced after every recover
       scope is gone: the failure reaches the request level): `d04c_negation_witness` is the kernel-checked counterexample; the
       decidable predicate of the class is `kfThunk ≠ []` of the algorithm's response;
   (b) the DROPPED deferred effects: equality of the error multisets / of the logs is false (`dropped_deferred_error_witness`); what
       holds is `plan_exec_eq_spec_effects`, and that is what the harness compares (`errDeferred` tolerance);
   (c) fuel. `run … ≠ .fuelOut` cannot be had from `execute … ≠ .fuelOut` AT THE SAME FUEL VALUE (`fuel_is_not_shared_witness`):
       M's breadth-first queue consumes one unit per container of the response (up to exponentially many in the algorithm's
       recursion depth), the depth-first pass one per key and level. It IS had from a fuel that also covers the size of the
       response: `plan_fuel_sufficient` / `plan_exec_eq_spec_fueled` (responses with data; for `data: null` the theorems with the
       premise `run … ≠ .fuelOut` remain — a query needs no more than the algorithm's fuel there (`runPlan` returns phase one's
       failure), a mutation needs the `jdep` of values that are not in the response). The driver runs M with fuel 100000 and
       reports `fuelOut` as a check error, never as a response. -/

namespace Ex
open GqlModel.Exec.Ex

/-- `{ o { y x } }` where object 1's `x : String!` resolves to a deferred value that fails -/
def docKF : Document :=
  { defs := [.operation .query none [] [] (.mk [fld "o" (some [fld "y", fld "x"])] Loc.none) Loc.none], loc := Loc.none }

def worldKF : World :=
  { objects := [(1, { typeName := "O", fields := [("x", .value (.thunk .err)), ("y", .value (.int 2))] })],
    rootFields := [("o", .value (.ref 1))], isTypeOf := [], resolveType := [] }

def mData (r : MResponse) : Option (Option (List (String × JVal))) :=
  match r with
  | .result none _ _ => some none
  | .result (some fs) _ _ => (PVal.fieldsToJ? fs).map some
  | _ => none

def mErrs (r : MResponse) : List String :=
  match r with
  | .result _ errs _ => errs.map (fun e => pathStr e.1)
  | _ => ["<no result>"]

def mEvents (r : MResponse) : List String :=
  match r with
  | .result _ _ evs => evs.map (fun | .call e => "call " ++ pathStr e.path | .force p => "force " ++ pathStr p)
  | _ => ["<no result>"]

def sKf (r : Response) : List String :=
  match r with
  | .result _ _ _ kf => kf.map pathStr
  | _ => []

end Ex

open Ex GqlModel.Exec.Ex in
/-- A concrete valid request on which M (= the library, by correspondence) and the algorithm differ: the
algorithm nulls the nearest nullable ancestor (`o`), M loses the whole data. Both report the one error at `o.x`; the algorithm's
KF predicate (`kfThunk`) is non-empty. -/
theorem d04c_negation_witness :
    (obsData (execute schema docKF "" [] worldKF) == some [("o", JVal.null)]) = true ∧
    obsErrs (execute schema docKF "" [] worldKF) = ["o.x"] ∧
    sKf (execute schema docKF "" [] worldKF) = ["o.x"] ∧
    (match mData (run schema docKF "" [] worldKF) with | some none => true | _ => false) = true ∧
    mErrs (run schema docKF "" [] worldKF) = ["o.x"] ∧
    mEvents (run schema docKF "" [] worldKF) = ["call o", "call o.y", "call o.x", "force o.x"] := by
  decide +kernel

namespace Ex
open GqlModel.Exec.Ex

/-- object 1: `y : Int` (nullable) resolves to a deferred value that fails, `x : String!` fails outright -/
def worldDrop : World :=
  { objects := [(1, { typeName := "O", fields := [("x", .fail), ("y", .value (.thunk .err))] })],
    rootFields := [("o", .value (.ref 1))], isTypeOf := [], resolveType := [] }

/-- `Query { l : [O] }`, `O { l : [O], y : Int }` -/
def schemaL : Schema :=
  { types := [.scalar "Int" .int "",
      .object "Query" [] [{ name := "l", type := .list (.named "O"), args := [] }] false "",
      .object "O" [] [{ name := "l", type := .list (.named "O"), args := [] },
                      { name := "y", type := .named "Int", args := [] }] false ""],
    query := "Query", mutation := none, subscription := none, directives := [] }

def four (v : GoVal) : GoVal := .list [v, v, v, v]

/-- four objects each holding four objects: 26 containers in the response -/
def worldL : World :=
  { objects := [(1, { typeName := "O", fields := [("l", .value (four (.ref 2)))] }),
                (2, { typeName := "O", fields := [("y", .value (.int 1))] })],
    rootFields := [("l", .value (four (.ref 1)))], isTypeOf := [], resolveType := [] }

/-- `{ l { l { y } } }` -/
def docL : Document :=
  { defs := [.operation .query none [] [] (.mk [fld "l" (some [fld "l" (some [fld "y"])])] Loc.none) Loc.none], loc := Loc.none }

def isResult (r : Response) : Bool := match r with | .result _ _ _ _ => true | _ => false
def mIsResult (r : MResponse) : Bool := match r with | .result _ _ _ => true | _ => false
def mIsFuelOut (r : MResponse) : Bool := match r with | .fuelOut => true | _ => false

end Ex

open Ex GqlModel.Exec.Ex in
/-- Why the deferred parts are related by "plus dropped ones", not by equality: `{ o { y x } }`,
`y` a deferred value that fails under a nullable type, `x : String!` failing afterwards. The algorithm records `o.y` (deferred, in
place) and `o.x`; the library — and M — null `o` on `o.x` and never force `y`: one error. No D-04c involved (`kfThunk = []`). -/
theorem dropped_deferred_error_witness :
    obsErrs (execute schema docKF "" [] worldDrop) = ["o.y", "o.x"] ∧
    sKf (execute schema docKF "" [] worldDrop) = [] ∧
    mErrs (run schema docKF "" [] worldDrop) = ["o.x"] ∧
    mEvents (run schema docKF "" [] worldDrop) = ["call o", "call o.y", "call o.x"] ∧
    (obsData (execute schema docKF "" [] worldDrop) == some [("o", JVal.null)]) = true ∧
    (mData (run schema docKF "" [] worldDrop) == some (some [("o", JVal.null)])) = true := by
  decide +kernel

open Ex GqlModel.Exec.Ex in
/-- Why `run … ≠ .fuelOut` is a premise, or else a larger fuel: with fuel 19 the algorithm answers,
M's breadth-first queue (26 containers) runs out; with fuel 27 both answer. -/
theorem fuel_is_not_shared_witness :
    isResult (execute schemaL docL "" [] worldL 19) = true ∧ mIsFuelOut (run schemaL docL "" [] worldL 19) = true ∧
    isResult (execute schemaL docL "" [] worldL 26) = true ∧ mIsFuelOut (run schemaL docL "" [] worldL 26) = true ∧
    mIsResult (run schemaL docL "" [] worldL 27) = true := by
  decide +kernel

open Ex GqlModel.Exec.Ex in
/-- on that request the bound of `plan_fuel_sufficient` is 27 — exactly the least fuel from which M
answers (`fuel_is_not_shared_witness`: out of fuel at 26). -/
theorem fuel_bound_tight_witness :
    (match execute schemaL docL "" [] worldL 19 with
     | .result (some fs) _ _ _ => dethunkFuel fs
     | _ => 0) = 27 := by
  decide +kernel

/-- Whatever happens inside a deferred value whose position has a NULLABLE type — the thunk
fails, has another signature, or the completion of its result propagates a failure — its own catcher absorbs it: forcing never
fails (the position becomes null, with the error recorded). -/
theorem thunk_failure_nullable_absorbed (c : Ctx) (alt : Alt) (fuel : Nat) (cl : Closure) (st : MSt)
    (h : cl.t.isNonNull = false) : (force c alt fuel cl st).1 ≠ .fail := by
  rw [force_eq, h]
  cases cl.r with
  | none => nofun
  | some r =>
    cases r with
    | err => nofun
    | ok v =>
      show (recover _ _).1 ≠ .fail
      rcases mComplete c alt fuel true cl.t cl.rt cl.fid cl.fp cl.path v (st.logEv (.force cl.path)) with ⟨_ | _ | _, st1⟩ <;> nofun

/-- Known finding D-04c, M is bug-faithful. A deferred value under a NON-NULL type whose thunk
fails (or is not a `func() (interface{}, error)`) is not absorbed anywhere: forcing fails with exactly that one error added, and a
failed forcing is the end of the request — data none, the errors recorded so far and that one. -/
theorem thunk_failure_nonnull_escapes (c : Ctx) (alt : Alt) (fuel : Nat) (cl : Closure) (st : MSt)
    (h : cl.t.isNonNull = true) (hr : cl.r = some .err ∨ cl.r = none) :
    (force c alt fuel cl st).1 = .fail ∧ (force c alt fuel cl st).2.errs = (cl.path, true) :: st.errs ∧
    ∀ st' : MSt, MResponse.of (.fail, st') = .result none st'.errs.reverse st'.events.reverse := by
  refine ⟨?_, ?_, fun _ => rfl⟩ <;> rcases hr with hr | hr <;> rw [force_eq, hr, h] <;> rfl

/-- At the root of a mutation (every schema, plan, world, fuel; every instance of the sub-plan oracle):
M's event log — resolver calls AND thunk calls — is the concatenation of one contiguous block per top-level field, in plan
(= document) order; every event of a block lies under that field's response key. No resolver of a later top-level field runs before
the earlier field's resolvers, the thunks it deferred and the resolvers run while forcing them are done. -/
theorem mutation_forcing_serial (c : Ctx) (alt : Alt) (dfuel : Nat) (rt : String) (fuel : Nat) (fps : List FieldPlan)
    (acc : List (String × PVal)) (st : MSt) :
    ∃ new, (mRootMut c alt dfuel fuel rt fps acc st).2.events = new ++ st.events ∧ MSerial (fps.map (·.key)) new.reverse :=
  mRootMut_serial c alt dfuel rt fuel fps acc st

/-- Every value a top-level mutation field stores is closure-free when the next field starts: everything
it deferred — at any depth, also what forcing itself deferred, also deferred values yielded by deferred values — was forced inside
its block. (`AltND`: the sub-plan oracle returns field lists with distinct response keys — true of the memo and of recomputation.) -/
theorem mutation_values_settled (c : Ctx) (alt : Alt) (ha : AltND alt) (dfuel : Nat)
    (rt : String) (fuel : Nat) (fps : List FieldPlan) (st : MSt) (fs : List (String × PVal))
    (h : (mRootMut c alt dfuel fuel rt fps [] st).1 = .ok fs) : ∀ x ∈ fs, NoDef x.2 :=
  mRootMut_settled ha dfuel rt fuel fps [] st (fun _ h => by cases h) fs h

/-- `PlanQuery` + `ExecutePlan` on a mutation operation: the response's events are
serial blocks over pairwise distinct top-level keys, and the data contains no closure — the final `dethunkMapDepthFirst` pass had
nothing to do. -/
theorem mutation_forcing_serial_request (s : Schema) (doc : Document) (opName : String) (inputs : Vars) (w : World) (fuel : Nat)
    (p : Plan) (hp : planQuery s doc opName = .ok p) (hmut : p.isMutation = true)
    (data : Option (List (String × PVal))) (errs : List (Path × Bool)) (events : List Event)
    (h : run s doc opName inputs w fuel = .result data errs events) :
    ∃ keys : List String, keys.Nodup ∧ MSerial keys events ∧ ∀ fs, data = some fs → ∀ x ∈ fs, NoDef x.2 := by
  rw [run_eq_ref s doc opName inputs w fuel p hp] at h
  unfold executePlanRef at h
  cases hvars : getVariableValues p.schema p.varDefs inputs with
  | error e => simp [hvars] at h
  | ok vars =>
    simp only [hvars] at h
    -- the plan that is walked
    obtain ⟨q, hq⟩ : ∃ q : Plan, q = if p.dynamicDirectives then p.specialise vars else p := ⟨_, rfl⟩
    obtain ⟨-, -, -, hqm, hqr, -, -⟩ := planQuery_walked hp vars w hq
    rw [← hq] at h
    generalize hrun : runPlan { schema := q.schema, frags := q.frags, vars := vars, world := w }
      (recompute q.schema q.frags q.planVars) q fuel { errs := [], events := [], memo := [] } = out at h
    obtain ⟨r, st⟩ := out
    obtain ⟨-, rfl, hdata⟩ := mresponse_of_eq_result h
    have hne : r ≠ .fuelOut := by
      rcases hdata with ⟨_, h1, _⟩ | ⟨h1, _⟩ <;> cases h1 <;> nofun
    obtain ⟨⟨new, hev, hser⟩, hset⟩ := runPlan_mutation q (hqm.trans hmut) fuel _ (altND_recompute _ _ _) r st hrun hne
    refine ⟨q.root.map (·.key), ?_, by rw [hev, List.append_nil]; exact hser, fun fs hfs => ?_⟩
    · rw [hqr]; exact keysNodup_planSelectionSet _ _ _ _ _
    · rcases hdata with ⟨gs, hr, hd⟩ | ⟨-, hd⟩
      · obtain rfl : fs = gs := Option.some.inj (hfs.symm.trans hd)
        exact hset fs hr
      · cases hfs.symm.trans hd

/-- The serial regime is chosen by the KIND of the selected operation and by nothing
else — in particular not by the identity of the root type: a schema may name one object as query root AND mutation root
(`NewSchema` accepts that), and a mutation on it is still planned as a mutation (the flag is not
`rootType != schema.QueryType()`). -/
theorem planQuery_isMutation_is_operation_kind (s : Schema) (doc : Document) (opName : String) (p : Plan)
    (hp : planQuery s doc opName = .ok p)
    (op : OpType) (n : Option Name) (vds : List VarDef) (ds : List Directive) (sel : SelectionSet) (l : Loc)
    (hsel : selectOperation doc opName = .ok (.operation op n vds ds sel l)) :
    p.isMutation = (op == .mutation) := by
  obtain ⟨op', _, _, _, _, _, _, hsel', _, rfl⟩ := planQuery_ok hp
  cases hsel.symm.trans hsel'
  rfl

/-- … and the per-request specialisation of a plan (documents with variable-driven `@skip` / `@include` are re-planned with
the request's variables) keeps the regime of the plan it specialises. -/
theorem specialise_keeps_regime (p : Plan) (vars : Vars) :
    (p.specialise vars).isMutation = p.isMutation ∧ (p.specialise vars).rootType = p.rootType := ⟨rfl, rfl⟩

/-- The plan carries the document's WHOLE fragment table — what `ResolveInfo.Fragments` hands to
every resolver, type resolver and `IsTypeOf` (C20) — not the part of it the selected operation reaches, and
specialisation keeps it. -/
theorem planQuery_keeps_all_fragments (s : Schema) (doc : Document) (opName : String) (p : Plan)
    (hp : planQuery s doc opName = .ok p) (vars : Vars) :
    p.frags = doc.fragments ∧ (p.specialise vars).frags = doc.fragments := by
  obtain ⟨_, _, _, _, _, _, _, _, _, rfl⟩ := planQuery_ok hp
  exact ⟨rfl, rfl⟩

open Ex GqlModel.Exec.Ex in
/-- the example document of `GqlProofs/ExecExample.lean` (fragments F → G with G spreading itself: CYCLIC, so `Acyclic` fails for
it) is executed identically by M and S all the same — mutation with a deferred top-level value: -/
example : mEvents (run schema doc "M" [] world) = ["call m1", "force m1", "call m1.y", "call m1.x", "call m2"] ∧
    mErrs (run schema doc "M" [] world) = ["m1.x"] ∧ obsErrs (execute schema doc "M" [] world) = ["m1.x"] := by
  decide +kernel

/-- an acyclic fragment table: rank F = 1, everything else 0, for `fragment F on Query { o { y } }` -/
example : Acyclic [("F", Definition.fragment ⟨"F", Loc.none⟩ (.named "Query" Loc.none) []
    (.mk [GqlModel.Exec.Ex.fld "o" (some [GqlModel.Exec.Ex.fld "y"])] Loc.none) Loc.none)]
    (fun n => if n = "F" then 1 else 0) := by
  intro n tc sel h m hm
  unfold fragOf at h
  by_cases hn : (("F" : String) == n) = true
  · simp [List.filter, hn] at h
    obtain ⟨_, rfl⟩ := h
    simp [setSpreads, selsSpreads, selSpreads, GqlModel.Exec.Ex.fld] at hm
  · simp [List.filter, hn] at h

/-- worlds without func values exist (the example world without its deferred `m1`) -/
example : worldFuncFree { GqlModel.Exec.Ex.world with rootFields := [("a", .value (.int 7)), ("o", .value (.ref 1))] } = true := by
  decide +kernel

namespace Ex
open GqlModel.Exec.Ex

/-- `a` and `m2` resolve to a thunk that returns a thunk -/
def worldNested : World :=
  { world with rootFields := [("a", .value (.thunk (.ok (.thunk (.ok (.int 7)))))),
                              ("m2", .value (.thunk (.ok (.thunk (.ok (.int 3))))))] }
def docNestedQ : Document :=
  { defs := [.operation .query none [] [] (.mk [fld "a"] Loc.none) Loc.none], loc := Loc.none }
def docNestedM : Document :=
  { defs := [.operation .mutation none [] [] (.mk [fld "m2"] Loc.none) Loc.none], loc := Loc.none }

end Ex

open Ex GqlModel.Exec.Ex in
/-- A deferred value
that yields a deferred value is forced to the end, by a query (breadth-first pass) and by a mutation (per-field depth-first pass)
alike, and M agrees with the algorithm. -/
theorem nested_thunk_forced :
    (mData (run schema docNestedQ "" [] worldNested) == some (some [("a", JVal.int 7)])) = true ∧
    mEvents (run schema docNestedQ "" [] worldNested) = ["call a", "force a", "force a"] ∧
    (mData (run schema docNestedM "" [] worldNested) == some (some [("m2", JVal.int 3)])) = true ∧
    mEvents (run schema docNestedM "" [] worldNested) = ["call m2", "force m2", "force m2"] ∧
    (obsData (execute schema docNestedQ "" [] worldNested) == some [("a", JVal.int 7)]) = true := by
  decide +kernel

end GqlModel.Plan
