import GqlProofs.Visitor
import GqlProofs.VisitorParallel
import GqlModel.Tables
import Generated.Tables
/-! # C14 — AST traversal visits every node once, in order, honouring skip and break

Property theorems, with the definitions their statements and examples use. `M` = the loop of `visitor.Visit` as the small-step machine `step`;
`S` = the recursive reference walk. All statements hold for every tree, every visitor (any state
type `σ`, any enter/leave functions — hence any assignment of continue/skip/break to (node, phase)
pairs, also history-dependent ones) and every initial state. -/
namespace GqlModel.Visitor
variable {σ : Type}

/-- C14 core for stateful visitors (no edits; D-14b, a SKIP answered at the root, repaired): for every tree, every visitor
and every initial visitor state, the loop ends with exactly the state the reference walk computes, in `broken` iff BREAK. -/
theorem machine_eq_reference (v : Visitor σ) (root : Node) (st : σ) :
    ∃ N, runN v N (init root) st = (if (walk v root st).2 then MS.broken else MS.done, (walk v root st).1) :=
  ⟨_, machine_eq_reference_within v root st (Nat.le_refl _)⟩

theorem machine_eq_reference_fuel (v : Visitor σ) (root : Node) (st : σ) :
    ∃ N, ∀ fuel, N ≤ fuel →
      runN v fuel (init root) st = (if (walk v root st).2 then MS.broken else MS.done, (walk v root st).1) :=
  ⟨_, fun _ => machine_eq_reference_within v root st⟩

-- `enterIds` / `leaveIds` unfold to `idsOf .enter` / `idsOf .leave` (GqlProofs/VisitorParallel): `idsOf_log`,
-- `idsOf_events` apply to them as they stand
def enterIds (l : List Ev) : List Nat := (l.filter (fun e => e.phase = .enter)).map (·.id)
def leaveIds (l : List Ev) : List Nat := (l.filter (fun e => e.phase = .leave)).map (·.id)


def allCont : Policy := fun _ _ => .cont

theorem allCont_slots : ∀ (ss : List Slot) (pid : Nat) (path : List Key) (anc : List (Option Nat)) (st : List Ev),
    (visitSlots (logVisitor allCont) pid path anc ss st).2 = false ∧
    enterIds (visitSlots (logVisitor allCont) pid path anc ss st).1.reverse = enterIds st.reverse ++ Slot.preList ss ∧
    leaveIds (visitSlots (logVisitor allCont) pid path anc ss st).1.reverse = leaveIds st.reverse ++ Slot.postList ss :=
  fun ss pid path anc st =>
    idsOf_log (slots_fold _ logVisitor_alwaysCont ss pid path anc st) ((idsOf_events idle).slots ss pid path anc)

theorem allCont_elems : ∀ (ns : List Node) (i : Nat) (path : List Key) (anc : List (Option Nat)) (st : List Ev),
    (visitElems (logVisitor allCont) path anc ns i st).2 = false ∧
    enterIds (visitElems (logVisitor allCont) path anc ns i st).1.reverse = enterIds st.reverse ++ Node.preList ns ∧
    leaveIds (visitElems (logVisitor allCont) path anc ns i st).1.reverse = leaveIds st.reverse ++ Node.postList ns :=
  fun ns i path anc st =>
    idsOf_log (elems_fold _ logVisitor_alwaysCont ns i path anc st) ((idsOf_events idle).elems ns i path anc)

/-- With a visitor that never skips or breaks, every node is entered exactly once, in document
(pre-)order, and left exactly once, in post-order; the traversal ends normally. -/
theorem each_node_once_in_document_order (root : Node) :
    (refEvents allCont root).2 = false ∧
    enterIds (refEvents allCont root).1 = root.pre ∧
    leaveIds (refEvents allCont root).1 = root.post :=
  idsOf_log ((fold_all (logVisitor allCont) logVisitor_alwaysCont).node root ⟨none, none, [], []⟩ [])
    ((idsOf_events idle).node root _)

/-- …and the same holds for the loop of `visitor.Visit` (by `machine_done_of_walk`). -/
theorem machine_each_node_once_in_document_order (root : Node) :
    ∃ N, ∀ fuel, N ≤ fuel →
      (machineEvents allCont root fuel).2 = MS.done ∧
      enterIds (machineEvents allCont root fuel).1 = root.pre ∧
      leaveIds (machineEvents allCont root fuel).1 = root.post := by
  obtain ⟨h1, h2, h3⟩ := each_node_once_in_document_order root
  obtain ⟨N, hN⟩ := machine_done_of_walk (Prod.ext rfl h1 : walk (logVisitor allCont) root [] = (_, false))
  exact ⟨N, fun fuel hf => by simp only [machineEvents, hN fuel hf]; exact ⟨trivial, h2, h3⟩⟩

/-- SKIP on enter suppresses exactly the node's subtree and its leave: the walk of that node consists
of the enter callback alone and the traversal goes on. -/
theorem skip_suppresses_subtree_and_leave (v : Visitor σ) (id : Nat) (slots : List Slot) (c : Ctx) (st st' : σ)
    (h : v.enter st id c = (st', .skip)) : visitNode v (.mk id slots) c st = (st', false) :=
  visitNode_skip slots h

/-- BREAK on enter stops the traversal immediately: nothing else is called. -/
theorem break_on_enter_stops (v : Visitor σ) (id : Nat) (slots : List Slot) (c : Ctx) (st st' : σ)
    (h : v.enter st id c = (st', .brk)) : visitNode v (.mk id slots) c st = (st', true) :=
  visitNode_brk slots h

/-- A BREAK anywhere below propagates: no later sibling is visited (slots level). -/
theorem break_skips_later_siblings (v : Visitor σ) (pid : Nat) (path : List Key) (anc : List (Option Nat))
    (k : String) (n : Node) (rest : List Slot) (st st' : σ)
    (h : visitNode v n ⟨some (.name k), some pid, path ++ [.name k], anc⟩ st = (st', true)) :
    visitSlots v pid path anc (.one k n :: rest) st = (st', true) := by
  rw [visitSlots_one, h, andThen]

/-- Leave receives the key, parent and ancestors that enter received (the path without the node's own key). -/
theorem leave_ctx_eq_enter_ctx (v : Visitor σ) (id : Nat) (slots : List Slot) (c : Ctx) (st st1 st2 : σ)
    (he : v.enter st id c = (st1, .cont))
    (hs : visitSlots v id c.path (c.anc ++ [c.parent]) slots st1 = (st2, false)) :
    visitNode v (.mk id slots) c st =
      ((v.leave st2 id { key := c.key, parent := c.parent, path := c.path.dropLast, anc := c.anc }).1,
       decide ((v.leave st2 id { key := c.key, parent := c.parent, path := c.path.dropLast, anc := c.anc }).2 = .brk)) := by
  rw [visitNode_cont slots he, hs, andThen, ofLeave]

/-- `VisitInParallel`: several visitors run in parallel each observe what they would observe alone.
For every tree with distinct node identities (Go: distinct pointers), every list of stateful sub-visitors
and every list of initial states, the traversal driven by the parallel visitor ends normally with each
sub-visitor in exactly the state its own traversal ends in, marked BREAK iff its own traversal broke —
whatever the other sub-visitors skip or break. -/
theorem parallel_projection (vs : List (Visitor σ)) (sts : List σ) (root : Node)
    (hl : sts.length = vs.length) (hnd : root.pre.Nodup) :
    walk (parallel vs) root (sts.map (fun st => (st, Mark.active))) =
      (List.zipWith (fun v st => ((walk v root st).1, markOf (walk v root st).2)) vs sts, false) := by
  unfold walk
  rw [(fold_all (parallel vs) (parallel_alwaysCont vs)).node, parallel_fold vs _ _ (by simp [hl])]
  congr 1
  rw [List.zipWith_map_right]
  congr 1
  funext v st
  exact (wrap_all v).node root _ hnd st

/-- …and the loop of `visitor.Visit` driven by the parallel visitor does the same (by `machine_done_of_walk`). -/
theorem machine_parallel_projection (vs : List (Visitor σ)) (sts : List σ) (root : Node)
    (hl : sts.length = vs.length) (hnd : root.pre.Nodup) :
    ∃ N, ∀ fuel, N ≤ fuel →
      runN (parallel vs) fuel (init root) (sts.map (fun st => (st, Mark.active))) =
        (MS.done, List.zipWith (fun v st => ((walk v root st).1, markOf (walk v root st).2)) vs sts) :=
  machine_done_of_walk (parallel_projection vs sts root hl hnd)

/-- Tie to the code's tables, re-checked against the regenerated `Generated/Tables.lean` on every run:
the child-key table the traversal uses lists exactly the node-valued fields of every AST struct, in
declaration order (so "every reachable node" in the model's `Slot` list means every child the Go
structs can hold), and every node kind has an entry. -/
theorem child_keys_cover_ast_fields :
    GqlModel.Tables.childKeysCover Generated.queryDocumentKeys Generated.astStructFields Generated.kinds = true := by
  decide +kernel

/-! ## Non-vacuity: a concrete tree, with a skip and a list slot, on which machine and reference agree -/

def exTree : Node :=
  .mk 0 [.many "Definitions" (.mk 1 [.absent "Name", .one "SelectionSet" (.mk 2 [.many "Selections" (.mk 3 []) [.mk 4 []]])]) [.mk 5 []]]
def exPol : Policy := fun id ph => if id = 2 ∧ ph = .enter then .skip else .cont

example : (machineEvents exPol exTree (fuelFor exTree)).1 = (refEvents exPol exTree).1 := by decide +kernel
example : enterIds (refEvents exPol exTree).1 = [0, 1, 2, 5] := by decide +kernel
example : enterIds (refEvents allCont exTree).1 = [0, 1, 2, 3, 4, 5] := by decide +kernel

end GqlModel.Visitor
