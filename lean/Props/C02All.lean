import GqlModel.Validate.All
import Generated.Tables
import Props.C02Local
import Props.C02Typed
import Props.C02Graph
/-! # C02, the combined statement: a document is accepted iff all 24 rules' specifications hold

`validate s d` (Validate/All.lean) = the reports of the 24 rules as coded, in `graphql.SpecifiedRules` order
(`specified_rules_order`, against the table regenerated from rules.go on every run). A rule whose code is the filter the
spec states has one function, `…_S`; `…_M` is a rule whose code is a stateful visitor or deviates (`Validate/Local.lean`).

`all_rules_iff`:  `validate s d = [] ↔ AllRulesHold s d`, where `AllRulesHold` is the conjunction of the 24
DECLARATIVE specifications (none mentions a visitor, a memo table or a rule function). Side conditions, all decidable
and evaluated by the drivers on every generated case:
* `schemaInputsOkB s`   argument / directive-argument / input-field types are input types (schema construction);
* `AbstractInhabited s` every interface / union has a possible type;
* `Overlap.sideB s d`   the overlap theorem's parent-type coherence, faithful argument printing, location apartness
                        (true for parser-produced documents apart from `__schema`/`__type` sub-selections).
Two rules deviate from their own specification when run alone and still fit the combined statement: the graph rules
and the overlap rule are only specified for unique fragment names / acyclic spreads — both are conjuncts; and
UniqueOperationNames reports two anonymous operations (known finding) — LoneAnonymousOperation is a conjunct. -/
namespace GqlModel.Validate
open Graph Overlap

/-! ## order of the rules -/

/-- the combined model runs exactly the rules of `graphql.SpecifiedRules`, in that order -/
theorem specified_rules_order :
    specifiedRuleFns.map (fun r => r.1 ++ "Rule") = Generated.specifiedRules := by decide +kernel

theorem specified_rules_count : specifiedRuleFns.length = 24 := rfl

/-! ## the 24 specifications -/

structure AllRulesHold (s : Schema) (d : Document) : Prop where
  /-- ArgumentsOfCorrectType -/
  argumentsCoercible : ArgumentsCoercible s d
  /-- DefaultValuesOfCorrectType -/
  defaultsCoercible : DefaultsCoercible s d
  /-- FieldsOnCorrectType: a field selected under a composite parent type is defined by it (`fieldDef?_isSome_iff`) -/
  fieldsDefined : ∀ c nm args sel lc, Item.field c nm args sel lc ∈ items s d → c.parent.isSome → c.fieldDef.isSome
  /-- FragmentsOnCompositeTypes -/
  fragmentsOnComposite : FragmentsOnComposite s d
  /-- KnownArgumentNames -/
  argumentsKnown :
    (∀ c nm args sel lc fd, Item.field c nm args sel lc ∈ items s d → c.fieldDef = some fd →
        ∀ a ∈ args, ∃ dd ∈ fd.args, dd.name = a.name.value) ∧
    (∀ site c dir dd, Item.directive site c dir ∈ items s d → s.directive? dir.name.value = some dd →
        ∀ a ∈ dir.args, ∃ ad ∈ dd.args, ad.name = a.name.value)
  /-- KnownDirectives -/
  directivesKnown : ∀ site c dir, Item.directive site c dir ∈ items s d →
    ∃ dd, s.directive? dir.name.value = some dd ∧ site.location ∈ dd.locations
  /-- KnownFragmentNames -/
  fragmentsKnown : ∀ c nm lc, Item.spread c nm lc ∈ items s d → fragmentDefined d nm.value = true
  /-- KnownTypeNames -/
  typesKnown : ∀ p ∈ namedTypeNodes s d, s.known p.1 = true
  /-- LoneAnonymousOperation -/
  loneAnonymous : anonymousOps d = [] ∨ opCount d ≤ 1
  /-- NoFragmentCycles -/
  noCycles : ¬ Cyclic (fragDefs d)
  /-- NoUndefinedVariables -/
  variablesDefined : ∀ o ∈ opDefs d, ∀ u, UsageIn s (fragDefs d) o u → VarDefined o u.name
  /-- NoUnusedFragments -/
  fragmentsUsed : ∀ f ∈ fragDefs d, ∃ sel, sel ∈ opSels d ∧ FragUsed (fragDefs d) sel f.name.value
  /-- NoUnusedVariables -/
  variablesUsed : ∀ o ∈ opDefs d, ∀ v ∈ o.vars, v.var.value ≠ "" ∧ VarUsedIn s (fragDefs d) o v.var.value
  /-- OverlappingFieldsCanBeMerged: FieldsInSetCanMerge for every selection set, through any chain of fragments -/
  fieldsCanMerge : ∀ cs, cs ∈ typedSelSets s d → FieldsInSetCanMerge (envM s d) cs.1.parent cs.2
  /-- PossibleFragmentSpreads -/
  spreadsPossible : SpreadsPossible s d
  /-- ProvidedNonNullArguments -/
  requiredArguments :
    (∀ c nm args sel lc fd, Item.field c nm args sel lc ∈ items s d → c.fieldDef = some fd →
        ∀ dd ∈ fd.args, dd.type.isNonNull = true → ∃ a ∈ args, a.name.value = dd.name) ∧
    (∀ site c dir dd, Item.directive site c dir ∈ items s d → s.directive? dir.name.value = some dd →
        ∀ ad ∈ dd.args, ad.type.isNonNull = true → ∃ a ∈ dir.args, a.name.value = ad.name)
  /-- ScalarLeafs -/
  scalarLeafs : ∀ c nm args sel lc t, Item.field c nm args sel lc ∈ items s d → c.ty = some t →
    (sel.isSome ↔ s.leafT t.namedName = false)
  /-- UniqueArgumentNames -/
  argumentNamesUnique : ∀ args ∈ argLists s d, (args.map (·.name.value)).Nodup
  /-- UniqueFragmentNames -/
  fragmentNamesUnique : ((fragmentNames d).map (·.value)).Nodup
  /-- UniqueInputFieldNames -/
  inputFieldNamesUnique : ∀ fs ∈ (topValues s d).flatMap objectsDeep, (fs.map (·.name.value)).Nodup
  /-- UniqueOperationNames -/
  operationNamesUnique : ((operationNames d).map (·.value)).Nodup
  /-- UniqueVariableNames -/
  variableNamesUnique : ∀ vars ∈ varLists d, (vars.map (·.var.value)).Nodup
  /-- VariablesAreInputTypes -/
  variablesAreInput : VariablesAreInput s d
  /-- VariablesInAllowedPosition -/
  variablePositions : ∀ o ∈ opDefs d, ∀ u v, UsageIn s (fragDefs d) o u → varDefFor o.vars u.name = some v →
    varPosBad s v u = false

/-! ## each rule reports nothing iff its specification holds (from the per-rule theorems of C02Local, C02Typed, C02Graph) -/

theorem validate_nil_iff (s : Schema) (d : Document) :
    validate s d = [] ↔
      argumentsOfCorrectType_S s d = [] ∧ defaultValuesOfCorrectType_S s d = [] ∧ fieldsOnCorrectType_S s d = [] ∧
      fragmentsOnCompositeTypes_S s d = [] ∧ knownArgumentNames_S s d = [] ∧ knownDirectives_S s d = [] ∧
      knownFragmentNames_S s d = [] ∧ knownTypeNames_S s d = [] ∧ loneAnonymousOperation_M s d = [] ∧
      noFragmentCycles s d = [] ∧ noUndefinedVariables s d = [] ∧ noUnusedFragments s d = [] ∧
      noUnusedVariables s d = [] ∧ overlappingFieldsCanBeMerged s d = [] ∧ possibleFragmentSpreads_M s d = [] ∧
      providedNonNullArguments_S s d = [] ∧ scalarLeafs_S s d = [] ∧ uniqueArgumentNames_M s d = [] ∧
      uniqueFragmentNames_M s d = [] ∧ uniqueInputFieldNames_M s d = [] ∧ uniqueOperationNames_M s d = [] ∧
      uniqueVariableNames_M s d = [] ∧ variablesAreInputTypes_S s d = [] ∧ variablesInAllowedPosition s d = [] := by
  simp only [validate, specifiedRuleFns, List.flatMap_cons, List.flatMap_nil, List.append_eq_nil_iff, and_true]

/-- KnownTypeNames and VariablesAreInputTypes together: the declared types of the variables are known input types -/
theorem varTypesOK_of_rules (s : Schema) (d : Document) (hk : knownTypeNames_S s d = [])
    (hi : variablesAreInputTypes_S s d = []) : VarTypesOK s d := by
  intro v hit tr ht
  have hknown : s.known tr.namedName = true :=
    (knownTypeNames_iff s d).1 hk (tr.namedName, TypeRef.leafLoc tr) (List.mem_filterMap.2 ⟨_, hit, by simp [ht]⟩)
  refine ⟨hknown, ?_⟩
  have := (variablesAreInputTypes_iff s d).1 hi v hit tr ht hknown
  rw [isInputType_iff, toGType_namedName] at this
  exact this

theorem opKeys_length (d : Document) : (opKeys d).length = opCount d := by
  unfold opKeys opCount
  induction d.defs with
  | nil => rfl
  | cons df rest ih =>
    simp only [List.filterMap_cons, List.filter_cons]
    cases df with
    | operation op nm vars dirs sel lc => cases nm <;> simp [opKeyOf, isOperation, ih]
    | _ => simp [opKeyOf, isOperation, ih]

theorem operationNames_sublist (d : Document) : (operationNames d).Sublist (opKeys d) := by
  refine filterMap_sublist_filterMap (fun df nm h => ?_) d.defs
  cases df with
  | operation op nm' vars dirs sel lc =>
    cases nm' with
    | none => cases h
    | some nm' => exact h
  | _ => cases h

/-- UniqueOperationNames inside the conjunction: given LoneAnonymousOperation, the code's report (keyed by `""` for
anonymous operations) is empty iff the named operations are uniquely named -/
theorem uniqueOperationNames_iff_of_lone (s : Schema) (d : Document) (h : anonymousOps d = [] ∨ opCount d ≤ 1) :
    uniqueOperationNames_M s d = [] ↔ ((operationNames d).map (·.value)).Nodup := by
  rcases h with h | h
  · exact uniqueOperationNames_iff_partial s d h
  · rw [uniqueOperationNames_M_iff]
    have hk : ((opKeys d).map (·.value)).length ≤ 1 := by rw [List.length_map, opKeys_length]; exact h
    have hn : ((operationNames d).map (·.value)).length ≤ 1 := by
      rw [List.length_map]
      exact Nat.le_trans (operationNames_sublist d).length_le (by rw [opKeys_length]; exact h)
    exact ⟨fun _ => nodup_of_length_le_one _ hn, fun _ => nodup_of_length_le_one _ hk⟩

theorem noUnusedFragments_nil_iff (s : Schema) (d : Document) :
    noUnusedFragments s d = [] ↔ ∀ f ∈ fragDefs d, ∃ sel, sel ∈ opSels d ∧ FragUsed (fragDefs d) sel f.name.value := by
  rw [List.eq_nil_iff_forall_not_mem]
  simp only [noUnusedFragments_iff]
  constructor
  · intro hno f hf
    apply Classical.byContradiction
    intro hne
    exact hno _ ⟨f, hf, rfl, fun sel hsel hu => hne ⟨sel, hsel, hu⟩⟩
  · rintro h e ⟨f, hf, _, hno⟩
    obtain ⟨sel, hsel, hu⟩ := h f hf
    exact hno sel hsel hu

theorem noUndefinedVariables_nil_iff (s : Schema) (d : Document) :
    noUndefinedVariables s d = [] ↔ ∀ o ∈ opDefs d, ∀ u, UsageIn s (fragDefs d) o u → VarDefined o u.name := by
  rw [List.eq_nil_iff_forall_not_mem]
  simp only [noUndefinedVariables_iff]
  constructor
  · intro hno o ho u hu
    apply Classical.byContradiction
    intro hnd
    exact hno _ ⟨o, u, ho, hu, hnd, rfl⟩
  · rintro h e ⟨o, u, ho, hu, hnd, _⟩
    exact hnd (h o ho u hu)

theorem noUnusedVariables_nil_iff (s : Schema) (d : Document) :
    noUnusedVariables s d = [] ↔
      ∀ o ∈ opDefs d, ∀ v ∈ o.vars, v.var.value ≠ "" ∧ VarUsedIn s (fragDefs d) o v.var.value := by
  rw [List.eq_nil_iff_forall_not_mem]
  simp only [noUnusedVariables_iff]
  constructor
  · intro hno o ho v hv
    apply Classical.byContradiction
    intro hnu
    exact hno _ ⟨o, v, ho, hv, rfl, hnu⟩
  · rintro h e ⟨o, v, ho, hv, _, hnu⟩
    exact hnu (h o ho v hv)

theorem variablesInAllowedPosition_nil_iff (s : Schema) (d : Document) :
    variablesInAllowedPosition s d = [] ↔
      ∀ o ∈ opDefs d, ∀ u v, UsageIn s (fragDefs d) o u → varDefFor o.vars u.name = some v → varPosBad s v u = false := by
  rw [List.eq_nil_iff_forall_not_mem]
  simp only [variablesInAllowedPosition_iff]
  constructor
  · intro hno o ho u v hu hv
    cases hb : varPosBad s v u with
    | false => rfl
    | true => exact absurd ⟨o, u, v, ho, hu, hv, hb, rfl⟩ (hno _)
  · rintro h e ⟨o, u, v, ho, hu, hv, hb, _⟩
    rw [h o ho u v hu hv] at hb; cases hb

theorem noFragmentCycles_nil_iff (s : Schema) (d : Document) (hu : uniqueFragNames d = true) :
    noFragmentCycles s d = [] ↔ ¬ Cyclic (fragDefs d) :=
  -- `cycles_iff`, both sides negated
  Classical.not_not.symm.trans (not_congr (cycles_iff s d hu))

theorem overlap_nil_iff (s : Schema) (d : Document) (hside : sideB s d = true) (hu : uniqueFragNames d = true)
    (hcyc : noFragmentCycles s d = []) :
    overlappingFieldsCanBeMerged s d = [] ↔
      ∀ cs, cs ∈ typedSelSets s d → FieldsInSetCanMerge (envM s d) cs.1.parent cs.2 := by
  have hcomp := compB_of_sideB hside hcyc hu
  constructor
  · intro hov; exact accepted_document_has_no_conflict s d hside hcyc hu hov
  · intro hall
    apply Classical.byContradiction
    intro hne
    obtain ⟨cs, hcs, hconf⟩ := (overlap_iff_naive_acyclic s d hcomp).1 hne
    exact hall cs hcs hconf

/-! ## the theorem -/

/-- **C02, first sentence**: the validator (all 24 rules of `graphql.SpecifiedRules`, as coded) reports nothing —
the document is accepted for the schema — if and only if the document satisfies the declarative specification of
every one of the 24 validation rules. -/
theorem all_rules_iff (s : Schema) (d : Document) (hS : schemaInputsOkB s = true) (hinh : AbstractInhabited s)
    (hside : sideB s d = true) : validate s d = [] ↔ AllRulesHold s d := by
  rw [validate_nil_iff]
  constructor
  · -- one hypothesis per rule, in the order of `validate_nil_iff`
    rintro ⟨hArgs, hDefaults, hFields, hFragTypes, hKnownArgs, hKnownDirs, hKnownFrags, hKnownTypes, hLoneAnon, hCycles,
      hUndefVars, hUnusedFrags, hUnusedVars, hOverlap, hSpreads, hRequired, hLeafs, hUniqArgs, hUniqFrags, hUniqInput,
      hUniqOps, hUniqVars, hVarsInput, hVarPos⟩
    have hu : uniqueFragNames d = true := (uniqueFragNames_iff d).2 ((uniqueFragmentNames_iff s d).1 hUniqFrags)
    have hlone := (loneAnonymousOperation_iff s d).1 hLoneAnon
    exact {
      argumentsCoercible := (argumentsOfCorrectType_iff s d hS).1 hArgs
      defaultsCoercible :=
        (defaultValuesOfCorrectType_iff s d hS (varTypesOK_of_rules s d hKnownTypes hVarsInput)).1 hDefaults
      fieldsDefined := (fieldsOnCorrectType_iff s d).1 hFields
      fragmentsOnComposite := (fragmentsOnCompositeTypes_iff s d).1 hFragTypes
      argumentsKnown := (knownArgumentNames_iff s d).1 hKnownArgs
      directivesKnown := (knownDirectives_iff s d).1 hKnownDirs
      fragmentsKnown := (knownFragmentNames_iff s d).1 hKnownFrags
      typesKnown := (knownTypeNames_iff s d).1 hKnownTypes
      loneAnonymous := hlone
      noCycles := (noFragmentCycles_nil_iff s d hu).1 hCycles
      variablesDefined := (noUndefinedVariables_nil_iff s d).1 hUndefVars
      fragmentsUsed := (noUnusedFragments_nil_iff s d).1 hUnusedFrags
      variablesUsed := (noUnusedVariables_nil_iff s d).1 hUnusedVars
      fieldsCanMerge := (overlap_nil_iff s d hside hu hCycles).1 hOverlap
      spreadsPossible := (possibleFragmentSpreads_iff s d hinh).1 hSpreads
      requiredArguments := (providedNonNullArguments_iff s d).1 hRequired
      scalarLeafs := (scalarLeafs_iff s d).1 hLeafs
      argumentNamesUnique := (uniqueArgumentNames_iff s d).1 hUniqArgs
      fragmentNamesUnique := (uniqueFragmentNames_iff s d).1 hUniqFrags
      inputFieldNamesUnique := (uniqueInputFieldNames_iff s d).1 hUniqInput
      operationNamesUnique := (uniqueOperationNames_iff_of_lone s d hlone).1 hUniqOps
      variableNamesUnique := (uniqueVariableNames_iff s d).1 hUniqVars
      variablesAreInput := (variablesAreInputTypes_iff s d).1 hVarsInput
      variablePositions := (variablesInAllowedPosition_nil_iff s d).1 hVarPos }
  · intro h
    have hu : uniqueFragNames d = true := (uniqueFragNames_iff d).2 h.fragmentNamesUnique
    have hKnownTypes := (knownTypeNames_iff s d).2 h.typesKnown
    have hVarsInput := (variablesAreInputTypes_iff s d).2 h.variablesAreInput
    have hCycles := (noFragmentCycles_nil_iff s d hu).2 h.noCycles
    exact ⟨(argumentsOfCorrectType_iff s d hS).2 h.argumentsCoercible,
      (defaultValuesOfCorrectType_iff s d hS (varTypesOK_of_rules s d hKnownTypes hVarsInput)).2 h.defaultsCoercible,
      (fieldsOnCorrectType_iff s d).2 h.fieldsDefined,
      (fragmentsOnCompositeTypes_iff s d).2 h.fragmentsOnComposite,
      (knownArgumentNames_iff s d).2 h.argumentsKnown,
      (knownDirectives_iff s d).2 h.directivesKnown,
      (knownFragmentNames_iff s d).2 h.fragmentsKnown,
      hKnownTypes,
      (loneAnonymousOperation_iff s d).2 h.loneAnonymous,
      hCycles,
      (noUndefinedVariables_nil_iff s d).2 h.variablesDefined,
      (noUnusedFragments_nil_iff s d).2 h.fragmentsUsed,
      (noUnusedVariables_nil_iff s d).2 h.variablesUsed,
      (overlap_nil_iff s d hside hu hCycles).2 h.fieldsCanMerge,
      (possibleFragmentSpreads_iff s d hinh).2 h.spreadsPossible,
      (providedNonNullArguments_iff s d).2 h.requiredArguments,
      (scalarLeafs_iff s d).2 h.scalarLeafs,
      (uniqueArgumentNames_iff s d).2 h.argumentNamesUnique,
      (uniqueFragmentNames_iff s d).2 h.fragmentNamesUnique,
      (uniqueInputFieldNames_iff s d).2 h.inputFieldNamesUnique,
      (uniqueOperationNames_iff_of_lone s d h.loneAnonymous).2 h.operationNamesUnique,
      (uniqueVariableNames_iff s d).2 h.variableNamesUnique,
      hVarsInput,
      (variablesInAllowedPosition_nil_iff s d).2 h.variablePositions⟩

/-- the same with every side condition in decidable form (what drv_c02 evaluates on each case) -/
theorem all_rules_iff_decidable (s : Schema) (d : Document) (hS : schemaInputsOkB s = true)
    (hinh : abstractInhabitedB s = true) (hside : sideB s d = true) : validate s d = [] ↔ AllRulesHold s d :=
  all_rules_iff s d hS (abstractInhabited_of_B s hinh) hside

/-- location soundness of the combined validator: every reported error belongs to one of the 24 rules' reports (each
of which is located at violating nodes by that rule's `…_sound` / `…_mem` / `…_iff` theorem) -/
theorem validate_mem (s : Schema) (d : Document) (e : VErr) :
    e ∈ validate s d ↔ ∃ r, r ∈ specifiedRuleFns ∧ e ∈ r.2 s d := by
  unfold validate
  simp only [List.mem_flatMap]

end GqlModel.Validate
