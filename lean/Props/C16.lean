import GqlProofs.Cancel
/-! # C16 — Cancellation and deadlines yield either the full response or the context error

Property theorems, with the resolver list their examples use. The object is the transition system `GqlModel.Cancel.step` (model M of the
caller / background executor / buffered result channel / context of `ExecutePlan`, see the anchors there).
`run … acts = some s` says that the schedule `acts` is a possible run ending in `s`. All theorems quantify over
every schedule of any length, every list of resolvers (failing or not, watching the context or not) and every
moment of cancellation or deadline expiry (`ctxDone e` may occur anywhere in the schedule, also first).

The machine has no notion of operation kind: `ExecutePlan`'s `select` and its single send are the same code for
queries and mutations (a mutation only fixes the order of the top-level resolver steps, which the model runs in
sequence anyway), so `never_blocks` and `prompt_after_cancel` are statements about cancelled mutations as much as
about queries; the harness drives both (`query { f0 … }`, `mutation { m0 … }`). -/
namespace GqlModel.Cancel

/-- Tie to the code, re-checked against the regenerated table on every run: `ExecutePlan` makes exactly one
channel and it is buffered. (Un-buffering it breaks this obligation, and with it `never_blocks`.) -/
theorem executePlan_result_channel_buffered : 1 ≤ codeCap := by decide +kernel

/-- **The caller gets one of two things, never anything in between** — on every schedule, for every capacity.
If the call has returned, the result is either the context error, and then the context is indeed done with that
error, or the executor's *complete* result: one value for every resolver step, in order, each being that
resolver's own value or error, or — only for a resolver that watches the context, only if the context is done —
the context error reported by that resolver. No partial list, nothing missing.
Moreover, when the context was never cancelled and no deadline passed, the result is the normal one, exactly. -/
theorem outcome_dichotomy (rs : List Resolver) (cap : Nat) (acts : List Act) (s : St) (o : Outcome)
    (h : run rs cap init acts = some s) (hret : s.caller = .returned o) :
    ((∃ e, o = .ctxError e ∧ s.ctx = some e) ∨ (∃ vals, o = .normal vals ∧ complete rs s.ctx vals = true)) ∧
    ((∀ a ∈ acts, a.isCtxDone = false) → o = .normal (rs.map Resolver.plain)) := by
  have hinv := Inv.run acts init s (inv_init rs) h
  have key : (∃ e, o = .ctxError e ∧ s.ctx = some e) ∨ (∃ vals, o = .normal vals ∧ complete rs s.ctx vals = true) := by
    obtain ⟨h1, h2⟩ := hinv
    cases o with
    | ctxError e => exact Or.inl ⟨e, rfl, h2 e hret⟩
    | normal vals =>
      right
      cases hexec : s.exec with
      | running acc =>
        rw [hexec] at h1
        exact absurd hret (h1.waiting vals)
      | sent =>
        rw [hexec] at h1
        obtain ⟨vals', hcomp, hrest⟩ := h1
        rcases hrest with ⟨_, hn⟩ | ⟨_, hc⟩
        · exact absurd hret (hn vals)
        · rw [hret] at hc
          injection hc with hc; injection hc with hc
          subst hc
          exact ⟨vals, rfl, hcomp⟩
  refine ⟨key, fun hno => ?_⟩
  have hctx : s.ctx = none := ctx_none_run acts init s hno rfl h
  rcases key with ⟨e, _, he⟩ | ⟨vals, rfl, hcomp⟩
  · rw [hctx] at he; cases he
  · rw [hctx] at hcomp
    rw [complete_none rs vals hcomp]

/-- **The call never blocks forever** (protocol part), for the channel capacity the code has today.
In every reachable state:
(1) a caller still in its `select` can return as soon as the context is done;
(2) a caller still in its `select` can return as soon as the executor has sent;
(3) an executor that has run all its steps can always send and return — the send never blocks, whether or not
    the caller is still there (this is where `1 ≤ codeCap` is needed: no goroutine is left behind);
(4) an executor with steps left is not held up by the protocol: its next step is enabled. -/
theorem never_blocks (rs : List Resolver) (acts : List Act) (s : St)
    (h : run rs codeCap init acts = some s) :
    (∀ e, s.caller = .waiting → s.ctx = some e →
        ∃ t, step rs codeCap s .selectCtx = some t ∧ t.caller = .returned (.ctxError e)) ∧
    (s.caller = .waiting → s.exec = .sent →
        ∃ t vals, step rs codeCap s .selectResult = some t ∧ t.caller = .returned (.normal vals)) ∧
    (∀ acc, s.exec = .running acc → acc.length = rs.length →
        ∃ t, step rs codeCap s .finish = some t ∧ t.exec = .sent ∧ t.caller = s.caller) ∧
    (∀ acc, s.exec = .running acc → acc.length < rs.length →
        ∃ t, step rs codeCap s (.resolverStep acc.length false) = some t) := by
  obtain ⟨h1, _⟩ := Inv.run acts init s (inv_init rs) h
  refine ⟨fun e hw hc => ⟨_, (Step.selectCtx hw hc).step_eq nofun, rfl⟩, fun hw he => ?_, fun acc he hl => ?_,
    fun acc he hl => ?_⟩
  · simp only [he] at h1
    obtain ⟨vals, _, ⟨hc, _⟩ | ⟨_, hc⟩⟩ := h1
    · exact ⟨_, vals, (Step.selectResult hw hc).step_eq nofun, rfl⟩
    · cases hw.symm.trans hc
  · simp only [he] at h1
    have hcap : s.chan.length < codeCap := by rw [h1.chan]; exact executePlan_result_channel_buffered
    exact ⟨_, (Step.finishBuffered he hl hcap).step_eq nofun, rfl, rfl⟩
  · have hr : rs[acc.length]? = some rs[acc.length] := List.getElem?_eq_getElem hl
    exact ⟨{ s with exec := .running (acc ++ [rs[acc.length].plain]) }, by simp [step, he, hr]⟩

/-- **Prompt return: no resolver step is needed between cancellation and return.** Take any run that ends with
the caller still waiting and the context live — for instance with the k-th resolver blocked, k arbitrary, or
before anything ran at all. Then "context done; caller returns" is a possible continuation *as is*: two steps,
none of them a resolver step; the caller holds exactly the context error and the executor is where it was. -/
theorem prompt_after_cancel (rs : List Resolver) (cap : Nat) (acts : List Act) (s : St) (e : CtxErr)
    (h : run rs cap init acts = some s) (hw : s.caller = .waiting) (hn : s.ctx = none) :
    ∃ t, run rs cap init (acts ++ [.ctxDone e, .selectCtx]) = some t ∧
      t.caller = .returned (.ctxError e) ∧ t.exec = s.exec ∧ t.chan = s.chan := by
  obtain ⟨exec, chan, ctx, caller⟩ := s
  simp only at hw hn; subst hw; subst hn
  rw [run_append acts _ init _ h]
  exact ⟨_, rfl, rfl, rfl, rfl⟩

/-- Why the buffer matters (what `executePlan_result_channel_buffered` protects): with an unbuffered channel
there is a run — cancel, caller returns, resolver finishes — after which the executor can never send:
no action is enabled that moves it, for ever. -/
theorem executor_stuck_if_unbuffered :
    ∃ s, run [⟨false, false⟩] 0 init [.ctxDone .canceled, .selectCtx, .resolverStep 0 false] = some s ∧
      s.exec = .running [.value] ∧
      ∀ a t, step [⟨false, false⟩] 0 s a = some t → t.exec = s.exec := by
  refine ⟨_, rfl, rfl, ?_⟩
  intro a t hs
  cases Step.of_step hs with
  | resolver _ hex hlt => cases hex; exact absurd hlt (by decide)
  | finishBuffered _ _ hlt => exact absurd hlt (Nat.not_lt_zero _)
  | finishRendezvous _ _ _ hw => cases hw
  | ctxDone | selectCtx | selectResult => rfl

/-! ## Non-vacuity -/

def exRs : List Resolver := [⟨false, false⟩, ⟨true, false⟩, ⟨false, true⟩]

/-- execution finishes first: the complete normal response -/
example : (run exRs 2 init [.resolverStep 0 false, .resolverStep 1 false, .resolverStep 2 false, .finish, .selectResult]).map
    (·.caller) = some (.returned (.normal [.value, .failed, .value])) := by decide
/-- cancelled while resolver 1 is blocked: context error, at once -/
example : (run exRs 2 init [.resolverStep 0 false, .ctxDone .canceled, .selectCtx]).map (·.caller) =
    some (.returned (.ctxError .canceled)) := by decide
/-- deadline before anything ran -/
example : (run exRs 2 init [.ctxDone .deadlineExceeded, .selectCtx]).map (·.caller) =
    some (.returned (.ctxError .deadlineExceeded)) := by decide
/-- race: the watching resolver sees the cancellation, the executor still finishes and the caller may take
the complete response carrying that resolver's context error -/
example : (run exRs 2 init [.resolverStep 0 false, .resolverStep 1 false, .ctxDone .canceled, .resolverStep 2 true,
    .finish, .selectResult]).map (·.caller) = some (.returned (.normal [.value, .failed, .ctxSeen .canceled])) := by decide
/-- the result cannot be taken before the executor has sent, and the executor cannot send early -/
example : run exRs 2 init [.resolverStep 0 false, .selectResult] = none := by decide
example : run exRs 2 init [.resolverStep 0 false, .finish] = none := by decide
/-- after the caller left with the context error the executor still terminates (buffered send) -/
example : (run exRs 2 init [.ctxDone .canceled, .selectCtx, .resolverStep 0 false, .resolverStep 1 false,
    .resolverStep 2 false, .finish]).map (·.exec) = some .sent := by decide

end GqlModel.Cancel
