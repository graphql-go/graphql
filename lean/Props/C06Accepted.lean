import GqlProofs.OverlapCovCheck
import GqlProofs.OverlapUniform
import Props.C02Graph
import Props.C06
/-! # C02 ⇒ C06: a document accepted by the overlap rule executes uniformly

`normalized_transparent` (Props/C06.lean) has the premise `ExecUniform`: in the ORIGINAL execution, the field nodes the
executor merges under one response key (at every runtime object type it can reach) have one field name, hereditarily
down the merged sub-selections. The executor model runs unvalidated documents, so this is a premise there. Here it is
DERIVED from validation: for a document on which NoFragmentCycles, UniqueFragmentNames and OverlappingFieldsCanBeMerged
report nothing (plus the decidable side conditions `Overlap.sideB` of `accepted_document_has_no_conflict`) over a
covariant schema (`SchemaCov`, decidable `schemaCovB`: an implementer has the fields of its interface with the same
named type or a possible type of it; object-typed fields refer to declared types; nobody declares `__typename`).

Proof (GqlProofs/OverlapAdm.lean, OverlapUniform.lean, OverlapCovCheck.lean): `Exec.collect` at runtime type `rt` only collects nodes representing
fields of `Overlap.flat` of the selection set whose static parent types ADMIT `rt` (`collect_inv`); two such parents
are never mutually exclusive, so FieldsInSetCanMerge forces one field name (`same_base`); the static type of the field
under any admitted parent agrees with the runtime field type (`subParent_adm`, schema covariance), so the invariant
descends into `collectMerged`, whose universe — the flattened sub-selections of the merged occurrences — is again
pairwise mergeable by the rule's sub-selection clause (`compat_sub`); induction on the depth (`hu_of_ginv`). -/
namespace GqlModel.OverlapExec
open GqlModel.Validate.Graph GqlModel.Validate.Overlap GqlModel.Normalize

/-- **accepted ⇒ ExecUniform** (full hereditary statement, in the form `normalized_transparent` consumes) -/
theorem execUniform_of_accepted (s : Schema) (doc : Document) (hcov : SchemaCov s) (hside : sideB s doc = true)
    (hcyc : noFragmentCycles s doc = []) (huniq : uniqueFragNames doc = true)
    (hov : overlappingFieldsCanBeMerged s doc = []) (opName : String) (inputs : Coerce.Vars) (w : Exec.World) :
    ExecUniform s doc opName inputs w :=
  execUniform_of_noConflict s doc hcov (of_decide_eq_true huniq)
    (accepted_document_has_no_conflict s doc hside hcyc huniq hov) opName inputs w

/-- one level, spelled out: the field nodes merged under one response key at the top of the selected operation have
one field name -/
theorem merged_nodes_same_name_of_accepted (s : Schema) (doc : Document) (hcov : SchemaCov s)
    (hside : sideB s doc = true) (hcyc : noFragmentCycles s doc = []) (huniq : uniqueFragNames doc = true)
    (hov : overlappingFieldsCanBeMerged s doc = []) (opName : String) (inputs : Coerce.Vars) (w : Exec.World)
    {op : OpType} {name : Option Name} {vars : List VarDef} {dirs : List Directive} {sel : SelectionSet} {loc : Loc}
    {root : String} {v : Coerce.Vars}
    (hsel : Exec.selectOperation doc opName = .ok (.operation op name vars dirs sel loc))
    (hroot : s.rootFor op.toString = some root) (hv : Coerce.getVariableValues s vars inputs = .ok v) :
    ∀ p, p ∈ (Exec.collect ⟨s, doc.fragments, v, w⟩ root sel ([], [])).1 → Uniform p.2 :=
  fun p hp => ((execUniform_of_accepted s doc hcov hside hcyc huniq hov opName inputs w
    op name vars dirs sel loc root v hsel hroot hv 1) p hp).1

/-- the "identical arguments" half of the rule, one level: the field nodes merged under one response key at the top
of the selected operation have identical argument sets (structural equality of values, locations ignored) -/
theorem merged_nodes_same_args_of_accepted (s : Schema) (doc : Document)
    (hside : sideB s doc = true) (hcyc : noFragmentCycles s doc = []) (huniq : uniqueFragNames doc = true)
    (hov : overlappingFieldsCanBeMerged s doc = []) (opName : String) (w : Exec.World)
    {op : OpType} {name : Option Name} {vars : List VarDef} {dirs : List Directive} {sel : SelectionSet} {loc : Loc}
    {root : String} (v : Coerce.Vars)
    (hsel : Exec.selectOperation doc opName = .ok (.operation op name vars dirs sel loc))
    (hroot : s.rootFor op.toString = some root) :
    ∀ p, p ∈ (Exec.collect ⟨s, doc.fragments, v, w⟩ root sel ([], [])).1 → ∀ n m, n ∈ p.2 → m ∈ p.2 →
      sameArgsS n.args m.args = true :=
  merged_same_args_of_noConflict s doc (of_decide_eq_true huniq)
    (accepted_document_has_no_conflict s doc hside hcyc huniq hov) opName w v hsel hroot

/-- **normalized_transparent without the `ExecUniform` premise**: for a document accepted by the three rules the
normalising plan-cache mode is semantically transparent -/
theorem normalized_transparent_of_accepted (s : Schema) (hcc : customLti s) (hsch : SchemaOK s) (hcov : SchemaCov s)
    (doc doc' : Document) (opName : String) (inputs synth : Coerce.Vars) (w : Exec.World) (fuel : Nat)
    (hnorm : normalizeDocument s doc opName = .ok doc' synth) (hlex : DocLex doc)
    (hside : sideB s doc = true) (hcyc : noFragmentCycles s doc = []) (huniq : uniqueFragNames doc = true)
    (hov : overlappingFieldsCanBeMerged s doc = []) :
    Exec.execute s doc' opName (synth ++ inputs) w fuel = Exec.execute s doc opName inputs w fuel :=
  normalized_transparent s hcc hsch doc doc' opName inputs synth w fuel hnorm hlex
    (execUniform_of_accepted s doc hcov hside hcyc huniq hov opName inputs w)

/-- the same with every schema-side premise in decidable form -/
theorem normalized_transparent_of_accepted_checked (s : Schema) (hs : schemaOKB s = true)
    (hc : noCustomScalarsB s = true) (hcv : schemaCovB s = true)
    (doc doc' : Document) (opName : String) (inputs synth : Coerce.Vars) (w : Exec.World) (fuel : Nat)
    (hnorm : normalizeDocument s doc opName = .ok doc' synth) (hlex : DocLex doc)
    (hside : sideB s doc = true) (hcyc : noFragmentCycles s doc = []) (huniq : uniqueFragNames doc = true)
    (hov : overlappingFieldsCanBeMerged s doc = []) :
    Exec.execute s doc' opName (synth ++ inputs) w fuel = Exec.execute s doc opName inputs w fuel :=
  normalized_transparent_of_accepted s (customLti_of_check s hc) (schemaOK_of_check s hs) (schemaCov_of_check s hcv)
    doc doc' opName inputs synth w fuel hnorm hlex hside hcyc huniq hov

/-! ## non-vacuity: interface with two implementers, a fragment on the interface, different names under one key below
mutually exclusive parents (which `KeysFunctional` rejects but the overlap rule accepts) -/

private def fdS (n : String) (t : GType) : FieldDefS := { name := n, type := t, args := [] }
/-- `type Q { i: I }  interface I { n: Int s: Int }  type A implements I {…}  type B implements I {…}` -/
def brSchema : Schema :=
  { types := [.scalar "Int" .int "", .scalar "String" .string "",
      .interface "I" [fdS "n" (.named "Int"), fdS "s" (.named "Int")] true "",
      .object "A" ["I"] [fdS "n" (.named "Int"), fdS "s" (.named "Int")] true "",
      .object "B" ["I"] [fdS "n" (.named "Int"), fdS "s" (.named "Int")] true "",
      .object "Q" [] [fdS "i" (.named "I")] false ""],
    query := "Q", mutation := none, subscription := none, directives := [] }

private def nmAt (v : String) (a : Nat) : Name := ⟨v, ⟨a, a + 1⟩⟩
/-- `{ i { ... on A { x: n } ...F } }  fragment F on B { x: s }` -/
def brDoc : Document :=
  ⟨[.operation .query none [] []
      (.mk [.field none (nmAt "i" 2) [] []
        (some (.mk [.inline (some (.named "A" ⟨13, 14⟩)) []
                      (.mk [.field (some (nmAt "x" 17)) (nmAt "n" 20) [] [] none ⟨17, 21⟩] ⟨15, 23⟩) ⟨6, 23⟩,
                    .spread (nmAt "F" 27) [] ⟨24, 28⟩] ⟨4, 30⟩)) ⟨2, 30⟩] ⟨0, 32⟩) ⟨0, 32⟩,
    .fragment (nmAt "F" 43) (.named "B" ⟨48, 49⟩) []
      (.mk [.field (some (nmAt "x" 52)) (nmAt "s" 55) [] [] none ⟨52, 56⟩] ⟨50, 58⟩) ⟨34, 58⟩], ⟨0, 58⟩⟩

example : schemaCovB brSchema = true := by decide +kernel
example : sideB brSchema brDoc = true ∧ noFragmentCycles brSchema brDoc = [] ∧ uniqueFragNames brDoc = true ∧
    overlappingFieldsCanBeMerged brSchema brDoc = [] := by decide +kernel
example (opName : String) (inputs : Coerce.Vars) (w : Exec.World) : ExecUniform brSchema brDoc opName inputs w :=
  execUniform_of_accepted brSchema brDoc (schemaCov_of_check _ (by decide +kernel)) (by decide +kernel)
    (by decide +kernel) (by decide +kernel) (by decide +kernel) opName inputs w

end GqlModel.OverlapExec
