import GqlProofs.ExtCtx
/-! # C17 — Extension hooks are balanced, ordered and fault-isolated

Property theorems, with the configurations their examples use. `M` = `Ext.run` (graphql.Do + Execute + ExecutePlan + resolvePlannedField + the
`handleExtensions*` functions + addExtensionResults as coded today, i.e. with D-17a…d repaired); `S` = the log
predicates `PhaseOrder`, `Balanced`, `Nested`, `PanicsReported` of `GqlModel/Ext.lean`. All statements are for
every list of extensions with distinct names (any length), every request outcome class (syntax / validation /
operation / variable error, any list of executed fields with outcomes ok / error / panic / non-null failure) and
every assignment of ok | panic(error | string | other) to the 11 hooks of every extension.

History: on the pinned tree both theorems were false (D-17b: phases of other extensions left open after a failed
start hook; D-17c: no per-field finish call when a resolver panics; D-17d: hook errors dropped when a non-null
root field fails). The library was repaired (a934e54, 5dab2fb, cfba981, 537e26f); the model follows the repaired
code and the theorems below are the FULL statements.
Requests whose context is done form a further class, proved covered at the end of this file. -/
namespace GqlModel.Ext

/-- PhaseOrder: each extension sees init, parse start, validation start, execution start, one resolve
notification immediately before each resolver call (same field), then result collection — a prefix of this
sequence, in this order, nothing skipped, nothing twice. -/
theorem phase_order (xs : List ExtBehaviour) (req : RequestOutcomeClass) (hnd : NodupNames xs) :
    PhaseOrder (names xs) (run xs req).1 := List.forall_mem_map.2 fun b hb => by
  simp only [phaseOrderFor, proj_run xs hnd b hb req, Bool.and_eq_true, bne_iff_ne, ne_eq]
  exact po_view hb

/-- Nested: parse, validation and execution phases of one extension do not overlap each other, init or result
collection; every resolve phase lies inside the execution phase; a finish function closes the innermost phase. -/
theorem nested (xs : List ExtBehaviour) (req : RequestOutcomeClass) (hnd : NodupNames xs) :
    Nested (names xs) (run xs req).1 := List.forall_mem_map.2 fun b hb => by
  simp only [nestedFor, proj_run xs hnd b hb req, bne_iff_ne, ne_eq]
  exact nest_view hb

/-- Balanced: every phase whose start hook returned is finished exactly once, with the outcome of that phase
(error for a syntax / validation error, for a phase aborted by another extension's failing start hook, for a
failed or panicking resolver, for an execution result that carries errors), and nothing else is finished. -/
theorem balanced (xs : List ExtBehaviour) (req : RequestOutcomeClass) (hnd : NodupNames xs) :
    Balanced req (names xs) (run xs req).1 := List.forall_mem_map.2 fun b hb => by
  simp only [balancedFor, proj_run xs hnd b hb req, beq_iff_eq]
  -- the outcomes `Balanced` expects on the log of `run xs req` are what the finish functions get
  refine bal_view hb _ (fun h => ?_) (fun h => ?_) (fun h => ?_) (fun _ => rfl)
  · simp only [expectedOut, any_sf_run hnd (.inl rfl), reachesStart, h, Bool.true_and]
  · simp only [expectedOut, any_sf_run hnd (.inr (.inl rfl)), reachesStart, h, Bool.true_and]
  · simp only [expectedOut, execOut_run hnd h]

/-- **trace_balanced_ordered_nested** (full statement): for every request outcome, any number of extensions with
distinct names and any fault assignment, the hook log of `Do` is ordered, balanced and nested. -/
theorem trace_balanced_ordered_nested (xs : List ExtBehaviour) (req : RequestOutcomeClass) (hnd : NodupNames xs) :
    PhaseOrder (names xs) (run xs req).1 ∧ Balanced req (names xs) (run xs req).1 ∧ Nested (names xs) (run xs req).1 :=
  ⟨phase_order xs req hnd, balanced xs req hnd, nested xs req hnd⟩

/-- every panicking hook call (any panic value) has its own error in `Result.Errors`; more precisely the hook
errors of the result are exactly the panicking hook calls of the log, in call order. Holds for any names. -/
theorem hook_errors_eq_faults (xs : List ExtBehaviour) (req : RequestOutcomeClass) :
    (run xs req).2.errors.filter isHookErr = faultClasses (run xs req).1 := fc_run.symm

theorem panics_reported (xs : List ExtBehaviour) (req : RequestOutcomeClass) :
    reported (run xs req).1 (run xs req).2 = true := reported_of_eq _ _ fc_run

/-- **panic_isolated** (full statement): every panicking hook is reported as an error of the result and the
started phases of the other extensions are still finished. That the request is never taken down has no
counterpart in the model (`run` is total; since the D-17a repair no recover block can re-panic): the harness treats
every panic escaping `graphql.Do` as a violation. -/
theorem panic_isolated (xs : List ExtBehaviour) (req : RequestOutcomeClass) (hnd : NodupNames xs) :
    PanicsReported req (names xs) (run xs req).1 (run xs req).2 :=
  ⟨panics_reported xs req, fun a ha _ => balanced xs req hnd a ha⟩

def okExt (n : Nat) : ExtBehaviour := ⟨n, fun _ => .ok, true⟩
/-- extension `n` whose hook `h` panics with `k` -/
def faultyExt (n : Nat) (h : Hook) (k : PanicKind) : ExtBehaviour :=
  ⟨n, fun h' => if h' = h then .panic k else .ok, true⟩

example : NodupNames [okExt 1, faultyExt 2 .parseEnd .str, faultyExt 3 .resStart .other] := by decide

/-- a fault-free run of two extensions over a request with one field shows the complete pipeline -/
example : (run [okExt 1, okExt 2] (.exec [.ok])).1.map (fun e => (e.ext, e.hook)) =
    [(1, .init), (2, .init), (1, .parseStart), (2, .parseStart), (1, .parseEnd), (2, .parseEnd),
     (1, .valStart), (2, .valStart), (1, .valEnd), (2, .valEnd), (1, .execStart), (2, .execStart),
     (1, .resStart), (2, .resStart), (0, .resolver), (1, .resEnd), (2, .resEnd), (1, .execEnd), (2, .execEnd),
     (1, .hasResult), (1, .getResult), (2, .hasResult), (2, .getResult)] := by decide +kernel

/-- D-17b: extension 2 panics in `ParseDidStart`; extension 1's parse phase
is finished (with an error outcome) before `Do` returns, and both errors' worth of information is kept -/
theorem d17b_repaired :
    (run [okExt 1, faultyExt 2 .parseStart .err] (.exec [.ok])).1.map (fun e => (e.ext, e.hook, e.out)) =
      [(1, .init, .none), (2, .init, .none), (1, .parseStart, .none), (2, .parseStart, .none), (1, .parseEnd, .err)] ∧
    (run [okExt 1, faultyExt 2 .parseStart .err] (.exec [.ok])).2.errors = [.hook 2 .parseStart .err] := by decide +kernel

/-- D-17c: the resolver panics, the per-field finish function is called with
an error outcome -/
theorem d17c_repaired :
    (run [okExt 1] (.exec [.panic])).1.map (fun e => (e.hook, e.out)) =
      [(.init, .none), (.parseStart, .none), (.parseEnd, .ok), (.valStart, .none), (.valEnd, .ok),
       (.execStart, .none), (.resStart, .none), (.resolver, .err), (.resEnd, .err), (.execEnd, .err),
       (.hasResult, .none), (.getResult, .none)] := by decide +kernel

/-- D-17d: the hook error survives the failure of a non-null root field -/
theorem d17d_repaired :
    (run [faultyExt 1 .resStart .str] (.exec [.ok, .errNN])).2.errors
      = [.hook 1 .resStart .str, .hook 1 .resStart .str, .request] := by decide +kernel

/-! ## Requests whose context is done (cancelled / past its deadline) before `ExecutePlan`'s `select` yields

`runCtx xs fields at` = log when `Do` returns and result; `ctxLate xs fields at` = what the abandoned executor
goroutine logs afterwards. The class is covered by the classes above: for the caller's goroutine it IS the
`ctxReq` (= request error at execution) class, and the executor's resolve events are those of the live run. -/

/-- the log at return without the executor's events, and the result, are those of `run xs ctxReq` -/
theorem ctx_toplevel_covered (xs : List ExtBehaviour) (fields : List FieldOutcome) (c : CtxAt) (hnd : NodupNames xs) :
    topLevel (runCtx xs fields c).1 = (run xs ctxReq).1 ∧ (runCtx xs fields c).2 = (run xs ctxReq).2 :=
  ⟨runCtx_toplevel hnd fields c, runCtx_summary fields c⟩

/-- the resolve events of the complete log are those of the live run (or none, if the body is not reached) -/
theorem ctx_resolve_covered (xs : List ExtBehaviour) (fields : List FieldOutcome) (c : CtxAt) (hnd : NodupNames xs) :
    resolveOnly ((runCtx xs fields c).1 ++ ctxLate xs fields c)
      = if reachesBody xs (.exec fields) then (executeFields xs 0 fields).1 else [] :=
  runCtx_resolveOnly hnd fields c

/-- **trace_balanced_ordered_nested for the context-done class**: whatever the context state, init / parse /
validation / execution / result collection are ordered, every such phase that was started is finished exactly once
(execution with an error outcome) before `Do` returns, they are nested, results are collected; and every resolve
phase the executor starts — before or after `Do` returned — is announced right before its resolver call and
finished exactly once with the field's outcome. -/
theorem ctx_trace_balanced_ordered_nested (xs : List ExtBehaviour) (fields : List FieldOutcome) (c : CtxAt)
    (hnd : NodupNames xs) :
    CtxBalancedOrderedNested fields (names xs) (runCtx xs fields c).1 (ctxLate xs fields c) := by
  obtain ⟨ho, hb, hn⟩ := trace_balanced_ordered_nested xs ctxReq hnd
  unfold CtxBalancedOrderedNested
  rw [runCtx_toplevel hnd]
  exact ⟨ho, hb, hn, List.forall_mem_map.2 fun _ => ctx_resolvePhases hnd fields c⟩

/-- **panic_isolated for the context-done class** (hooks called on the caller's goroutine) -/
theorem ctx_panic_isolated (xs : List ExtBehaviour) (fields : List FieldOutcome) (c : CtxAt) (hnd : NodupNames xs) :
    CtxPanicsReported (names xs) (runCtx xs fields c).1 (runCtx xs fields c).2 := by
  unfold CtxPanicsReported
  rw [runCtx_toplevel hnd, runCtx_summary]
  exact panic_isolated xs ctxReq hnd

/-- the context is cancelled while the resolver of the first of two fields runs: `Do` returns after finishing the
execution phase (error outcome) and collecting results; the executor finishes both fields afterwards -/
theorem ctx_cancel_in_resolver_example :
    (runCtx [okExt 1] [.ok, .ok] (.inResolver 0)).1.map (fun e => (e.hook, e.fld, e.out)) =
      [(.init, 0, .none), (.parseStart, 0, .none), (.parseEnd, 0, .ok), (.valStart, 0, .none), (.valEnd, 0, .ok),
       (.execStart, 0, .none), (.resStart, 0, .none), (.resolver, 0, .ok), (.execEnd, 0, .err),
       (.hasResult, 0, .none), (.getResult, 0, .none)] ∧
    (ctxLate [okExt 1] [.ok, .ok] (.inResolver 0)).map (fun e => (e.hook, e.fld, e.out)) =
      [(.resEnd, 0, .ok), (.resStart, 1, .none), (.resolver, 1, .ok), (.resEnd, 1, .ok)] ∧
    (runCtx [okExt 1] [.ok, .ok] (.inResolver 0)).2 = ⟨[.request], [1], false⟩ := by decide +kernel

/-- Observation O-17f (inherent to abandoning the executor; NOT claimed by the theorems above): in the complete log
of such a request a resolve phase is open across the execution finish, and the error of a resolve hook that panics
in the abandoned executor is not in the result. -/
theorem ctx_full_log_observation :
    ¬ Nested [1] ((runCtx [okExt 1] [.ok] (.inResolver 0)).1 ++ ctxLate [okExt 1] [.ok] (.inResolver 0)) ∧
    reported ((runCtx [faultyExt 1 .resStart .err] [.ok] (.inResolver 0)).1)
      (runCtx [faultyExt 1 .resStart .err] [.ok] (.inResolver 0)).2 = false := by decide +kernel

/-- Outside the hypothesis of distinct names (still true of the code): two extensions registered under one name —
the finish-function map keeps one entry per name, so only the later registration's finish functions run:
2 parse starts, 1 parse end, not balanced. -/
theorem shared_name_loses_finish :
    ((run [okExt 7, okExt 7] .syntaxErr).1.filter (fun e => e.hook == .parseStart)).length = 2 ∧
    ((run [okExt 7, okExt 7] .syntaxErr).1.filter (fun e => e.hook == .parseEnd)).length = 1 ∧
    ¬ Balanced .syntaxErr [7] (run [okExt 7, okExt 7] .syntaxErr).1 := by decide +kernel

end GqlModel.Ext
