import GqlModel.Pipeline
import GqlProofs.CostDepth
import Props.C03Lexer
import Props.C03Parser
import Props.C02Graph
import Props.C19
/-! # C09 — No input makes a public entry point panic, hang or return a malformed result

Property theorems, with the two case analyses of `Do` and `Execute` they rest on (`do_cases`, `execute_cases`). "T1" marks a
theorem the design lists as must-have (DESIGN.md §4 legend). Two models:

* `GqlModel.Pipeline` — the result classes of `Do` / `Execute` / `ExecutePlan` / `planAndValidate` (early returns of
  graphql.go, executor.go, plan.go, plan_cache.go);
* `GqlModel.Cost` — plan-time collection (`collectInto`, `planMergedSelectionsForType`, lazy sub-plans, descent-path
  guard), used here for TERMINATION on arbitrary fragment tables.

FULL STATEMENT (properties.jsonl C09): for arbitrary request bytes, operation names, variable maps, root values and
arbitrary parsed-but-unvalidated documents, every public entry point returns within time bounded by the input size
instead of panicking, recursing forever or blocking; the result is JSON-serialisable, carries no data when parsing or
validation failed, and at least one error whenever data is absent.

What is PROVED here (about the models): the two result-shape clauses for every combination of stage outcomes
(`no_data_on_parse_or_validation_failure`, `error_when_no_data`, `planResult_plan_xor_errors`); that the pipeline model
has no panic outcome once `PlanQuery` does not panic (`do_never_panics` — Lean functions are total, so this covers only the
MODEL's explicit panic outcome, i.e. the class of D-09c); termination of plan-time collection on arbitrary, also
cyclic, fragment tables with an explicit fuel bound (`plan_total_on_cyclic_fragments`), that the planning work of an
execution is bounded by the completions the data causes and the selection (`exec_bounded_by_world_and_selection`), and
that the DEPTH of execution is bounded by the selection alone, whatever the data (`exec_depth_bounded_by_selection`,
the formal content of repair D-09d).
Termination theorems proved for the other properties are IMPORTED and combined with the above into ONE request-level
statement, `GqlModel.Request.request_total` (end of this file): `Lexer.lexAll_terminates`, `Parser.parse_progress` (C03),
`fragmentSpreads_no_oof`, `rrf_spec`, `cycles_no_fuel_exhaustion`, `overlap_no_fuel_exhaustion` (C02), `Cost.plan_never_out_of_fuel`
(C19) — a regression in any of them breaks this module's obligation too. Not included (no fuel to exhaust): the
structurally recursive local rules (C02Local) and variable / literal coercion (Props/C05 `fuel_bound_*`).
What is only SAMPLED (harness/cmd/c09): Go-level nil dereferences, type assertions, reflection, blocking, JSON
serialisability, wall-clock bounds — on the real entry points. -/
namespace GqlModel.Pipeline

/-- `Do` is a chain of early returns: either one of the seven stages before execution reported errors — then there is
no data and at least one error — or parsing and validation succeeded and the outcome is that of `Execute`. -/
theorem do_cases (o : Oracle) :
    (∃ n, 1 ≤ n ∧ «do» o = .result ⟨false, n⟩) ∨
    (o.parseOk = true ∧ o.validationErrs = 0 ∧ «do» o = execute o.exec) := by
  have pos {n : Nat} (h : (n != 0) = true) : 1 ≤ n := Nat.pos_of_ne_zero (by simpa using h)
  unfold «do»
  by_cases h1 : (o.initErrs != 0) = true
  · rw [if_pos h1]; exact .inl ⟨_, pos h1, rfl⟩
  rw [if_neg h1]
  by_cases h2 : (o.parseStartErrs != 0) = true
  · rw [if_pos h2]; exact .inl ⟨_, pos h2, rfl⟩
  rw [if_neg h2]
  by_cases hp : (!o.parseOk) = true
  · rw [if_pos hp]; exact .inl ⟨_, Nat.le_add_left 1 _, rfl⟩
  rw [if_neg hp]
  by_cases h3 : (o.parseFinishErrs != 0) = true
  · rw [if_pos h3]; exact .inl ⟨_, pos h3, rfl⟩
  rw [if_neg h3]
  by_cases h4 : (o.validationStartErrs != 0) = true
  · rw [if_pos h4]; exact .inl ⟨_, pos h4, rfl⟩
  rw [if_neg h4]
  by_cases hv : (o.validationErrs != 0) = true
  · rw [if_pos hv]; exact .inl ⟨_, Nat.le_add_left_of_le (pos hv), rfl⟩
  rw [if_neg hv]
  by_cases h5 : (o.validationFinishErrs != 0) = true
  · rw [if_pos h5]; exact .inl ⟨_, pos h5, rfl⟩
  rw [if_neg h5]
  exact .inr ⟨by simpa using hp, by simpa using hv, rfl⟩

/-- `Execute` panics only where `PlanQuery` does; every result it returns has an error when it has no data. -/
theorem execute_cases (o : ExecOracle) :
    (o.planPanics = true ∧ execute o = .panic) ∨ (o.planPanics = false ∧ ∃ r, execute o = .result r ∧ r.wellShaped) := by
  unfold execute Result.wellShaped
  cases o.planPanics
  · refine .inr ⟨rfl, ?_⟩
    simp only [Bool.false_eq_true, if_false]
    split
    · exact ⟨_, rfl, fun _ => Nat.le_refl 1⟩
    split
    · exact ⟨_, rfl, fun _ => by simp_all; omega⟩
    split <;> exact ⟨_, rfl, fun h => by simp at h ⊢ <;> omega⟩
  · exact .inl ⟨rfl, rfl⟩

theorem execute_wellShaped (o : ExecOracle) (r : Result) (h : execute o = .result r) : r.wellShaped := by
  rcases execute_cases o with ⟨_, hp⟩ | ⟨_, r', hr, hw⟩
  · rw [hp] at h; cases h
  · rw [hr] at h; cases h; exact hw

/-- T1. No data when parsing or validation failed (whatever the extensions and the execution stage would do),
and the result then carries at least one error. -/
theorem no_data_on_parse_or_validation_failure (o : Oracle) (h : o.parseOk = false ∨ o.validationErrs ≠ 0) :
    ∃ r, «do» o = .result r ∧ r.hasData = false ∧ 1 ≤ r.errs := by
  rcases do_cases o with ⟨n, hn, hd⟩ | ⟨hp, hv, _⟩
  · exact ⟨_, hd, rfl, hn⟩
  · rcases h with h | h
    · rw [hp] at h; cases h
    · exact absurd hv h

/-- T1. At least one error whenever data is absent — for every result `Do` can return. -/
theorem error_when_no_data (o : Oracle) (r : Result) (h : «do» o = .result r) : r.hasData = false → 1 ≤ r.errs := by
  rcases do_cases o with ⟨n, hn, hd⟩ | ⟨_, _, hd⟩
  · rw [hd] at h; cases h; exact fun _ => hn
  · exact execute_wellShaped _ _ (hd ▸ h)

/-- T1 (`no_panic_outcome` for the pipeline model). The only panic outcome of the model is a panic inside `PlanQuery`
(no recover is installed there — the class of D-09c, repaired); when `PlanQuery` does not panic, `Do` returns a result
for every combination of stage outcomes. Everything that panics inside `ExecutePlan`'s goroutine is the `recovered`
outcome, which is a result. -/
theorem do_never_panics (o : Oracle) (h : o.exec.planPanics = false) : ∃ r, «do» o = .result r := by
  rcases do_cases o with ⟨n, _, hd⟩ | ⟨_, _, hd⟩
  · exact ⟨_, hd⟩
  · rcases execute_cases o.exec with ⟨hp, _⟩ | ⟨_, r, hr, _⟩
    · rw [h] at hp; cases hp
    · exact ⟨r, hd.trans hr⟩

/-- T1. `PlanCache.Get` / `planAndValidate`: a plan exactly when there is no error, never a plan after a parse or
validation failure. -/
theorem planResult_plan_xor_errors (parseOk : Bool) (validationErrs : Nat) (planError : Bool) :
    ∃ r, planAndValidate parseOk validationErrs false planError = .result r ∧
      (r.hasPlan = true ↔ r.errs = 0) ∧
      ((parseOk = false ∨ validationErrs ≠ 0) → r.hasPlan = false) := by
  unfold planAndValidate
  cases parseOk <;> by_cases hv : validationErrs = 0 <;> cases planError <;> simp [hv]

end GqlModel.Pipeline

namespace GqlModel.Cost

/-- T1. Plan-time collection terminates on ARBITRARY fragment tables — cyclic spreads of any length directly or
through fields, duplicate names, unknown names — with the explicit fuel `number of fragment definitions + 1`:
for every context `c` (any table `c.frags`, any type-condition and field oracles), every selection set, every chain and
every starting state the fuel-bounded model `collectFuel c (c.frags.length + 1)` does not run out of fuel, neither in
`planSelectionSet` nor in a `planMergedSelectionsForType` over any list of merged sub-selections; the reason is the
visited set (each nested fragment entry marks a definition that was unvisited) — sub-selections of fields are not
collected at all at this point (lazy sub-plans). -/
theorem plan_total_on_cyclic_fragments (c : Ctx) :
    (∀ (chain : Chain) (ss : SelectionSet) (st : St), (collectFuel c (c.frags.length + 1) chain ss st).oof = st.oof) ∧
    (∀ (subs : List (SelectionSet × Chain)), (planMerged c subs {}).oof = false) := by
  refine ⟨fun chain ss st => ?_, fun subs => ?_⟩
  · exact collectFuel_oof c chain ss st
  · rw [planMerged_oof]

/-- T1. The planning work caused by executing a request is bounded by the data and the selection: at most one
`planMergedSelectionsForType` call per completion the world contains, each costing at most one level of the merged
selection (its sets, their inline fragments, every fragment definition once). -/
theorem exec_bounded_by_world_and_selection (e : Env) (fields : List FieldPlan) (world : World) :
    let st := execW e fields [] world {}
    st.log.length ≤ world.size ∧ st.oof = false ∧
    ∀ en ∈ st.log, en.cost ≤ (en.subs.map (fun ss => 1 + inlSet ss.1)).sum + fragsSize e.frags := by
  intro st
  show (execW e fields [] world {}).log.length ≤ world.size ∧ (execW e fields [] world {}).oof = false ∧
    ∀ en ∈ (execW e fields [] world {}).log, en.cost ≤ (en.subs.map (fun ss => 1 + inlSet ss.1)).sum + fragsSize e.frags
  obtain ⟨hok, hlen⟩ := execW_fresh e fields world
  exact ⟨hlen, hok.2.2, fun en hen => (hok.2.1 en hen).1⟩

/-- T1 (the formal content of repair D-09d). With the descent-path guard the DEPTH of execution is bounded by the
selection alone, whatever the data: for every environment (any schema, any fragment table — cyclic, duplicate names —,
any variables), every operation selection set and every world, each response path along which an object value is
completed (and hence each lazily planned sub-selection) has length at most
`1 + depth(selection set) + (deepest fragment body + 1) × (number of fragment definitions)`.
Before the repair a fragment cycle through a field made this depth depend on the data only (D-09d: unbounded on the
cyclic introspection graph). -/
theorem exec_depth_bounded_by_selection (e : Env) (root : String) (ss : SelectionSet) (world : World) :
    ∀ id ∈ completedW e (rootPlan e root ss).fields [] world,
      id.length ≤ 1 + depthSet ss + (maxBodyDepth e.frags + 1) * e.frags.length :=
  completed_depth_le e root ss world

/-- … in particular every sub-selection an execution plans lazily sits at such a bounded path. -/
theorem lazy_plans_at_bounded_depth (e : Env) (root : String) (ss : SelectionSet) (world : World) :
    ∀ en ∈ (execW e (rootPlan e root ss).fields [] world {}).log,
      en.id.length ≤ 1 + depthSet ss + (maxBodyDepth e.frags + 1) * e.frags.length :=
  log_depth_le e root ss world

/-! ## Non-vacuity -/

open GqlModel.Pipeline in
example : «do» ⟨0, 0, true, 0, 0, 0, 0, ⟨false, false, 0, .data 2, 0⟩⟩ = .result ⟨true, 2⟩ := by decide
open GqlModel.Pipeline in
example : «do» ⟨0, 0, true, 0, 0, 3, 0, ⟨false, false, 0, .data 0, 0⟩⟩ = .result ⟨false, 3⟩ := by decide
open GqlModel.Pipeline in
example : «do» ⟨0, 0, true, 0, 0, 0, 0, ⟨true, false, 0, .data 0, 0⟩⟩ = .panic := by decide
open GqlModel.Pipeline in
example : «do» ⟨0, 0, true, 0, 0, 0, 0, ⟨false, false, 0, .recovered 2, 1⟩⟩ = .result ⟨false, 4⟩ := by decide

/-- a cyclic table of two fragments spreading each other (directly and through a field) is collected within the fuel -/
example :
    let L := Loc.none
    let body (n : String) : SelectionSet :=
      .mk [.spread ⟨n, L⟩ [] L, .field none ⟨"a", L⟩ [] [] (some (.mk [.spread ⟨n, L⟩ [] L] L)) L] L
    let c : Ctx := { applies := fun _ => true, fieldDef := fun _ => none, skip := fun _ => false,
                     frags := [("F", "Q", body "G"), ("G", "Q", body "F")] }
    let st := collectFuel c 3 [] (body "F") {}
    st.oof = false ∧ st.collect = 3 ∧ st.entered = ["G", "F"] := by decide +kernel

end GqlModel.Cost

/-! ## ONE request-level totality statement over the models that exist

Corollaries of the theorems of the other properties — imported, not re-proved: a regression in any of them breaks
this obligation too. -/
namespace GqlModel.Request
open GqlModel.Validate GqlModel.Validate.Graph GqlModel.Validate.Overlap

/-- T1 `request_total`. For every byte string, every token list, every schema and every AST (valid or not, cyclic
fragments included), every operation name, variable assignment and data world, and every combination of stage outcomes:
* the LEXER model terminates: iterating `Lex` over the bytes never exhausts its fuel `|bytes| + 1`
  (`Lexer.lexAll_terminates`, C03);
* the PARSER model terminates: `parseTokens` never ends in the fuel error (`Parser.parse_progress`, C03);
* VALIDATION returns: `FragmentSpreads`, `RecursivelyReferencedFragments` and the cycle DFS stay within their fuel on any
  spread graph (`fragmentSpreads_no_oof`, `rrf_spec`, `cycles_no_fuel_exhaustion`, C02), and so does the memoised overlap
  rule whenever selection sets have distinct locations, as in every parsed document (`overlap_no_fuel_exhaustion`, C02)
  — the remaining rules are structurally recursive functions of the document;
* PLANNING is total on cyclic fragments: neither `PlanQuery` nor any lazily planned sub-selection of any execution
  exhausts the fuel `#fragments + 1` (`Cost.plan_never_out_of_fuel`, C19);
* the PIPELINE's result is well-shaped: no data when parsing or validation failed, at least one error whenever data is
  absent, no panic outcome once `PlanQuery` does not panic (this file). -/
theorem request_total (bytes : Lexer.Bytes) (toks : List Token) (s : Schema) (d : Document) (opName : String)
    (vars : Cost.Vars) (world : Cost.World) (o : Pipeline.Oracle) :
    (∀ e, (Lexer.lexAll bytes).err = some e → e.kind ≠ .fuel) ∧
    Parser.parseTokens toks ≠ .error .fuel ∧
    ((∀ ss, (fragmentSpreadsF ss).2 = false) ∧
     (∀ sel, (recursivelyReferencedF (fragDefs d) sel).2 = false) ∧
     (cycleRun (fragDefs d)).oof = false ∧
     (locsDistinct d = true → (overlapM s d).1.oof = false)) ∧
    (Cost.execPlan s d opName vars world).oof = false ∧
    ((o.parseOk = false ∨ o.validationErrs ≠ 0 →
        ∃ r, Pipeline.«do» o = .result r ∧ r.hasData = false ∧ 1 ≤ r.errs) ∧
     (∀ r, Pipeline.«do» o = .result r → r.hasData = false → 1 ≤ r.errs) ∧
     (o.exec.planPanics = false → ∃ r, Pipeline.«do» o = .result r)) :=
  ⟨(Lexer.lexAll_terminates bytes).1,
   Parser.parse_progress toks,
   ⟨fragmentSpreads_no_oof, fun sel => (rrf_spec (fragDefs d) sel).1, cycles_no_fuel_exhaustion d,
    overlap_no_fuel_exhaustion s d⟩,
   Cost.plan_never_out_of_fuel s d opName vars world,
   ⟨Pipeline.no_data_on_parse_or_validation_failure o, Pipeline.error_when_no_data o, Pipeline.do_never_panics o⟩⟩

end GqlModel.Request
