import GqlProofs.PlanCache
import GqlProofs.NormalizeEnd
import GqlProofs.NormalizeLoc
import GqlProofs.NormalizeCheck
import GqlProofs.NormalizeUniform
import GqlProofs.NormalizeWF
import GqlProofs.NormalizeKeep
import GqlProofs.NulFree
import Props.C08Bytes
/-! # C06 — Prepared plans and the plan cache are semantically transparent

Property theorems only.  `M` = `GqlModel.PlanCache` (plan_cache.go function by function), `S` = no cache:
every `Get` is `build s q op` (`planAndValidate`: parse + validate + plan from scratch).  All statements hold
for every result type `R`, every `build`, every schema-pointer type `S`, every option record (hence every
capacity: 1, 2, …, and the default 1024 when `MaxEntries ≤ 0`) and every history (list of operations) of any
length over any pool of byte strings.  A statement about "the state after `ops`" is a statement about every
intermediate state too, because every prefix of a history is a history.

What is proved in this file and what is not:
* the cache logic (first half, namespace `PlanCache`): key injectivity of the raw key as coded now; boundedness and
  key-distinctness of every reachable state (raw and normalising mode); transparency of the raw mode (nil cache,
  over-size bypass, resets, schema replacement included); counters; `Reset`; over-size queries are never stored; in
  normalising mode the synthetic arguments returned are those of this very request, and transparency *conditional* on
  the cache key determining the plan (`normalized_transparent_partial`, `normalized_get_faithful`);
* the literal normaliser (second half, namespace `Normalize`): the normalised document with its synthetic arguments
  executes like the original (`normalized_transparent`), the executor model ignores source locations
  (`execute_ignores_locations`), and for the key of the repair `notes/fixes/D-06k.diff` (printed normalised document) the
  key condition is proved (`repaired_key_faithful`), hence `normalising_get_transparent_repaired` without a hypothesis
  on the key;
* not proved: that the fingerprint AS CODED (FNV-1a of a structural walk) determines the plan — it does not (D-06k,
  D-06l). The counterexamples D-06b/c/g are repaired; the `Fp.fingerprint_separates_*` witnesses show on the model of
  `fingerprintDocument` that directives, their arguments, variable default values and crafted string contents separate keys;
* not modelled here: `ExecutePlan` on a shared plan (plan reuse: C01/C20 own the executor model); it is
  covered by the differential part of the check only. -/
namespace GqlModel.PlanCache
-- `[DecidableEq S]` is a variable of the whole first half, also where no schema pointer is compared
set_option linter.unusedSectionVars false

variable {S R A : Type} [DecidableEq S]

/-! ## 1. The key -/

/-- The raw-mode key `Itoa(len(op)) + ":" + op + query` (plan_cache.go:134) determines
both the operation name and the query, for all byte strings (including ones containing `:`, digits, `\x00`). -/
theorem rawKey_injective (op q op' q' : Bytes) (h : rawKey op q = rawKey op' q') : op = op' ∧ q = q' :=
  rawKey_inj op q op' q' h

/-- the key used before commit 18cf8a9 (D-06a) was not injective: the statement above is not a triviality -/
theorem oldRawKey_not_injective : ∃ op q op' q', oldRawKey op q = oldRawKey op' q' ∧ op ≠ op' :=
  ⟨[97, 0, 98], [99], [97], [98, 0, 99], by decide, by decide⟩

/-- dropping the length prefix (`op + query`) is not injective either -/
theorem unprefixed_key_not_injective : ∃ op q op' q' : Bytes, op ++ q = op' ++ q' ∧ op ≠ op' :=
  ⟨[97], [98], [97, 98], [], by decide, by decide⟩

/-! ## 2. Every reachable state is bounded and has distinct keys -/

/-- No reachable state holds more entries than configured. -/
theorem size_le_cap {o : Opts} {c : Cache S R} (h : Reach o c) : c.items.length ≤ capOf o := by
  obtain ⟨⟨hlen, _⟩, hcap⟩ := reach_inv h
  rw [← hcap]; exact hlen

/-- In every reachable state the keys are pairwise distinct (the `entries` map and the `order`
list of the Go code are in bijection). -/
theorem keys_nodup {o : Opts} {c : Cache S R} (h : Reach o c) : (keysOf c).Nodup := by
  obtain ⟨⟨_, hnodup⟩, _⟩ := reach_inv h
  exact hnodup

variable (fb : KeyShape)

/-- **size_le_cap / keys_nodup for histories, raw mode**: after any history from a fresh cache, the cache holds at
most `capOf o` entries (1024 if `MaxEntries ≤ 0`) with distinct keys. -/
theorem run_bounded (o : Opts) (build : S → Bytes → Bytes → R) (ops : List (Op S)) (c : Cache S R)
    (h : (run build (some (newPlanCache o)) ops).1 = some c) :
    c.items.length ≤ capOf o ∧ (keysOf c).Nodup := by
  rw [run_some] at h
  cases h
  have hr := runWith_reach (o := o) rawKey build ops _ Reach.new
  exact ⟨size_le_cap hr, keys_nodup hr⟩

/-- **size_le_cap / keys_nodup for histories, normalising mode** (holds although the normaliser has known defects) -/
theorem runNorm_bounded (o : Opts) (norm : S → Bytes → Bytes → NormOut A) (build errRes buildN : S → Bytes → Bytes → R)
    (failed : R → Bool) (ops : List (Op S)) :
    (runNorm fb norm build errRes buildN failed (newPlanCache o) ops).1.items.length ≤ capOf o ∧
    (keysOf (runNorm fb norm build errRes buildN failed (newPlanCache o) ops).1).Nodup := by
  have hr := runNorm_reach fb (o := o) norm build errRes buildN failed ops (newPlanCache o) Reach.new
  exact ⟨size_le_cap hr, keys_nodup hr⟩

/-! ## 3. Transparency of the raw mode -/

/-- Given an injective key function, for every history of `Get`/`Reset` (schema
replacement = a `Get` with another pointer) over any pool, from any state whose entries are honest, each `Get`
returns exactly what building from scratch returns — on a hit or a miss, before or after evictions, resets and
schema changes, for every capacity. -/
theorem transparent_raw (keyOf : Bytes → Bytes → Bytes)
    (hinj : ∀ op q op' q', keyOf op q = keyOf op' q' → op = op' ∧ q = q')
    (build : S → Bytes → Bytes → R) : ∀ (ops : List (Op S)) (c : Cache S R), InvT keyOf build c →
      (runWith keyOf build c ops).2.map (Option.map Prod.fst) = ops.map (specOp build) := by
  intro ops
  induction ops with
  | nil => intro c _; rfl
  | cons x xs ih =>
    intro c h
    simp only [runWith, List.map_cons]
    cases x with
    | reset =>
      have : InvT keyOf build (reset c) := List.forall_mem_nil _
      rw [show (stepWith keyOf build c Op.reset) = (reset c, none) from rfl]
      simp only [ih (reset c) this]
      rfl
    | get s q op =>
      simp only [stepWith]
      split
      · simp only [ih c h]; rfl
      · have hs := getRawWith_spec hinj c s q op h
        simp only [ih _ hs.2, Option.map, hs.1]
        rfl

/-- **transparent (the cache as coded).** With the key as coded (`rawKey`, injective by `rawKey_injective`), a nil
or non-nil cache, the `MaxQueryBytes` bypass and any options: every `Get` of every history returns what
building from scratch returns. -/
theorem transparent (build : S → Bytes → Bytes → R) : ∀ (ops : List (Op S)) (c : Option (Cache S R)),
    InvTO build c → (run build c ops).2.map (Option.map Prod.fst) = ops.map (specOp build) := by
  intro ops c h
  cases c with
  | none =>
    rw [run_none, List.map_map]
    exact List.map_congr_left fun x _ => by cases x <;> rfl
  | some c => rw [run_some]; exact transparent_raw rawKey rawKey_inj build ops c h

theorem transparent_fresh (o : Opts) (build : S → Bytes → Bytes → R) (ops : List (Op S)) :
    (run build (some (newPlanCache o)) ops).2.map (Option.map Prod.fst) = ops.map (specOp build) :=
  transparent build ops _ (List.forall_mem_nil _)

theorem transparent_nil (build : S → Bytes → Bytes → R) (ops : List (Op S)) :
    (run build none ops).2.map (Option.map Prod.fst) = ops.map (specOp build) :=
  transparent build ops none trivial

/-- Histories of `Get`/`Reset`/schema replacement over schema slots: every `Get` returns
what building from scratch against the slot's *current* schema returns. -/
theorem transparent_slots (build : Nat → Bytes → Bytes → R) : ∀ (ops : List HOp) (y : Sys R), InvTO build y.cache →
    (runH build y ops).2.map (Option.map Prod.fst) = specH build y.ptr y.next ops := by
  intro ops
  induction ops with
  | nil => intro y _; rfl
  | cons x xs ih =>
    intro y h
    simp only [runH, List.map_cons]
    cases x with
    | get i q op =>
      have hs := get_spec build y.cache (y.ptr i) q op h
      simp only [stepH, specH, Option.map, hs.1]
      rw [ih _ hs.2]
    | reset =>
      have : InvTO build (resetOpt y.cache) := by
        cases hc : y.cache with
        | none => trivial
        | some c => exact List.forall_mem_nil _
      simp only [stepH, specH, Option.map]
      rw [ih _ this]
    | replace i =>
      simp only [stepH, specH, Option.map]
      rw [ih ⟨y.cache, fun j => if j = i then y.next else y.ptr j, y.next + 1⟩ h]

/-! ## 4. Counters -/

/-- After any history on a non-nil cache, `hits` grew by the number of `Get`s that were served
from the cache, `misses` by the number that were built and stored, and together by exactly the number of
cacheable `Get`s (those that are not over-size). -/
theorem counters (build : S → Bytes → Bytes → R) : ∀ (ops : List (Op S)) (c : Cache S R),
    ∃ c', (run build (some c) ops).1 = some c' ∧
      c'.hits = c.hits + countOutcome .hit (run build (some c) ops).2 ∧
      c'.misses = c.misses + countOutcome .miss (run build (some c) ops).2 ∧
      c'.hits + c'.misses = c.hits + c.misses + (ops.filter (cacheable c)).length := by
  intro ops c
  obtain ⟨h1, h2, h3⟩ := runWith_counters rawKey build ops c
  simp only [run_some]
  exact ⟨_, rfl, h1, h2, by omega⟩

/-- a nil cache counts nothing (plan_cache.go:193-198) and stays nil -/
theorem nil_cache_counts_nothing (build : S → Bytes → Bytes → R) (ops : List (Op S)) :
    (run build none ops).1 = none ∧ hitsMisses (run build none ops).1 = (0, 0) := by
  rw [run_none]; exact ⟨rfl, rfl⟩

/-! ## 5. Reset, over-size queries -/

/-- **Reset empties** (and keeps configuration and counters) -/
theorem reset_empties (c : Cache S R) :
    (reset c).items = [] ∧ (reset c).cap = c.cap ∧ (reset c).hits = c.hits ∧ (reset c).misses = c.misses :=
  ⟨items_reset c, rfl, rfl, rfl⟩

/-- after a `Reset` the next cacheable `Get` is a miss, whatever was cached before -/
theorem get_after_reset_misses (build : S → Bytes → Bytes → R) (c : Cache S R) (s : S) (q op : Bytes)
    (h : shouldCache c q.length = true) : (get build (some (reset c)) s q op).2.2 = .miss := by
  have hs : shouldCache (reset c) q.length = true := h
  simp [get, hs, getRawWith, lookup, findKey, items_reset]

/-- an over-size query bypasses the cache: state (entries, order, counters) untouched, result built from scratch -/
theorem oversize_get_bypasses (build : S → Bytes → Bytes → R) (c : Cache S R) (s : S) (q op : Bytes)
    (h : shouldCache c q.length = false) : get build (some c) s q op = (some c, build s q op, .bypass) := by
  simp [get, h]

/-- corollary for a fresh cache: a query longer than the configured (or default, 65536) byte limit is never
retained, under no history -/
theorem oversize_never_stored (o : Opts) (build : S → Bytes → Bytes → R) (ops : List (Op S)) (c1 : Cache S R)
    (h : (run build (some (newPlanCache o)) ops).1 = some c1) :
    ∀ k ∈ keysOf c1, ∃ s q op, Op.get s q op ∈ ops ∧ k = rawKey op q ∧
      (q.length : Int) ≤ (if o.maxQueryBytes ≤ 0 then 65536 else o.maxQueryBytes) := by
  intro k hk
  rw [run_some] at h
  cases h
  rcases only_cacheable_gets_are_stored rawKey build ops (newPlanCache o) k hk with h' | ⟨s, q, op, hm, he, hs⟩
  · simp [keysOf, newPlanCache] at h'
  · exact ⟨s, q, op, hm, he, (shouldCache_new o q.length).mp hs⟩

/-! ## 6. Normalising mode: what holds whatever the normaliser does -/

/-- **SynthArgs are this request's.** In every history in normalising mode, the synthetic arguments a `Get`
hands back are `none` or exactly those extracted from *this* call's query — never those of the request that
populated the shared entry. -/
theorem synthArgs_are_this_request's (norm : S → Bytes → Bytes → NormOut A) (errRes buildN : S → Bytes → Bytes → R)
    (failed : R → Bool) (c : Cache S R) (s : S) (q op : Bytes) :
    ∀ sy, (getNorm fb norm errRes buildN failed c s q op).2.1.synth = some sy → ∃ nk, norm s q op = .ok nk sy := by
  intro sy h
  unfold getNorm at h
  cases hn : norm s q op with
  | parseErr => simp [hn] at h
  | normErr => simp [hn] at h
  | ok nk sy' =>
    simp only [hn] at h
    rcases hlk : lookup c s (normCacheKey fb op q nk) with ⟨c', r⟩
    rw [hlk] at h
    cases r with
    | some r => simp only [Option.some.injEq] at h; subst h; exact ⟨nk, rfl⟩
    | none =>
      simp only [] at h
      split at h
      · cases h
      · simp only [Option.some.injEq] at h; subst h; exact ⟨nk, rfl⟩

/-- IF the cache key of the normalising mode determines the plan
(hypothesis `hdet`: two requests to the same schema with the same key have the same validate+plan result),
THEN every `Get` of every history returns the from-scratch result of its own request.  The hypothesis is the
soundness of the fingerprint, which is not proved (it was violated by D-06b…g before their repair: the
`Fp.fingerprint_separates_*` witnesses below); the theorem isolates it:
the LRU/guard logic adds no further way to serve a wrong plan. -/
theorem normalized_transparent_partial (norm : S → Bytes → Bytes → NormOut A)
    (errRes buildN : S → Bytes → Bytes → R) (failed : R → Bool)
    (hdet : ∀ s q op q' op' nk sy nk' sy', norm s q op = .ok nk sy → norm s q' op' = .ok nk' sy' →
      normCacheKey fb op q nk = normCacheKey fb op' q' nk' → buildN s q op = buildN s q' op')
    (c : Cache S R) (s : S) (q op : Bytes) (h : InvN fb norm buildN c) :
    InvN fb norm buildN (getNorm fb norm errRes buildN failed c s q op).1 ∧
    ((getNorm fb norm errRes buildN failed c s q op).2.2 ≠ .noLookup →
      (getNorm fb norm errRes buildN failed c s q op).2.1.res = buildN s q op) :=
  getNorm_faithful fb Eq (fun _ => rfl) (fun _ _ _ => Eq.trans) norm errRes buildN failed hdet c s q op h

/-- The hypothesis `hdet` of `normalized_transparent_partial` cannot be dropped: with a key that does not
determine the plan (here: a constant key) the cache logic serves the first request's plan to the second.
The full-strength statement "every normalising `Get` returns `buildN s q op`" is therefore FALSE for the
cache logic alone; it holds exactly as far as the fingerprint is sound. -/
theorem normalized_not_transparent_without_hdet :
    ∃ (norm : Nat → Bytes → Bytes → NormOut Unit) (buildN : Nat → Bytes → Bytes → Bytes) (c : Cache Nat Bytes)
      (q1 q2 : Bytes),
      let c1 := (getNorm keyShapeCoded norm buildN buildN (fun _ => false) c 0 q1 []).1
      (getNorm keyShapeCoded norm buildN buildN (fun _ => false) c1 0 q2 []).2.1.res ≠ buildN 0 q2 [] :=
  ⟨fun _ _ _ => .ok [1] (), fun _ q _ => q, newPlanCache ⟨1, 0, true⟩, [1], [2], by decide +kernel⟩

/-- `normalized_transparent_partial` up to an equivalence `E` of results (reflexive,
transitive) and with the key assumption as the named predicate `KeyFaithful`: one `Get` keeps every entry `E`-equivalent
to what its key's request builds, and returns — on a hit or a miss — a result `E`-equivalent to what THIS request
builds. The LRU logic (eviction, schema guard, move-to-front, in-place update) adds no other way to serve a wrong plan. -/
theorem normalized_get_faithful (E : R → R → Prop) (hrefl : ∀ r, E r r) (htrans : ∀ a b c, E a b → E b c → E a c)
    (norm : S → Bytes → Bytes → NormOut A) (errRes buildN : S → Bytes → Bytes → R) (failed : R → Bool)
    (hkey : KeyFaithful fb E norm buildN)
    (c : Cache S R) (s : S) (q op : Bytes) (h : InvE fb E norm buildN c) :
    InvE fb E norm buildN (getNorm fb norm errRes buildN failed c s q op).1 ∧
    (((getNorm fb norm errRes buildN failed c s q op).2.2 = .hit ∨ (getNorm fb norm errRes buildN failed c s q op).2.2 = .miss) →
      E (getNorm fb norm errRes buildN failed c s q op).2.1.res (buildN s q op)) := by
  obtain ⟨h1, h2⟩ := getNorm_faithful fb E hrefl htrans norm errRes buildN failed hkey c s q op h
  exact ⟨h1, fun hh => h2 (by rcases hh with hh | hh <;> rw [hh] <;> exact nofun)⟩

/-- For every history of `Get`/`Reset` (schema replacement = a `Get` with another
pointer) over a NORMALISING cache, from any state with faithful entries (e.g. the fresh cache): every `Get` that went
through the cache, HIT or miss, returned a result `E`-equivalent to what its own request builds — given `KeyFaithful`. -/
theorem normalising_history_faithful (E : R → R → Prop) (hrefl : ∀ r, E r r) (htrans : ∀ a b c, E a b → E b c → E a c)
    (norm : S → Bytes → Bytes → NormOut A) (build errRes buildN : S → Bytes → Bytes → R) (failed : R → Bool)
    (hkey : KeyFaithful fb E norm buildN) : ∀ (ops : List (Op S)) (c : Cache S R), InvE fb E norm buildN c →
      OutsFaithful fb E buildN ops (runNorm fb norm build errRes buildN failed c ops).2 := by
  intro ops
  induction ops with
  | nil => intro c _; trivial
  | cons x xs ih =>
    intro c h
    cases x with
    | reset =>
      simp only [runNorm, stepNorm, OutsFaithful]
      exact ih (reset c) (List.forall_mem_nil _)
    | get s q op =>
      simp only [runNorm, stepNorm]
      by_cases hsc : shouldCache c q.length = true
      · simp only [hsc, Bool.not_true, Bool.false_eq_true, if_false, OutsFaithful]
        obtain ⟨h1, h2⟩ := normalized_get_faithful fb E hrefl htrans norm errRes buildN failed hkey c s q op h
        exact ⟨h2, ih _ h1⟩
      · simp only [hsc, Bool.not_false, if_true, OutsFaithful]
        exact ⟨fun hh => (by rcases hh with hh | hh <;> cases hh), ih c h⟩

/-! ## 6b. Interleaved `Get`s: the schema label of an entry is the schema its result was planned against -/

/-- every entry's result is what `build` gives for the entry's OWN schema label and key -/
def Labelled (build : S → Bytes → R) (c : Cache S R) : Prop := ∀ e ∈ c.items, e.res = build e.schema e.key

/-- `store` preserves the label invariant in BOTH branches: the fresh insert (with eviction) and
the in-place refresh of an entry another `Get` wrote meanwhile (there the schema label is overwritten together with
the result: plan_cache.go `item.e.schema = schema; item.e.result = pr`). -/
theorem store_keeps_labels (build : S → Bytes → R) (c : Cache S R) (s : S) (k : Bytes) (h : Labelled build c) :
    Labelled build (store c s k (build s k)) := by
  intro e he
  rcases mem_store he with rfl | he
  · rfl
  · exact h e he

/-- `lookup` preserves the label invariant, and a HIT returns what `build` gives for the REQUEST's schema and key -/
theorem lookup_keeps_labels (build : S → Bytes → R) (c : Cache S R) (s : S) (k : Bytes) (h : Labelled build c) :
    Labelled build (lookup c s k).1 ∧ ∀ r, (lookup c s k).2 = some r → r = build s k := by
  refine ⟨fun e he => h e (mem_lookup he), fun r hr => ?_⟩
  obtain ⟨e, hm, hk, hs, rfl⟩ := lookup_hit hr
  rw [h e hm, hs, hk]

/-- what the outputs of an interleaving must satisfy: every `lookup s k` that HITS returned `build s k` -/
def HitsOwn (build : S → Bytes → R) : List (Prim S) → List (Option (Option R)) → Prop
  | [], [] => True
  | .lookup s k :: ops, some out :: outs => (∀ r, out = some r → r = build s k) ∧ HitsOwn build ops outs
  | .store _ _ :: ops, _ :: outs => HitsOwn build ops outs
  | .reset :: ops, _ :: outs => HitsOwn build ops outs
  | _, _ => False

/-- For EVERY interleaving of the `lookup` / `store` halves of `Get`s (and `Reset`s) over any
number of schema pointers and keys — stores arriving in any order, for keys written meanwhile by other `Get`s, for other
schema pointers (schema roll-over) — every HIT returns a result that was computed for the SAME (schema, key) as the
request that hits. (`build s k` = what a `Get` for schema `s` whose request has cache key `k` computes: validate + plan;
that the key determines the request is `rawKey_injective` / `KeyFaithful`.) -/
theorem interleaved_transparent (build : S → Bytes → R) : ∀ (ops : List (Prim S)) (c : Cache S R), Labelled build c →
    Labelled build (runPrim store build c ops).1 ∧ HitsOwn build ops (runPrim store build c ops).2 := by
  intro ops
  induction ops with
  | nil => intro c h; exact ⟨h, trivial⟩
  | cons o os ih =>
    intro c h
    cases o with
    | lookup s k =>
      obtain ⟨h1, h2⟩ := lookup_keeps_labels build c s k h
      obtain ⟨h3, h4⟩ := ih (lookup c s k).1 h1
      exact ⟨h3, h2, h4⟩
    | store s k => exact ih (store c s k (build s k)) (store_keeps_labels build c s k h)
    | reset => exact ih (reset c) (List.forall_mem_nil _)

/-- The `store` that refreshes the result of an existing entry but keeps its old schema
label (seeded/C06-7) breaks it: `Get(B,k)` misses and is still planning; `Get(A,k)` misses, plans, stores; `Get(B,k)`
stores in place → the entry is labelled A and holds B's plan; the next `Get(A,k)` is a HIT and returns B's plan.
(Schemas A = 1, B = 2; `build s k = s`.) With the model's `store` the same interleaving ends in a miss. -/
theorem store_without_relabel_breaks :
    let ops : List (Prim Nat) := [.lookup 2 [7], .lookup 1 [7], .store 1 [7], .store 2 [7], .lookup 1 [7]]
    (runPrim storeKeepLabel (fun s _ => s) (newPlanCache ⟨8, 0, false⟩) ops).2.getLast? = some (some (some 2)) ∧
    (runPrim store (fun s _ => s) (newPlanCache ⟨8, 0, false⟩) ops).2.getLast? = some (some none) := by
  decide +kernel

/-! ## 7. What participates in the structural fingerprint (model of `fingerprintDocument`, after the repairs of D-06b/c/g) -/
namespace Fp

/-- variable default values reach the hash: `query($x:Int=1)` and `query($x:Int=2)` get different keys (D-06c repaired) -/
theorem fingerprint_separates_variable_defaults :
    writeVarDefs [⟨str "x", .named (str "Int"), some (.int (str "1"))⟩] ≠
    writeVarDefs [⟨str "x", .named (str "Int"), some (.int (str "2"))⟩] := by decide +kernel

/-- `{ a @skip(if: true) ab }` and `{ a ab }` write different bytes (D-06b repaired) -/
def docSkip : OpDef := ⟨str "query", [], [],
  [.field none (str "a") [] [⟨str "skip", [(str "if", .bool true)]⟩] none, .field none (str "ab") [] [] none]⟩
def docPlain : OpDef := ⟨str "query", [], [], [.field none (str "a") [] [] none, .field none (str "ab") [] [] none]⟩

theorem fingerprint_separates_directives :
    fingerprintBytes [] docSkip [] 10 ≠ fingerprintBytes [] docPlain [] 10 := by decide +kernel

/-- literals inside directive arguments participate too: `@skip(if: 1)` vs `@skip(if: false)` -/
theorem fingerprint_separates_directive_arguments :
    writeDirectives [⟨str "skip", [(str "if", .int (str "1"))]⟩] ≠
    writeDirectives [⟨str "skip", [(str "if", .bool false)]⟩] := by decide +kernel

/-- string contents cannot imitate the encoding any more: one argument `prefix: "1,sep=s2"` versus the two
arguments `prefix: "1", sep: "2"` (D-06g repaired; before, both wrote `prefix=s1,sep=s2,`) -/
theorem fingerprint_separates_crafted_strings :
    writeFields [(str "prefix", .str (str "1,sep=s2"))] ≠
    writeFields [(str "prefix", .str (str "1")), (str "sep", .str (str "2"))] := by decide +kernel

end Fp

/-! ## 8. Non-vacuity: concrete histories -/

section Examples
def b (s : String) : Bytes := s.toUTF8.toList
def exBuild : Nat → Bytes → Bytes → Nat × Bytes × Bytes := fun s q op => (s, q, op)
def exOps : List (Op Nat) :=
  [.get 0 (b "{a}") (b ""), .get 0 (b "{a}") (b ""), .get 0 (b "{b}") (b ""), .get 0 (b "{a}") (b ""),
   .get 1 (b "{a}") (b ""), .reset, .get 1 (b "{a}") (b ""), .get 1 (b "{ long query }") (b "")]
def exOpts : Opts := ⟨1, 8, false⟩

-- cap 1, byte limit 8: miss, hit, miss (evicts {a}), miss, miss (schema guard), -, miss (reset), bypass
example : (run exBuild (some (newPlanCache exOpts)) exOps).2.map outcomeOf =
    [some .miss, some .hit, some .miss, some .miss, some .miss, none, some .miss, some .bypass] := by decide +kernel
example : ((run exBuild (some (newPlanCache exOpts)) exOps).1.map keysOf) = some [b "0:{a}"] := by decide +kernel
example : rawKey (b "abc") (b "{x}") = b "3:abc{x}" := by decide +kernel
example : rawKey (b "0123456789ab") (b "") = b "12:0123456789ab" := by decide +kernel
example : dec 1024 = b "1024" := by decide +kernel
example : rawFallbackKey (b "") = b "raw:cbf29ce484222325" := by decide +kernel
example : capOf ⟨0, 0, false⟩ = 1024 ∧ capOf ⟨-3, 0, false⟩ = 1024 ∧ capOf ⟨1, 0, false⟩ = 1 := by decide
-- the hypotheses of `transparent_raw` are satisfiable: `rawKey` is injective and the empty cache is honest
example : InvT rawKey exBuild (newPlanCache exOpts : Cache Nat _) := List.forall_mem_nil _
end Examples

end GqlModel.PlanCache

/-! # C06, part 2 — the literal normaliser (`plan_cache_normalize.go`) is transparent for argument values

Model: `GqlModel/Normalize.lean` (`normalizeDocument`, `normalizeOperation`, `normSel/normSet/normList`, `normArgs`,
`tryExtract`, `lti` = `literalToInput`, `nextName`), tied to /repo on every run by comparing the printed normalised
document and the SynthArgs of the real `normalizeDocument` with the model on every pool request.

Premises the theorems need (after the repairs of D-06h/i/j, 4210b3d 54b00d5 80085fd, which the model follows):
* `ArgsOK`: argument values are well-formed (`Reader.WFValue`: names are GraphQL names, number tokens lexer-shaped —
  what the parser produces, C03) and argument types are well-formed input types (C11). VALIDITY of extracted literals is
  no premise: `tryExtract` checks `isValidLiteralValue` before extracting, and `-0` stays text;
* `UserOK`: the user's own variables evaluate alike with and without the synthetic ones — by `userOK_of_agree` it is
  enough that the two variable maps agree on the variables the argument list mentions, which holds because synthetic
  names avoid every variable name occurring in the document (`synth_names_fresh`);
* the soundness of the dedupe key `(type, printed literal)` is not a premise: `dedupe_key_sound` derives it from
  C08's read-back theorems for well-formed types and values;
* `customLti`: a custom scalar's ParseLiteral / ParseValue agree on a literal and its client form (user code);
* `Realises`: the variable map of the normalised request holds, for each synthetic variable, the coerced client
  form (discharged by `getVariableValues` on the appended definitions: `synthetic_variables_coerce`). -/
namespace GqlModel.Normalize
open GqlModel.Coerce

/-! ## 9. Argument values, fresh names and shape are kept; `normalized_transparent` -/

/-- **literalToInput agrees with the literal.** A valid variable-free literal (Int tokens of the lexer's shape, `canonInts`) is, in
client-variable form, a valid input value that `coerceValue` maps to what `valueFromAST` reads from the literal —
for every type (lists, non-null, nested and recursive input objects, enums by name, defaults). This is the
literal→variable direction of C05's `literal_variable_agree`. -/
theorem literalToInput_agree (s : Schema) (hcc : customLti s) (t : GType) (l : Value) (vars : Vars)
    (hv : hasVars l = false) (hcn : canonInts l = true) (h : isValidLiteralValue s t (some l) = true) :
    isValidInputValue s t (lti l) = true ∧ coerceValue s t (lti l) = valueFromAST s t (some l) vars :=
  lti_agree s hcc t l vars hv hcn h

/-- For every field: the argument map a resolver receives from the normalised
argument list under the normalised request's variables equals the one it receives from the original argument list
under the request's own variables — whatever was or was not extracted, from any state of the walk. -/
theorem normalize_args_transparent (s : Schema) (hcc : customLti s)
    (defs : List ArgDef) (hnd : (defs.map (·.name)).Nodup) (as : List Argument) (st : NState) (vars vars' : Vars)
    (hes : EntriesOK s st.entries) (ha : ArgsOK s defs as) (hu : UserOK s vars vars' as)
    (hre : Realises s vars' (normArgs s defs as st).2.entries) :
    getArgumentValues s defs (normArgs s defs as st).1 vars' = getArgumentValues s defs as vars :=
  normalize_args_transparent_core s hcc defs hnd as st vars vars' hes ha hu hre

/-- The synthetic variables of an operation never clash with a variable the operation defines
nor with any variable name occurring anywhere in the document (`docNames = docVarNames doc`: definitions and uses,
all operations and fragments — so an undefined `$__pcvN` cannot be captured), and are pairwise distinct. -/
theorem synth_names_fresh (s : Schema) (keep : List String) (root : String) (vars : List VarDef) (docNames : List String) (sel : SelectionSet) :
    (∀ e ∈ (normSet s keep root sel (initState vars docNames)).2.entries,
        e.name ∉ userVarNames vars ∧ e.name ∉ docNames) ∧
    ((normSet s keep root sel (initState vars docNames)).2.entries.map (·.name)).Nodup :=
  walk_names s keep root sel vars docNames

variable {keep : List String} in
/-- Operation type, name, directives, the user's variable definitions (a prefix of the
new list) and the whole selection structure — fields, aliases (response keys), argument names and order, directives,
fragments spreads, inline fragments, locations — are unchanged; only argument VALUES may differ (`eraseSet` forgets
exactly those). Fragment definitions are not touched at all (`normalizeDocument` replaces one definition). -/
theorem normalize_preserves_shape (s : Schema) (root : String) (docNames : List String) (op : OpType) (name : Option Name)
    (vars : List VarDef) (dirs : List Directive) (sel : SelectionSet) (loc : Loc) :
    ∃ sel' newDefs, (normalizeOperation s keep root docNames (.operation op name vars dirs sel loc)).1 =
        .operation op name (vars ++ newDefs) dirs sel' loc ∧ eraseSet sel' = eraseSet sel :=
  ⟨_, _, rfl, normSet_shape s sel root (initState vars docNames)⟩

/-- For well-formed types and literals, equal `byLiteral` keys (rendered type, NUL, printed literal)
mean the same type and literals that evaluate alike under every variable map — from C08's read-back theorems
(`readTypeTop_typeC`, `readValueTop_valueC`) and "evaluation ignores locations" (`valueFromAST_strip`). -/
theorem dedupe_key_sound (s : Schema) (t t' : GType) (v v' : Value)
    (ht : Reader.WFType (typeRefOf t)) (ht' : Reader.WFType (typeRefOf t')) (hv : Reader.WFValue v) (hv' : Reader.WFValue v')
    (h : litKey t v = litKey t' v') :
    t = t' ∧ ∀ vars, valueFromAST s t (some v) vars = valueFromAST s t' (some v') vars :=
  litKey_sound s t t' v v' ht ht' hv hv' h

/-- `normalize_args_transparent` with `UserOK` discharged: it suffices that the two variable maps agree on the
variables the argument list mentions. -/
theorem normalize_args_transparent_of_agree (s : Schema) (hcc : customLti s)
    (defs : List ArgDef) (hnd : (defs.map (·.name)).Nodup) (as : List Argument) (st : NState) (vars vars' : Vars)
    (hes : EntriesOK s st.entries) (ha : ArgsOK s defs as)
    (hagree : ∀ x ∈ argsVars as, lookupD vars' x = lookupD vars x)
    (hre : Realises s vars' (normArgs s defs as st).2.entries) :
    getArgumentValues s defs (normArgs s defs as st).1 vars' = getArgumentValues s defs as vars :=
  normalize_args_transparent s hcc defs hnd as st vars vars' hes ha (userOK_of_agree s vars vars' as hagree) hre

/-- every recorded literal IS valid for its type — by construction of `tryExtract`, not by assumption -/
theorem extracted_literals_are_valid (s : Schema) (defs : List ArgDef) (as : List Argument) (st : NState)
    (hes : EntriesOK s st.entries) (ha : ArgsOK s defs as) :
    ∀ e ∈ (normArgs s defs as st).2.entries, isValidLiteralValue s e.type (some e.lit) = true :=
  fun e he => by
    obtain ⟨_, _, hvalid, _⟩ := normArgs_entriesOK s defs as st hes ha e he
    exact hvalid

/-- every literal the walk records is valid, so (by `literalToInput_agree`) every SynthArg is a valid value of its
synthetic variable's declared type: `getVariableValues` cannot fail on them -/
theorem synth_args_are_valid_inputs (s : Schema) (hcc : customLti s) (defs : List ArgDef) (as : List Argument)
    (st : NState) (hes : EntriesOK s st.entries) (ha : ArgsOK s defs as) :
    ∀ e ∈ (normArgs s defs as st).2.entries, isValidInputValue s e.type (lti e.lit) = true := by
  exact fun e he => ((normArgs_entriesOK s defs as st hes ha).agree hcc he []).1

/-- `normalize_original_unmodified` is trivial here: the model is a pure function, the input document is a value.
On the real code it is checked on every normalised request (printer text and structural twin before/after). -/
theorem normalize_original_unmodified (doc : Document) : doc = doc := rfl

/-- **synthetic variables coerce to the literals' values.** `getVariableValues` on the user's definitions
followed by the synthetic ones, with SynthArgs merged over the client's variables, gives the client's own result
extended by one entry per extracted literal (`extendVars`: the coerced client form, which by `literalToInput_agree` is
what `valueFromAST` gave the literal) — or the client's own error. -/
theorem synthetic_variables_coerce (s : Schema) (vars : List VarDef) (es : List Entry) (inputs : Vars)
    (hfresh : ∀ e ∈ es, e.name ∉ userVarNames vars) (hnd : (es.map (·.name)).Nodup)
    (hok : ∀ e ∈ es, isInputType s e.type = true ∧ isValidInputValue s e.type (lti e.lit) = true) :
    getVariableValues s (vars ++ es.map mkVarDef) (es.map (fun e => (e.name, lti e.lit)) ++ inputs) =
      match getVariableValues s vars inputs with
      | .error e => .error e
      | .ok v => .ok (extendVars s es v) :=
  getVariableValues_normalised s vars es inputs hfresh hnd hok

/-- **executor simulation.** Two executions over the same schema and world, the second with variable map `vars'`
and a related fragment table (`FragsRel`), on groups related to the first's by `GRel` (same keys, same field names,
argument lists that evaluate alike, related sub-selections; source locations may differ), give the same result, state,
errors and invocation log — for every fuel. -/
theorem executor_simulation (c : Exec.Ctx) (vars' : Vars) (frags' : List (String × Definition))
    (hf : FragsRel c vars' frags') (hlen : frags'.length = c.frags.length) (fuel : Nat) (dfr : Bool) (rt : String)
    (src : Exec.GoVal) (path : Exec.Path) (g g' : Exec.Groups) (acc : List (String × JVal)) (st : Exec.St)
    (hg : GRel c vars' rt g g') (hu : HUAll c rt g) :
    Exec.execGroups (ctx' c vars' frags') fuel dfr rt src path g' acc st = Exec.execGroups c fuel dfr rt src path g acc st :=
  execGroups_sim c vars' frags' hf hlen fuel dfr rt src path g g' acc st hg hu

/-- **normalized_transparent (end to end).** For every schema, document, operation name, client variables, world and
fuel: executing the NORMALISED document with (SynthArgs over the client's variables) gives exactly the response —
data, error paths, resolver invocation log with the arguments each resolver received, or request error, or fuel
exhaustion — of executing the ORIGINAL document with the client's variables.

Premises (each necessary or owned by another property):
* `DocLex doc` — field-argument values are well-formed (`Reader.WFValue`: names are GraphQL names, number tokens have
  the lexer's shape; what the parser produces — the model's `Value` can hold any text);
* `ExecUniform` — in the ORIGINAL execution every set of field nodes merged under one response key has one field
  name, hereditarily: what OverlappingFieldsCanBeMerged (C02) guarantees; the executor model runs unvalidated
  documents, and without this the statement is FALSE on the models (`{ x: a { k1: f(v: 3) } x: b { k2: f(v: 3) } }`
  with `a: A{f(v: Int)}`, `b: B{f(v: [Int])}`: B's sub-selection, normalised at B, is executed at A);
* `SchemaOK s` — argument names of a field distinct, argument types well-formed input types, no user field shadows
  `__schema`/`__type` (schema construction, C11);
* `customLti s` — a custom scalar's ParseLiteral/ParseValue agree on a literal and its client form (user code).
No premise on fuel: both sides run with the same fuel and exhaust it together. Validity of the original document is
not needed (extracted literals are valid by construction, undefined `$__pcvN` cannot be captured).

The hypothesis-free statement (false without `ExecUniform`, as shown above):
  ∀ s doc doc' opName inputs synth w fuel, normalizeDocument s doc opName = .ok doc' synth →
    Exec.execute s doc' opName (synth ++ inputs) w fuel = Exec.execute s doc opName inputs w fuel -/
theorem normalized_transparent (s : Schema) (hcc : customLti s) (hsch : SchemaOK s)
    (doc doc' : Document) (opName : String) (inputs synth : Vars) (w : Exec.World) (fuel : Nat)
    (hnorm : normalizeDocument s doc opName = .ok doc' synth) (hlex : DocLex doc)
    (hu : ExecUniform s doc opName inputs w) :
    Exec.execute s doc' opName (synth ++ inputs) w fuel = Exec.execute s doc opName inputs w fuel :=
  (reqSim_normalised s hcc hsch w doc doc' opName inputs synth hnorm hlex).execute hu fuel

/-- **a static, decidable sufficient condition for `ExecUniform`**: if response keys determine field names throughout
the document (operation and fragments), every group of field nodes any execution merges has one field name. (Stricter
than OverlappingFieldsCanBeMerged, which also admits equal keys with different names under disjoint type conditions.) -/
theorem uniform_of_keys_functional (s : Schema) (doc : Document) (opName : String) (inputs : Vars) (w : Exec.World)
    (h : KeysFunctional doc) : ExecUniform s doc opName inputs w := by
  intro op name vars dirs sel loc root v hsel _ _ k
  have hfr : FragsIn ⟨s, doc.fragments, v, w⟩ (docFields doc) := by
    intro n tc sel0 hfrag f hf
    obtain ⟨nm, ds, l, _, hd⟩ := frag_mem_doc (c := ⟨s, doc.fragments, v, w⟩) rfl hfrag
    exact List.mem_flatMap_of_mem hd hf
  apply HU_of_in _ (docFields doc) hfr h k root
  apply collect_in _ (docFields doc) hfr root sel [] []
  · intro f hf
    exact List.mem_flatMap_of_mem (Exec.selectOperation_mem hsel) hf
  · intro p hp; cases hp

/-- `normalized_transparent` with every schema- and document-side premise in decidable form (`decide` discharges them on a
concrete schema / document): `schemaOKB`, `noCustomScalarsB`, `KeysFunctional`; `DocLex` remains (float tokens make
`Reader.WFValue` an existential). -/
theorem normalized_transparent_checked (s : Schema) (hs : schemaOKB s = true) (hc : noCustomScalarsB s = true)
    (doc doc' : Document) (opName : String) (inputs synth : Vars) (w : Exec.World) (fuel : Nat)
    (hnorm : normalizeDocument s doc opName = .ok doc' synth) (hlex : DocLex doc) (hk : KeysFunctional doc) :
    Exec.execute s doc' opName (synth ++ inputs) w fuel = Exec.execute s doc opName inputs w fuel :=
  normalized_transparent s (customLti_of_check s hc) (schemaOK_of_check s hs) doc doc' opName inputs synth w fuel hnorm hlex
    (uniform_of_keys_functional s doc opName inputs w hk)

/-! ## 10. Location independence and the normalising cache, end to end -/

/-- The executor model does not look at source locations: documents with the same
location-free image give the same response on the same inputs (data, error paths, log, request errors, fuel). Premise
`ExecUniform` for the first document (the simulation's premise; C02's overlap rule guarantees it). -/
theorem execute_ignores_locations (s : Schema) (d1 d2 : Document) (opName : String) (inputs : Vars) (w : Exec.World)
    (fuel : Nat) (h : d1.stripLoc = d2.stripLoc) (hu : ExecUniform s d1 opName inputs w) :
    Exec.execute s d2 opName inputs w fuel = Exec.execute s d1 opName inputs w fuel :=
  (reqSim_stripEq s w opName d1 d2 inputs h).execute hu fuel

theorem normalised_request_uniform (s : Schema) (hcc : customLti s) (hsch : SchemaOK s) (doc doc' : Document)
    (opName : String) (inputs synth : Vars) (w : Exec.World)
    (hnorm : normalizeDocument s doc opName = .ok doc' synth) (hlex : DocLex doc)
    (hu : ExecUniform s doc opName inputs w) : ExecUniform s doc' opName (synth ++ inputs) w :=
  (reqSim_normalised s hcc hsch w doc doc' opName inputs synth hnorm hlex).uniform hu

/-- A cache key that is the PRINTED normalised document (what the comments in plan_cache.go
describe, and what the repair `notes/fixes/D-06k.diff` does: `printedKey` = `"doc:"` + printed text) is faithful:
well-formed documents with the same key are equal up to source locations — from C08's `parse_print` on bytes. -/
theorem printed_key_faithful (d1 d2 : Document) (h1 : Printer.WFDocument d1) (h2 : Printer.WFDocument d2)
    (h : printedKey d1 = printedKey d2) : d1.stripLoc = d2.stripLoc := by
  obtain ⟨a, ha, hsa⟩ := GqlModel.C08.parse_print d1 h1
  obtain ⟨b, hb, hsb⟩ := GqlModel.C08.parse_print d2 h2
  have : GqlModel.RoundTrip.printBytes d1 = GqlModel.RoundTrip.printBytes d2 := by
    simp only [printedKey] at h
    exact List.append_cancel_left h
  rw [this, hb] at ha
  simp only [Except.ok.injEq, GqlModel.Parser.Parsed.mk.injEq, and_true] at ha
  rw [← hsa, ← ha, hsb]

/-- The normalised document of a printer-well-formed document is printer-well-formed (the
synthetic names `__pcvN` are GraphQL names, the synthetic definitions carry the arguments' declared types): the premise
C08's read-back needs to make the printed text identify the NORMALISED document. -/
theorem normalize_keeps_wf (s : Schema) (hsch : SchemaOK s) (doc docN : Document) (opName : String) (synth : Vars)
    (hwf : Printer.WFDocument doc) (h : normalizeDocument s doc opName = .ok docN synth) : Printer.WFDocument docN := by
  rcases normalizeDocument_ok h with ⟨rfl, _⟩ | ⟨i, op, name, vars, dirs, sel, loc, root, hget, _, rfl, _⟩
  · exact hwf
  · have hd := normalizeOperation_wf s hsch (fragKeys doc) root (docVarNames doc) _
      ((wfDefinitions_iff doc.defs).mp hwf.2 _ (List.mem_of_getElem? hget))
    exact ⟨replaceAt_eq_set .. ▸ mt (List.set_eq_nil_iff _ _).mp hwf.1, wfDefinitions_replaceAt _ _ _ hwf.2 hd⟩

/-- What a faithful key buys, in terms of the executor model: if the document `res` a
normalising `Get` hands back (on a HIT: the normalised document of the request that populated the entry) equals this
request's own normalised document up to source locations, then executing `res` with THIS request's SynthArgs over the
client's variables gives exactly the response of executing this request's ORIGINAL document with the client's variables.
Composed from `reqSim_normalised` (this request against its normalised form) and `reqSim_stripEq` (the normalised
document against `res`).
What it does NOT say: positions in error messages — the model's responses carry paths, not source locations; on a hit the
real library reports the LOCATIONS of the populating variant (known finding D-18e, C18). -/
theorem normalising_hit_transparent (s : Schema) (hcc : customLti s) (hsch : SchemaOK s)
    (doc docN res : Document) (opName : String) (inputs synth : Vars) (w : Exec.World) (fuel : Nat)
    (hnorm : normalizeDocument s doc opName = .ok docN synth) (hres : res.stripLoc = docN.stripLoc)
    (hlex : DocLex doc) (hu : ExecUniform s doc opName inputs w) :
    Exec.execute s res opName (synth ++ inputs) w fuel = Exec.execute s doc opName inputs w fuel :=
  have hN := reqSim_normalised s hcc hsch w doc docN opName inputs synth hnorm hlex
  ((reqSim_stripEq s w opName docN res _ hres.symm).execute (hN.uniform hu) fuel).trans (hN.execute hu fuel)

/-- the front end of a normalising `Get` as the cache model sees it, built from the normaliser model: `parse` (opaque:
C03), the schema behind a pointer, the operation name as text, and the KEY FUNCTION on normalised documents (the
parameter the theorem is about; `none` = the `"raw:"` fallback handled by `normCacheKey`) -/
structure Front (S : Type) where
  parse : PlanCache.Bytes → Option Document
  schemaOf : S → Schema
  opStr : PlanCache.Bytes → String
  keyOf : Document → String → PlanCache.Bytes

def Front.norm {S : Type} (f : Front S) : S → PlanCache.Bytes → PlanCache.Bytes → PlanCache.NormOut Vars := fun s q op =>
  match f.parse q with
  | none => .parseErr
  | some doc =>
    match normalizeDocument (f.schemaOf s) doc (f.opStr op) with
    | .rootError => .normErr
    | .notApplicable => .ok [] []
    | .ok d sy => .ok (f.keyOf d (f.opStr op)) sy

/-- what is stored for a request: its normalised document (the original one where normalisation does not apply) -/
def Front.buildN {S : Type} (f : Front S) : S → PlanCache.Bytes → PlanCache.Bytes → Document := fun s q op =>
  match f.parse q with
  | none => ⟨[], Loc.none⟩
  | some doc =>
    match normalizeDocument (f.schemaOf s) doc (f.opStr op) with
    | .ok d _ => d
    | _ => doc

def SameShape (d d' : Document) : Prop := d.stripLoc = d'.stripLoc

/-- **The cache-level theorem without `hdet`.** For a normalising cache whose entries
are faithful (`InvE`; the fresh cache is), under the explicit key assumption `KeyFaithful SameShape` (see its docstring:
provable for a printed-document key by `printed_key_faithful`, an ASSUMPTION for the FNV-hash key as coded — D-06k
exhibits a collision — and for the `"raw:"` fallback), every `Get` that goes through the cache — HIT or miss, whatever was
evicted, reset or replaced before — hands back a document whose execution with this request's SynthArgs over the
client's variables equals the execution of this request's own original document with the client's variables; and the
entries stay faithful. Premises of `normalized_transparent` for this request. Not covered: error LOCATIONS on a hit
(D-18e) — the model's responses have none. -/
theorem normalising_get_transparent {S : Type} [DecidableEq S] (fb : PlanCache.KeyShape) (f : Front S)
    (hkey : PlanCache.KeyFaithful fb SameShape f.norm f.buildN)
    (errRes : S → PlanCache.Bytes → PlanCache.Bytes → Document) (failed : Document → Bool)
    (c : PlanCache.Cache S Document) (s : S) (q op : PlanCache.Bytes) (h : PlanCache.InvE fb SameShape f.norm f.buildN c)
    (doc docN : Document) (synth inputs : Vars) (w : Exec.World) (fuel : Nat)
    (hparse : f.parse q = some doc) (hnorm : normalizeDocument (f.schemaOf s) doc (f.opStr op) = .ok docN synth)
    (hcc : customLti (f.schemaOf s)) (hsch : SchemaOK (f.schemaOf s)) (hlex : DocLex doc)
    (hu : ExecUniform (f.schemaOf s) doc (f.opStr op) inputs w) :
    PlanCache.InvE fb SameShape f.norm f.buildN (PlanCache.getNorm fb f.norm errRes f.buildN failed c s q op).1 ∧
    (((PlanCache.getNorm fb f.norm errRes f.buildN failed c s q op).2.2 = .hit ∨
      (PlanCache.getNorm fb f.norm errRes f.buildN failed c s q op).2.2 = .miss) →
      Exec.execute (f.schemaOf s) (PlanCache.getNorm fb f.norm errRes f.buildN failed c s q op).2.1.res (f.opStr op)
          (synth ++ inputs) w fuel =
        Exec.execute (f.schemaOf s) doc (f.opStr op) inputs w fuel) := by
  obtain ⟨h1, h2⟩ := PlanCache.normalized_get_faithful fb SameShape (fun _ => rfl)
    (fun a b c hab hbc => by unfold SameShape at *; rw [hab, hbc]) f.norm errRes f.buildN failed hkey c s q op h
  refine ⟨h1, fun ho => ?_⟩
  have hE := h2 ho
  have hb : f.buildN s q op = docN := by simp only [Front.buildN, hparse, hnorm]
  rw [hb] at hE
  exact normalising_hit_transparent (f.schemaOf s) hcc hsch doc docN _ (f.opStr op) inputs synth w fuel hnorm hE hlex hu

/-- Text that the lexer + parser models accept contains no NUL byte (for ANY bytes: the
bug-faithful lexer model, D-03a included — an early NAME end only makes the next scan re-read bytes). -/
theorem parsed_text_nul_free (b : List UInt8) (p : GqlModel.Parser.Parsed) (h : GqlModel.parseBytes b = .ok p) :
    ∀ x ∈ b, x ≠ 0 := GqlModel.parseBytes_nz b p h

/-- The cache identifier of a well-formed document contains no NUL byte: its printed text parses
back (C08 `parse_print`), and text the lexer model accepts contains no NUL byte (`parseBytes_nz`, GqlProofs/NulFree.lean:
every byte is read by a scanner, and every scanner rejects the byte 0). -/
theorem printed_nul_free (d : Document) (h : Printer.WFDocument d) : ∀ b ∈ printedKey d, b ≠ 0 := by
  obtain ⟨a, ha, _⟩ := GqlModel.C08.parse_print d h
  exact List.forall_mem_append.mpr ⟨by decide, GqlModel.parseBytes_nz _ _ ha⟩

/-- **The key assumption DISCHARGED for the repaired key.** With the key construction of
`notes/fixes/D-06k.diff` (`keyShapeRepaired`: `operationName + "\x00" + normKey`; `normKey` = `"raw:" + query` for
requests normalisation does not apply to, `printedKey` = `"doc:"` + printed normalised document otherwise), equal cache
keys imply documents equal up to source locations: no hash, no collision assumption, operation names are ARBITRARY byte
strings. Premises: `hpb` — what `f.parse` accepts is what the parser model on bytes (`parseBytes`: C03's lexer + parser
models) accepts WITH THE MALFORMED-TYPE FLAG DOWN (documents through the D-03b path of `parseType`, known finding
typeRefMalformed of C03, stay outside, as they do for C08's round trip) — and `SchemaOK`. That such documents are
printer-well-formed is C08's `parse_ok_WF`. The `"\\x00"` separator
is sound because neither text that parses nor printed text contains a NUL byte — PROVED: `parseBytes_nz`
(GqlProofs/NulFree.lean, from the lexer model) and `printed_nul_free` (from it and C08's `parse_print`). For the key as coded
(`keyShapeCoded` + FNV fingerprint) the same statement is FALSE: D-06k (hash collision) and D-06l (the fingerprint does
not see definitions the selected operation does not reach). -/
theorem repaired_key_faithful {S : Type} (f : Front S)
    (hk : ∀ d op, f.keyOf d op = printedKey d)
    (hpb : ∀ q doc, f.parse q = some doc → GqlModel.parseBytes q = .ok ⟨doc, false⟩)
    (hs : ∀ s, SchemaOK (f.schemaOf s)) :
    PlanCache.KeyFaithful PlanCache.keyShapeRepaired SameShape f.norm f.buildN := by
  intro s q op q' op' nk sy nk' sy' hn hn' hkey
  -- the effective key of a request is NUL-free, and is `"raw:" + query` or the printed (well-formed) stored document
  have eff : ∀ q op nk sy, f.norm s q op = .ok nk sy →
      (∀ b ∈ (if nk = [] then PlanCache.rawFallbackKeyText q else nk), b ≠ 0) ∧
      ((if nk = [] then PlanCache.rawFallbackKeyText q else nk) = PlanCache.rawFallbackKeyText q ∨
        (Printer.WFDocument (f.buildN s q op) ∧
          (if nk = [] then PlanCache.rawFallbackKeyText q else nk) = printedKey (f.buildN s q op))) := by
    intro q op nk sy hn
    unfold Front.norm at hn
    cases hpa : f.parse q with
    | none => rw [hpa] at hn; cases hn
    | some doc =>
      rw [hpa] at hn
      dsimp only at hn
      cases hno : normalizeDocument (f.schemaOf s) doc (f.opStr op) with
      | rootError => rw [hno] at hn; cases hn
      | notApplicable =>
        rw [hno] at hn
        cases hn
        rw [if_pos rfl]
        exact ⟨List.forall_mem_append.mpr ⟨by decide, GqlModel.parseBytes_nz q _ (hpb q doc hpa)⟩, Or.inl rfl⟩
      | ok d sy0 =>
        rw [hno] at hn
        cases hn
        have hb : f.buildN s q op = d := by simp only [Front.buildN, hpa, hno]
        have hwf := normalize_keeps_wf _ (hs s) doc d _ _
          (GqlModel.C08.parse_ok_WF q ⟨doc, false⟩ (hpb q doc hpa) rfl) hno
        rw [hk, if_neg (show printedKey d ≠ [] from List.cons_ne_nil _ _), hb]
        exact ⟨printed_nul_free d hwf, Or.inr ⟨hwf, rfl⟩⟩
  simp only [PlanCache.normCacheKey, PlanCache.keyShapeRepaired] at hkey
  obtain ⟨hnf, hc⟩ := eff q op nk sy hn
  obtain ⟨hnf', hc'⟩ := eff q' op' nk' sy' hn'
  obtain ⟨hop, hkk⟩ := PlanCache.nulJoin_inj _ _ _ _ hnf hnf' hkey
  subst hop
  -- `"raw:…"` and `"doc:…"` differ in the first byte
  have hdoc : ∀ (x : PlanCache.Bytes) (d : Document), PlanCache.rawFallbackKeyText x ≠ printedKey d := by
    intro x d h
    simp only [PlanCache.rawFallbackKeyText, printedKey, List.cons_append, List.nil_append, List.cons.injEq] at h
    exact absurd h.1 (by decide)
  rcases hc with hc | ⟨hwf, hc⟩ <;> rcases hc' with hc' | ⟨hwf', hc'⟩ <;> rw [hc, hc'] at hkk
  · cases List.append_cancel_left hkk
    rfl
  · exact absurd hkk (hdoc _ _)
  · exact absurd hkk.symm (hdoc _ _)
  · exact printed_key_faithful _ _ hwf hwf' hkk

/-- A printer-well-formed document satisfies the lexical premise `DocLex` of `normalized_transparent`
(field-argument values are `Reader.WFValue`) — so for documents the parser model accepts (flag down) `DocLex` is free. -/
theorem wf_document_lex (doc : Document) (h : Printer.WFDocument doc) : DocLex doc := by
  intro op name vars dirs sel loc hmem
  have hd := (wfDefinitions_iff doc.defs).mp h.2 _ hmem
  simp only [Printer.WFDefinition] at hd
  obtain ⟨_, _, _, hsel⟩ := hd
  exact lexSet_of_wf sel hsel

/-- `normalising_get_transparent` with the key assumption discharged:
for the key construction of `notes/fixes/D-06k.diff` no hypothesis about hashes or collisions is left. Premises: `hpb`
(the front end's parse is the parser model with the malformed-type flag down — D-03b documents stay outside), `SchemaOK`,
`customLti`, `ExecUniform` (from C02's acceptance: `Props/C06Accepted.lean`). `DocLex` and `WFDocument` are derived
(`parse_ok_WF`, `wf_document_lex`). -/
theorem normalising_get_transparent_repaired {S : Type} [DecidableEq S] (f : Front S)
    (hk : ∀ d op, f.keyOf d op = printedKey d)
    (hpb : ∀ q doc, f.parse q = some doc → GqlModel.parseBytes q = .ok ⟨doc, false⟩)
    (errRes : S → PlanCache.Bytes → PlanCache.Bytes → Document) (failed : Document → Bool)
    (c : PlanCache.Cache S Document) (s : S) (q op : PlanCache.Bytes)
    (h : PlanCache.InvE PlanCache.keyShapeRepaired SameShape f.norm f.buildN c)
    (doc docN : Document) (synth inputs : Vars) (w : Exec.World) (fuel : Nat)
    (hparse : f.parse q = some doc) (hnorm : normalizeDocument (f.schemaOf s) doc (f.opStr op) = .ok docN synth)
    (hcc : customLti (f.schemaOf s)) (hsch : ∀ s, SchemaOK (f.schemaOf s))
    (hu : ExecUniform (f.schemaOf s) doc (f.opStr op) inputs w) :
    PlanCache.InvE PlanCache.keyShapeRepaired SameShape f.norm f.buildN
        (PlanCache.getNorm PlanCache.keyShapeRepaired f.norm errRes f.buildN failed c s q op).1 ∧
    (((PlanCache.getNorm PlanCache.keyShapeRepaired f.norm errRes f.buildN failed c s q op).2.2 = .hit ∨
      (PlanCache.getNorm PlanCache.keyShapeRepaired f.norm errRes f.buildN failed c s q op).2.2 = .miss) →
      Exec.execute (f.schemaOf s) (PlanCache.getNorm PlanCache.keyShapeRepaired f.norm errRes f.buildN failed c s q op).2.1.res
          (f.opStr op) (synth ++ inputs) w fuel =
        Exec.execute (f.schemaOf s) doc (f.opStr op) inputs w fuel) :=
  normalising_get_transparent PlanCache.keyShapeRepaired f (repaired_key_faithful f hk hpb hsch) errRes failed c s q op h
    doc docN synth inputs w fuel hparse hnorm hcc (hsch s)
    (wf_document_lex doc (GqlModel.C08.parse_ok_WF q ⟨doc, false⟩ (hpb q doc hparse) rfl)) hu

/-! ## 11. What the rewriting leaves alone so that VALIDATION says the same (D-06m, D-06n)

`normalized_transparent` is about execution. Validation runs on the REWRITTEN document; two rules read literals as
written, and the normaliser must not take them away from those rules. -/

/-- **duplicate_field_literals_stay (D-06m).** An object literal that names a field twice — at any depth, inside lists —
is never extracted: it stays in the document, where UniqueInputFieldNames reports it (before the repair it became a
synthetic variable and the request was SERVED with the last value). -/
theorem duplicate_field_literals_stay (s : Schema) (st : NState) (v : Value) (t : GType) (h : dupFields v = true) :
    tryExtract s st v t = (v, st) := by
  rcases tryExtract_cases s st v t with h' | ⟨_, hd, _⟩
  · exact h'
  · rw [h] at hd; cases hd

/-- **kept_keys_keep_arguments (D-06n).** The fields of the operation whose RESPONSE KEY also occurs on a field inside a
fragment definition (`keep = fragKeys doc`) have, after the walk, exactly the argument lists they had before (same
fields, same order): `keptOf keep` = the (response key, argument list) pairs with key in `keep`. -/
theorem kept_keys_keep_arguments (s : Schema) (keep : List String) (sel : SelectionSet) (P : String) (st : NState) :
    keptOf keep (setKeyArgs (normSet s keep P sel st).1) = keptOf keep (setKeyArgs sel) :=
  normSet_kept s keep sel P st

/-- **same_arguments_with_fragment_fields (D-06n).** OverlappingFieldsCanBeMerged compares, for fields with one response
key, the argument lists AS WRITTEN (`R` below: any relation on argument lists, e.g. the rule's "same arguments"). Fragment
definitions are not rewritten (`normalised_defs`). For every field `(k, fa)` of every fragment
definition of the document: the operation fields with response key `k` stand in `R` to it after the rewriting iff they
did before — their argument lists are literally the same. So the rewriting can neither create nor hide an
operation-vs-fragment argument conflict. (Two fields of the operation itself are both rewritten, equal literals of one
type by the same synthetic variable: `dedupe_key_sound`.) -/
theorem same_arguments_with_fragment_fields (s : Schema) (doc : Document) (root : String) (sel : SelectionSet) (st : NState)
    (name : Name) (tc : TypeRef) (dirs : List Directive) (fsel : SelectionSet) (loc : Loc)
    (hd : Definition.fragment name tc dirs fsel loc ∈ doc.defs) (k : String) (fa : List Argument)
    (hf : (k, fa) ∈ setKeyArgs fsel) (R : List Argument → List Argument → Prop) :
    (∀ p ∈ setKeyArgs (normSet s (fragKeys doc) root sel st).1, p.1 = k → R p.2 fa) ↔
      (∀ p ∈ setKeyArgs sel, p.1 = k → R p.2 fa) := by
  have hk : (fragKeys doc).contains k = true := fragKeys_mem doc name tc dirs fsel loc hd (k, fa) hf
  -- a pair with key `k` is among the kept pairs, and those are the same before and after
  have key : ∀ p : String × List Argument, p.1 = k →
      (p ∈ setKeyArgs (normSet s (fragKeys doc) root sel st).1 ↔ p ∈ setKeyArgs sel) := by
    intro p hp
    have hm : ∀ l, p ∈ keptOf (fragKeys doc) l ↔ p ∈ l := fun l => by
      simp only [keptOf, List.mem_filter, hp, hk, and_true]
    rw [← hm, ← hm (setKeyArgs sel), normSet_kept]
  exact ⟨fun h p hp hpk => h p ((key p hpk).mpr hp) hpk, fun h p hp hpk => h p ((key p hpk).mp hp) hpk⟩

/-! ## 12. Non-vacuity: a concrete schema and documents -/
section Examples
def exEchoArgs : List ArgDef := [⟨"i", .named "Int", none, ""⟩, ⟨"e", .named "Color", none, ""⟩,
  ⟨"o", .named "Pt", none, ""⟩, ⟨"l", GType.list (.named "Int"), none, ""⟩, ⟨"id", .named "ID", none, ""⟩]
def exTypes : List TypeDef := [.scalar "Int" .int "", .scalar "String" .string "", .scalar "ID" .id "",
  .enum "Color" [⟨"RED", .str "R", "", ""⟩, ⟨"GREEN", .str "G", "", ""⟩] "",
  .inputObject "Pt" [⟨"x", .named "Int", some (.int 7), ""⟩, ⟨"y", .named "Int", none, ""⟩] "",
  .object "Query" [] [⟨"echo", .named "String", exEchoArgs, "", ""⟩] false ""]
def exS : Schema := { types := exTypes, query := "Query", mutation := none, subscription := none, directives := [] }
def L0 : Loc := Loc.none
def exArgs : List Argument := [⟨⟨"i", L0⟩, .int "3" L0, L0⟩, ⟨⟨"e", L0⟩, .enum "GREEN" L0, L0⟩,
  ⟨⟨"o", L0⟩, .obj [.mk ⟨"y", L0⟩ (.int "1" L0) L0] L0, L0⟩, ⟨⟨"l", L0⟩, .int "3" L0, L0⟩]
def exSel : SelectionSet := .mk [.field none ⟨"echo", L0⟩ exArgs [] none L0] L0

-- four literals, three synthetic variables (`i: 3` and `l: 3` have different types, hence different variables)
example : (normSet exS [] "Query" exSel (initState [] [])).2.synth.map (·.1) = ["__pcv0", "__pcv1", "__pcv2", "__pcv3"] := by
  decide +kernel
-- the enum literal travels by NAME, the input object as a map without the defaulted field
example : ((JVal.obj (normSet exS [] "Query" exSel (initState [] [])).2.synth) ==
    .obj [("__pcv0", .int 3), ("__pcv1", .str "GREEN"), ("__pcv2", .obj [("y", .int 1)]), ("__pcv3", .int 3)]) = true := by
  decide +kernel
-- D-06n repaired: with `echo` among the response keys of the fragment definitions, the field keeps its literals
example : (normSet exS ["echo"] "Query" exSel (initState [] [])).2.entries.length = 0 ∧
    (normSet exS ["other"] "Query" exSel (initState [] [])).2.entries.length = 4 := by decide +kernel
-- D-06m repaired: `{y: 1, y: 2}` (also inside a list) is not extracted
example : dupFields (.obj [.mk ⟨"y", L0⟩ (.int "1" L0) L0, .mk ⟨"y", L0⟩ (.int "2" L0) L0] L0) = true ∧
    dupFields (.list [.obj [.mk ⟨"y", L0⟩ (.int "1" L0) L0, .mk ⟨"y", L0⟩ (.int "2" L0) L0] L0] L0) = true ∧
    dupFields (.obj [.mk ⟨"x", L0⟩ (.int "1" L0) L0, .mk ⟨"y", L0⟩ (.int "2" L0) L0] L0) = false ∧
    (tryExtract exS (initState [] []) (.obj [.mk ⟨"y", L0⟩ (.int "1" L0) L0, .mk ⟨"y", L0⟩ (.int "2" L0) L0] L0)
      (.named "Pt")).2.entries.length = 0 := by decide +kernel
-- a user variable named __pcv0 is skipped
example : (nextName ["__pcv0", "x", "__pcv1"] 0).1 = "__pcv2" := by decide +kernel
-- D-06h repaired: the invalid `["5"]` for [Int] is NOT extracted (although its client form would be accepted)
example : isValidLiteralValue exS (.list (.named "Int")) (some (.list [.str "5" L0] L0)) = false ∧
    (tryExtract exS (initState [] []) (.list [.str "5" L0] L0) (.list (.named "Int"))).2.entries.length = 0 ∧
    isValidInputValue exS (.list (.named "Int")) (lti (.list [.str "5" L0] L0)) = true := by decide +kernel
-- D-06i repaired: `-0` for ID stays text, so literal and client form agree
example : canonInts (.int "-0" L0) = true ∧
    (coerceValue exS (.named "ID") (lti (.int "-0" L0)) == .str "-0") = true ∧
    (valueFromAST exS (.named "ID") (some (.int "-0" L0)) [] == .str "-0") = true := by decide +kernel
-- end to end on a concrete request: `{ echo(i: 3) a { f(v: 3) } }` — the normalised document with SynthArgs answers
-- (data and the argument maps of the resolver log) exactly like the original
def exTypes2 : List TypeDef := [.scalar "Int" .int "", .scalar "String" .string "",
  .object "A" [] [⟨"f", .named "String", [⟨"v", .named "Int", none, ""⟩], "", ""⟩] false "",
  .object "B" [] [⟨"f", .named "String", [⟨"v", GType.list (.named "Int"), none, ""⟩], "", ""⟩] false "",
  .object "Query" [] [⟨"echo", .named "String", [⟨"i", .named "Int", none, ""⟩], "", ""⟩,
    ⟨"a", .named "A", [], "", ""⟩, ⟨"b", .named "B", [], "", ""⟩] false ""]
def exS2 : Schema := { types := exTypes2, query := "Query", mutation := none, subscription := none, directives := [] }
def exObjects : List (Nat × Exec.WObj) :=
  [(1, ⟨"A", [("f", .value (.str "fa"))]⟩), (2, ⟨"B", [("f", .value (.str "fb"))]⟩)]
def exRootFields : List (String × Exec.Outcome) :=
  [("echo", .value (.str "e")), ("a", .value (.ref 1)), ("b", .value (.ref 2))]
def exWorld : Exec.World := { objects := exObjects, rootFields := exRootFields, isTypeOf := [], resolveType := [] }
def fld (al : Option String) (nm : String) (args : List Argument) (sub : Option (List Selection)) : Selection :=
  .field (al.map (fun a => ⟨a, L0⟩)) ⟨nm, L0⟩ args [] (sub.map (fun ss => SelectionSet.mk ss L0)) L0
def arg3 (n : String) : Argument := ⟨⟨n, L0⟩, .int "3" L0, L0⟩
def docOf (sels : List Selection) : Document := ⟨[.operation .query none [] [] (.mk sels L0) L0], L0⟩
def exDocGood : Document := docOf [fld none "echo" [arg3 "i"] none, fld none "a" [] (some [fld none "f" [arg3 "v"] none])]
/-- data and the argument maps the resolvers received -/
def summary : Exec.Response → Option (Option (List (String × JVal)) × List (String × List (String × JVal)))
  | .result data _ log _ => some (data, log.map (fun e => (e.fieldName, e.args)))
  | _ => none
def bothRuns (s : Schema) (doc : Document) : Option (Exec.Response × Exec.Response) :=
  match normalizeDocument s doc "" with
  | .ok doc' synth => some (Exec.execute s doc' "" (synth ++ []) exWorld 40, Exec.execute s doc "" [] exWorld 40)
  | _ => none
example : (match normalizeDocument exS2 exDocGood "" with | .ok _ synth => synth.length | _ => 0) = 1 := by decide +kernel
example : (match bothRuns exS2 exDocGood with
    | some (r', r) => (summary r').isSome && summary r' == summary r
    | none => false) = true := by decide +kernel
-- the premises of `normalized_transparent` are satisfiable: on this schema and request they all hold, for every world,
-- variables and fuel (the instance above is a special case)
theorem exDocGood_lex : DocLex exDocGood := by
  intro op name vars dirs sel loc h
  simp only [exDocGood, docOf, List.mem_singleton, Definition.operation.injEq] at h
  obtain ⟨_, _, _, _, rfl, _⟩ := h
  simp only [LexSet, LexList, LexSel, LexOpt, fld, arg3, Option.map, List.mem_singleton, forall_eq, and_true,
    List.not_mem_nil, false_implies, implies_true, true_and, Reader.WFValue, and_self]
  decide
example (inputs : Vars) (w : Exec.World) (fuel : Nat) (doc' : Document) (synth : Vars)
    (h : normalizeDocument exS2 exDocGood "" = .ok doc' synth) :
    Exec.execute exS2 doc' "" (synth ++ inputs) w fuel = Exec.execute exS2 exDocGood "" inputs w fuel :=
  normalized_transparent_checked exS2 (by decide +kernel) (by decide +kernel) exDocGood doc' "" inputs synth w fuel h
    exDocGood_lex (by decide +kernel)
-- … and `KeysFunctional` rejects the counterexample below
example : ¬ KeysFunctional (docOf [fld (some "x") "a" [] none, fld (some "x") "b" [] none]) := by decide +kernel
-- `ExecUniform` is necessary: `{ x: a { k1: f(v: 3) } x: b { k2: f(v: 3) } }` merges `a` and `b` under one key; B's
-- sub-selection (normalised against `B.f(v: [Int])`) is executed at A, whose resolver then receives `[3]` instead of `3`
def exDocBad : Document := docOf [fld (some "x") "a" [] (some [fld (some "k1") "f" [arg3 "v"] none]),
  fld (some "x") "b" [] (some [fld (some "k2") "f" [arg3 "v"] none])]
example : (match bothRuns exS2 exDocBad with
    | some (r', r) => (summary r').isSome && (summary r).isSome && !(summary r' == summary r)
    | none => false) = true := by decide +kernel
-- D-06j repaired: a variable the document merely uses is skipped
example : (nextName (userVarNames [] ++ ["__pcv0"]) 0).1 = "__pcv1" := by decide +kernel
end Examples

end GqlModel.Normalize

