import GqlProofs.LexerExtra
import GqlProofs.LexerProgress
import GqlProofs.LexerQuote
/-! # C03, lexer half — property theorems

`M` = `GqlModel.Lexer` (lexer.go, function for function, two cursors), `S` = `GqlModel.Lexer.Spec` (the lexical
grammar of the GraphQL spec as a maximal-munch tokeniser on bytes). -/
namespace GqlModel.Lexer
open GqlModel.Lexer.Spec

/-! ## M = S

Full statement (FALSE on the pinned tree, D-03a):  `∀ bytes, lexAll bytes = Spec.lexAll bytes`.
Proved: the `…_partial` forms below, outside the decidable known-finding predicates
`nameAfterMultibyteIgnored` (a NAME token after an Ignored gap containing a byte ≥ 0x80) and
`errorAfterMultibyte` (a byte ≥ 0x80 between the last token and the offending byte: only the error OFFSET
differs), plus the negation witnesses. -/

/-- Outside D-03a the model's token stream IS the spec's token stream (kinds, byte offsets, values), lexing
fails iff the spec's tokeniser fails, and at the same error site. -/
theorem model_eq_spec_asciiIgnored_partial (bytes : Bytes) (h : nameAfterMultibyteIgnored bytes = false) :
    (lexAll bytes).tokens = (Spec.lexAll bytes).tokens ∧
    (lexAll bytes).err.map (·.kind) = (Spec.lexAll bytes).err.map (·.kind) := by
  have hn := name_gaps_ascii h
  obtain ⟨e, he, hk, -⟩ := lexLoop_spec bytes (bytes.length + 1) 0 hn
  simp only [List.drop_zero] at he hk
  simp only [lexAll, Spec.lexAll, lexAllG, he, hk, Option.map_map, true_and]
  rfl

/-- Outside both rune/byte classes the model and the spec agree on everything, error offset included. -/
theorem model_eq_spec_partial (bytes : Bytes) (h1 : nameAfterMultibyteIgnored bytes = false)
    (h2 : errorAfterMultibyte bytes = false) : lexAll bytes = Spec.lexAll bytes := by
  have hn := name_gaps_ascii h1
  obtain ⟨e, he, -, hee⟩ := lexLoop_spec bytes (bytes.length + 1) 0 hn
  simp only [List.drop_zero] at he hee
  have : e = (lexLoopG (bytes.length + 1) bytes 0).err.map (·.2) := by
    apply hee
    intro ge hge
    simp only [errorAfterMultibyte, lexAllG, hge] at h2
    exact h2
  simp only [lexAll, Spec.lexAll, lexAllG, he, this]

/-- In particular M = S on every input without bytes ≥ 0x80 (pure ASCII source text). -/
theorem model_eq_spec_ascii (bytes : Bytes) (h : hasHigh bytes = false) : lexAll bytes = Spec.lexAll bytes := by
  obtain ⟨h1, h2⟩ := lexLoopG_gaps_ascii (bytes.length + 1) bytes 0 h
  apply model_eq_spec_partial
  · exact nameAfterMultibyteIgnored_eq_false.mpr fun gt hgt _ => h1 gt hgt
  · simp only [errorAfterMultibyte, lexAllG]
    match he : (lexLoopG (bytes.length + 1) bytes 0).err with
    | none => rfl
    | some ge => exact h2 ge he

/-- `{ a #é\n bc }` -/
def witnessD03a : Bytes := [123, 32, 97, 32, 35, 0xC3, 0xA9, 10, 32, 98, 99, 32, 125]

/-- Negation witness for the full statement (D-03a): the predicate holds and the model — like the real lexer —
produces the NAME tokens `a`, `bc`, `c` where the grammar has `a`, `bc`. -/
theorem model_ne_spec_witness :
    nameAfterMultibyteIgnored witnessD03a = true ∧
    (lexAll witnessD03a).tokens.map (fun t => (t.kind, t.start, t.stop, t.value)) =
      [(.braceL, 0, 1, []), (.name, 2, 3, [97]), (.name, 8, 10, [98, 99]), (.name, 10, 11, [99]), (.braceR, 12, 13, []),
       (.eof, 13, 13, [])] ∧
    (Spec.lexAll witnessD03a).tokens.map (fun t => (t.kind, t.start, t.stop, t.value)) =
      [(.braceL, 0, 1, []), (.name, 2, 3, [97]), (.name, 9, 11, [98, 99]), (.braceR, 12, 13, []), (.eof, 13, 13, [])] := by
  decide +kernel

/-- `"é\q"`: the bad escape is at byte offset 4; the lexer reports 3 (start + 1 + two runes). -/
def witnessErrOffset : Bytes := [34, 0xC3, 0xA9, 92, 113, 34]

/-- Negation witness for "error offsets are byte offsets" (same root cause as D-03a). -/
theorem error_offset_witness :
    errorAfterMultibyte witnessErrOffset = true ∧ nameAfterMultibyteIgnored witnessErrOffset = false ∧
    (lexAll witnessErrOffset).err = some ⟨3, .badEscape⟩ ∧ (Spec.lexAll witnessErrOffset).err = some ⟨4, .badEscape⟩ := by
  decide +kernel

-- the premises of the partial theorems are satisfiable, also by inputs with multi-byte characters
example : nameAfterMultibyteIgnored [123, 32, 97, 32, 125] = false ∧ errorAfterMultibyte [123, 32, 97, 32, 125] = false := by
  decide +kernel
/-- `#é\n{ "é" }` : multi-byte in a comment and in a string, but no NAME after it -/
example : nameAfterMultibyteIgnored [35, 0xC3, 0xA9, 10, 123, 32, 34, 0xC3, 0xA9, 34, 32, 125] = false ∧
    lexAll [35, 0xC3, 0xA9, 10, 123, 32, 34, 0xC3, 0xA9, 34, 32, 125] =
      Spec.lexAll [35, 0xC3, 0xA9, 10, 123, 32, 34, 0xC3, 0xA9, 34, 32, 125] := by
  decide +kernel

/-! ## Progress and termination -/

/-- Every call of `readToken` either fails with a genuine lexical error, or returns EOF, or returns a token that
ends strictly after the offset the scan started from and inside the body: the cursor of the `Lex` closure moves
forward. The fuel `len(body)+1` given to the model's loops is never exhausted. -/
theorem lex_progress (body : Bytes) (p : Nat) :
    (∀ t, readToken body p = .ok t →
      (t.kind = .eof ∧ t.start = t.stop) ∨ (t.kind ≠ .eof ∧ p < t.stop ∧ t.stop ≤ body.length)) ∧
    (∀ e, readToken body p = .error e → e.kind ≠ .fuel) := by
  have h := readToken_progress body p
  constructor
  · intro t ht; rw [ht] at h; exact h
  · intro e he; rw [he] at h; exact h

/-- Iterating `Lex` as the parser does terminates within `len(body)+1` calls: it ends in a lexical error or in
an EOF token, and EOF is the last token only. -/
theorem lexAll_terminates (body : Bytes) :
    (∀ e, (lexAll body).err = some e → e.kind ≠ .fuel) ∧
    ((lexAll body).err = none → ∃ t, (lexAll body).tokens.getLast? = some t ∧ t.kind = .eof) ∧
    (∀ t ∈ (lexAll body).tokens.dropLast, t.kind ≠ .eof) :=
  ⟨lexLoop_no_fuel body _ 0 (by omega), (lexLoop_shape body _ 0).2, (lexLoop_shape body _ 0).1⟩

/-! ## Strings -/

/-- The value of a STRING token is the spec's semantic value of the quoted text (`Spec.stringBody`: escapes
decoded, `\uXXXX` as UTF-8, everything else byte for byte), its extent is the quoted text; a malformed string
is rejected at the same site. Holds for every byte string, valid UTF-8 or not. -/
theorem string_value_spec (f : Nat) (rest : Bytes) (start : Nat) (hf : rest.length < f) :
    (∀ len v, stringBody rest = .ok (len, v) →
      readString f (34 :: rest) start = .ok ⟨.string, start, start + 1 + len, v⟩) ∧
    (∀ o k, stringBody rest = .error (o, k) → ∃ q, readString f (34 :: rest) start = .error ⟨q, k⟩) := by
  have h := readStringLoop_agrees f rest (start + 1) (start + 1) hf
  constructor
  · intro len v hs
    simp [readString, h.ok hs, makeToken]
  · intro o k hs
    obtain ⟨q, hq, -⟩ := h.error hs
    exact ⟨q, by simp [readString, hq]⟩

/-- `Spec.stringBody` is exactly the `StringValue` production with its semantic values (`StrChars`, the derivation
relation in GqlModel/LexerGrammar.lean): it accepts `body"…` with value `v` iff `body` derives `StringCharacter*`
with value `v`. Together with `string_value_spec`: a STRING token's value is the grammar's semantic value. -/
theorem stringBody_iff_grammar (bs : Bytes) (len : Nat) (v : Bytes) :
    stringBody bs = .ok (len, v) ↔ ∃ body rest, bs = body ++ 34 :: rest ∧ len = body.length + 1 ∧ StrChars body v := by
  constructor
  · exact stringBody_sound _ bs (Nat.le_refl _) len v
  · rintro ⟨body, rest, rfl, rfl, hd⟩
    exact stringBody_complete hd rest

/-- …hence, for the real reader: `readString` on `"` body `"` rest returns value `v` whenever `body` derives
`StringCharacter*` with value `v`. -/
theorem string_value_grammar (f : Nat) (body rest v : Bytes) (start : Nat) (hf : (body ++ 34 :: rest).length < f)
    (hd : StrChars body v) :
    readString f (34 :: (body ++ 34 :: rest)) start = .ok ⟨.string, start, start + 1 + (body.length + 1), v⟩ :=
  (string_value_spec f (body ++ 34 :: rest) start hf).1 _ _ (stringBody_complete hd rest)

/-- **unquote ∘ quote = id**: for every byte string `s` and every continuation `rest`, reading the GraphQL-quoted
rendering of `s` (`quoteString`, printer.go:128) yields exactly `s` and stops exactly at `rest`. -/
theorem unquote_quote (s rest : Bytes) (start f : Nat) (hf : (quoteString s ++ rest).length ≤ f) :
    readString f (quoteString s ++ rest) start = .ok ⟨.string, start, start + (quoteString s).length, s⟩ := by
  have e : quoteString s ++ rest = 34 :: (quoteBody s ++ 34 :: rest) := by simp [quoteString]
  rw [e] at hf ⊢
  have := (string_value_spec f (quoteBody s ++ 34 :: rest) start (by simp at hf ⊢; omega)).1 _ _ (stringBody_quoteBody s rest)
  rw [this]
  simp [quoteString]; omega

/-- …and as a token: `readToken` positioned at the quoted rendering returns the STRING token with value `s`
(when `s` is empty the continuation must not start with a quote, or `"""` would open a block string). -/
theorem unquote_quote_token (s rest : Bytes) (p rp f : Nat) (hf : (quoteString s ++ rest).length < f)
    (h : s = [] → rest.head? ≠ some 34) :
    readTokenAt f (quoteString s ++ rest) p rp = .ok ⟨.string, p, p + (quoteString s).length, s⟩ :=
  readTokenAt_lexeme f p rp (.string (quoteBody_strChars s) fun e => h (quoteBody_eq_nil e)) (by decide) hf

example : quoteString [104, 34, 7, 127, 200, 10] = [34, 104, 92, 34, 92, 117, 48, 48, 48, 55, 92, 117, 48, 48, 55, 70, 200, 92, 110, 34] := by
  decide +kernel

/-! ## Block strings -/

/-- `blockStringValue` (lexer.go:381) IS the spec's `BlockStringValue()`: lines split at LF, CR LF and CR, common
indentation of all lines but the first removed, leading and trailing blank lines dropped, joined with LF. -/
theorem blockString_spec (raw : Bytes) : Lexer.blockStringValue raw = Spec.blockStringValue raw :=
  blockStringValue_eq raw

/-- A BLOCK_STRING token's value is `BlockStringValue()` of the raw text between the triple quotes with `\"""`
read as `"""`; its extent is the whole lexeme; malformed block strings are rejected at the same site. -/
theorem blockString_token_spec (f : Nat) (rest : Bytes) (start : Nat) (hf : rest.length < f) :
    (∀ len raw, blockBody rest = .ok (len, raw) →
      readBlockString f (34 :: 34 :: 34 :: rest) start = .ok ⟨.blockString, start, start + 3 + len, Spec.blockStringValue raw⟩) ∧
    (∀ o k, blockBody rest = .error (o, k) → ∃ q, readBlockString f (34 :: 34 :: 34 :: rest) start = .error ⟨q, k⟩) := by
  have h := readBlockLoop_agrees f rest (start + 3) (start + 3) hf
  constructor
  · intro len raw hs
    simp [readBlockString, h.ok hs, makeToken, blockStringValue_eq]
  · intro o k hs
    obtain ⟨q, hq, -⟩ := h.error hs
    exact ⟨q, by simp [readBlockString, hq]⟩

/-- CR, LF and CRLF each end one line; `"\n    a\r\n      b\r    c\n  "` is `a`, `  b`, `c` -/
example : Spec.blockStringValue [10, 32, 32, 32, 32, 97, 13, 10, 32, 32, 32, 32, 32, 32, 98, 13, 32, 32, 32, 32, 99, 10, 32, 32] =
    [97, 10, 32, 32, 98, 10, 99] := by decide +kernel
/-- the first line keeps its indentation and its content: `"  abc\n  b"` -/
example : Lexer.blockStringValue [32, 32, 97, 98, 99, 10, 32, 32, 98] = [32, 32, 97, 98, 99, 10, 98] := by decide +kernel

/-! ## Numbers -/

/-- A number token is cut by maximal munch: its value is the scanned lexeme, and the byte that follows cannot
continue it — it is not a digit, and after an Int it is none of `.`, `e`, `E` (those commit the lexer to a
fraction / exponent: `1.`, `1e`, `01` are errors, never `1` followed by something). -/
theorem number_maximal_munch (f : Nat) (rest : Bytes) (p : Nat) (hf : rest.length < f) (t : LTok)
    (h : readNumber f rest p (runeAt rest).1 (runeAt rest).2 = .ok t) :
    t.start = p ∧ p < t.stop ∧ t.value = rest.take (t.stop - p) ∧ (t.kind = .int ∨ t.kind = .float) ∧
    ∀ d, (rest.drop (t.stop - p)).head? = some d →
      ¬ isDigitByte d ∧ (t.kind = .int → d ≠ 46 ∧ d ≠ 69 ∧ d ≠ 101) := by
  obtain ⟨k, len, hn, rfl⟩ := readNumber_ok hf h
  have hb := number_bound rest
  rw [hn] at hb
  have e : (makeToken k p (p + len) (rest.take len)).stop - p = len := Nat.add_sub_cancel_left ..
  rw [e]
  exact ⟨rfl, Nat.lt_add_of_pos_right hb.1, rfl, number_kind hn, number_follow hn⟩

/-- The lexeme of an INT token is an IntValue, the lexeme of a FLOAT token a FloatValue of the grammar
(`IsIntValue` / `IsFloatValue`: the productions IntegerPart, FractionalPart, ExponentPart as predicates on complete
lexemes, GqlModel/LexerGrammar.lean). -/
theorem number_token_grammar (f : Nat) (rest : Bytes) (p : Nat) (hf : rest.length < f) (t : LTok)
    (h : readNumber f rest p (runeAt rest).1 (runeAt rest).2 = .ok t) :
    (t.kind = .int ∧ IsIntValue t.value) ∨ (t.kind = .float ∧ IsFloatValue t.value) := by
  obtain ⟨k, len, hn, rfl⟩ := readNumber_ok hf h
  exact number_sound hn

/-- what the library does with the edge forms (checked against the real lexer by the harness as well) -/
example : (lexAll [49, 46]).err = some ⟨2, .expectedDigit⟩ ∧ (lexAll [49, 101]).err = some ⟨2, .expectedDigit⟩ ∧
    (lexAll [48, 49]).err = some ⟨1, .digitAfterZero⟩ ∧ (lexAll [45]).err = some ⟨1, .expectedDigit⟩ ∧
    (lexAll [49, 97]).tokens.map (·.kind) = [.int, .name, .eof] ∧ (lexAll [48, 120]).tokens.map (·.kind) = [.int, .name, .eof] := by
  decide +kernel

/-! ## Punctuators -/

/-- Each of the thirteen one-byte punctuators is a token of its own kind, one byte long, whatever follows. -/
theorem punctuator_tokens (c : UInt8) (k : TokenKind) (h : punctuatorByte c = some k) (f : Nat) (r : Bytes) (p rp : Nat)
    (hf : (c :: r).length < f) : readTokenAt f (c :: r) p rp = .ok ⟨k, p, p + 1, []⟩ :=
  readTokenAt_lexeme f p rp (l := [c]) (.punct r h) (punctuatorByte_ne_name h) hf

/-- `...` is the SPREAD token (three bytes). -/
theorem spread_token (f : Nat) (r : Bytes) (p rp : Nat) (hf : (46 :: 46 :: 46 :: r).length < f) :
    readTokenAt f (46 :: 46 :: 46 :: r) p rp = .ok ⟨.spread, p, p + 3, []⟩ :=
  readTokenAt_lexeme f p rp (l := [46, 46, 46]) (.spread r) (by decide) hf

/-- the punctuator table: exactly these bytes, with the kinds of lexer.go's `TokenKind` constants -/
theorem punctuator_table :
    (List.range 256).filterMap (fun n => (punctuatorByte (UInt8.ofNat n)).map (fun k => (n, k))) =
      [(33, .bang), (36, .dollar), (38, .amp), (40, .parenL), (41, .parenR), (58, .colon), (61, .equals), (64, .at),
       (91, .bracketL), (93, .bracketR), (123, .braceL), (124, .pipe), (125, .braceR)] := by
  decide +kernel

/-! ## Start/End delimit the lexeme

Full statement (false on the pinned tree for NAME tokens after a multi-byte Ignored gap, D-03a): for every non-EOF token
`t` of `lexAll bytes`, lexing `bytes[t.start, t.stop)` on its own yields exactly that token (at offset 0) and EOF. -/

theorem token_delimits_lexeme_partial (bytes : Bytes) (h : nameAfterMultibyteIgnored bytes = false) (t : LTok)
    (ht : t ∈ (lexAll bytes).tokens) (hk : t.kind ≠ .eof) :
    lexAll ((bytes.drop t.start).take (t.stop - t.start)) =
      ⟨[⟨t.kind, 0, t.stop - t.start, t.value⟩, ⟨.eof, t.stop - t.start, t.stop - t.start, []⟩], none⟩ := by
  rw [(model_eq_spec_asciiIgnored_partial bytes h).1] at ht
  simp only [Spec.lexAll, List.mem_map] at ht
  obtain ⟨gt, hgt, rfl⟩ := ht
  obtain ⟨-, c, r, hd, htk⟩ := lexLoopG_mem _ bytes 0 gt hgt hk
  simp only [Nat.sub_zero] at hd
  rw [hd]
  have hb := token_bound c r
  rw [htk] at hb; simp only [TokOk_ok] at hb
  have hlen : ((c :: r).take (gt.2.stop - gt.2.start)).length = gt.2.stop - gt.2.start := by
    rw [List.length_take]; omega
  have htl : token ((c :: r).take (gt.2.stop - gt.2.start)) =
      .ok (gt.2.kind, ((c :: r).take (gt.2.stop - gt.2.start)).length, gt.2.value) := by
    rw [hlen]; exact token_take c r htk
  have hG := lexAllG_lexeme _ htl
  have h1 : nameAfterMultibyteIgnored ((c :: r).take (gt.2.stop - gt.2.start)) = false := by
    simp [nameAfterMultibyteIgnored, hG]
  have h2 : errorAfterMultibyte ((c :: r).take (gt.2.stop - gt.2.start)) = false := by
    simp [errorAfterMultibyte, hG]
  rw [model_eq_spec_partial _ h1 h2]
  simp only [Spec.lexAll, hG, hlen, List.map_cons, List.map_nil, Option.map_none, makeToken]

/-- the witness again: in `{ a #é\n bc }` the extent [8,10) of the second NAME is ` b`, not `bc` -/
example : (lexAll ((witnessD03a.drop 8).take 2)).tokens.map (fun t => (t.kind, t.value)) = [(.name, [98]), (.eof, [])] := by
  decide +kernel

end GqlModel.Lexer
