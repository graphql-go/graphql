import GqlProofs.ParserBehaved
import GqlProofs.ParserLoc
import GqlProofs.ParserDescLoc
import GqlProofs.ParserTop
import GqlProofs.RecogniseSound
/-! # C03 (parser half) — the parser accepts exactly the GraphQL grammar and builds the AST it defines

Property theorems only.  `M` = `GqlModel.Parser` (parser.go function for function, on the token list the lexer
produces, bug-faithful at `parseType`), `S` = `GqlModel.Grammar` (one derivation-relation constructor per
production; every node located at first-token start … last-token end).  All statements are for every token
list — every length, every nesting depth, executable AND type-system definitions.

Token lists: `all = toks ++ [eof]`; `parseTokens all` splits at the first EOF token and runs
`parseToks toks eof.start`.  `Parsed.typeRefMalformed` is the known-finding flag (D-03b): the parse went through one
of the three places where `parseType` accepts what `Type` does not derive. -/
namespace GqlModel.Parser
open GqlModel.Grammar

/-! ## Values: recursive descent ⇔ grammar, sound and complete -/

/-- `parseValueLiteral` with any sufficient fuel returns exactly the derivable values (with their locations),
moves the state to the end of the derivation and changes nothing else. -/
theorem parseValue_iff (c : Bool) (σ : PState) (v : Value) (σ' : PState) :
    (∃ n, parseValueLiteral c n σ = .ok (v, σ')) ↔ (DValue c σ.pos v σ'.pos ∧ σ' = σ.at σ'.pos) := by
  constructor
  · rintro ⟨n, h⟩; exact parseValueLiteral_snd c n σ v σ' h
  · rintro ⟨h, hσ⟩
    refine ⟨σ.toks.length, ?_⟩
    rw [hσ]
    exact DValue.cmp h σ _ rfl (Nat.le_refl _)

/-- the same for the entry point used by arguments and default values (`fuel = |tokens left| + 1`), and
for `parser.ParseValue` on a whole token list -/
theorem parseValue_top_iff (c : Bool) (toks : List Token) (eofPos : Nat) (v : Value) (rest : List Token) :
    (∃ e, parseValue c (initState toks eofPos) = .ok (v, ⟨e, rest, eofPos, false⟩)) ↔ DerivesValue c toks v rest := by
  constructor
  · rintro ⟨e, h⟩
    exact ⟨e, (parseValue_snd c _ _ _ h).1⟩
  · rintro ⟨e, h⟩
    exact ⟨e, parseValue_cmp c (initState toks eofPos) v ⟨e, rest⟩ h⟩

/-- whatever `parseType` returns WITHOUT raising the flag is a `Type` of the grammar -/
theorem parseType_sound (σ : PState) (t : TypeRef) (σ' : PState) (h : parseType σ = .ok (t, σ')) (hb : σ'.bad = false) :
    DType σ.pos t σ'.pos ∧ σ' = σ.at σ'.pos :=
  parseType_snd σ t σ' h hb

/-- every `Type` of the grammar is parsed, with its AST, without raising the flag -/
theorem parseType_complete (σ : PState) (t : TypeRef) (p' : Pos) (h : DType σ.pos t p') :
    parseType σ = .ok (t, σ.at p') :=
  parseType_cmp σ t p' h

/-- The full statement `parseType σ = .ok (t, σ') ↔ DType σ.pos t σ'.pos ∧ …` is FALSE on the pinned tree (D-03b);
proved under the decidable condition "the flag was not raised". -/
theorem parseType_iff_partial (σ : PState) (t : TypeRef) (σ' : PState) (hb : σ'.bad = false) :
    parseType σ = .ok (t, σ') ↔ (DType σ.pos t σ'.pos ∧ σ' = σ.at σ'.pos) := by
  constructor
  · intro h; exact parseType_snd σ t σ' h hb
  · rintro ⟨h, hσ⟩; rw [hσ]; exact parseType_cmp σ t _ h

/-- **Soundness.**  Full statement (FALSE on the pinned tree, see `parser_sound_fails`):
`parseTokens all = .ok p → ∃ toks e …, DerivesDoc toks e.start p.doc`.
Proved for every parse that did not go through a malformed type reference: the accepted token list is a document
of the grammar and the AST, with every location, is the one the productions define. -/
theorem parser_sound_partial (all : List Token) (p : Parsed) (h : parseTokens all = .ok p)
    (hwf : typeRefWellFormed all = true) :
    ∃ toks e rest, all = toks ++ e :: rest ∧ e.kind = .eof ∧ (∀ t ∈ toks, t.kind ≠ .eof) ∧
      DerivesDoc toks e.start p.doc := by
  have hb : p.typeRefMalformed = false := by
    simp only [typeRefWellFormed, typeRefMalformed, h, Bool.not_eq_true'] at hwf
    exact hwf
  unfold parseTokens at h
  cases hs : splitEOF all with
  | none => simp [hs] at h
  | some q =>
    obtain ⟨toks, e⟩ := q
    simp only [hs] at h
    obtain ⟨hk, hn, rest, hall⟩ := splitEOF_some hs
    refine ⟨toks, e, rest, hall, hk, hn, ?_⟩
    obtain ⟨d, b⟩ := p
    simp only at hb
    subst hb
    exact parseToks_sound h

/-- **Completeness** (holds in full): every document of the grammar is accepted, M builds exactly the derived AST
and does not raise the flag. -/
theorem parser_complete (toks : List Token) (e : Token) (d : Document) (hk : e.kind = .eof)
    (hn : ∀ t ∈ toks, t.kind ≠ .eof) (h : DerivesDoc toks e.start d) :
    parseTokens (toks ++ [e]) = .ok ⟨d, false⟩ := by
  unfold parseTokens
  rw [splitEOF_append hk hn]
  exact parseToks_complete h

/-- accept-and-build ⇔ derive, for parses that do not raise the flag -/
theorem parser_iff_partial (toks : List Token) (e : Token) (d : Document) (hk : e.kind = .eof)
    (hn : ∀ t ∈ toks, t.kind ≠ .eof) :
    parseTokens (toks ++ [e]) = .ok ⟨d, false⟩ ↔ DerivesDoc toks e.start d := by
  constructor
  · intro h
    unfold parseTokens at h
    rw [splitEOF_append hk hn] at h
    exact parseToks_sound h
  · exact parser_complete toks e d hk hn

/-- the AST M builds is unique: a token list derives at most one document -/
theorem derivesDoc_unique (toks : List Token) (eofPos : Nat) (d d' : Document)
    (h : DerivesDoc toks eofPos d) (h' : DerivesDoc toks eofPos d') : d = d' := by
  have a := parseToks_complete h
  have b := parseToks_complete h'
  rw [a] at b
  simpa using b

/-! ### D-03b: M accepts strictly more than the grammar at type references (negation witnesses) -/

/-- the three inputs of D-03b are accepted by M (as by the real parser) with the flag raised … -/
theorem d03b_accepted : verdict d03b_closing 20 = some true ∧ verdict d03b_leading 16 = some true ∧
    verdict d03b_missing 15 = some true := by decide

/-- … and none of them is a document of the grammar: the unrestricted soundness statement is false -/
theorem parser_sound_fails :
    (¬ ∃ d, DerivesDoc d03b_closing 20 d) ∧ (¬ ∃ d, DerivesDoc d03b_leading 16 d) ∧ (¬ ∃ d, DerivesDoc d03b_missing 15 d) :=
  ⟨not_derivable_of_flag d03b_accepted.1, not_derivable_of_flag d03b_accepted.2.1, not_derivable_of_flag d03b_accepted.2.2⟩

/-- the executable recogniser (the second rendering of the productions) rejects them too -/
theorem d03b_recogniser_rejects : recogniseToks d03b_closing = some false ∧ recogniseToks d03b_leading = some false ∧
    recogniseToks d03b_missing = some false := by decide

/-! ## The two renderings of S agree: the executable recogniser decides the derivation relations

`Grammar.recogniseToks` (the productions as EBNF data, run by the generic interpreter `Grammar.run`) is what the
correspondence harness compares the real parser with; `DerivesDoc` is what the theorems above are about.
Whenever the recogniser answers, its answer is the truth about `DerivesDoc` — and hence, by `parser_iff_partial`,
about M accepting with the flag down.  (It answers `none` only when its fuel `64·|toks| + 256` runs out; that
bound is not proved sufficient — the harness reports a `none` as CHECK-ERROR and has never seen one.) -/

theorem recognise_sound (toks : List Token) (eofPos : Nat) (h : recogniseToks toks = some true) :
    ∃ d, DerivesDoc toks eofPos d :=
  run_derivesDoc eofPos ((recogniseToks_iff_run h).mp rfl)

theorem recognise_reject_sound (toks : List Token) (eofPos : Nat) (h : recogniseToks toks = some false) :
    ¬ ∃ d, DerivesDoc toks eofPos d :=
  fun ⟨_, hd⟩ => Bool.noConfusion ((recogniseToks_iff_run h).mpr (derivesDoc_run hd))

/-- **recognise_iff_derives**: an answer of the recogniser is `true` exactly for the documents of the grammar -/
theorem recognise_iff_derives (toks : List Token) (eofPos : Nat) (b : Bool) (h : recogniseToks toks = some b) :
    b = true ↔ ∃ d, DerivesDoc toks eofPos d :=
  (recogniseToks_iff_run h).trans ⟨run_derivesDoc eofPos, fun ⟨_, hd⟩ => derivesDoc_run hd⟩

/-- completeness modulo fuel: a document of the grammar is never rejected -/
theorem derives_recognise (toks : List Token) (eofPos : Nat) (d : Document) (h : DerivesDoc toks eofPos d) :
    recogniseToks toks = some true ∨ recogniseToks toks = none := by
  cases hr : recogniseToks toks with
  | none => exact .inr rfl
  | some b => exact .inl (by rw [(recognise_iff_derives toks eofPos b hr).mpr ⟨d, h⟩])

/-- with some amount of fuel the interpreter does accept every document of the grammar, and stays accepting -/
theorem derives_run (toks : List Token) (eofPos : Nat) (d : Document) (h : DerivesDoc toks eofPos d) :
    ∃ N, ∀ n, N ≤ n → run n (.nt .document) toks = .rest [] :=
  run_complete (derivesDoc_run h)

/-- the recogniser against M: an answer `true` ⇔ M accepts without going through a malformed type reference -/
theorem recognise_iff_parser (toks : List Token) (eofPos : Nat) (b : Bool) (h : recogniseToks toks = some b) :
    b = true ↔ ∃ d, parseToks toks eofPos = .ok ⟨d, false⟩ := by
  rw [recognise_iff_derives toks eofPos b h]
  exact ⟨fun ⟨d, hd⟩ => ⟨d, parseToks_complete hd⟩, fun ⟨d, hd⟩ => ⟨d, parseToks_sound hd⟩⟩

/-- **Progress.** Every loop of M runs on `|tokens left| + 1` units of fuel and every recursion on the same amount;
this always suffices: M never reports fuel exhaustion, on any token list. -/
theorem parse_progress (all : List Token) : parseTokens all ≠ .error .fuel := by
  unfold parseTokens
  split
  · exact parseToks_ne_fuel _ _
  · simp

theorem parse_progress_toks (toks : List Token) (eofPos : Nat) : parseToks toks eofPos ≠ .error .fuel :=
  parseToks_ne_fuel toks eofPos

/-- the fuelled recursions never run dry when given more fuel than tokens left … -/
theorem parseValue_progress (c : Bool) (n : Nat) (σ : PState) (h : σ.toks.length < n) :
    parseValueLiteral c n σ ≠ .error .fuel :=
  (parseValueLiteral_nf c n σ.toks.length h).nf σ (Nat.le_refl _)

theorem parseType_progress (n : Nat) (σ : PState) (h : σ.toks.length < n) : parseTypeFuel n σ ≠ .error .fuel :=
  (parseTypeFuel_nf n σ.toks.length h).nf σ (Nat.le_refl _)

theorem parseSelectionSet_progress (n : Nat) (σ : PState) (h : σ.toks.length < n) :
    parseSelectionSetFuel n σ ≠ .error .fuel :=
  (parseSelectionSetFuel_nf n σ.toks.length h).nf σ (Nat.le_refl _)

/-! ## Locations: every node runs from the start of its first token to the end of its last token -/

theorem value_loc_delimits {c : Bool} {p : Pos} {v : Value} {p' : Pos} (h : DValue c p v p') : DelimitedBy p p' v.loc := by
  refine delimited_of (DValue.steps h) ?_
  cases h <;> try rfl
  case var h => cases h; rfl

theorem type_loc_delimits {p : Pos} {t : TypeRef} {p' : Pos} (h : DType p t p') : DelimitedBy p p' t.loc := by
  refine delimited_of (DType.steps h) ?_
  cases h with
  | plain hb _ =>
    cases hb with
    | named hn => cases hn; rfl
    | list _ _ _ => rfl
  | nonNull _ _ => rfl

theorem argument_loc_delimits {p : Pos} {a : Argument} {p' : Pos} (h : DArgument p a p') : DelimitedBy p p' a.loc := by
  refine delimited_of (dargument_steps h) ?_
  cases h; rfl

theorem directive_loc_delimits {p : Pos} {d : Directive} {p' : Pos} (h : DDirective p d p') : DelimitedBy p p' d.loc := by
  refine delimited_of (ddirective_steps h) ?_
  cases h; rfl

theorem selection_loc_delimits {p : Pos} {s : Selection} {p' : Pos} (h : DSelection p s p') : DelimitedBy p p' s.loc := by
  refine delimited_of (DSelection.steps h) ?_
  cases h <;> rfl

theorem selectionSet_loc_delimits {p : Pos} {s : SelectionSet} {p' : Pos} (h : DSelectionSet p s p') :
    DelimitedBy p p' s.loc := by
  refine delimited_of (DSelectionSet.steps h) ?_
  cases h; rfl

theorem varDef_loc_delimits {p : Pos} {v : VarDef} {p' : Pos} (h : DVarDef p v p') : DelimitedBy p p' v.loc := by
  refine delimited_of (dvarDef_steps h) ?_
  cases h; rfl

theorem fieldDef_loc_delimits {p : Pos} {d : FieldDef} {p' : Pos} (h : DFieldDef p d p') : DelimitedBy p p' d.loc := by
  refine delimited_of (dfieldDef_steps h) ?_
  cases h; rfl

theorem inputValueDef_loc_delimits {p : Pos} {d : InputValueDef} {p' : Pos} (h : DInputValueDef p d p') :
    DelimitedBy p p' d.loc := by
  refine delimited_of (dinputValueDef_steps h) ?_
  cases h; rfl

theorem definition_loc_delimits {p : Pos} {d : Definition} {p' : Pos} (h : DDefinition p d p') : DelimitedBy p p' d.loc := by
  refine delimited_of (ddefinition_steps h) ?_
  cases h <;> try rfl
  case object h => cases h; rfl

/-- `loc.start` is the start of the node's first token (stated for definitions; the other node kinds are the
`…_loc_delimits` theorems above) -/
theorem loc_start_is_first_token {p : Pos} {d : Definition} {p' : Pos} (h : DDefinition p d p') :
    ∃ first rest, p.ts = first :: rest ∧ d.loc.start = first.start := by
  obtain ⟨consumed, first, last, h1, h2, _, h4, _⟩ := definition_loc_delimits h
  obtain ⟨r, rfl⟩ := List.head?_eq_some_iff.mp h2
  exact ⟨first, r ++ p'.ts, h1, h4⟩

/-- `loc.stop` is the end of the last token the node consumed -/
theorem loc_stop_is_last_token {p : Pos} {d : Definition} {p' : Pos} (h : DDefinition p d p') :
    ∃ front last, p.ts = front ++ last :: p'.ts ∧ d.loc.stop = last.stop := by
  obtain ⟨consumed, first, last, h1, _, h3, _, h5⟩ := definition_loc_delimits h
  obtain ⟨front, rfl⟩ := List.getLast?_eq_some_iff.mp h3
  exact ⟨front, last, by rw [h1, List.append_assoc]; rfl, h5⟩

/-- through soundness: the location M (hence, by the correspondence, the real parser) gives a value it parsed -/
theorem parsed_value_loc (c : Bool) (σ : PState) (v : Value) (σ' : PState) (h : parseValue c σ = .ok (v, σ')) :
    DelimitedBy σ.pos σ'.pos v.loc :=
  value_loc_delimits (parseValue_snd c σ v σ' h).1

/-- the document's location: first token start … EOF offset -/
theorem document_loc {toks : List Token} {eofPos : Nat} {d : Document} (h : DerivesDoc toks eofPos d) :
    ∃ first rest, toks = first :: rest ∧ d.loc = ⟨first.start, eofPos⟩ := by
  cases h with
  | mk hM hne =>
    cases toks with
    | nil => exact absurd rfl (manyDefinitions_ne hM hne)
    | cons t r => exact ⟨t, r, rfl, rfl⟩

/-! ## The description child (`Description.Loc`)

The shared AST keeps a description's value; its location is determined by the node's: the description IS the token the
described node starts with (a STRING / BLOCK_STRING token with exactly that value), so `Description.Loc`, which
`parseStringLiteral` sets to that token's extent, is `[node.loc.start, that token's stop)` — computed by
`GqlModel.descLoc` and compared with the real AST's on every accepted case.  One theorem per describable production
(top-level definitions incl. the object definition inside `extend`, fields, arguments / input fields, enum values,
directive definitions). -/

theorem inputValueDef_description_loc {p : Pos} {d : InputValueDef} {p' : Pos} (h : DInputValueDef p d p') :
    DescriptionIsFirstToken p d.description d.loc := by
  cases h with | mk hde => exact ddescription_first hde _ rfl

theorem fieldDef_description_loc {p : Pos} {d : FieldDef} {p' : Pos} (h : DFieldDef p d p') :
    DescriptionIsFirstToken p d.description d.loc := by
  cases h with | mk hde => exact ddescription_first hde _ rfl

theorem enumValueDef_description_loc {p : Pos} {d : EnumValueDef} {p' : Pos} (h : DEnumValueDef p d p') :
    DescriptionIsFirstToken p d.description d.loc := by
  cases h with | mk hde => exact ddescription_first hde _ rfl

/-- object definitions, at top level and inside `extend` -/
theorem objectDef_description_loc {p : Pos} {d : ObjectDef} {p' : Pos} (h : DObjectDef p d p') :
    DescriptionIsFirstToken p d.description d.loc := dobjectDef_desc h

/-- scalar, object, interface, union, enum, input object and directive definitions -/
theorem definition_description_loc {p : Pos} {d : Definition} {p' : Pos} (h : DDefinition p d p') :
    DescriptionIsFirstToken p d.ownDescription d.loc := by
  cases h with
  | scalar hde => exact ddescription_first hde _ rfl
  | interface hde => exact ddescription_first hde _ rfl
  | union hde => exact ddescription_first hde _ rfl
  | enum hde => exact ddescription_first hde _ rfl
  | inputObject hde => exact ddescription_first hde _ rfl
  | directive hde => exact ddescription_first hde _ rfl
  | object ho => exact dobjectDef_desc ho
  | query => intro s hs; cases hs
  | operation => intro s hs; cases hs
  | fragment => intro s hs; cases hs
  | schema => intro s hs; cases hs
  | extend => intro s hs; cases hs

/-- what the driver computes for a described node is the extent of that token (no earlier token of the list starts at
the same offset: start offsets of a lexer output increase) -/
theorem description_loc_is_token_extent {p : Pos} {desc : Option String} {l : Loc} (h : DescriptionIsFirstToken p desc l)
    (pre : List Token) (hd : ∀ u ∈ pre, u.start ≠ l.start) (s : String) (hs : desc = some s) :
    ∃ t r, p.ts = t :: r ∧ (t.kind = .string ∨ t.kind = .blockString) ∧ t.value = s ∧
      descLoc (pre ++ p.ts) desc l = [some ⟨t.start, t.stop⟩] := by
  obtain ⟨t, r, hp, hk, hv, hst⟩ := h s hs
  refine ⟨t, r, hp, hk, hv, ?_⟩
  subst hs
  simp only [descLoc, hp, hst]
  rw [tokenExtentAt_first pre t r (by rw [← hst]; exact hd)]

/-- `scalar Date "the doc" type T { "field doc" a: Int }` (the tokens of): M's AST, and the two description locations
`[12,21)` and `[31,42)` -/
example :
    (match parseTokens descSample with
     | .ok p => p.doc.defs.flatMap (·.descLocs descSample)
     | .error _ => []) = [some ⟨12, 21⟩, some ⟨31, 42⟩] := by decide

/-- the hypotheses of `parser_sound_partial` / `parser_complete` are satisfiable: a two-definition document is
accepted without the flag, hence derivable, and both renderings of the grammar agree -/
example : verdict sampleDoc 112 = some false ∧ recogniseToks sampleDoc = some true := ⟨sampleDoc_verdict, by decide⟩

example : ∃ d, DerivesDoc sampleDoc 112 d := by
  have h := sampleDoc_verdict
  unfold verdict at h
  cases hp : parseToks sampleDoc 112 with
  | error e => simp [hp] at h
  | ok p =>
    obtain ⟨d, b⟩ := p
    simp only [hp, Option.some.injEq] at h
    subst h
    exact ⟨d, parseToks_sound hp⟩

end GqlModel.Parser
