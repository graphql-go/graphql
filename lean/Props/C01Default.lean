import GqlModel.DefaultResolve
import GqlProofs.DefaultResolve
import Generated.Tables
import GqlModel.DefaultWorld
/-! # C01 / C20 — the default resolver (`DefaultResolveFn`, executor.go 510-583)

A field without a `Resolve` function is resolved by reading the property named by the field out of the parent
value. These theorems are about the model `GqlModel.DefaultResolve.defaultResolve` (M: the function branch by
branch, the struct-field loop as a recursion over the declaration order); the unit `c01dr` of the C01 check
compares M with the real `graphql.DefaultResolveFn` on generated parent values (structs built with
`reflect.StructOf`, maps of several static types, pointers, resolver implementations) and end to end through
`graphql.Do`.

What a user relies on (S): the parent value *is* a property table; the field's value is the table entry under
the field's name, whatever the declaration order of struct fields or the iteration order of a map. The theorems
say exactly when that holds (one field answers for the name) and what happens when it does not (declaration
order decides; witnesses below). -/
namespace GqlModel.DefaultResolve

/-- M = S for structs: the loop returns the first field, in declaration order, that answers for the name
(Go name up to case, or head of the `json` / `graphql` tag), nil when none does. -/
theorem struct_first_match (ptr : Bool) (fs : List SField) (name : String) :
    defaultResolve (.struct ptr fs) name = Spec.structProperty fs name :=
  scan_eq_structProperty fs name

/-- Order-free form: when exactly one field of the struct answers for the name, that field's value is the
result wherever the field stands; a pointer to the struct behaves like the struct. -/
theorem struct_unique_match (ptr : Bool) (fs : List SField) (name : String) (f : SField)
    (hf : f ∈ fs) (hm : fieldMatches f name = true)
    (huniq : ∀ g ∈ fs, fieldMatches g name = true → g = f) :
    defaultResolve (.struct ptr fs) name = fieldValue f := by
  rw [struct_first_match]
  cases h : fs.find? (fieldMatches · name) with
  | none => exact absurd hm (List.find?_eq_none.mp h f hf)
  | some g =>
    rw [structProperty_of_find h,
      huniq g (List.mem_of_find?_eq_some h) (List.find?_some (p := (fieldMatches · name)) h)]

/-- No field answers: nil, no panic (also on structs with unexported fields). -/
theorem struct_no_match (ptr : Bool) (fs : List SField) (name : String)
    (h : ∀ g ∈ fs, fieldMatches g name = false) :
    defaultResolve (.struct ptr fs) name = .value .nil := by
  rw [struct_first_match, Spec.structProperty,
    List.find?_eq_none.mpr fun g hg => Bool.eq_false_iff.mp (h g hg)]

/-- A struct type that encodes a property table unambiguously (field `i` answers for key `i` and for no other
listed key, all fields exported) gives back entry `i` for key `i`: the struct source behaves like the table. -/
theorem struct_encodes_table (ptr : Bool) (fs : List SField) (ks : List String)
    (h : Unambiguous fs ks) (hexp : ∀ f ∈ fs, f.exported = true)
    (i : Nat) (hi : i < fs.length) (hk : i < ks.length) :
    defaultResolve (.struct ptr fs) ks[i] = .value fs[i].val := by
  have hfind : fs.find? (fieldMatches · ks[i]) = some fs[i] := by
    rw [List.find?_eq_some_iff_getElem]
    refine ⟨(h.2 i i hi hk).mpr rfl, i, hi, rfl, fun j hj => ?_⟩
    rw [Bool.not_eq_true']
    exact Bool.eq_false_iff.mpr fun hm => Nat.ne_of_lt hj ((h.2 j i _ hk).mp hm)
  rw [struct_first_match, structProperty_of_find hfind, fieldValue_of_exported (hexp _ (List.getElem_mem hi))]

/-- The decidable form the harness evaluates implies the hypothesis of `struct_encodes_table`. -/
theorem unambiguous_of_unambiguousB (fs : List SField) (ks : List String)
    (h : unambiguousB fs ks = true) : Unambiguous fs ks := by
  rw [unambiguousB, Bool.and_eq_true, beq_iff_eq] at h
  refine ⟨h.1, fun i j hi hj => ?_⟩
  have hb := List.all_eq_true.mp (List.all_eq_true.mp h.2 i (List.mem_range.mpr hi)) j (List.mem_range.mpr hj)
  rw [List.getElem?_eq_getElem hi, List.getElem?_eq_getElem hj] at hb
  rw [eq_of_beq hb]
  exact beq_iff_eq

/-- Maps: with distinct keys (every Go map) the result depends on the SET of entries only — the order in
which the harness, or Go's randomised iteration, lists them is irrelevant. -/
theorem map_entry_order_irrelevant (es es' : List (String × PVal)) (name : String)
    (hnd : (es.map (·.1)).Nodup) (hnd' : (es'.map (·.1)).Nodup)
    (hsame : ∀ e, e ∈ es ↔ e ∈ es') :
    defaultResolve (.mapIface es) name = defaultResolve (.mapIface es') name ∧
    ∀ ke el, defaultResolve (.mapRefl ke el es) name = defaultResolve (.mapRefl ke el es') name := by
  have hl := lookup_congr hnd hnd' hsame name
  refine ⟨?_, fun ke el => ?_⟩
  · rw [defaultResolve_mapIface, defaultResolve_mapIface, hl]
  · rw [defaultResolve_mapRefl, defaultResolve_mapRefl, hl]

/-- `map[string]interface{}`: an entry is handed back as it is, except that a `func() interface{}` is called;
an absent key and a nil entry both give nil. -/
theorem mapIface_entry (es : List (String × PVal)) (name : String) (v : PVal)
    (hnd : (es.map (·.1)).Nodup) (hm : (name, v) ∈ es) :
    defaultResolve (.mapIface es) name = ifaceProperty (some v) := by
  rw [defaultResolve_mapIface, lookup_of_mem_nodup es name v hnd hm]

/-- … and `ifaceProperty (some v)` is `v` itself unless `v` is a `func() interface{}`, which is called. -/
theorem ifaceProperty_some (v : PVal) :
    ifaceProperty (some v) = (match v with | .func0 id => .called id | v => .value v) := by
  cases v <;> rfl

theorem mapIface_absent (es : List (String × PVal)) (name : String) (h : name ∉ es.map (·.1)) :
    defaultResolve (.mapIface es) name = .value .nil := by
  rw [defaultResolve_mapIface, lookup_none_of_not_mem es name h]
  rfl

theorem no_panic_on_wellFormed (s : Source) (name : String) (h : wellFormed s = true) :
    defaultResolve s name ≠ .panic := by
  cases s with
  | untypedNil => cases h
  | resolver out => exact Res.noConfusion
  | nilPtr => exact Res.noConfusion
  | ptrOther => exact Res.noConfusion
  | other => exact Res.noConfusion
  | struct ptr fs =>
    rw [struct_first_match]
    exact structProperty_ne_panic (List.all_eq_true.mp h) name
  | mapIface es => exact ifaceProperty_ne_panic _
  | mapRefl ke el es =>
    obtain ⟨hke, hel⟩ := Bool.and_eq_true_iff.mp h
    rw [defaultResolve_mapRefl, if_pos hke]
    intro hp
    obtain ⟨rfl, hl⟩ := reflProperty_eq_panic hp
    -- with `el = .func0` the disjunction `hel` reduces to its second part
    exact bne_iff_ne.mp (List.all_eq_true.mp hel _ (lookup_some_mem es name _ hl)) rfl

/-- The name comparison of the struct path is an equivalence relation on names (case-insensitive equality on ASCII): a
field answers for every spelling of its Go name and two fields whose names differ by case only answer for the same
names — which is why `Unambiguous` must be demanded and is not automatic. -/
theorem equalFold_equivalence :
    (∀ a, equalFold a a = true) ∧
    (∀ a b, equalFold a b = true → equalFold b a = true) ∧
    (∀ a b c, equalFold a b = true → equalFold b c = true → equalFold a c = true) :=
  ⟨fun _ => equalFold_iff.mpr rfl, fun _ _ h => equalFold_iff.mpr (equalFold_iff.mp h).symm,
    fun _ _ _ h1 h2 => equalFold_iff.mpr ((equalFold_iff.mp h1).trans (equalFold_iff.mp h2))⟩

/-! ## Witnesses (kernel-evaluated): what happens outside the hypotheses -/

/-- Declaration order decides between a tag match and a name match: the comment "try matching the field name
first" holds per field only. `struct{A int `json:"x"`; X int}` answers `x` with `A`. -/
theorem declaration_order_decides :
    defaultResolve (.struct false [⟨"A", true, "x", "", .plain 1⟩, ⟨"X", true, "", "", .plain 2⟩]) "x"
      = .value (.plain 1) ∧
    defaultResolve (.struct false [⟨"X", true, "", "", .plain 2⟩, ⟨"A", true, "x", "", .plain 1⟩]) "x"
      = .value (.plain 2) := by decide +kernel

/-- An unexported field that answers for the name makes `Interface()` panic, also when a later exported field
would answer too. -/
theorem unexported_match_panics :
    defaultResolve (.struct true [⟨"name", false, "", "", .plain 1⟩, ⟨"Name", true, "", "", .plain 2⟩]) "name"
      = .panic := by decide +kernel

/-- A `func() interface{}` property is called in a `map[string]interface{}` and in a
`map[string]func() interface{}`, but handed back uncalled by a NAMED map type with interface elements. -/
theorem func0_called_by_static_type_only :
    defaultResolve (.mapIface [("f", .func0 7)]) "f" = .called 7 ∧
    defaultResolve (.mapRefl true .func0 [("f", .func0 7)]) "f" = .called 7 ∧
    defaultResolve (.mapRefl true .iface [("f", .func0 7)]) "f" = .value (.func0 7) := by decide +kernel

/-- `json:"nm,omitempty"` answers for `nm`; case folding applies to the Go name only, not to tags. -/
theorem tag_options_and_case :
    defaultResolve (.struct false [⟨"Name", true, "nm,omitempty", "", .plain 1⟩]) "nm" = .value (.plain 1) ∧
    defaultResolve (.struct false [⟨"Name", true, "nm,omitempty", "", .plain 1⟩]) "NAME" = .value (.plain 1) ∧
    defaultResolve (.struct false [⟨"Name", true, "nm,omitempty", "", .plain 1⟩]) "NM" = .value .nil := by decide +kernel

/-- non-vacuity of `struct_encodes_table`: a three-field struct whose fields answer through name, json tag and
graphql tag respectively is unambiguous for its three keys -/
example : unambiguousB
    [⟨"Id", true, "", "", .plain 1⟩, ⟨"A", true, "title,omitempty", "", .plain 2⟩, ⟨"B", true, "-", "n", .func0 3⟩]
    ["id", "title", "n"] = true := by decide +kernel

example : wellFormed (.mapRefl true .func0 [("f", .func0 7)]) = true := by decide +kernel

/-! ## Regenerated tie: the constants the model hard-codes

`harness/cmd/extract/defresolve.go` lists, from the current source of `DefaultResolveFn`, in source order: the
type assertions on the parent value and its properties, how the Go field name is compared, how a tag is split and
which segment counts, and which tags are consulted in which order. The model's `fieldMatches` (`equalFold` on the
name, `tagHead` = segment 0 of a comma split, `json` before `graphql`), `ifaceProperty` / `reflProperty`
(`func() interface{}` is the one func type that is called) and the `resolver` source kind are written against
exactly these constants. -/
theorem default_resolver_constants_as_modelled :
    Generated.defaultResolveConstants =
      [("assert", "FieldResolver"),
       ("nameMatch", "strings.EqualFold(typeField.Name, p.Info.FieldName)"),
       ("tagSplit", "strings.Split(t, \",\")"),
       ("tagSegment", "0"),
       ("tag", "json"),
       ("tag", "graphql"),
       ("assert", "map[string]interface{}"),
       ("assert", "func() interface{}"),
       ("assert", "func() interface{}")] := rfl

end GqlModel.DefaultResolve

/-! ## End to end: the response does not depend on how a property table is rendered as a Go value

`Exec.execute` is the execution algorithm S of C01; `defaultWorld` is its resolver table for default-resolved
objects. -/
namespace GqlModel.DefaultResolve
open GqlModel.Exec GqlModel.Coerce

/-- Two renderings of the same objects that the default resolver cannot tell apart on the schema's field names
give the same response (data, errors, invocation log), for every schema, document, variables and fuel. -/
theorem response_independent_of_rendering (s : Schema) (doc : Document) (op : String) (inputs : Vars) (fuel : Nat)
    (I : Interp) (names : List String) (base : World)
    (objs : List (Nat × String × Source × Source))
    (h : ∀ o ∈ objs, ∀ n ∈ names, defaultResolve o.2.2.1 n = defaultResolve o.2.2.2 n) :
    execute s doc op inputs (defaultWorld I names (objs.map fun o => (o.1, o.2.1, o.2.2.1)) base) fuel =
    execute s doc op inputs (defaultWorld I names (objs.map fun o => (o.1, o.2.1, o.2.2.2)) base) fuel :=
  congrArg (execute s doc op inputs · fuel) (defaultWorld_map_congr I names base objs (·.1) (·.2.1) h)

/-- A struct (or pointer to struct) that encodes a property table unambiguously and the `map[string]interface{}`
holding the same table are indistinguishable for the default resolver on the table's keys, provided no entry is
a `func() interface{}` (a map calls such an entry, a struct field hands it back: `struct_vs_map_func0_differs`). -/
theorem struct_vs_map (ptr : Bool) (fs : List SField) (tbl : List (String × PVal))
    (hun : Unambiguous fs (tbl.map (·.1))) (hexp : ∀ f ∈ fs, f.exported = true)
    (hval : ∀ i (hi : i < fs.length) (hj : i < tbl.length), fs[i].val = tbl[i].2)
    (hnd : (tbl.map (·.1)).Nodup) (hnf : ∀ e ∈ tbl, ∀ id, e.2 ≠ .func0 id)
    (n : String) (hn : n ∈ tbl.map (·.1)) :
    defaultResolve (.struct ptr fs) n = defaultResolve (.mapIface tbl) n := by
  obtain ⟨i, hi, rfl⟩ := List.getElem_of_mem hn
  have hit : i < tbl.length := List.length_map (fun e : String × PVal => e.1) ▸ hi
  have hif : i < fs.length := hun.1 ▸ hi
  have hmem : ((tbl.map (·.1))[i], tbl[i].2) ∈ tbl := by
    rw [List.getElem_map]
    exact List.getElem_mem hit
  rw [struct_encodes_table ptr fs _ hun hexp i hif hi, hval i hif hit, mapIface_entry tbl _ _ hnd hmem,
    ifaceProperty_of_not_func0 (hnf _ (List.getElem_mem hit))]

theorem struct_vs_map_func0_differs :
    defaultResolve (.struct false [⟨"F", true, "", "", .func0 1⟩]) "f" = .value (.func0 1) ∧
    defaultResolve (.mapIface [("f", .func0 1)]) "f" = .called 1 := by decide +kernel

end GqlModel.DefaultResolve
