import Props.C14
import Props.C14TypeInfo
import GqlProofs.TypeInfoBridge
/-! # C14 bridge: the TypeInfo theorems as ONE statement about the small-step machine of `visitor.Visit`

`Props/C14.machine_eq_reference` (used here in the form `machine_done_of_walk`, GqlProofs/Visitor.lean): the loop of `visitor.Visit` (machine `step`/`runN` over abstract trees `Visitor.Node`)
computes, for every stateful visitor, what the recursive reference walk computes.
`Props/C14TypeInfo.typeinfo_independent_of_handler_set`: the structural walk with `VisitWithTypeInfo` over the typed
document shows every callback of the wrapped visitor the top-down type context and leaves the TypeInfo stacks empty.

Here they are composed. `K = Generated.queryDocumentKeys` is the child-key table REGENERATED from /repo on every run;
`toNode K d` is the abstract tree of the typed document `d` — every node of an executable document (Name, Named, List,
NonNull included), ids in preorder, the slots of every node in the order the table lists for its kind (`slotsBy`);
`docLab K d` resolves an id to the node (kind, location, the fields TypeInfo reads); `withTypeInfo (M s) (docLab K d) o`
is `visitor.VisitWithTypeInfo(NewTypeInfo(schema), opts)` as a visitor of the machine, its state = (TypeInfo stacks and
registers, state of the wrapped visitor). A change of the table in /repo changes `toNode` and breaks `keys_table_ok`
(the evaluation `walk_child_order_is_queryDocumentKeys` of Props/C14TypeInfo, read through `Tables.lookup`) and with it
every theorem below.

Premise: `ArgsUnique s` (as in Props/C14TypeInfo). Not covered: a BREAK answered by the wrapped visitor (`withTypeInfo`
never breaks), ActionUpdate; type-system definitions are childless nodes of `toNode`. -/
namespace GqlModel.TypeInfoStacks
open GqlModel.Validate GqlModel.Visitor
variable {σ : Type}

/-- the regenerated child-key table -/
abbrev K : List (String × List String) := Generated.queryDocumentKeys

/-- table obligation (re-checked against the regenerated table on every run): for every node kind of an executable
document the table lists exactly the keys, in the order, that the typed walk `docTree` follows (`walkChildKeys`) -/
theorem keys_table_ok : KeysOK K := by
  unfold KeysOK
  simp only [Tables.lookup_eq_lookup]
  exact walk_child_order_is_queryDocumentKeys

/-- forgetting the keys of the table-ordered tree gives exactly the tree the TypeInfo theorems walk: the typed walk and
the abstract tree visit the same nodes in the same order -/
theorem toNode_flat_eq_docTree (d : Document) : (docK K d).flat = docTree d := docK_flat keys_table_ok d

/-- the ids of `toNode K d` are `0, 1, 2, …` in document order — in particular distinct, which is the premise of
`Props/C14.parallel_projection` -/
theorem toNode_ids_preorder (d : Document) : (toNode K d).pre = List.range' 0 (docK K d).labels.length :=
  toNode_pre (docK K d) 0

theorem toNode_ids_distinct (d : Document) : (toNode K d).pre.Nodup := by
  rw [toNode_ids_preorder]; exact List.nodup_range' 1

/-- every node of `toNode K d` is entered once, in document order, and left once (C14's corollary instantiated) -/
theorem toNode_each_node_once (d : Document) :
    enterIds (refEvents allCont (toNode K d)).1 = List.range' 0 (docK K d).labels.length := by
  rw [(each_node_once_in_document_order (toNode K d)).2.1, toNode_ids_preorder]

/-- any tracker (the code as it is, or a variant), any keyed tree: the MACHINE driven by the TypeInfo-wrapping visitor ends
normally with exactly the TypeInfo state and wrapped-visitor state of the structural walk `visitO` -/
theorem machine_withTypeInfo_eq_visitO (T : Tracker) (o : Opts σ) (n : KNode) (ti : TI) (st : σ) :
    ∃ N, ∀ fuel, N ≤ fuel →
      runN (withTypeInfo T (labOf n.labels) o) fuel (init (n.toNode 0)) (ti, st) = (MS.done, visitO T o n.flat ti st) :=
  machine_done_of_walk (walk_withTypeInfo T o n ti st)

theorem walk_toNode_eq_typed_walk (s : Schema) (o : Opts σ) (d : Document) (st : σ) :
    walk (withTypeInfo (M s) (docLab K d) o) (toNode K d) (TI.empty, st) = (walkMO s o d st, false) := by
  unfold docLab toNode walkMO
  rw [walk_withTypeInfo, toNode_flat_eq_docTree]

/-- THE composed theorem. For every schema (argument names unique per definition), every document, every wrapped
`*VisitorOptions` (any state, any subset of callbacks, skipping whatever it likes, history-dependent): the real loop —
the small-step machine of `visitor.Visit` — run on `toNode K d` with `VisitWithTypeInfo(NewTypeInfo(schema), opts)` ends
normally (never broken, never stuck: for every sufficiently large number of iterations) with all TypeInfo stacks empty
and registers nil, and with the wrapped visitor in exactly the state the TOP-DOWN reference walk `refWalk` leads it to —
every callback that fired was shown, by the six getters, the type context that applies at its node's position. -/
theorem machine_typeinfo_shows_context (s : Schema) (hU : ArgsUnique s) (o : Opts σ) (d : Document) (st : σ) :
    ∃ N, ∀ fuel, N ≤ fuel →
      runN (withTypeInfo (M s) (docLab K d) o) fuel (init (toNode K d)) (TI.empty, st) =
        (MS.done, (TI.empty, refWalk s o.total d st)) := by
  have h := walk_toNode_eq_typed_walk s o d st
  rw [typeinfo_independent_of_handler_set s hU] at h
  exact machine_done_of_walk h

/-- …read off a recording visitor: on an executable document the machine shows an enter-only recorder
(`VisitorOptions{Enter: record}`), at the Document node and at every node S lists, exactly `tiRecords s d` -/
theorem machine_typeinfo_eq_context (s : Schema) (hU : ArgsUnique s) (d : Document) (hE : isExecDoc d = true) :
    ∃ N, ∀ fuel, N ≤ fuel →
      obs (runN (withTypeInfo (M s) (docLab K d) (enterOnly (logger noSkip).enter)) fuel (init (toNode K d)) (TI.empty, [])).2.2 =
        ⟨"Document", d.loc, TIState.empty⟩ :: tiRecords s d := by
  obtain ⟨N, hN⟩ := machine_done_of_walk (walk_toNode_eq_typed_walk s (enterOnly (logger noSkip).enter) d [])
  exact ⟨N, fun fuel hf => by rw [hN fuel hf]; exact typeinfo_eq_context_enter_only_visitor s hU d hE⟩

/-! ## Non-vacuity: the machine itself, run by `decide` on a concrete document -/

/-- `{ f(a: {x: [1], y: 2}) }` over `exSchemaIn`: the abstract tree has 15 nodes (4 of them Name nodes), the machine ends
`done` with empty stacks within `fuelFor`, and its enter-only recorder saw — Name nodes dropped — the 11 rows of S -/
example : (toNode K exDocListAtNonList).pre = List.range' 0 15 := by decide +kernel

example :
    let r := runN (withTypeInfo (M exSchemaIn) (docLab K exDocListAtNonList) (enterOnly (logger noSkip).enter))
      (fuelFor (toNode K exDocListAtNonList)) (init (toNode K exDocListAtNonList)) (TI.empty, [])
    (match r.1 with | .done => true | _ => false) = true ∧ r.2.1.inputTypeStack.length = 0 ∧ r.2.1.typeStack.length = 0 ∧
    (obs r.2.2).map row =
      ((⟨"Document", exDocListAtNonList.loc, TIState.empty⟩ :: tiRecords exSchemaIn exDocListAtNonList).map row) := by
  decide +kernel

/-- the slots come from the table: the Field node of `{ f(a: …) }` has the five slots of `QueryDocumentKeys["Field"]`,
Alias and SelectionSet absent -/
example : (match toNode K exDocListAtNonList with
    | .mk 0 [.many "Definitions" (.mk 1 [.absent "Name", .absent "VariableDefinitions", .absent "Directives",
        .one "SelectionSet" (.mk 2 [.many "Selections" (.mk 3 (.absent "Alias" :: .one "Name" (.mk 4 []) ::
          .many "Arguments" _ _ :: .absent "Directives" :: .absent "SelectionSet" :: [])) []])]) []] => true
    | _ => false) = true := by decide +kernel

end GqlModel.TypeInfoStacks
