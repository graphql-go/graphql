import GqlProofs.Cost
import GqlProofs.CostSize
import GqlProofs.CostDepth
import GqlProofs.CostWeight
import GqlProofs.OverlapCost
import GqlProofs.GraphCost
import GqlProofs.VisitorCount
import GqlProofs.PossibleCost
import Props.C14
/-! # C19 — The work of planning and of validation is polynomial in document size

Property theorems only. `M` = `GqlModel.Cost`: the planner of /repo/plan.go with the two `verif` step counters
threaded through (`collect` = calls of `collectInto`, `pms` = calls of `planMergedSelectionsForType`); the
harness compares both counters with the real library on scaled families (`go_count == M_count`).
The counters of the overlap rule (validation) are modelled in `GqlModel/Validate/Overlap.lean` (imported,
not duplicated); the section "Validation" below proves the closed bound `overlap_cost_poly` on top of that model, and
the harness compares all three validation counters of the real rule with it on every case.

All statements hold for every schema, every document (also unvalidated: cyclic fragments, unknown names,
duplicate fragment names), every operation name, every variable assignment and every world.

FULL STATEMENT of the property ("the work done to validate and to plan a document grows at most polynomially …
does not grow with the number of object types an abstract field could resolve to nor exponentially with nesting
depth or with the number of fragments that spread one another. Executing a request plans only the runtime types
actually encountered"): for the PLAN sites it is the conjunction of the plan theorems below; the VALIDATION part
is `overlap_cost_poly` / `overlap_cost_quartic` (calls of `findConflict` ≤ 5·N⁴, every factor a syntactic size) together
with the memo-body bounds of Props/C02Graph (`memo_body_at_most_once`); that the growth is in practice quadratic is measured (fitted exponent), not proved.
The REST of validation: the five graph rules and the `ValidationContext` helpers are bounded in the section "graph rules"
(`graph_rules_work_cached`: ≤ 4N + O·(6 + 3F + S + 4U) + cycles), the visitor-driven local rules in
`local_rules_callbacks` (≤ 2·nodes·24 callbacks in one traversal). Not counted anywhere: the work inside a callback and
the construction of error values (linear in the source length per reported location). -/
namespace GqlModel.Cost

/-- number of `collectInto` calls `PlanQuery` can make: the operation's own selection set, the inline fragments
directly inside it, and every fragment definition once (body + its inline fragments). Fields are NOT descended,
the schema does not occur. -/
def topLevelSize (s : Schema) (doc : Document) (opName : String) : Nat :=
  match selectOp s doc opName with
  | .ok (_, ss) => 1 + inlSet ss + fragsSize (fragTable doc)
  | .error _ => 0

/-- `PlanQuery` itself is linear in the operation's top-level selection: its `collectInto` calls are bounded by
the selection sets reachable at the ROOT level through inline fragments and spreads, each fragment counted once;
it never calls `planMergedSelectionsForType`. The bound does not mention nesting depth below the root, the number
of implementers, or how fragments spread each other below the root. -/
theorem planQuery_cost_le_top_level_size (s : Schema) (doc : Document) (opName : String) :
    (planCost s doc opName).collect ≤ topLevelSize s doc opName ∧ (planCost s doc opName).pms = 0 := by
  unfold planCost topLevelSize
  cases h : selectOp s doc opName with
  | error e => simp
  | ok p =>
    obtain ⟨root, ss⟩ := p
    simp only
    split
    · simp
    · exact ⟨rootPlan_collect_le ⟨s, fragTable doc, none⟩ root ss, rfl⟩

/-! ### the top-level size is at most the number of selection sets written in the document -/

/-- Corollary: the bound of `planQuery_cost_le_top_level_size` is at most the number of selection sets
written in the document: `PlanQuery` is linear in the document size. -/
theorem topLevelSize_le_docSets (s : Schema) (doc : Document) (opName : String) :
    topLevelSize s doc opName ≤ docSets doc := by
  unfold topLevelSize
  cases h : selectOp s doc opName with
  | error e => simp
  | ok p =>
    obtain ⟨root, ss⟩ := p
    simp only
    have hf := fragsSize_le doc
    have hss := selectOp_sets s doc opName root ss h
    have := inlSet_le ss
    simp only [docSets] at *
    omega

/-- Adding object types — in particular further implementers of the interfaces a document mentions — to a
schema does not change the counters of `PlanQuery` (nothing is expanded per possible type at plan time).
`extra` may implement any interfaces; its names must not be root operation types. -/
theorem plan_cost_indep_of_possible_types (s : Schema) (extra : List TypeDef) (doc : Document) (opName : String)
    (hobj : ∀ t ∈ extra, isObjectDef t = true)
    (hroot : ∀ t ∈ extra, ∀ op, s.rootFor op ≠ some t.name) :
    planCost (extend s extra) doc opName = planCost s doc opName := by
  unfold planCost
  rw [selectOp_extend]
  cases h : selectOp s doc opName with
  | error e => rfl
  | ok p =>
    obtain ⟨root, ss⟩ := p
    simp only
    split
    · rfl
    · have hr : ∀ t ∈ extra, t.name ≠ root := by
        intro t ht heq
        obtain ⟨op, _, hr⟩ := selectOp_ok h
        exact hroot t ht _ (by rw [hr, heq])
      simp only [rootPlan, ctx_extend s extra hobj root hr]

/-- Lazy planning: every entry of the plan's `abstractAlternatives` memo tables after an execution belongs to a
(field plan, runtime type) pair that the execution actually completed — no type is planned because it is merely
POSSIBLE. -/
theorem lazy_plans_only_encountered_types (s : Schema) (doc : Document) (opName : String) (vars : Vars) (world : World)
    (root : String) (ss : SelectionSet) (hop : selectOp s doc opName = .ok (root, ss)) :
    let e : Env := ⟨s, fragTable doc, if docDynamic doc then some vars else none⟩
    ∀ en ∈ (execPlan s doc opName vars world).log,
      en.id ∈ completedW e (rootPlan e root ss).fields [] world := by
  intro e en hen
  simp only [execPlan, hop] at hen
  exact execW_log_completed e _ [] world en hen

/-- The visited set: within one `planMergedSelectionsForType` call (and within the root collection) the body
of each named fragment is entered at most once, however often and wherever it is spread. -/
theorem collect_visits_each_fragment_once_per_set (c : Ctx) (subs : List (SelectionSet × Chain)) :
    (planMerged c subs {}).entered.Nodup :=
  (planMerged_ent c subs {} ⟨List.nodup_nil, fun _ h => by simp at h⟩).1

/-- Total planning work of a request (PlanQuery + everything planned lazily while executing):
* `collect` = root collection + Σ over the memo entries of their cost, and each entry costs at most the size of
  ONE level of its merged sub-selection (`levelSize`: the merged sets, their inline fragments, each fragment once);
* `pms` = number of memo entries;
* memo entries are pairwise different (field plan, runtime type) pairs, all of them actually completed — so there
  are at most as many as completions in the world.
Hence work ≤ topLevelSize + Σ_{distinct completed (field plan, runtime type)} levelSize: polynomial (linear × linear)
in document size and data size, independent of the number of possible types. -/
theorem plan_work_le_completed_positions (s : Schema) (doc : Document) (opName : String) (vars : Vars) (world : World) :
    let r := execPlan s doc opName vars world
    r.counts.collect ≤ topLevelSize s doc opName +
        (r.log.map (fun en => (en.subs.map (fun ss => 1 + inlSet ss.1)).sum + fragsSize (fragTable doc))).sum ∧
    r.counts.pms = r.log.length ∧
    (r.log.map (·.id)).Nodup ∧
    r.log.length ≤ world.size := by
  intro r
  unfold topLevelSize
  simp only [r, execPlan]
  cases hop : selectOp s doc opName with
  | error e => simp
  | ok p =>
    obtain ⟨root, ss⟩ := p
    simp only
    let e : Env := ⟨s, fragTable doc, if docDynamic doc then some vars else none⟩
    obtain ⟨hok, hlen⟩ := execW_fresh e (rootPlan e root ss).fields world
    exact ⟨Nat.add_le_add (rootPlan_collect_le e root ss) (sum_map_le_sum_map fun en hen => (hok.2.1 en hen).1),
      trivial, hok.1, hlen⟩

/-- In ONE `planMergedSelectionsForType` every field node is appended to exactly one group and
every selection set is entered at most once (inline fragments syntactically, fragment bodies by the visited set), so
the merged field ASTs of ALL groups together number at most the field nodes written directly in the collected sets plus
those written directly in the fragment definitions — whatever the spread graph. (A counting argument: no node identity
is needed.) -/
theorem merged_asts_counted_once (c : Ctx) (subs : List (SelectionSet × Chain)) :
    astCount (planMerged c subs {}).fields ≤
      (subs.map (fun s => bSet (fun _ => 1) s.1)).sum + potential (fun f => bSet (fun _ => 1) f.2.2) c.frags [] := by
  have h : astCount (planMerged c subs {}).fields + pot (countMeas c) (planMerged c subs {}).visited ≤
      astCount [] + pot (countMeas c) [] + (subs.map (fun s => bSet (fun _ => 1) s.1)).sum :=
    planMerged_weight (countMeas c) subs {}
  have h0 : astCount [] = 0 := rfl
  have hp : pot (countMeas c) [] = potential (fun f => bSet (fun _ => 1) f.2.2) c.frags [] := rfl
  rw [h0, hp] at h
  omega

/-- the depth bound of `exec_depth_bounded_by_selection` (Props/C09) as a function of the request -/
def depthBound (doc : Document) (ss : SelectionSet) : Nat :=
  1 + depthSet ss + (maxBodyDepth (fragTable doc) + 1) * (fragTable doc).length

/-- The selection sets merged into the sub-selections of one level are
selection sets of the document, counted once per level: `fieldsW` (sets at or below the merged sub-selections) grows
by at most the fragment definitions' sets per level of descent (`planMerged_fieldsW`). Hence a lazily planned
sub-selection at response path `p` costs at most `sets(operation) + (|p| + 1) · sets(fragments)` collectInto calls —
linear in the document for every position — and the whole request

    collect ≤ topLevelSize + #planned positions · (depthBound + 1) · docSets,   #planned positions ≤ completions in the data,

i.e. linear in the size of the expanded selection actually completed (document size × expansion depth × completions).
`depthBound = 1 + depth(operation) + (deepest fragment body + 1) · #fragments` bounds |p| for EVERY document: for
fragment-acyclic documents the expansion is finite anyway and the chain guard never fires; on cyclic (unvalidated)
documents the guard cuts the expansion below a fragment's own body, which is what keeps |p|, and with it this
bound, polynomial (≤ docSets³-ish per position) instead of data-dependent. -/
theorem plan_cost_linear_in_expanded_selection (s : Schema) (doc : Document) (opName : String) (vars : Vars)
    (world : World) (root : String) (ss : SelectionSet) (hop : selectOp s doc opName = .ok (root, ss)) :
    let r := execPlan s doc opName vars world
    (∀ en ∈ r.log, en.cost ≤ setsSet ss + (en.id.length + 1) * fragSets doc.defs ∧ en.id.length ≤ depthBound doc ss) ∧
    r.counts.collect ≤ topLevelSize s doc opName + r.log.length * ((depthBound doc ss + 1) * docSets doc) ∧
    r.log.length ≤ world.size := by
  intro r
  simp only [r, execPlan, hop]
  let e : Env := ⟨s, fragTable doc, if docDynamic doc then some vars else none⟩
  have hFS := fragSetsTbl_le doc
  have hop' := selectOp_sets s doc opName root ss hop
  have hentry : ∀ en ∈ (execW e (rootPlan e root ss).fields [] world {}).log,
      en.cost ≤ setsSet ss + (en.id.length + 1) * fragSets doc.defs ∧ en.id.length ≤ depthBound doc ss :=
    fun en hen => ⟨Nat.le_trans (execW_entry_cost e root ss world en hen)
      (Nat.add_le_add_left (Nat.mul_le_mul_left _ hFS) _), log_depth_le e root ss world en hen⟩
  refine ⟨hentry, Nat.add_le_add ?_ (sum_map_le_mul fun en hen => ?_), (execW_fresh e _ world).2⟩
  · simp only [topLevelSize, hop]
    exact rootPlan_collect_le e root ss
  · obtain ⟨h1, h2⟩ := hentry en hen
    have a1 : (en.id.length + 1) * fragSets doc.defs ≤ (depthBound doc ss + 1) * fragSets doc.defs :=
      Nat.mul_le_mul_right _ (Nat.succ_le_succ h2)
    have a2 : opSets doc.defs ≤ (depthBound doc ss + 1) * opSets doc.defs :=
      Nat.le_mul_of_pos_left _ (Nat.succ_pos _)
    have a3 : (depthBound doc ss + 1) * docSets doc =
        (depthBound doc ss + 1) * opSets doc.defs + (depthBound doc ss + 1) * fragSets doc.defs :=
      Nat.mul_add _ _ _
    omega

/-- C09 (stated here because it is about this model; `request_total` in `Props/C09.lean` uses it):
the plan-time collection terminates on ARBITRARY fragment tables — cyclic, with duplicate or unknown names —
within the fuel `number of fragment definitions + 1`: the model's out-of-fuel flag is never raised, neither by
`PlanQuery` nor by any lazily planned sub-selection of any execution. -/
theorem plan_never_out_of_fuel (s : Schema) (doc : Document) (opName : String) (vars : Vars) (world : World) :
    (execPlan s doc opName vars world).oof = false := by
  simp only [execPlan]
  cases hop : selectOp s doc opName with
  | error e => rfl
  | ok p =>
    obtain ⟨root, ss⟩ := p
    simp only
    generalize (⟨s, fragTable doc, if docDynamic doc then some vars else none⟩ : Env) = e
    have h1 : (rootPlan e root ss).oof = false := collectFuel_oof _ _ _ _
    rw [h1, (execW_fresh e (rootPlan e root ss).fields world).1.2.2]; rfl

end GqlModel.Cost

/-! ## Validation: a closed polynomial bound on the work of OverlappingFieldsCanBeMerged

`GqlModel.Validate.Overlap.overlapM` is the model of the memoised rule, with the counters of the three `verif`
sites: `nFC` (`findConflict`), `cntFF` (`collectConflictsBetweenFieldsAndFragment` bodies), `cntBF`
(`collectConflictsBetweenFragments` bodies). `memo_body_at_most_once` (Props/C02Graph) bounds `cntFF ≤ 2·S·Fn` and
`cntBF ≤ 2·F²`; the theorems below close the gap to the TOTAL work. -/
namespace GqlModel.Validate.Overlap
open GqlModel.Validate.Graph

/-- General form of `overlap_cost_poly` (any environment whose fragment table comes from the document, any list of
visited selection sets of the document, ANY fuel): the number of `findConflict` calls is at most
`Σ_{visited sets} fields(set)² + nFieldsDoc² · (2·nSets·nSpreadNames + 2·|fragment table|²)`. -/
theorem overlap_cost_poly_gen (d : Document) (e : Env) (hloc : locsDistinct d = true)
    (hT : ∀ f, f ∈ e.tbl → f.sel ∈ allSets d) (fuel : Nat)
    (sets : List (TCtx × SelectionSet)) (hsets : ∀ cs, cs ∈ sets → cs.2 ∈ allSets d) :
    (overlapRun e fuel sets).1.nFC ≤
      nFieldsDoc d * nFieldsDoc d * (sets.length + 2 * (nSets d * nSpreadNames d) + 2 * (e.tbl.length * e.tbl.length)) := by
  have h := overlapRun_cost (d := d) (e := e) hloc hT fuel sets hsets
  have hs : (sets.map fun cs => fieldsSet cs.2 * fieldsSet cs.2).sum ≤ sets.length * (nFieldsDoc d * nFieldsDoc d) :=
    sum_map_le_mul fun cs hcs => Nat.mul_le_mul (fieldsSet_le_doc (hsets cs hcs)) (fieldsSet_le_doc (hsets cs hcs))
  refine Nat.le_trans (Nat.le_add_right _ _) (Nat.le_trans h ?_)
  rw [Nat.add_assoc sets.length, Nat.mul_add _ sets.length, Nat.mul_comm _ sets.length,
    Nat.add_comm (sets.length * _), phi_init]
  exact Nat.add_le_add_left hs _

/-- For every schema and every document whose selection sets start at distinct bytes (true of
every parsed document; the drivers check it on every input), also an invalid one with cyclic fragments, the memoised
rule as run by `ValidateDocument` calls `findConflict` at most
`overlapBound d = nFieldsDoc² · (nSets + 2·nSets·nSpreadNames + 2·nFrags²)` times — every factor a syntactic size. -/
theorem overlap_cost_poly (s : Schema) (d : Document) (hloc : locsDistinct d = true) :
    (overlapM s d).1.nFC ≤ overlapBound d := by
  have h := overlap_cost_poly_gen d (envM s d) hloc (fragDefs_sel_sub d) (fuelFor d) (typedSelSets s d)
    (typedSelSets_sub s d)
  rw [← List.length_map (·.2), typedSelSets_map] at h
  exact h

/-- Corollary: at most `5 · N⁴` calls for `N = docSize d` = fields + selection sets + distinct spread names +
fragment definitions. (On the measured families the growth is at most quadratic in the document size.) -/
theorem overlap_cost_quartic (s : Schema) (d : Document) (hloc : locsDistinct d = true) :
    (overlapM s d).1.nFC ≤ 5 * docSize d ^ 4 := by
  refine Nat.le_trans (overlap_cost_poly s d hloc) (quartic_bound ?_ ?_ ?_ ?_)
  all_goals unfold docSize; omega

/-- the other two validation counters: the bounds of `memo_body_at_most_once` (Props/C02Graph), from the same invariant -/
theorem overlap_memo_bodies (s : Schema) (d : Document) :
    (overlapM s d).1.cntFF ≤ 2 * (nSets d * nSpreadNames d) ∧ (overlapM s d).1.cntBF ≤ 2 * (nFrags d * nFrags d) :=
  (overlapRun_inv (d := d) (e := envM s d) (fragDefs_sel_sub d) (fuelFor d) (typedSelSets s d) (typedSelSets_sub s d)).counts

end GqlModel.Validate.Overlap

/-! ## Validation: the graph rules and the `ValidationContext` helpers

Model: `GqlModel.Validate.Graph` (`fragmentSpreads`, `recursivelyReferenced`, `detect`/`cycleRun`,
`varUsagesOp/Frag`, `recursiveUsages`, the five rules). `GqlModel/GraphCost.lean` adds instrumented twins of the three loop
algorithms (same code + a step counter) and the work of the rules as a function of the step counts.
Unit of work: one iteration of a Go loop body / one visitor callback. -/
namespace GqlModel.Validate.Graph

/-- The instrumented twins ARE the modelled algorithms: erasing the counters gives back the functions of `GqlModel.Validate.Graph` (whose
agreement with /repo is checked by C02's correspondence). -/
theorem step_counters_erase (tbl : List Frag) (fsCost : SelectionSet → Nat) :
    (∀ fuel stk acc n, (fsLoopC fuel stk acc n).1 = fsLoop fuel stk acc) ∧
    (∀ fuel stk col frs n, (rrfLoopC tbl fsCost fuel stk col frs n).1 = rrfLoop tbl fuel stk col frs) ∧
    (∀ fuel f sc, (detectC tbl fuel f sc).1 = detect tbl fuel f sc.1) ∧
    (cycleRunC tbl).1 = cycleRun tbl :=
  ⟨fsLoopC_erase, rrfLoopC_erase tbl fsCost, detectC_erase tbl, cycleRunC_erase tbl⟩

/-- `FragmentSpreads(ss)`, computed from scratch, pops every selection set at or below `ss` exactly once and scans
every selection exactly once; it returns one entry per spread node. -/
theorem fragmentSpreads_steps (ss : SelectionSet) :
    fsSteps ss = setsSet ss + selsSet ss ∧ fsSteps ss ≤ nodesSet ss ∧ (fragmentSpreads ss).length = nSpreadsSet ss :=
  ⟨fsSteps_eq ss, fsSteps_le_nodes ss, fragmentSpreads_length ss⟩

/-- `RecursivelyReferencedFragments(op)` (whatever a `FragmentSpreads` request costs, `fsCost`): the operation's
selection set and the selection set of every fragment it returns are popped exactly once; the returned fragments
are definitions of the table with pairwise different names — at most one per definition, on ANY spread graph
(cycles, duplicate names, undefined names). `collectedNames` is what guarantees it. -/
theorem recursivelyReferenced_steps (tbl : List Frag) (fsCost : SelectionSet → Nat) (opSel : SelectionSet) :
    rrfSteps tbl fsCost opSel =
      popCost fsCost opSel + popSum fsCost ((recursivelyReferenced tbl opSel).map (·.sel)) ∧
    (recursivelyReferenced tbl opSel).length ≤ tbl.length ∧
    (∀ f, f ∈ recursivelyReferenced tbl opSel → f ∈ tbl) ∧
    ((recursivelyReferenced tbl opSel).map (·.name.value)).Nodup := by
  obtain ⟨_, hf⟩ := rrf_fresh tbl opSel
  exact ⟨rrfSteps_eq tbl fsCost opSel, rrf_length_le tbl opSel, hf.sub, hf.nodup⟩

/-- NoFragmentCycles: at most one `detectCycleRecursive` call per fragment definition (`visitedFrags`), at most
`maxSpreads` loop iterations per call, and every reported cycle copies a path no longer than the recursion is deep:
calls ≤ F, iterations ≤ F·S, copied path entries ≤ F·S·(F+2). -/
theorem cycle_detection_steps (tbl : List Frag) :
    (cycleRunC tbl).2.calls ≤ tbl.length ∧
    (cycleRunC tbl).2.iters ≤ tbl.length * maxSpreads tbl ∧
    (cycleRunC tbl).2.errLen ≤ tbl.length * maxSpreads tbl * (tbl.length + 2) := by
  obtain ⟨h1, h2, h3⟩ := cycleRunC_le tbl
  have a2 : (cycleRunC tbl).2.iters ≤ tbl.length * maxSpreads tbl :=
    Nat.le_trans h2 (Nat.mul_le_mul_right _ h1)
  exact ⟨h1, a2, Nat.le_trans h3 (Nat.mul_le_mul_right _ a2)⟩

/-- the five graph rules WITHOUT the four caches of `ValidationContext` — every rule
re-traverses, for every operation, the operation and its whole fragment closure:
work ≤ `O·(4 + 4F + 21N)` + cycles, `O` operations, `F` fragment definitions, `N = docNodes` AST nodes. -/
theorem graph_rules_work_uncached (s : Schema) (d : Document) :
    graphWorkUncached s d ≤ graphBoundUncached (nOps d) (nFragDefs d) (docNodes d) := by
  have hS : maxSpreads (fragDefs d) ≤ docNodes d :=
    Nat.le_trans (maxSpreads_le_docSpreads d) (docSpreads_le_docNodes d)
  have hX : maxFs (fragDefs d) ≤ docNodes d :=
    max_rec_le (h := maxFs) rfl (fun _ _ => rfl) fun f hf =>
      Nat.le_trans (fsSteps_le_nodes f.sel) <| Nat.le_trans (nodesSet_le_frag f) <|
        Nat.le_trans (le_sum_map_of_mem nodesFrag hf) (Nat.le_add_left _ _)
  have hop : ∀ o, o ∈ opDefs d → nodesOp o + fragNodes d ≤ docNodes d :=
    fun o ho => Nat.add_le_add_right (le_sum_map_of_mem nodesOp ho) _
  refine graphBoundUncached_arith ?_ (sum_map_le_mul fun o ho => ?_) (sum_map_le_mul fun o ho => ?_)
  · refine Nat.le_trans (cyclesWork_le (fragDefs d) (maxFs (fragDefs d)) (docNodes d) hS) ?_
    have := Nat.mul_le_mul_left (fragDefs d).length (Nat.add_le_add_left hX 1)
    unfold cyclesBound
    omega
  · have h1 := rrfSteps_uncached_le d o
    have h2 := hop o ho
    omega
  · have h1 := rrfSteps_uncached_le d o
    have h2 := hop o ho
    have h3 := closure_traversals_le s d o
    have h4 := closure_usages_le s d o
    have h5 := fragUsages_le_fragNodes s d
    have h6 := varUsagesOp_le s o
    have h7 := vars_le_nodesOp o
    rw [recursiveUsages_length]
    unfold recUsagesWork vuCostOp
    omega

/-- the code as it is. One pass over the document (`4N`), the cycle rule, and per
operation only the pops of its closure (≤ 3F), the spread LISTS scanned (≤ S = spread nodes of the document) and the
usage LISTS concatenated and looped over by three rules (≤ 4U, U = variable usages of the document):
work ≤ `4N + O·(6 + 3F + S + 4U)` + cycles. What the caches buy: the per-operation term counts list entries (S, U)
instead of AST nodes (21·N per operation without them). -/
theorem graph_rules_work_cached (s : Schema) (d : Document) :
    graphWorkCached s d ≤ graphBoundCached (nOps d) (nFragDefs d) (docNodes d) (docSpreads d) (docUsages s d) := by
  have hU : ∀ o, o ∈ opDefs d → (recursiveUsages s (fragDefs d) o).length ≤ docUsages s d := by
    intro o ho
    rw [recursiveUsages_length]
    exact Nat.add_le_add (le_sum_map_of_mem (fun o => (varUsagesOp s o).length) ho) (closure_usages_le s d o)
  refine graphBoundCached_arith (hN := rfl) (ha := ?_) (hb := ?_) (hg := sum_map_mul_left 2 nodesOp _)
    (hh := sum_map_mul_left 2 nodesFrag _)
    (hc := cyclesWork_le (fragDefs d) 1 (docSpreads d) (maxSpreads_le_docSpreads d)) (he := ?_) (hf := ?_)
  · exact sum_map_le_sum_map fun o _ => Nat.le_trans (fsSteps_le_nodes o.sel) (nodesSet_le_op o)
  · exact sum_map_le_sum_map fun f _ => Nat.le_trans (fsSteps_le_nodes f.sel) (nodesSet_le_frag f)
  · refine sum_map_le_mul fun o ho => ?_
    have a := rrfSteps_cached_le d o
    have b := hU o ho
    have c := rrf_length_le (fragDefs d) o.sel
    have e : nSpreadsSet o.sel + ((fragDefs d).map (fun f => nSpreadsSet f.sel)).sum ≤ docSpreads d :=
      Nat.add_le_add_right (le_sum_map_of_mem (fun o => nSpreadsSet o.sel) ho) _
    omega
  · refine sum_map_le_mul_add fun o ho => ?_
    have b := hU o ho
    have c := vars_le_nodesOp o
    omega

/-- the list sizes are themselves at most the document size -/
theorem list_sizes_le_docNodes (s : Schema) (d : Document) :
    docSpreads d ≤ docNodes d ∧ docUsages s d ≤ docNodes d ∧ nFragDefs d ≤ docNodes d ∧ nOps d ≤ docNodes d := by
  refine ⟨docSpreads_le_docNodes d, docUsages_le_docNodes s d, ?_, ?_⟩
  · have h : nFragDefs d ≤ fragNodes d := length_le_sum_map fun f _ => by unfold nodesFrag; omega
    exact Nat.le_trans h (Nat.le_add_left _ _)
  · have h : nOps d ≤ opNodes d := length_le_sum_map fun o _ => by unfold nodesOp; omega
    exact Nat.le_trans h (Nat.le_add_right _ _)

end GqlModel.Validate.Graph

/-! ## Possible-type tables: planning asks for none, validation for at most two per visited selection

`Schema.PossibleTypes(abstract)` hands out the table of object types of an interface / union (verif site
`VerifSitePossibleTypesEnumerated` adds its length). PLANNING decides type conditions by `Schema.IsPossibleType`, a lookup in
the map built with the schema: the cost model consults `Ctx.applies` once per fragment and its counters do not depend on
the implementers (`plan_cost_indep_of_possible_types`); the harness asserts that EVERY step counter of `PlanQuery` and of the
lazily planned sub-selections of `ExecutePlan`, that site included, is exactly equal for 4 … 20000 implementers.
VALIDATION legitimately enumerates (PossibleFragmentSpreads' `doTypesOverlap`, FieldsOnCorrectType's suggestions): -/
namespace GqlModel.Validate

/-- one `ValidateDocument` asks for possible-type tables with at most
`2 · maxPossible · (fields + spreads + inline fragments visited)` entries in total — polynomial in document size ×
possible types, NOT independent of the number of implementers (and the harness compares the real counter with
`ptValidation` exactly). -/
theorem validation_possible_type_tables (s : Schema) (d : Document) :
    ptValidation s d ≤ 2 * maxPossible s * nSelectionItems s d := by
  unfold ptValidation nSelectionItems
  generalize items s d = l
  induction l with
  | nil => simp
  | cons it rest ih =>
    simp only [List.map_cons, List.sum_cons, List.filter_cons]
    have hi := itemTables_le s d it
    cases hk : it.isSelection with
    | true =>
      simp only [if_true, List.length_cons, Nat.mul_succ]
      omega
    | false =>
      have hz := itemTables_zero s d it hk
      simp only [Bool.false_eq_true, if_false]
      omega

end GqlModel.Validate

/-! ## Validation: the visitor-driven local rules — one traversal, a bounded number of callbacks

`ValidateDocument` runs all rules as sub-visitors of ONE `VisitInParallel` traversal (validator.go `VisitUsingRules`).
On C14's model of `visitor.Visit` / `VisitInParallel` (its correspondence with /repo is C14's check): -/
namespace GqlModel.Visitor

theorem zipWith_countV (pols : List Policy) (root : Node) :
    List.zipWith (fun v st => ((walk v root st).1, markOf (walk v root st).2)) (pols.map countV) (pols.map (fun _ => 0)) =
      pols.map (fun p => ((walk (countV p) root 0).1, markOf (walk (countV p) root 0).2)) := by
  rw [List.zipWith_map, List.zipWith_self]

/-- for every tree with distinct node identities and every list of `k` rules — each
abstracted to "counts its callbacks, decides continue / skip / break by an arbitrary policy" — the ONE traversal that
`VisitInParallel` drives makes at most `2 · nodes · k` rule callbacks in total (exactly that many when no rule skips
or breaks: `walk_count_allCont`). Reuses `parallel_projection` (C14); the per-callback work of a rule is a constant
number of schema lookups (`TypeInfo`), outside this count. -/
theorem local_rules_callbacks (pols : List Policy) (root : Node) (hnd : root.pre.Nodup) :
    (((walk (parallel (pols.map countV)) root (pols.map (fun _ => ((0 : Nat), Mark.active)))).1).map (·.1)).sum
      ≤ 2 * root.pre.length * pols.length := by
  have h := parallel_projection (pols.map countV) (pols.map (fun _ => (0 : Nat))) root (by simp) hnd
  simp only [List.map_map, Function.comp_def] at h
  rw [h, zipWith_countV]
  simp only [List.map_map, Function.comp_def]
  have := sum_map_le_mul (g := fun p => (walk (countV p) root 0).1) (l := pols) (fun p _ => walk_count_le p root)
  rw [Nat.mul_comm] at this
  exact this

/-- the number of rules, from the table regenerated from /repo's `SpecifiedRules` on every run -/
theorem specified_rules_count : Generated.specifiedRules.length = 24 := by decide

end GqlModel.Visitor

namespace GqlModel.Cost

/-! ## Non-vacuity -/

private def L : Loc := Loc.none
private def nm (s : String) : Name := ⟨s, L⟩
private def fld (n : String) (sub : Option SelectionSet := none) (alias : Option String := none) : Selection :=
  .field (alias.map nm) (nm n) [] [] sub L
private def sp (n : String) : Selection := .spread (nm n) [] L
private def sset (l : List Selection) : SelectionSet := .mk l L

/-- `type Q implements I { q: Q  i: I  leaf: String }  interface I { leaf: String }  type T implements I {…}` -/
def exSchema : Schema :=
  { types := [ .scalar "String" .string "",
               .interface "I" [⟨"leaf", .named "String", [], "", ""⟩] true "",
               .object "Q" ["I"] [⟨"q", .named "Q", [], "", ""⟩, ⟨"i", .named "I", [], "", ""⟩, ⟨"leaf", .named "String", [], "", ""⟩] false "",
               .object "T" ["I"] [⟨"leaf", .named "String", [], "", ""⟩] false "" ],
    query := "Q", mutation := none, subscription := none, directives := [] }

/-- the D-19a family at n = 2, made CYCLIC (F1 spreads F0 again):
`{ ...F0 } fragment F0 on Q { x: q { ...F1 } y: q { ...F1 } } fragment F1 on Q { x: q { ...F0 } y: q { ...F0 } leaf }` -/
def exDoc : Document :=
  { defs := [ .operation .query none [] [] (sset [sp "F0"]) L,
              .fragment (nm "F0") (.named "Q" L) [] (sset [fld "q" (some (sset [sp "F1"])) (some "x"), fld "q" (some (sset [sp "F1"])) (some "y")]) L,
              .fragment (nm "F1") (.named "Q" L) [] (sset [fld "q" (some (sset [sp "F0"])) (some "x"), fld "q" (some (sset [sp "F0"])) (some "y"), fld "leaf"]) L ],
    loc := L }

/-- a world that descends three levels along `x` and completes `y` once -/
def exWorld : World :=
  .node (.cons "x" "Q" (.node (.cons "x" "Q" (.node (.cons "x" "Q" (.node .nil) .nil)) (.cons "y" "Q" (.node .nil) .nil))) .nil)

example : planCost exSchema exDoc "" = ⟨2, 0⟩ := by decide +kernel
example : topLevelSize exSchema exDoc "" = 3 := by decide +kernel
example : docSets exDoc = 7 := by decide +kernel
/-- the third level of `x` is not planned: below `F0 → x → F1 → x` the spread of `F0` is on the chain (descent-path guard) -/
example : execPlanCost exSchema exDoc "" [] exWorld = ⟨6, 3⟩ := by decide +kernel
example : (execPlan exSchema exDoc "" [] exWorld).oof = false := by decide +kernel
example : (execPlan exSchema exDoc "" [] exWorld).log.map (·.id) =
    [[("x", "Q"), ("y", "Q")], [("x", "Q"), ("x", "Q")], [("x", "Q")]] := by
  decide +kernel
/-- implementers do not matter: sixteen more implementers of `I`, same plan counters (instance of the theorem) -/
example : planCost (extend exSchema ((List.range 16).map (fun i => .object s!"T{i}" ["I"] [] false ""))) exDoc ""
    = planCost exSchema exDoc "" := by decide +kernel
/-- the hypotheses of `lazy_plans_only_encountered_types` are satisfiable -/
example : ∃ root ss, selectOp exSchema exDoc "" = .ok (root, ss) := ⟨_, _, rfl⟩

end GqlModel.Cost

namespace GqlModel.Validate.Overlap
private def onm (s : String) : Name := ⟨s, ⟨0, 0⟩⟩

/-- `{ a: leaf  a: q { leaf }  ...F }  fragment F on Q { a: q { leaf ...F } }` with the byte positions a parser assigns
(distinct selection-set locations); `F` spreads itself below a field, so the document is invalid — the bound holds anyway -/
def ovDoc : Document :=
  { defs := [ .operation .query none [] []
                (.mk [.field (some (onm "a")) (onm "leaf") [] [] none ⟨2, 3⟩,
                      .field (some (onm "a")) (onm "q") [] []
                        (some (.mk [.field none (onm "leaf") [] [] none ⟨12, 13⟩] ⟨10, 14⟩)) ⟨5, 14⟩,
                      .spread (onm "F") [] ⟨16, 20⟩] ⟨0, 22⟩) ⟨0, 22⟩,
              .fragment (onm "F") (.named "Q" ⟨40, 41⟩) []
                (.mk [.field (some (onm "a")) (onm "q") [] []
                        (some (.mk [.field none (onm "leaf") [] [] none ⟨52, 53⟩, .spread (onm "F") [] ⟨54, 58⟩] ⟨50, 60⟩))
                        ⟨45, 60⟩] ⟨43, 62⟩) ⟨30, 62⟩ ],
    loc := ⟨0, 62⟩ }

/-- the hypothesis of `overlap_cost_poly` is satisfiable, and the bound is not vacuous on it -/
example : locsDistinct ovDoc = true := by decide +kernel
example : (overlapM GqlModel.Cost.exSchema ovDoc).1.nFC = 4 := by decide +kernel
example : overlapBound ovDoc = 350 ∧ docSize ovDoc = 11 := by decide +kernel

open GqlModel.Validate.Graph in
/-- graph rules on the same (cyclic) document: one `detectCycleRecursive` call, one loop iteration, one error of path
length 1; work 82 with the caches (bound 131), 232 without (bound 713) -/
example : (cycleRunC (fragDefs ovDoc)).2 = ⟨1, 1, 1⟩ ∧ (cycleRunC (fragDefs ovDoc)).1.errs.length = 1 := by decide +kernel
open GqlModel.Validate.Graph in
example : graphWorkCached GqlModel.Cost.exSchema ovDoc = 82 ∧
    graphBoundCached (nOps ovDoc) (nFragDefs ovDoc) (docNodes ovDoc) (docSpreads ovDoc) (docUsages GqlModel.Cost.exSchema ovDoc) = 131 := by
  decide +kernel
open GqlModel.Validate.Graph in
example : graphWorkUncached GqlModel.Cost.exSchema ovDoc = 232 ∧
    graphBoundUncached (nOps ovDoc) (nFragDefs ovDoc) (docNodes ovDoc) = 713 := by decide +kernel
end GqlModel.Validate.Overlap
