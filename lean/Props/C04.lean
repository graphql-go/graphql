import GqlProofs.ExecCheckerComplete
import GqlProofs.ExecExample
import GqlProofs.ExecMix
/-! # C04 — Responses are well-formed for schema and query whatever resolvers return

Property theorems only. The theorems are about `GqlModel.Exec.execute` (the execution algorithm as this library
realises it; `GqlModel/Exec.lean`) and hold for EVERY schema, document, operation name, variable input, resolver
world (any assignment of value / nil / typed nil / NaN / wrong kind / error / thunk / failing thunk outcomes, any
`isTypeOf` / `resolveType` answers) and every fuel; the only premise on fuel is that the response is a `.result`
(not `.fuelOut`). `Conforms` (spec) and `conformsB` (checker run on the REAL executor's output by the driver) are in
`GqlModel/Conforms.lean`. -/
namespace GqlModel.Exec
open GqlModel.Coerce

/-- C04 core: whatever the resolvers return, the data of a response conforms to schema and query: only selected
response keys (of the collected root selection; below it of the merged sub-selection for the position's object
type / one possible type of an abstract position), every leaf a legal serialisation or null, list positions lists or
null, non-null positions never null. -/
theorem response_conforms (s : Schema) (doc : Document) (opName : String) (inputs : Vars) (w : World) (fuel : Nat)
    (data : List (String × JVal)) (errs : List (Path × Bool)) (log : List LogEntry) (kf : List Path)
    (h : execute s doc opName inputs w fuel = .result (some data) errs log kf) :
    ∃ c root sel, requestCtx s doc opName inputs w = some (c, root, sel) ∧
      FieldsConform c root (rootGroups c root sel) data := by
  obtain ⟨c, root, sel, st, hc, hrun, -, -⟩ := execute_result_some h
  exact ⟨c, root, sel, hc, execGroups_conforms hrun (hsub := fun g hg => hg) (hacc := nofun)⟩

/-- the same at every position: a value the algorithm completes for type `t` conforms to `t` -/
theorem completed_value_conforms (c : Ctx) (fuel : Nat) (dfr : Bool) (t : GType) (rt fname : String)
    (nodes : List FieldNode) (p : Path) (v : GoVal) (st st' : St) (j : JVal)
    (h : complete c fuel dfr t rt fname nodes p v st = (.ok j, st')) : Conforms c t nodes j :=
  (confP c fuel).complete _ _ _ _ _ _ _ _ _ _ h

/-- a non-null position is never null (by definition of `Conforms`; with `response_conforms`: at every depth) -/
theorem nonnull_never_null (c : Ctx) (t : GType) (nodes : List FieldNode) (v : JVal)
    (h : Conforms c (.nonNull t) nodes v) : v ≠ .null := by
  cases h with
  | nonNull hv _ => exact hv

/-- a list position holds a list or null -/
theorem list_position_list_or_null (c : Ctx) (t : GType) (nodes : List FieldNode) (v : JVal)
    (h : Conforms c (.list t) nodes v) : v = .null ∨ ∃ xs, v = .list xs ∧ ∀ x, x ∈ xs → Conforms c t nodes x := by
  cases h with
  | listNull => exact Or.inl rfl
  | list hx => exact Or.inr ⟨_, rfl, hx⟩

/-- a leaf position holds null or a legal serialisation -/
theorem leaf_position_legal (c : Ctx) (n : String) (nodes : List FieldNode) (v : JVal)
    (hl : c.schema.isLeaf n = true) (h : Conforms c (.named n) nodes v) : v = .null ∨ legalLeaf c.schema n v = true := by
  cases h with
  | null => exact Or.inl rfl
  | leaf _ h2 => exact Or.inr h2
  | object ho _ => rw [isLeaf_not_object hl] at ho; cases ho
  | abstract ha _ _ _ => rw [isLeaf_not_abstract hl] at ha; cases ha

/-- the checker the driver runs on the real executor's data is sound for the specification -/
theorem checker_sound (s : Schema) (doc : Document) (opName : String) (inputs : Vars) (w : World)
    (data : List (String × JVal)) (h : conformsData s doc opName inputs w data = true) :
    ∃ c root sel, requestCtx s doc opName inputs w = some (c, root, sel) ∧
      FieldsConform c root (rootGroups c root sel) data :=
  conformsData_sound s doc opName inputs w data h

/-- …and complete with the fuel the driver uses: the checker's verdict on the real executor's data IS `FieldsConform`
(for the request's context) — a `false` verdict means the data does not conform. -/
theorem checker_iff (s : Schema) (doc : Document) (opName : String) (inputs : Vars) (w : World)
    (data : List (String × JVal)) (c : Ctx) (root : String) (sel : SelectionSet)
    (hc : requestCtx s doc opName inputs w = some (c, root, sel)) :
    conformsData s doc opName inputs w data = true ↔ FieldsConform c root (rootGroups c root sel) data := by
  constructor
  · intro h
    obtain ⟨c', root', sel', hc', hf⟩ := conformsData_sound s doc opName inputs w data h
    cases hc.symm.trans hc'
    exact hf
  · exact conformsData_complete s doc opName inputs w data c root sel hc

/-- data holds exactly the selected response keys whose field the root type defines, in the order of the groups -/
theorem data_keys_are_selected_keys (s : Schema) (doc : Document) (opName : String) (inputs : Vars) (w : World) (fuel : Nat)
    (data : List (String × JVal)) (errs : List (Path × Bool)) (log : List LogEntry) (kf : List Path)
    (h : execute s doc opName inputs w fuel = .result (some data) errs log kf) :
    ∃ c root sel, requestCtx s doc opName inputs w = some (c, root, sel) ∧
      data.map (·.1) = ((rootGroups c root sel).filter (resolvable c root)).map (·.1) := by
  obtain ⟨c, root, sel, st, hc, hrun, -, -⟩ := execute_result_some h
  exact ⟨c, root, sel, hc, execGroups_ok_keys hrun⟩

/-- Errors recorded earlier are kept (and so are log entries): every call of the four functions of the algorithm only
PREPENDS to the error list and to the invocation log of the state it was given. -/
theorem errors_only_grow (c : Ctx) (fuel : Nat) :
    (∀ dfr rt src path groups acc st r st', execGroups c fuel dfr rt src path groups acc st = (r, st') →
      st.errs <:+ st'.errs ∧ st.log <:+ st'.log) ∧
    (∀ dfr rt src p fd nodes st r st', execField c fuel dfr rt src p fd nodes st = (r, st') →
      st.errs <:+ st'.errs ∧ st.log <:+ st'.log) ∧
    (∀ dfr t rt fname nodes p v st r st', complete c fuel dfr t rt fname nodes p v st = (r, st') →
      st.errs <:+ st'.errs ∧ st.log <:+ st'.log) ∧
    (∀ dfr item rt fname nodes p xs i acc st r st',
      completeItems c fuel dfr item rt fname nodes p xs i acc st = (r, st') →
      st.errs <:+ st'.errs ∧ st.log <:+ st'.log) :=
  ⟨fun _ _ _ _ _ _ _ _ _ => St.grows_of_frame ((stP c fuel).groups ..),
    fun _ _ _ _ _ _ _ _ _ => St.grows_of_frame ((stP c fuel).field ..),
    fun _ _ _ _ _ _ _ _ _ _ => St.grows_of_frame ((stP c fuel).complete ..),
    fun _ _ _ _ _ _ _ _ _ _ _ _ => St.grows_of_frame ((stP c fuel).items ..)⟩

/-- A field whose resolver fails (error return, value together with an error, panic) contributes `null` — never a
value — and exactly one error, carrying exactly the field's response path; the failure propagates (`fail`) iff the
field's type is non-null. -/
theorem failed_field_is_null_with_error_path (c : Ctx) (fuel : Nat) (dfr : Bool) (rt : String) (src : GoVal) (p : Path)
    (fd : FieldDefS) (nodes : List FieldNode) (st st' : St) (r : Res JVal)
    (hn : fd.name ≠ "__typename") (hfail : c.world.outcome src fd.name = .fail)
    (h : execField c (fuel + 1) dfr rt src p fd nodes st = (r, st')) :
    st'.errs = (p, dfr) :: st.errs ∧
      ((fd.type.isNonNull = true ∧ r = .fail) ∨ (fd.type.isNonNull = false ∧ r = .ok .null)) := by
  cases FieldStep.of_eq h with
  | typename hn' => exact absurd (beq_iff_eq.mp hn') hn
  | resolverFails => exact ⟨rfl, absorb_fail_cases fd.type⟩
  | value _ hv => rw [hfail] at hv; cases hv

/-- A field whose value cannot be completed (wrong kind for a list / object / leaf position, null under non-null, failing
thunk, non-possible runtime type, `isTypeOf` says no, a failure propagated from below) contributes `null` or
propagates; in both cases at least one new error was recorded, and every new error lies at or below the field's path.
(`st0` is the state after the invocation has been logged.) -/
theorem failed_completion_is_null_with_error (c : Ctx) (fuel : Nat) (dfr : Bool) (rt : String) (src : GoVal) (p : Path)
    (fd : FieldDefS) (nodes : List FieldNode) (st st' : St) (r : Res JVal) (v : GoVal)
    (hn : fd.name ≠ "__typename") (hv : c.world.outcome src fd.name = .value v)
    (h : execField c (fuel + 1) dfr rt src p fd nodes st = (r, st')) :
    ∃ st0 r1 st1, st0.errs = st.errs ∧ complete c fuel dfr fd.type rt fd.name nodes p v st0 = (r1, st1) ∧
      (∀ j, r1 = .ok j → r = .ok j ∧ st' = st1) ∧
      (r1 = .fail →
        ((fd.type.isNonNull = true ∧ r = .fail) ∨ (fd.type.isNonNull = false ∧ r = .ok .null)) ∧
        ∃ new, new ≠ [] ∧ st'.errs = new ++ st.errs ∧ ∀ e, e ∈ new → p <+: e.1) := by
  cases FieldStep.of_eq h with
  | typename hn' => exact absurd (beq_iff_eq.mp hn') hn
  | resolverFails _ hfail => rw [hv] at hfail; cases hfail
  | @value _ r1 _ _ hv' hc =>
    cases hv.symm.trans hv'
    refine ⟨logCall (callEntry c dfr rt src p fd nodes) st, r1, st', rfl, hc, ?_, fun hr => ?_⟩
    · intro j hj; subst hj; exact ⟨rfl, rfl⟩
    subst hr
    obtain ⟨new, hl, hfail, -⟩ := (errP c fuel).complete _ _ _ _ _ _ _ _ _ _ hc
    obtain ⟨hne, hall⟩ := hfail rfl
    exact ⟨absorb_fail_cases fd.type, new, hne, hl, hall⟩

/-- Response level: every error of a response with data addresses a `null`: some prefix of the error's path is a
position of `data` that holds `null` (the failed field itself, or the nearest nullable ancestor the null moved to). -/
theorem errors_address_nulls (s : Schema) (doc : Document) (opName : String) (inputs : Vars) (w : World) (fuel : Nat)
    (data : List (String × JVal)) (errs : List (Path × Bool)) (log : List LogEntry) (kf : List Path)
    (h : execute s doc opName inputs w fuel = .result (some data) errs log kf) :
    ∀ e, e ∈ errs → ∃ rel, rel <+: e.1 ∧ ValAt (.obj data) rel .null := by
  obtain ⟨c, root, sel, st, -, hrun, herrs, -⟩ := execute_result_some h
  obtain ⟨new, hl, -, hok⟩ := (errP c fuel).groups _ _ _ _ _ _ _ _ _ hrun
  intro e he
  rw [herrs, List.mem_reverse, hl] at he
  simp only [St.empty, List.append_nil] at he
  obtain ⟨k, x, hkx, rel, hp, hv⟩ := (hok data rfl).2 e he
  exact ⟨.key k :: rel, by simpa using hp, .key hkx hv⟩

/-- `data` is absent iff the root selection set failed… -/
theorem data_none_iff_root_failure (s : Schema) (doc : Document) (opName : String) (inputs : Vars) (w : World) (fuel : Nat)
    (data : Option (List (String × JVal))) (errs : List (Path × Bool)) (log : List LogEntry) (kf : List Path)
    (h : execute s doc opName inputs w fuel = .result data errs log kf) :
    ∃ c root sel, requestCtx s doc opName inputs w = some (c, root, sel) ∧
      (data = none ↔
        (execGroups c fuel false root .nil [] (rootGroups c root sel) [] St.empty).1 = .fail) := by
  obtain ⟨c, root, sel, r, st, hc, hr, -, -, -, hd⟩ := execute_result h
  refine ⟨c, root, sel, hc, ?_⟩
  rw [hr]
  rcases hd with ⟨fs, rfl, rfl⟩ | ⟨rfl, rfl⟩ <;> simp

/-- …and that happens only when the null had nowhere else to go: a top-level field of NON-NULL type failed (its resolver
or its completion, possibly a failure propagated from a non-null chain below it), and the last error of the response
lies at or below that field. -/
theorem data_none_has_nonnull_root_cause (s : Schema) (doc : Document) (opName : String) (inputs : Vars) (w : World)
    (fuel : Nat) (errs : List (Path × Bool)) (log : List LogEntry) (kf : List Path)
    (h : execute s doc opName inputs w fuel = .result none errs log kf) :
    ∃ c root sel, requestCtx s doc opName inputs w = some (c, root, sel) ∧
      ∃ k nodes node fd q d, (k, nodes) ∈ rootGroups c root sel ∧ nodes.head? = some node ∧
        fieldDef? c.schema root node.name = some fd ∧ fd.type.isNonNull = true ∧
        errs.getLast? = some (q, d) ∧ [PathSeg.key k] <+: q := by
  obtain ⟨c, root, sel, r, st, hc, hr, herrs, -, -, hd⟩ := execute_result h
  refine ⟨c, root, sel, hc, ?_⟩
  rcases hd with ⟨fs, -, hfs⟩ | ⟨rfl, -⟩
  · cases hfs
  · obtain ⟨k, nodes, node, fd, q, d, h1, h2, h3, h4, h5, h6⟩ := execGroups_fail_cause hr
    refine ⟨k, nodes, node, fd, q, d, h1, h2, h3, h4, ?_, by simpa using h6⟩
    rw [herrs, List.getLast?_reverse]; exact h5

/-- The state (errors, log) is write-only: what the four functions return and what they append does not depend on the
state they are given — so nothing a field records (in particular no failure) can influence a later field. -/
theorem result_independent_of_recorded_state (c : Ctx) (fuel : Nat) :
    (∀ dfr rt src path groups acc, ∃ r d, ∀ st, execGroups c fuel dfr rt src path groups acc st = (r, St.app d st)) ∧
    (∀ dfr rt src p fd nodes, ∃ r d, ∀ st, execField c fuel dfr rt src p fd nodes st = (r, St.app d st)) ∧
    (∀ dfr t rt fname nodes p v, ∃ r d, ∀ st, complete c fuel dfr t rt fname nodes p v st = (r, St.app d st)) ∧
    (∀ dfr item rt fname nodes p xs i acc, ∃ r d, ∀ st,
      completeItems c fuel dfr item rt fname nodes p xs i acc st = (r, St.app d st)) :=
  ⟨(stP c fuel).groups, (stP c fuel).field, (stP c fuel).complete, (stP c fuel).items⟩

/-- No failure in one field alters the value of a sibling: in a selection set that yields an object, the value under
each response key is exactly what executing THAT field on its own yields (from any state, i.e. whatever the siblings
did, failed at or recorded). The only way a failure reaches a sibling is by propagation, which nulls the whole object
(the selection set then yields no object at all). -/
theorem sibling_unaffected_by_failures (c : Ctx) (fuel : Nat) (dfr : Bool) (rt : String) (src : GoVal) (path : Path)
    (groups : Groups) (acc : List (String × JVal)) (st st' : St) (fs : List (String × JVal))
    (h : execGroups c fuel dfr rt src path groups acc st = (.ok fs, st'))
    (k : String) (nodes : List FieldNode) (node : FieldNode) (fd : FieldDefS)
    (hm : (k, nodes) ∈ groups) (hnode : nodes.head? = some node) (hfd : fieldDef? c.schema rt node.name = some fd) :
    ∃ v, (k, v) ∈ fs ∧ ∀ st0, (execField c fuel dfr rt src (path ++ [.key k]) fd nodes st0).1 = .ok v :=
  execGroups_selected_values c fuel dfr rt src path groups acc st fs st' h k nodes node fd hm hnode hfd

/-! C04, "no failure in one field alters the value of a sibling outside the nulled subtree", two-world form: worlds
`w₁ w₂` with `AgreeExcept w₁ w₂ id₀ f₀` (same answers to every type question, same outcome of every resolver except
`(id₀, f₀)`), the first execution invoking `(id₀, f₀)` only at response position `p`. -/

/-- A call of any of the four functions that (in the first world) never invokes the differing resolver returns the same
result and leaves the same state in the second world. -/
theorem untouched_call_same_in_both_worlds (c : Ctx) (w2 : World) (id0 : Nat) (f0 : String)
    (ha : AgreeExcept c.world w2 id0 f0) (fuel : Nat) :
    (∀ dfr rt src path groups acc st r st', execGroups c fuel dfr rt src path groups acc st = (r, st') →
      (∀ e, e ∈ st'.log → ¬ Touches id0 f0 e) →
      execGroups (c.withWorld w2) fuel dfr rt src path groups acc st = (r, st')) ∧
    (∀ dfr rt src p fd nodes st r st', execField c fuel dfr rt src p fd nodes st = (r, st') →
      (∀ e, e ∈ st'.log → ¬ Touches id0 f0 e) →
      execField (c.withWorld w2) fuel dfr rt src p fd nodes st = (r, st')) ∧
    (∀ dfr t rt fname nodes p v st r st', complete c fuel dfr t rt fname nodes p v st = (r, st') →
      (∀ e, e ∈ st'.log → ¬ Touches id0 f0 e) →
      complete (c.withWorld w2) fuel dfr t rt fname nodes p v st = (r, st')) :=
  ⟨(wP ha fuel).groups, (wP ha fuel).field, (wP ha fuel).complete⟩

/-- Two-world sibling independence at one selection set (any depth): if it yields an object in both worlds, then under
every response key whose field's own execution in the first world never invokes the differing resolver, both objects
hold the same value. -/
theorem sibling_unaffected_two_worlds_local (c : Ctx) (w2 : World) (id0 : Nat) (f0 : String)
    (ha : AgreeExcept c.world w2 id0 f0) (fuel : Nat) (dfr : Bool) (rt : String) (src : GoVal)
    (path : Path) (groups : Groups) (st1 st2 st1' st2' : St) (fs1 fs2 : List (String × JVal))
    (hn : groups.keys.Nodup)
    (h1 : execGroups c fuel dfr rt src path groups [] st1 = (.ok fs1, st1'))
    (h2 : execGroups (c.withWorld w2) fuel dfr rt src path groups [] st2 = (.ok fs2, st2'))
    (k : String) (nodes : List FieldNode) (node : FieldNode) (fd : FieldDefS)
    (hm : (k, nodes) ∈ groups) (hnode : nodes.head? = some node) (hfd : fieldDef? c.schema rt node.name = some fd)
    (hnt : ∀ e, e ∈ (execField c fuel dfr rt src (path ++ [.key k]) fd nodes St.empty).2.log → ¬ Touches id0 f0 e) :
    ∀ v, (k, v) ∈ fs1 ↔ (k, v) ∈ fs2 :=
  execGroups_two_worlds ha fuel dfr rt src path groups st1 st2 st1' st2' fs1 fs2 hn h1 h2 k nodes node fd hm hnode hfd hnt

/-- Response level (partial form of the two-world statement, top-level keys): two worlds that agree except on the
outcome of ONE resolver `(object id₀, field f₀)`, which the first execution invokes only at response position `p`; if
both responses have data, they hold the same value under every top-level response key that does not lead to `p`. -/
theorem sibling_unaffected_two_worlds_partial (s : Schema) (doc : Document) (opName : String) (inputs : Vars)
    (w1 w2 : World) (id0 : Nat) (f0 : String) (ha : AgreeExcept w1 w2 id0 f0) (fuel : Nat)
    (d1 d2 : List (String × JVal)) (e1 e2 : List (Path × Bool)) (log1 log2 : List LogEntry) (kf1 kf2 : List Path)
    (h1 : execute s doc opName inputs w1 fuel = .result (some d1) e1 log1 kf1)
    (h2 : execute s doc opName inputs w2 fuel = .result (some d2) e2 log2 kf2)
    (p : Path) (hp : ∀ e, e ∈ log1 → Touches id0 f0 e → e.path = p)
    (k : String) (hk : ¬ [PathSeg.key k] <+: p) :
    ∀ v, (k, v) ∈ d1 ↔ (k, v) ∈ d2 := by
  obtain ⟨c, root, sel, st1, st2, rfl, hnd, hr1, hr2, -, hlog1, -, -⟩ := execute_result_two_worlds_some h1 h2
  have hkeys1 := execGroups_ok_keys hr1
  have hkeys2 := execGroups_ok_keys hr2
  -- is `k` a resolvable group at all?
  by_cases hres : k ∈ ((rootGroups c root sel).filter (resolvable c root)).map (·.1)
  · obtain ⟨g, hg, rfl⟩ := List.mem_map.mp hres
    obtain ⟨hgm, hgr⟩ := List.mem_filter.mp hg
    obtain ⟨k, nodes⟩ := g
    cases hnode : nodes.head? with
    | none => rw [resolvable, hnode] at hgr; cases hgr
    | some node =>
      cases hfd : fieldDef? c.schema root node.name with
      | none => simp only [resolvable, hnode, hfd] at hgr; cases hgr
      | some fd =>
        refine execGroups_two_worlds ha fuel _ _ _ _ _ _ _ _ _ _ _ hnd hr1 hr2 k nodes node fd hgm hnode hfd ?_
        intro e he ht
        obtain ⟨-, hsub⟩ := execGroups_field_log_subset c fuel _ _ _ _ _ _ _ _ _ hr1 k nodes node fd hgm hnode hfd
        have hpath := hp e (by rw [hlog1, List.mem_reverse]; exact hsub e he) ht
        exact hk (hpath ▸ runField_log_prefix c fuel false root .nil [.key k] fd nodes e he)
  · have hno : ∀ {d : List (String × JVal)} {v : JVal},
        d.map (·.1) = ([] : List (String × JVal)).map (·.1) ++
          ((rootGroups c root sel).filter (resolvable c root)).map (·.1) → (k, v) ∉ d := by
      intro d v hd hv
      have hk : k ∈ d.map (·.1) := List.mem_map.mpr ⟨_, hv, rfl⟩
      rw [hd] at hk
      exact hres hk
    exact fun v => ⟨fun hv => absurd hv (hno hkeys1), fun hv => absurd hv (hno hkeys2)⟩

/-- FULL DEPTH, response level. Two worlds that agree on everything except the outcome of ONE resolver
`(object id₀, field f₀)`, which the first execution invokes only at response position `p`; both responses have data.
Then there is a position `q` on the way to `p` (`q <+: p`) — `p` itself, or a position that holds `null` in one of the
responses (the ancestor the null of a failure at/below `p` moved to) — such that

* the two data trees hold the same value at EVERY response path that is neither an extension nor a prefix of `q`
  (`getAt`, `none = none` where the path addresses nothing; prefixes of `q` are the enclosing containers of `q`, which
  necessarily differ as whole values),
* the error lists restricted to paths not at or below `q` coincide (same errors, same order),
* the resolver invocation logs restricted to paths not at or below `q` coincide: outside `q` the two executions ran in
  lockstep.

Proof: the two responses are a pair of runs related by `Sim2` (`execute_two_worlds_sim2`, from `sim2P`: one induction
over the four functions for both paired invariants), read at the root by `Sim2.nulled_ancestor`
(`GqlProofs/ExecMix.lean`). -/
theorem sibling_unaffected_two_worlds (s : Schema) (doc : Document) (opName : String) (inputs : Vars)
    (w1 w2 : World) (id0 : Nat) (f0 : String) (ha : AgreeExcept w1 w2 id0 f0) (fuel : Nat)
    (d1 d2 : List (String × JVal)) (e1 e2 : List (Path × Bool)) (log1 log2 : List LogEntry) (kf1 kf2 : List Path)
    (h1 : execute s doc opName inputs w1 fuel = .result (some d1) e1 log1 kf1)
    (h2 : execute s doc opName inputs w2 fuel = .result (some d2) e2 log2 kf2)
    (p : Path) (hp : ∀ e, e ∈ log1 → Touches id0 f0 e → e.path = p) :
    ∃ q, q <+: p ∧
      (q = p ∨ (JVal.obj d1).getAt q = some .null ∨ (JVal.obj d2).getAt q = some .null) ∧
      (∀ r, ¬ q <+: r → ¬ r <+: q → (JVal.obj d1).getAt r = (JVal.obj d2).getAt r) ∧
      errsOutside q e1 = errsOutside q e2 ∧ logOutside q log1 = logOutside q log2 := by
  obtain ⟨x, y, hs, hx, hy, rfl, rfl, rfl, rfl⟩ := execute_two_worlds_sim2 ha h1 h2 hp
  obtain ⟨q, hq, -, hnull, hrest⟩ := hs.nulled_ancestor hx hy
  exact ⟨q, hq, hnull, hrest⟩

/-- The same with `q` pinned down: THE NULLED ANCESTOR. Along the way to `p` at most one position holds `null` in either
response, and `q` is that position — every prefix of `p` that holds `null` in either response equals `q`, so `q` is the
longest (and the only) such prefix; `q = p` when there is none (the differing field failed in neither world, or was not
nulled). When the field at `p` failed in one world, `q` is the position its null moved to (its nearest nullable
ancestor, or `p` itself when `p` is nullable). Outside `q` the data trees, the error lists and the invocation logs of the
two responses coincide. (The `Mix` half of `Sim2` and `nulled_ancestor_of_agree_outside` in `GqlProofs/ExecMix.lean`.) -/
theorem sibling_unaffected_outside_nulled_ancestor (s : Schema) (doc : Document) (opName : String) (inputs : Vars)
    (w1 w2 : World) (id0 : Nat) (f0 : String) (ha : AgreeExcept w1 w2 id0 f0) (fuel : Nat)
    (d1 d2 : List (String × JVal)) (e1 e2 : List (Path × Bool)) (log1 log2 : List LogEntry) (kf1 kf2 : List Path)
    (h1 : execute s doc opName inputs w1 fuel = .result (some d1) e1 log1 kf1)
    (h2 : execute s doc opName inputs w2 fuel = .result (some d2) e2 log2 kf2)
    (p : Path) (hp : ∀ e, e ∈ log1 → Touches id0 f0 e → e.path = p) :
    ∃ q, q <+: p ∧
      (∀ r, r <+: p → NullIn (.obj d1) (.obj d2) r → r = q) ∧
      (q = p ∨ NullIn (.obj d1) (.obj d2) q) ∧
      (∀ r, ¬ q <+: r → ¬ r <+: q → (JVal.obj d1).getAt r = (JVal.obj d2).getAt r) ∧
      errsOutside q e1 = errsOutside q e2 ∧ logOutside q log1 = logOutside q log2 := by
  obtain ⟨x, y, hs, hx, hy, rfl, rfl, rfl, rfl⟩ := execute_two_worlds_sim2 ha h1 h2 hp
  exact hs.nulled_ancestor hx hy

/-- …and without the premise that both responses have data (`dataTree`: an absent `data` is the tree `null`, nulled at
the root): whenever the two executions return responses at all, the nulled ancestor `q` exists, is unique, and the two
responses coincide outside it. When `data` is absent in one response, `q` is the root: the other response then holds no
`null` anywhere on the way to `p` (the failure that removed `data` in one world is the one at/below `p`). An absent
`data` is a failure absorbed at the root (`Sim2.absorb`), so this is the same reading of `Sim2` as the two before. -/
theorem sibling_unaffected_outside_nulled_ancestor_total (s : Schema) (doc : Document) (opName : String) (inputs : Vars)
    (w1 w2 : World) (id0 : Nat) (f0 : String) (ha : AgreeExcept w1 w2 id0 f0) (fuel : Nat)
    (data1 data2 : Option (List (String × JVal))) (e1 e2 : List (Path × Bool)) (log1 log2 : List LogEntry)
    (kf1 kf2 : List Path)
    (h1 : execute s doc opName inputs w1 fuel = .result data1 e1 log1 kf1)
    (h2 : execute s doc opName inputs w2 fuel = .result data2 e2 log2 kf2)
    (p : Path) (hp : ∀ e, e ∈ log1 → Touches id0 f0 e → e.path = p) :
    ∃ q, q <+: p ∧
      (∀ r, r <+: p → NullIn (dataTree data1) (dataTree data2) r → r = q) ∧
      (q = p ∨ NullIn (dataTree data1) (dataTree data2) q) ∧
      (∀ r, ¬ q <+: r → ¬ r <+: q → (dataTree data1).getAt r = (dataTree data2).getAt r) ∧
      errsOutside q e1 = errsOutside q e2 ∧ logOutside q log1 = logOutside q log2 := by
  obtain ⟨x, y, hs, hx, hy, rfl, rfl, rfl, rfl⟩ := execute_two_worlds_sim2 ha h1 h2 hp
  exact hs.nulled_ancestor hx hy

/-! ## Non-vacuity: a concrete request (GqlProofs/ExecExample.lean) -/

open Ex in
/-- the hypothesis of `response_conforms` is satisfiable: the example yields data with a nulled list item
(string / out-of-range integer under `[Int]`) and a nulled object (`w`, its non-null `x` failed) -/
example : (obsData (execute schema doc "Q" varsF world 50)).map (fun d => (d.map (·.1), conformsData schema doc "Q" varsF world d))
    = some (["a", "b", "o", "w", "n"], true) := by decide +kernel

open Ex in
example : obsErrs (execute schema doc "Q" varsF world 50) = ["w.x"] := by decide +kernel

open Ex in
/-- the checker is not trivially true: a null in the non-null position `a`, a string under Int, an unselected key -/
example : conformsData schema doc "Q" varsF world [("a", .null)] = false
    ∧ conformsData schema doc "Q" varsF world [("a", .str "7")] = false
    ∧ conformsData schema doc "Q" varsF world [("a", .int 5000000000)] = false
    ∧ conformsData schema doc "Q" varsF world [("zz", .int 1)] = false
    ∧ conformsData schema doc "Q" varsT world [("w", .null)] = false
    ∧ conformsData schema doc "Q" varsF world [("w", .obj [("x", .null)])] = false
    ∧ conformsData schema doc "Q" varsF world [("n", .obj [("__typename", .str "Query")])] = false
    ∧ conformsData schema doc "Q" varsF world [("b", .int 1)] = false
    ∧ conformsData schema doc "Q" varsF world [("b", .list [.int 1, .null]), ("w", .obj [("x", .str "s")])] = true := by
  decide +kernel

open Ex in
/-- `data_none_has_nonnull_root_cause` is not vacuous: the resolver of the non-null top-level field `a` fails ⇒ no data,
one error at `a`, and nothing after `a` was resolved -/
example : (let r := execute schema doc "Q" varsF { world with rootFields := [("a", .fail)] } 50
    ((obsData r).isNone, obsErrs r, obsLog r)) = (true, ["a"], ["a"]) := by decide +kernel

open Ex in
/-- `errors_address_nulls` on the example: the error at `w.x` addresses the null at `w` -/
example : ((obsData (execute schema doc "Q" varsF world 50)).map
    (fun d => (JVal.lookup d "w").map JVal.isNull)) = some (some true) := by decide +kernel

/-- the example world with the outcome of the ONE resolver `(object 1, field x)` changed from a failure to a value -/
def Ex.world2 : World :=
  { Ex.world with objects := [(1, { typeName := "O", fields := [("x", .value (.str "ok")), ("y", .value (.int 2))] })] }

/-- the hypothesis of the two-world theorems is satisfiable: the two example worlds agree except on `(1, x)` -/
example : AgreeExcept Ex.world Ex.world2 1 "x" := by
  refine agreeExcept_of_objects rfl rfl rfl (fun id => ?_) (fun id f h => ?_)
  · simp only [World.obj?, Ex.world, Ex.world2]
    by_cases hid : id = 1
    · subst hid; rfl
    · have : ((1 : Nat) == id) = false := beq_false_of_ne (Ne.symm hid)
      simp only [List.find?, this]
  · simp only [World.outcome, World.obj?, Ex.world, Ex.world2]
    by_cases hid : id = 1
    · subst hid
      have hf : f ≠ "x" := fun hf => h ⟨rfl, hf⟩
      have : ("x" == f) = false := beq_false_of_ne (Ne.symm hf)
      simp [List.find?, this]
    · have : ((1 : Nat) == id) = false := beq_false_of_ne (Ne.symm hid)
      simp only [List.find?, this]

open Ex in
/-- …the resolver is invoked only at `w.x` in the first world, the nearest nullable ancestor of `w.x` is `w`: the two
responses differ under `w` (null vs an object) and agree under every other top-level key -/
example : (let r1 := obsData (execute schema doc "Q" varsF world 50)
           let r2 := obsData (execute schema doc "Q" varsF world2 50)
           (r1.map (fun d => (d.filter (fun kv => kv.1 != "w")).map (fun kv => (kv.1, fmtV kv.2))) ==
              r2.map (fun d => (d.filter (fun kv => kv.1 != "w")).map (fun kv => (kv.1, fmtV kv.2))),
            r1.map (fun d => (JVal.lookup d "w").map fmtV), r2.map (fun d => (JVal.lookup d "w").map fmtV)))
    = (true, some (some "<nil>"), some (some "map[x:ok]")) := by decide +kernel

/-! ### non-vacuity of `sibling_unaffected_two_worlds`: `p = items[1].a` (depth 3, inside a list), nulled ancestor
`q = items[1]` strictly above `p` -/

/-- the two worlds agree except on `(object 2, field a)` -/
example : AgreeExcept Ex.worldTW1 Ex.worldTW2 2 "a" := by
  refine agreeExcept_of_objects rfl rfl rfl (fun id => ?_) (fun id f h => ?_)
  · simp only [World.obj?, Ex.worldTW1, Ex.worldTW2]
    by_cases h1 : id = 1
    · subst h1; rfl
    · by_cases h2 : id = 2
      · subst h2; rfl
      · have e1 : ((1 : Nat) == id) = false := beq_false_of_ne (Ne.symm h1)
        have e2 : ((2 : Nat) == id) = false := beq_false_of_ne (Ne.symm h2)
        simp only [List.find?, e1, e2]
  · simp only [World.outcome, World.obj?, Ex.worldTW1, Ex.worldTW2]
    by_cases h1 : id = 1
    · subst h1; rfl
    · by_cases h2 : id = 2
      · subst h2
        have hf : f ≠ "a" := fun hf => h ⟨rfl, hf⟩
        have : ("a" == f) = false := beq_false_of_ne (Ne.symm hf)
        simp [List.find?, this]
      · have e1 : ((1 : Nat) == id) = false := beq_false_of_ne (Ne.symm h1)
        have e2 : ((2 : Nat) == id) = false := beq_false_of_ne (Ne.symm h2)
        simp only [List.find?, e1, e2]

open Ex in
/-- both responses have data; the first execution invokes `(2, a)` exactly once, at `p = items[1].a`; the first response
holds `null` at `q = items[1]` (the non-null `a` failed, the null moved to the list item), the second an object -/
example : (obsData (execute schemaTW docTW "" [] worldTW1 50)).isSome = true
    ∧ (obsData (execute schemaTW docTW "" [] worldTW2 50)).isSome = true
    ∧ touchPaths 2 "a" (execute schemaTW docTW "" [] worldTW1 50) = [pathStr pTW]
    ∧ showAt (obsData (execute schemaTW docTW "" [] worldTW1 50)) qTW = some "<nil>"
    ∧ showAt (obsData (execute schemaTW docTW "" [] worldTW2 50)) qTW = some "map[a:7 b:3]"
    ∧ obsErrs (execute schemaTW docTW "" [] worldTW1 50) = ["items.1.a"]
    ∧ obsErrs (execute schemaTW docTW "" [] worldTW2 50) = [] := by
  decide +kernel

open Ex in
/-- …and, as the theorem says, outside `q` the two responses coincide: same values at `items[0]`, `items[0].b`, `z`
(and nothing at `items[2]` in both), same errors and same invocations outside `items[1]` -/
example : [[.key "items", .idx 0], [.key "items", .idx 0, .key "b"], [.key "z"], [.key "items", .idx 2]].map
             (fun r => (showAt (obsData (execute schemaTW docTW "" [] worldTW1 50)) r,
                        showAt (obsData (execute schemaTW docTW "" [] worldTW2 50)) r))
      = [(some "map[a:1 b:2]", some "map[a:1 b:2]"), (some "2", some "2"), (some "5", some "5"), (none, none)]
    ∧ errsOutsideS qTW (execute schemaTW docTW "" [] worldTW1 50) = []
    ∧ errsOutsideS qTW (execute schemaTW docTW "" [] worldTW2 50) = []
    ∧ logOutsideS qTW (execute schemaTW docTW "" [] worldTW1 50) = ["items", "items.0.a", "items.0.b", "z"]
    ∧ logOutsideS qTW (execute schemaTW docTW "" [] worldTW2 50) = ["items", "items.0.a", "items.0.b", "z"] := by
  decide +kernel

end GqlModel.Exec
