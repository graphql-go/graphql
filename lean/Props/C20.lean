import GqlProofs.ExecBasic
import GqlProofs.ExecLog
import GqlProofs.ExecExample
import GqlProofs.ExecAccurate
import GqlProofs.ExecResolved
import GqlProofs.ExecTypename
/-! # C20 — Resolvers are invoked once per selected field with accurate parameters

Property theorems only, about the execution-algorithm model `GqlModel.Exec.execute` (`GqlModel/Exec.lean`), for EVERY
schema, document, operation name, variable input, resolver world and fuel (premise: the response is a `.result`).
The observable is the resolver invocation log: one `LogEntry` (response path, runtime parent type, field name, coerced
arguments, source value, number of merged occurrences) per resolver call. That the real executor logs the same
invocations (for fresh and for reused plans) is the correspondence of each run. -/
namespace GqlModel.Exec

/-- Every position is resolved at most once: the response paths (aliases and list indices included) of the log
entries of a request are pairwise distinct. -/
theorem each_position_resolved_at_most_once (s : Schema) (doc : Document) (opName : String) (inputs : Coerce.Vars)
    (w : World) (fuel : Nat) (data : Option (List (String × JVal))) (errs : List (Path × Bool)) (log : List LogEntry)
    (kf : List Path) (h : execute s doc opName inputs w fuel = .result data errs log kf) :
    (log.map (·.path)).Nodup := by
  obtain ⟨c, root, sel, r, st, hc, hr, -, hlog, -, -⟩ := execute_result h
  obtain ⟨new, hl, hb⟩ := (logP c fuel).groups _ _ _ _ _ _ _ _ _ hr
  have hnd : ((rootGroups c root sel).map (·.1)).Nodup := rootGroups_keys_nodup c root sel
  rw [hlog, hl, show new ++ St.empty.log = new from List.append_nil new]
  exact hb.nodup hnd

/-- …and at every level: the invocations made while one value is completed have pairwise distinct paths, all
strictly below the position of that value. -/
theorem completion_invocations_distinct_below (c : Ctx) (fuel : Nat) (dfr : Bool) (t : GType) (rt fname : String)
    (nodes : List FieldNode) (p : Path) (v : GoVal) (st st' : St) (r : Res JVal)
    (h : complete c fuel dfr t rt fname nodes p v st = (r, st')) :
    ∃ new, st'.log = new ++ st.log ∧ (∀ e, e ∈ new → Path.Below p e.path) ∧ (new.map (·.path)).Nodup :=
  (logP c fuel).complete _ _ _ _ _ _ _ _ _ _ h

/-- Every resolver invocation is told accurately where it is (`Accurate`, `GqlModel/Invocations.lean`): it is the
invocation of a selected field (a group of the merged selection) of a legitimate position — the root, or an object
reached from a field of a legitimate position through thunks, non-null wrappers, list elements and runtime-type
dispatch — and its parameters are: parent type = the RUNTIME object type of that position; source = that position's
object value (the individual list element under lists, the root value at the top level); path = the position's path ++
the response key (alias), list indices included; field name = the field definition's; arguments =
`getArgumentValues` of the field definition and the FIRST occurrence's argument ASTs under the request's coerced
variables; occurrences = the number of merged field nodes. -/
theorem log_entry_accurate (s : Schema) (doc : Document) (opName : String) (inputs : Coerce.Vars)
    (w : World) (fuel : Nat) (data : Option (List (String × JVal))) (errs : List (Path × Bool)) (log : List LogEntry)
    (kf : List Path) (h : execute s doc opName inputs w fuel = .result data errs log kf) :
    ∃ c root sel, requestCtx s doc opName inputs w = some (c, root, sel) ∧
      ∀ e, e ∈ log → Accurate c root (rootGroups c root sel) e := by
  obtain ⟨c, root, sel, r, st, hc, hr, -, hlog, -, -⟩ := execute_result h
  refine ⟨c, root, sel, hc, ?_⟩
  intro e he
  rw [hlog, List.mem_reverse] at he
  exact execGroups_accurate hr (hpos := .base) (hsub := fun g hg => hg) (hlog := nofun) e he

/-- the context of `log_entry_accurate` is the request's: schema, the document's fragments, the COERCED variables
(`getVariableValues` of the selected operation's variable definitions), the world; root type = the schema's root for
the operation type -/
theorem request_context_accurate (s : Schema) (doc : Document) (opName : String) (inputs : Coerce.Vars) (w : World)
    (c : Ctx) (root : String) (sel : SelectionSet) (h : requestCtx s doc opName inputs w = some (c, root, sel)) :
    c.schema = s ∧ c.frags = doc.fragments ∧ c.world = w ∧
      ∃ op nm varDefs dirs loc, selectOperation doc opName = .ok (.operation op nm varDefs dirs sel loc) ∧
        s.rootFor op.toString = some root ∧ Coerce.getVariableValues s varDefs inputs = .ok c.vars := by
  obtain ⟨op, nm, varDefs, dirs, loc, vars, hsel, hroot, hv, rfl⟩ := requestCtx_eq_some_iff.mp h
  exact ⟨rfl, rfl, rfl, op, nm, varDefs, dirs, loc, hsel, hroot, hv⟩

/-- Exactly once, unless the enclosing object was nulled: for every legitimate position (`Position`: the root, or an
object reached from a field of a position) whose place in the response's data holds an OBJECT (i.e. no failure nulled
it or an ancestor), EVERY selected field of that position (every group of its merged selection whose field the runtime
type defines, `__typename` excepted — it has no resolver) has exactly one log entry, at the position's path ++ the
response key. (Conversely every log entry belongs to such a position: `log_entry_accurate`. Fields of objects that were
nulled afterwards may or may not have been resolved — the failure stops the enclosing non-null chain.) -/
theorem resolved_iff_reached (s : Schema) (doc : Document) (opName : String) (inputs : Coerce.Vars)
    (w : World) (fuel : Nat) (data : List (String × JVal)) (errs : List (Path × Bool)) (log : List LogEntry)
    (kf : List Path) (h : execute s doc opName inputs w fuel = .result (some data) errs log kf) :
    ∃ c root sel, requestCtx s doc opName inputs w = some (c, root, sel) ∧
      ∀ rt src path G, Position c root (rootGroups c root sel) rt src path G →
        ∀ fs, ValAt (.obj data) path (.obj fs) →
          ∀ k nodes node fd, Selected c rt G k nodes node fd →
            ∃ e, e ∈ log ∧ e.path = path ++ [.key k] ∧ ∀ e', e' ∈ log → e'.path = path ++ [.key k] → e' = e := by
  have hnd := each_position_resolved_at_most_once s doc opName inputs w fuel _ errs log kf h
  obtain ⟨c, root, sel, st, hc, hrun, -, hlog⟩ := execute_result_some h
  refine ⟨c, root, sel, hc, ?_⟩
  intro rt src path G hpos fs hval k nodes node fd hsel
  have hkeys := execGroups_ok_keys_nodup hrun (rootGroups_keys_nodup c root sel)
  have hg := (resP c fuel).groups _ _ _ _ _ _ _ _ _ hrun
  have hdone : Done c st.log rt path G := GroupsH.hered (fun k n nd fd hs => (hg k n nd fd hs).2)
    (fun k n nd fd hs => (hg k n nd fd hs).1) hkeys hpos (rel := path) rfl hval
  obtain ⟨e, he, hp⟩ := hdone k nodes node fd hsel
  have he' : e ∈ log := by rw [hlog, List.mem_reverse]; exact he
  exact ⟨e, he', hp, fun e' h1 h2 => eq_of_nodup_map (·.path) hnd h1 he' (h2.trans hp.symm)⟩

/-- the runtime type of an object reached by completing a value for the declared type `t` (innermost named type `n`):
`n` itself when `n` is an object type; when `n` is abstract, the type `runtimeTypeOf` chose for THAT value — an object
type and a possible type of `n` -/
theorem objAt_runtime_type (c : Ctx) (t : GType) (p : Path) (v : GoVal) (ot : String) (o : GoVal) (p' : Path)
    (h : ObjAt c t p v ot o p') :
    (c.schema.isObject t.namedName = true ∧ ot = t.namedName) ∨
    (c.schema.isAbstract t.namedName = true ∧ runtimeTypeOf c t.namedName o = some ot ∧
      c.schema.isObject ot = true ∧ c.schema.isPossibleType t.namedName ot = true) := by
  induction h with
  | thunk _ ih => exact ih
  | nonNull _ ih => exact ih
  | item _ _ ih => exact ih
  | object _ _ hobj _ => exact Or.inl ⟨hobj, rfl⟩
  | abstract _ _ habs hrt hobj hposs => exact Or.inr ⟨habs, hrt, hobj, hposs⟩

/-- (C10's clause, C20's "runtime object type of the parent") `__typename` always names the RUNTIME object type: for
every legitimate position whose place in the response's data holds an object, the value under every response key that
selects `__typename` is `.str rt`, `rt` being the runtime object type of that position — the root type at the root;
below it the type `objAt_runtime_type` describes (for an abstract declared type: what `runtimeTypeOf` chose for the
value, a possible object type), i.e. the very type whose groups were executed there. -/
theorem typename_is_runtime_type (s : Schema) (doc : Document) (opName : String) (inputs : Coerce.Vars)
    (w : World) (fuel : Nat) (data : List (String × JVal)) (errs : List (Path × Bool)) (log : List LogEntry)
    (kf : List Path) (h : execute s doc opName inputs w fuel = .result (some data) errs log kf) :
    ∃ c root sel, requestCtx s doc opName inputs w = some (c, root, sel) ∧
      ∀ rt src path G, Position c root (rootGroups c root sel) rt src path G →
        ∀ fs, ValAt (.obj data) path (.obj fs) →
          ∀ k nodes node x, (k, nodes) ∈ G → nodes.head? = some node → node.name = "__typename" → (k, x) ∈ fs →
            x = .str rt := by
  obtain ⟨c, root, sel, st, hc, hrun, -, -⟩ := execute_result_some h
  refine ⟨c, root, sel, hc, ?_⟩
  intro rt src path G hpos fs hval
  have hkeys := execGroups_ok_keys_nodup hrun (rootGroups_keys_nodup c root sel)
  exact GroupsH.hered (Q := fun rt _ G fs => TypenameOK rt G fs) ((tnP c fuel).groups _ _ _ _ _ _ _ _ _ hrun)
    (execGroups_typename hrun hkeys) hkeys hpos (rel := path) rfl hval

open Ex in
example : obsLog (execute schema doc "Q" varsF world 50) = ["a", "b", "o", "o.y", "w", "w.x", "n", "n.y"] := by
  decide +kernel

open Ex in
/-- the parameters on the example: `n` is declared `Node` (interface), the runtime type `O` is what `n.y` is told;
its source is the object `n` resolved to; the two merged occurrences of `o` are counted -/
example : (match execute schema doc "Q" varsT world 50 with
    | .result _ _ log _ => log.map (fun e => (pathStr e.path, e.parentType, e.fieldName, e.occurrences,
        (match e.source with | .ref id => some id | _ => none)))
    | _ => []) =
    [("a", "Query", "a", 1, none), ("b", "Query", "b", 1, none), ("o", "Query", "o", 2, none),
     ("o.y", "O", "y", 2, some 1), ("n", "Query", "n", 1, none), ("n.y", "O", "y", 1, some 1)] := by
  decide +kernel

open Ex in
/-- `resolved_iff_reached` on the example (variables `s = false`): `w` is nulled (its non-null `x` failed), so the
position `w` is not in the data; `o` and `n` are objects and all their selected fields were resolved -/
example : (obsData (execute schema doc "Q" varsF world 50)).map (fun d =>
      ((JVal.lookup d "w").map JVal.isNull, (JVal.lookup d "o").map JVal.isNull)) = some (some true, some false) := by
  decide +kernel

open Ex in
/-- `n` is declared `Node` (an interface); its `__typename` is the runtime type `O` -/
example : ((obsData (execute schema doc "Q" varsT world 50)).bind (fun d => JVal.lookup d "n")).map
    (fun o => match o with
      | .obj fs => (JVal.lookup fs "__typename").map (fun t => match t with | .str x => x | _ => "?")
      | _ => none) = some (some "O") := by decide +kernel

end GqlModel.Exec
