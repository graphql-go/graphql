import GqlProofs.SchemaUpfront
import GqlProofs.SchemaSubtype
import GqlProofs.SchemaBridge
import GqlModel.SchemaLive
/-! # C11 — Schema construction never yields an inconsistent type system

Property theorems only. `M` = `newSchema` / `appendType` (lean/GqlModel/SchemaBuild.lean: `graphql.NewSchema`,
`Schema.AppendType` with the lazy members, parked errors and `typeMapReducer` modelled step for step, for the tree with
D-11a…f repaired); `S` = the decidable predicate `BuiltSchema.Consistent` on a dump. All statements quantify over every
configuration: any number of type objects of any kind with any names (duplicates, invalid ones), any reference graph
(cycles, dangling ids), nil members, thunked or direct or absent or ill-typed member lists, any nest of
`NewList`/`NewNonNull` over nil / typed nil pointers / types, any directives, any roots.

`Config.wellTyped` is not a restriction on *malformed* inputs: it states what Go's static types enforce on every
`SchemaConfig` that compiles (`Interfaces` holds `*Interface`, a union's `Types` holds `*Object`, the roots are
`*Object`, every type object is one of the six named kinds). -/
namespace GqlModel.SchemaBuild

/-- Full statement, no defect class excluded: whenever `NewSchema` returns a schema
— for any configuration and any further `Types` — the schema is consistent: unique legal names, type map closed under
reference (field, argument, input-field, interface, union-member and root types) and containing the built-in
introspection types, output / input position discipline, interface conformance (all fields present, covariant result
types, identical argument types, no extra required arguments), possible-type tables coherent with the interface
declarations and union members. -/
theorem newSchema_ok_consistent (cfg : Config) (hwt : cfg.wellTyped = true) (more : List TRef) (s : St)
    (h : newSchema cfg more = .ok s) : (dump cfg s).Consistent = true :=
  (newSchema_good h).consistent hwt

/-- the same after any sequence of successful `AppendType` calls -/
theorem appendType_ok_consistent (cfg : Config) (hwt : cfg.wellTyped = true) (more ts : List TRef) (s s' : St)
    (h : newSchema cfg more = .ok s) (ha : appendAll cfg s ts = .ok s') : (dump cfg s').Consistent = true :=
  (appendAll_good (newSchema_good h) ha).consistent hwt

/-- On no configuration does construction end in a nil dereference (`Err.panic`) or exhaust
the recursion budget of the model (`Err.fuel`): it returns a schema or an ordinary error. -/
theorem newSchema_total (cfg : Config) (more : List TRef) :
    newSchema cfg more ≠ .error .panic ∧ newSchema cfg more ≠ .error .fuel := by
  refine ⟨fun h => ?_, fun h => ?_⟩ <;> exact absurd (newSchema_noCrash h) (by decide)

/-- the same for `AppendType` on a schema that `NewSchema` returned -/
theorem appendType_total (cfg : Config) (more ts : List TRef) (s : St) (h : newSchema cfg more = .ok s) :
    appendAll cfg s ts ≠ .error .panic ∧ appendAll cfg s ts ≠ .error .fuel := by
  refine ⟨fun h' => ?_, fun h' => ?_⟩ <;>
    exact absurd (appendAll_noCrash (newSchema_good h) h') (by decide)

/-- Appending the types `xs` one by one, in any order `ys`, to the schema built without
them registers exactly what supplying them in `SchemaConfig.Types` registers: `Type(name)` agrees for every name (so
the two Go maps hold the same type object under each key; `append_same_types`), `PossibleTypes` of every abstract type
has the same members (the implementations table), and `IsPossibleType` agrees (the possible-type table). -/
theorem append_eq_upfront (cfg : Config) (xs ys : List TRef) (hperm : ys.Perm xs) (s1 s0 s2 : St)
    (h1 : newSchema cfg xs = .ok s1) (h0 : newSchema cfg = .ok s0) (h2 : appendAll cfg s0 ys = .ok s2) :
    (∀ n, TM.lookup cfg s1.tm n = TM.lookup cfg s2.tm n) ∧
    (∀ a p, a ∈ s1.tm → (p ∈ possibleTypesOf cfg s1.tm a ↔ p ∈ possibleTypesOf cfg s2.tm a)) ∧
    (∀ a o, a ∈ TM.abstracts cfg s1.tm → isPossibleFinal cfg s1.tm a o = isPossibleFinal cfg s2.tm a o) := by
  have g1 := newSchema_good h1
  have g2 := appendAll_good (newSchema_good h0) h2
  have hsame := append_same_types (fun x => hperm.mem_iff) h1 h0 h2
  exact ⟨lookup_same g2 hsame, fun a p ha => possibleTypes_same g1 g2 hsame ha p,
    fun a o ha => isPossible_same g1 g2 hsame ha o⟩

/-- acceptance does not depend on the order either: supplying `xs` in `SchemaConfig.Types` succeeds iff building the
schema without them and appending them in the order `ys` (any permutation) succeeds. Together with
`append_eq_upfront`: "appending types afterwards gives the same schema as supplying them up front". -/
theorem append_ok_iff_upfront (cfg : Config) (xs ys : List TRef) (hperm : ys.Perm xs) :
    (∃ s1, newSchema cfg xs = .ok s1) ↔ (∃ s0 s2, newSchema cfg = .ok s0 ∧ appendAll cfg s0 ys = .ok s2) :=
  append_ok_iff (fun _ => hperm.mem_iff)

/-- `isTypeSubTypeOf` is a preorder on type references, whatever
`IsPossibleType` answers (it is only consulted for an object below an abstract type). -/
theorem subtype_reflexive_transitive (k : Nat → Kind) (p : Nat → Nat → Bool) :
    (∀ t, isSubType k p t t = true) ∧
    (∀ a b c, isSubType k p a b = true → isSubType k p b c = true → isSubType k p a c = true) :=
  ⟨isSubType_refl k p, isSubType_trans k p⟩

/-! ## What construction guarantees to the other models

`BuiltSchema.toSchema` (lean/GqlModel/SchemaBuildBridge.lean) renders the schema that `NewSchema` returned in the shared
vocabulary `GqlModel.Schema`. The following are the schema premises of other properties' theorems. The first four hold
of the translation of every type map (the hypothesis that `NewSchema` succeeded is not consulted: they come from
`Config.mapsOk` and the checks of the constructors); `newSchema_ok_translation_consistent` uses success. `Config.mapsOk`
says that the configuration is a rendering of Go maps: the keys of each map (fields, arguments, input fields, enum
values, directive arguments) are distinct — like `Config.wellTyped`, a fact about every configuration the Go API can be
handed, not a restriction. -/

/-- C10 `membersOnce`: no object lists an interface twice, no union a member twice. -/
theorem newSchema_ok_membersOnce (cfg : Config) (more : List TRef) (s : St) (_h : newSchema cfg more = .ok s) :
    ((dump cfg s).toSchema).types.all Introspection.membersOnce = true :=
  toSchema_membersOnce s

/-- C10 `wfInputTypes`: enum value names and input field names are valid names, pairwise distinct within their type,
and no enum value is called `true`, `false` or `null`. -/
theorem newSchema_ok_wfInputTypes (cfg : Config) (hm : cfg.mapsOk = true) (more : List TRef) (s : St)
    (_h : newSchema cfg more = .ok s) : Introspection.wfInputTypes ((dump cfg s).toSchema).types = true :=
  toSchema_wfInputTypes hm s

/-- C05 `inputFieldsNodup`: the field names of every input object are distinct. -/
theorem newSchema_ok_inputFieldsNodup (cfg : Config) (hm : cfg.mapsOk = true) (more : List TRef) (s : St)
    (_h : newSchema cfg more = .ok s) : Coerce.inputFieldsNodup ((dump cfg s).toSchema) :=
  toSchema_inputFieldsNodup hm s

/-- C14 (TypeInfo) `ArgsUnique`: argument names are pairwise distinct within every field and directive definition
(including the introspection types, the meta fields and the specified directives). -/
theorem newSchema_ok_argsUnique (cfg : Config) (hm : cfg.mapsOk = true) (more : List TRef) (s : St)
    (_h : newSchema cfg more = .ok s) : TypeInfoStacks.ArgsUnique ((dump cfg s).toSchema) :=
  toSchema_argsUnique hm s

/-- C01 / C02 / C04: what the executor and validator models may assume about a constructed schema: type names are
distinct; every interface, union member, field / argument / input-field type and root names a defined type; every
object has all fields of the interfaces it declares — together with the four premises above. Also after appends. -/
theorem newSchema_ok_translation_consistent (cfg : Config) (hwt : cfg.wellTyped = true) (hm : cfg.mapsOk = true)
    (more ts : List TRef) (s s' : St) (h : newSchema cfg more = .ok s) (ha : appendAll cfg s ts = .ok s') :
    let sch := (dump cfg s').toSchema
    TranslationConsistent sch ∧ sch.types.all Introspection.membersOnce = true ∧
      Introspection.wfInputTypes sch.types = true ∧ Coerce.inputFieldsNodup sch ∧ TypeInfoStacks.ArgsUnique sch :=
  ⟨(appendAll_good (newSchema_good h) ha).translationConsistent hwt, toSchema_membersOnce s',
    toSchema_wfInputTypes hm s', toSchema_inputFieldsNodup hm s', toSchema_argsUnique hm s'⟩

/-! ## Non-vacuity: concrete configurations -/

private def q (fs : List FieldCfg) : TypeCfg :=
  { kind := .object, name := "Q", fields := fs, refsForm := .absent, resolver := false }

/-- interface `I { a: String }` (id 14), objects `A` (15) and `B` (16) implementing it, query `{ i: I }` -/
private def cfgI : Config :=
  { types := [q [{ name := "i", type := .ref 14 }],
      { kind := .interface, name := "I", fields := [{ name := "a", type := .ref 0 }] },
      { kind := .object, name := "A", fields := [{ name := "a", type := .nonNull (.ref 0) }], refs := [some 14] },
      { kind := .object, name := "B", fields := [{ name := "a", type := .ref 0 }], refs := [some 14], form := .thunk }],
    query := some 13 }

private def okWith (cfg : Config) (more app : List TRef) (n : Nat) : Bool :=
  match newSchema cfg more with
  | .ok s => (match appendAll cfg s app with
    | .ok s' => s'.tm.length == n && (dump cfg s').Consistent
    | .error _ => false)
  | .error _ => false

private def errIs (cfg : Config) (e : Err) : Bool :=
  match newSchema cfg with
  | .ok _ => false
  | .error e' => e' == e

private def cfgBadTypes : Config := { cfgI with extra := [.list (.nonNull (.nonNull (.ref 15)))] }
private def cfgBadImpl : Config :=
  { types := cfgI.types ++ [{ kind := .object, name := "C", fields := [{ name := "b", type := .ref 0 }], refs := [some 14] }],
    query := some 13, extra := [.ref 17] }

/-! ## Histories with mutation (lean/GqlModel/SchemaLive.lean)

The theorems above speak about one configuration `cfg` from `newSchema` through every `appendType`: their premise is
that **no type object is changed between its construction and the last append** (`Object.AddFieldConfig`,
`Interface.AddFieldConfig`, `InputObject.AddFieldConfig` change a type object). Mutations that happen before the
object enters a type map are covered too: they are just another `cfg`. What /repo HEAD does when a type is changed
AFTER it entered the type map is modelled by `Live` / `runHistory` (bug-faithful) and pinned here by kernel-checked
witnesses; the property fails there (defect class `mutatedTypeNotRevalidated`, D-11h). -/

/-- `I {a}`, `O implements I {a}` (plain-map fields), input `In {t}`, query `{o(in: In): O}`; not yet referenced:
object `New {x}` (id 17) and enum `E` (id 18) -/
private def cfgH : Config :=
  { types := [q [{ name := "o", type := .ref 15, args := [{ name := "in", type := .ref 16 }] }],
      { kind := .interface, name := "I", fields := [{ name := "a", type := .ref 0 }] },
      { kind := .object, name := "O", fields := [{ name := "a", type := .ref 0 }], refs := [some 14] },
      { kind := .inputObject, name := "In", inputFields := [{ name := "t", type := .ref 0 }] },
      { kind := .object, name := "New", fields := [{ name := "x", type := .ref 0 }], refsForm := .absent },
      { kind := .enum, name := "E", values := [("A", true)] }],
    query := some 13 }

private def histOk (h : List HStep) : Option (List Nat) :=
  match runHistory { cfg := cfgH } 0 h with
  | .ok st => some st.tm
  | .error _ => none

private def upfrontOk (h : List HStep) : Option (List Nat) :=
  match upfront { cfg := cfgH } h with
  | .ok st => some st.tm
  | .error _ => none

/-! ## The witnesses

Every run below walks the thirteen built-in types, and nearly all the work of evaluating it is in their names
(`validName`, comparison and sorting of strings). The runs are therefore evaluated together, in one term, where the
kernel meets each of those computations once (evaluated one by one, every example would repeat them). The conjuncts are in
the order of the examples: the satisfiable configuration, the five rejected ones (one group), the five histories. -/

private theorem witnesses :
    (cfgI.wellTyped = true ∧ cfgI.mapsOk = true ∧ okWith cfgI [] [] 12 = true ∧
      okWith cfgI [.ref 15, .ref 16] [] 14 = true ∧ okWith cfgI [] [.ref 16, .ref 15] 14 = true) ∧
    (errIs { types := [q [{ name := "f", type := .ref 14 }],
        { kind := .inputObject, name := "In", inputFields := [{ name := "a", type := .ref 0 }] }], query := some 13 }
      .fieldTypeNotOutput = true ∧
    errIs { types := [q [{ name := "f", type := .list (.nonNull (.nonNull (.ref 0))) }]], query := some 13 }
      .fieldTypeNotOutput = true ∧
    errIs { types := [q [{ name := "f", type := .nilPtr .object }]], query := some 13 } .fieldTypeNotOutput = true ∧
    errIs cfgBadTypes .badNonNull = true ∧
    errIs cfgBadImpl .ifaceMissingField = true) ∧
    (let h := [HStep.newSchema, .addField 15 { name := "n", type := .ref 17 }, .append (.ref 15)];
      (histOk h).map (·.contains 17) = some false ∧ (upfrontOk h).map (·.contains 17) = some true ∧
      mutatesRegistered { cfg := cfgH } h = true) ∧
    (let h := [HStep.newSchema, .addField 15 { name := "bad", type := .ref 16 }, .append (.ref 15)];
      (histOk h).isSome = true ∧ (upfrontOk h).isSome = false) ∧
    (let h := [HStep.newSchema, .addInputField 16 { name := "e", type := .ref 18 }, .append (.ref 16)];
      (histOk h).map (·.contains 18) = some false ∧ (upfrontOk h).map (·.contains 18) = some true) ∧
    (let h := [HStep.newSchema, .addInputField 16 { name := "owner", type := .ref 15 }, .append (.ref 16)];
      histOk h = none ∧ upfrontOk h = none) ∧
    (let h := [HStep.newSchema, .addField 17 { name := "e", type := .ref 0, args := [{ name := "a", type := .ref 18 }] },
        .append (.ref 17)];
      histOk h = upfrontOk h ∧ (histOk h).map (·.contains 18) = some true ∧
      mutatesRegistered { cfg := cfgH } h = false) := by
  decide +kernel

/-- the hypotheses of the theorems are satisfiable: a well-typed configuration on which `NewSchema` succeeds (12 types:
Q, I and the ten built-ins), and on which appending A and B in either order or supplying them up front succeeds with
14 types -/
example : cfgI.wellTyped = true ∧ cfgI.mapsOk = true ∧ okWith cfgI [] [] 12 = true ∧ okWith cfgI [.ref 15, .ref 16] [] 14 = true ∧
    okWith cfgI [] [.ref 16, .ref 15] 14 = true := witnesses.1

/-- the repaired defect classes are rejected by the model: an input object as a field type (D-11c), `[String!!]`
(D-11d), a typed nil pointer as a field type (D-11f, no panic), a non-conforming implementer in `Types` -/
example : errIs { types := [q [{ name := "f", type := .ref 14 }],
      { kind := .inputObject, name := "In", inputFields := [{ name := "a", type := .ref 0 }] }], query := some 13 }
    .fieldTypeNotOutput = true := witnesses.2.1.1
example : errIs { types := [q [{ name := "f", type := .list (.nonNull (.nonNull (.ref 0))) }]], query := some 13 }
    .fieldTypeNotOutput = true := witnesses.2.1.2.1
example : errIs { types := [q [{ name := "f", type := .nilPtr .object }]], query := some 13 }
    .fieldTypeNotOutput = true := witnesses.2.1.2.2.1
example : errIs cfgBadTypes .badNonNull = true := witnesses.2.1.2.2.2.1
example : errIs cfgBadImpl .ifaceMissingField = true := witnesses.2.1.2.2.2.2

/-- HEAD, D-11h: `O.AddFieldConfig("n", New)` after `NewSchema`, then `AppendType(O)`: accepted, but `New` (17) is
not registered, although `NewSchema` on the same final configuration registers it. -/
example : let h := [HStep.newSchema, .addField 15 { name := "n", type := .ref 17 }, .append (.ref 15)]
    (histOk h).map (·.contains 17) = some false ∧ (upfrontOk h).map (·.contains 17) = some true ∧
    mutatesRegistered { cfg := cfgH } h = true := witnesses.2.2.1

/-- HEAD, D-11h: a field of INPUT type added to the registered object `O`, then `AppendType(O)`: accepted although
`NewSchema` rejects the same final configuration; likewise an input field of a new enum type. -/
example : let h := [HStep.newSchema, .addField 15 { name := "bad", type := .ref 16 }, .append (.ref 15)]
    (histOk h).isSome = true ∧ (upfrontOk h).isSome = false := witnesses.2.2.2.1
example : let h := [HStep.newSchema, .addInputField 16 { name := "e", type := .ref 18 }, .append (.ref 16)]
    (histOk h).map (·.contains 18) = some false ∧ (upfrontOk h).map (·.contains 18) = some true :=
  witnesses.2.2.2.2.1

/-- HEAD is right on the history of seeded change C11-9 (`InputObject.AddFieldConfig` validates at once): an input
field of OBJECT type added to the registered `In`, then `AppendType(In)`: rejected, like up front. -/
example : let h := [HStep.newSchema, .addInputField 16 { name := "owner", type := .ref 15 }, .append (.ref 16)]
    histOk h = none ∧ upfrontOk h = none := witnesses.2.2.2.2.2.1

/-- the order the theorems cover: a type changed BEFORE it enters the type map — history and up front agree -/
example : let h := [HStep.newSchema, .addField 17 { name := "e", type := .ref 0, args := [{ name := "a", type := .ref 18 }] },
      .append (.ref 17)]
    histOk h = upfrontOk h ∧ (histOk h).map (·.contains 18) = some true ∧
    mutatesRegistered { cfg := cfgH } h = false := witnesses.2.2.2.2.2.2

end GqlModel.SchemaBuild
