import GqlProofs.ParserBehaved
import GqlProofs.ParserCorrect
import GqlProofs.ParserViable
import GqlProofs.RecogniseSound
import GqlProofs.ListSum
import GqlModel.ParseBytes
/-! # C18, syntax clause — where the parser reports a syntax error

Clause: "for a syntax error the reported position falls within the first token at which the text stops being the
beginning of any valid document".  In terms of the token-level model M (`GqlModel.Parser`, tied to the real parser
on every run by the C03 harness, which compares the error OFFSET of `parser.Parse` with M's on every rejected
case), with `k = |toks| - left` the index of the token M blames:

```
-- FULL STATEMENT
theorem syntax_error_at_first_nonviable_token (toks eofPos pos b l) (h : parseToks toks eofPos = .error (.syntax pos b l)) :
    l ≤ toks.length ∧ pos = (match toks.drop (toks.length - l) with | t :: _ => t.start | [] => eofPos) ∧   -- (0) AT TOKEN k
    (b = false → ViablePrefix (toks.take (toks.length - l))) ∧                                              -- (2) NOT EARLIER
    (0 < l → ¬ ViablePrefix (toks.take (toks.length - l + 1)))                                              -- (1) NOT LATER
```

(2) carries the side condition `b = false` (the D-03b flag is down when the error is raised): after a malformed type
reference that `parseType` let through, e.g. `query ( $ a : [ ) {`, the tokens before the blamed `{` are NOT the
beginning of a document — the error surfaces late (`type_reference_reports_no_error`; C03 known finding
`typeRefMalformed`).  (0) and (1) need no side condition: the leniency of `parseType` makes M accept too much, it never
makes it reject, so a rejection of M is a rejection of the grammar, and locality is a statement about M alone.

PROVED, for the WHOLE grammar (executable and type-system definitions) and every token list:
* (0) `syntax_error_at_token_start`, `syntax_error_blames_token`, `value_error_at_token_start`;
* (1) `syntax_error_not_later` (via `syntax_error_prefix_determined`: M's verdict up to its first error depends only on
  the tokens up to the blamed one — a prefix-determinism theorem for all actions, fuel included, GqlProofs/ParserLocal.lean,
  with the parser's functions as its instances in GqlProofs/ParserBehaved.lean — and `parser_complete`);
* towards (2): `truncated_text_fails_only_at_eof` — M on the tokens before the blamed one either accepts or fails AT THE
  END of input, nowhere before;  `certified_completion_viable` — whenever the executable completion of
  `GqlModel/Grammar.lean` returns `some c` for a prefix, that prefix is viable (the answer is re-checked by the
  recogniser, which is proved sound), hence `syntax_error_at_first_nonviable_token_certified`: the full statement for
  every input on which the certificate exists;
* (0)+(1)+(2) for `parser.ParseValue` (the value sub-grammar: variables, scalars, enums, lists, objects, const and
  non-const): `value_error_at_first_nonviable_token`;
* `type_reference_reports_no_error`, `accepted_prefixes_viable`, `viablePrefix_take`, `syntax_error_not_document`;
* the byte-level composition `bytes_syntax_error_not_later` (lexer model ∘ parser model, `GqlModel.parseBytes`).

NOT PROVED — (2) NOT EARLIER for documents, as a theorem for all inputs:
```
theorem syntax_error_not_earlier (toks eofPos pos l) (h : parseToks toks eofPos = .error (.syntax pos false l)) :
    ViablePrefix (toks.take (toks.length - l))
```
By `truncated_text_fails_only_at_eof` it is equivalent to: "if M fails at the END of `ts` (left = 0, flag down) then `ts` is
viable", i.e. every parser state reached at end of input has a completion.  That is proved for values only
(`parseValueLiteral_completion`, GqlProofs/ParserViable.lean); for the other productions the derivation relations carry
longest-match side conditions on absent optionals, so a completion has to respect FOLLOW sets, and through `parseType` it
has to avoid the D-03b shapes.
What stands in for it meanwhile: the executable `completeDoc`/`certifiedCompletion`; the C03 harness demands, for EVERY
rejected case of every stream (exhaustive token sequences to length 4, the reduced-alphabet viable-prefix tree, contexts,
generated documents, mutations, malformed-lexeme cases) whose flag is down, that the certificate exists — so (2) is PROVED for each such input —
and that the real parser accepts the text before the reported token followed by the completion. -/
namespace GqlModel.Parser
open GqlModel.Grammar

/-- every syntax error of M is reported at the start of one of the tokens of the input (index `k`), or, for
`k = |toks|`, at the EOF offset -/
theorem syntax_error_at_token_start (toks : List Token) (eofPos pos : Nat) (b : Bool) (l : Nat)
    (h : parseToks toks eofPos = .error (.syntax pos b l)) :
    ∃ k, k ≤ toks.length ∧ pos = (match toks.drop k with | t :: _ => t.start | [] => eofPos) :=
  parseToks_error_at_token h

/-- the same for `parser.ParseValue` (`parseValue` on the initial state) -/
theorem value_error_at_token_start (c : Bool) (toks : List Token) (eofPos pos : Nat) (b : Bool) (l : Nat)
    (h : parseValue c (initState toks eofPos) = .error (.syntax pos b l)) :
    ∃ k, k ≤ toks.length ∧ pos = (match toks.drop k with | t :: _ => t.start | [] => eofPos) :=
  ((inferInstance : ErrAt (parseValue c)).err _ _ _ _ h).atToken

/-- the offset of a syntax error is the start of exactly the token `left` determines: index `|toks| - left`
(`left = 0`: the EOF offset) -/
theorem syntax_error_blames_token (toks : List Token) (eofPos pos : Nat) (b : Bool) (l : Nat)
    (h : parseDocument (initState toks eofPos) = .error (.syntax pos b l)) :
    l ≤ toks.length ∧ pos = (match toks.drop (toks.length - l) with | t :: _ => t.start | [] => eofPos) :=
  (inferInstance : ErrAt parseDocument).err _ _ _ _ h

/-- `parseType` has no failing path: a malformed type reference is never reported where it occurs (D-03b) -/
theorem type_reference_reports_no_error (σ : PState) (pos : Nat) (b : Bool) (l : Nat) :
    parseTypeOpt σ ≠ .error (.syntax pos b l) :=
  parseTypeFuel_no_syntax_error _ σ pos b l

/-- prefixes of viable prefixes are viable -/
theorem viablePrefix_take (ts : List Token) (k : Nat) (h : ViablePrefix ts) : ViablePrefix (ts.take k) := by
  obtain ⟨rest, e, d, hd⟩ := h
  refine ⟨ts.drop k ++ rest, e, d, ?_⟩
  rw [← List.append_assoc, List.take_append_drop]
  exact hd

/-- every prefix of an accepted token list (flag down) is viable -/
theorem accepted_prefixes_viable (toks : List Token) (eofPos : Nat) (d : Document)
    (h : parseToks toks eofPos = .ok ⟨d, false⟩) (k : Nat) : ViablePrefix (toks.take k) :=
  viablePrefix_take toks k ⟨[], eofPos, d, by simpa using parseToks_sound h⟩

/-- a reported syntax error means the token list is not a document (for any EOF offset) -/
theorem syntax_error_not_document (toks : List Token) (eofPos pos : Nat) (b : Bool) (l : Nat)
    (h : parseToks toks eofPos = .error (.syntax pos b l)) : ¬ ∃ d, DerivesDoc toks eofPos d := by
  rintro ⟨d, hd⟩
  rw [parseToks_complete hd] at h
  cases h

/-! ## NOT LATER: with the blamed token the text is no longer the beginning of any document

`k = |toks| - left` is the index of the token M blames (`syntax_error_blames_token`).  The parser model is deterministic
and reads left to right with one token of look-ahead (two after a description), so its verdict up to the first error
depends only on the tokens up to the blamed one (`parseToks_error_local` in GqlProofs/ParserBehaved.lean, where every parser
function is shown `Behaved`; it is an instance of `action_error_local`, GqlProofs/ParserLocal.lean: a prefix-determinism theorem
for all actions, fuel included); completeness (`parser_complete`) then excludes every continuation.  This holds
WITHOUT any side condition on D-03b: the leniency of `parseType` makes M accept too much, never reject too early. -/

/-- prefix determinism: M rejects every token list that starts with `toks[0..k]` exactly as it rejects `toks` -/
theorem syntax_error_prefix_determined (toks : List Token) (eofPos pos : Nat) (b : Bool) (l : Nat)
    (h : parseToks toks eofPos = .error (.syntax pos b l)) (hl : 0 < l) (rest : List Token) (eofPos' : Nat) :
    ∃ l', parseToks (toks.take (toks.length - l + 1) ++ rest) eofPos' = .error (.syntax pos b l') ∧
      (toks.take (toks.length - l + 1) ++ rest).length - l' = toks.length - l :=
  let ⟨l', g, hidx, _⟩ := parseToks_error_local h hl rest eofPos'
  ⟨l', g, hidx⟩

/-- **not later**: no continuation of the prefix that INCLUDES the blamed token is a document of the grammar -/
theorem syntax_error_not_later (toks : List Token) (eofPos pos : Nat) (b : Bool) (l : Nat)
    (h : parseToks toks eofPos = .error (.syntax pos b l)) (hl : 0 < l) :
    ¬ ViablePrefix (toks.take (toks.length - l + 1)) := by
  rintro ⟨rest, eofPos', d, hd⟩
  obtain ⟨l', g, _⟩ := syntax_error_prefix_determined toks eofPos pos b l h hl rest eofPos'
  rw [parseToks_complete hd] at g
  cases g

/-- the text cut right before the blamed token is rejected, if at all, only for ending too early: M blames its end (EOF)
and nothing before — the first step towards NOT EARLIER -/
theorem truncated_text_fails_only_at_eof (toks : List Token) (eofPos pos : Nat) (b : Bool) (l : Nat)
    (h : parseToks toks eofPos = .error (.syntax pos b l)) (eofPos' pos' : Nat) (b' : Bool) (l' : Nat)
    (h' : parseToks (toks.take (toks.length - l)) eofPos' = .error (.syntax pos' b' l')) : l' = 0 :=
  parseToks_truncated h eofPos' pos' b' l' h'


/-! ## NOT EARLIER: the tokens before the blamed one are the beginning of a document

Proved for `parser.ParseValue`; for documents reduced to "failing at the end of input implies viable"
(`truncated_text_fails_only_at_eof`) and proved for each input on which the executable completion certifies itself. -/

/-- a certified completion proves the prefix viable (the recogniser that re-checks it is sound) -/
theorem certified_completion_viable (pre c : List Token) (h : certifiedCompletion pre = some c) : ViablePrefix pre := by
  unfold certifiedCompletion at h
  split at h
  · split at h
    · rename_i hr
      cases h
      obtain ⟨d, hd⟩ := run_derivesDoc 0 ((recogniseToks_iff_run hr).mp rfl)
      exact ⟨c, 0, d, hd⟩
    · cases h
  · cases h

/-- the full clause for every input on which the certificate exists (the C03 harness checks that it does on every
rejected case it generates) -/
theorem syntax_error_at_first_nonviable_token_certified (toks : List Token) (eofPos pos : Nat) (b : Bool) (l : Nat)
    (h : parseToks toks eofPos = .error (.syntax pos b l)) (c : List Token)
    (hc : certifiedCompletion (toks.take (toks.length - l)) = some c) :
    l ≤ toks.length ∧ pos = (match toks.drop (toks.length - l) with | t :: _ => t.start | [] => eofPos) ∧
    ViablePrefix (toks.take (toks.length - l)) ∧ (0 < l → ¬ ViablePrefix (toks.take (toks.length - l + 1))) := by
  have hb := parseToks_error_blames h
  exact ⟨hb.1, hb.2, certified_completion_viable _ _ hc, syntax_error_not_later toks eofPos pos b l h⟩

/-- the completion finds, and certifies, what one expects -/
example : certifiedCompletion [] = some [⟨.braceL, 0, 0, ""⟩, ⟨.name, 0, 0, "a"⟩, ⟨.braceR, 0, 0, ""⟩] := by decide +kernel
example : (certifiedCompletion [⟨.braceL, 0, 1, ""⟩, ⟨.name, 2, 3, "f"⟩, ⟨.parenL, 3, 4, ""⟩]).map (·.map (·.kind)) =
    some [.name, .colon, .int, .parenR, .braceR] := by decide +kernel
example : (certifiedCompletion [⟨.name, 0, 5, "query"⟩, ⟨.parenL, 5, 6, ""⟩, ⟨.dollar, 6, 7, ""⟩, ⟨.name, 7, 8, "v"⟩, ⟨.colon, 8, 9, ""⟩]).map
    (·.map (·.kind)) = some [.name, .bang, .parenR, .braceL, .name, .braceR] := by decide +kernel
example : (certifiedCompletion [⟨.name, 0, 4, "type"⟩, ⟨.name, 5, 6, "T"⟩, ⟨.name, 7, 17, "implements"⟩]).isSome = true := by decide +kernel
/-- `fragment on` is not the beginning of a document: no completion -/
example : certifiedCompletion [⟨.name, 0, 8, "fragment"⟩, ⟨.name, 9, 11, "on"⟩] = none := by decide +kernel

/-! ### `parser.ParseValue`: the whole clause -/

/-- the clause for `parser.ParseValue`: the reported offset is the start of token `k`, the tokens before it are the
beginning of a value, with it they are not -/
theorem value_error_at_first_nonviable_token (c : Bool) (toks : List Token) (eofPos pos : Nat) (b : Bool) (l : Nat)
    (h : parseValue c (initState toks eofPos) = .error (.syntax pos b l)) :
    l ≤ toks.length ∧ pos = (match toks.drop (toks.length - l) with | t :: _ => t.start | [] => eofPos) ∧
    ViableValuePrefix c (toks.take (toks.length - l)) ∧
    (0 < l → ¬ ViableValuePrefix c (toks.take (toks.length - l + 1))) :=
  have hb := (inferInstance : ErrAt (parseValue c)).err _ _ _ _ h
  ⟨hb.1, hb.2, parseValue_not_earlier c toks eofPos pos b l h, parseValue_not_later c toks eofPos pos b l h⟩

/-- non-vacuity: `[1 } 2` is rejected at the `}` (offset 3, token 2 of 4: `left = 2`) -/
example : parseValue false (initState [⟨.bracketL, 0, 1, ""⟩, ⟨.int, 1, 2, "1"⟩, ⟨.braceR, 3, 4, ""⟩, ⟨.int, 5, 6, "2"⟩] 7) =
    .error (.syntax 3 false 2) := by rfl

/-! ## On bytes: lexer model ∘ parser model -/

/-- `parseBytes` (= `Lexer.lexAll` then M) reports a syntax error that blames a real token (`0 < left`) at the start
offset of a token `t` of the lexer's output, and the lexer's tokens up to and including `t` are not the beginning of
any document.  (That `[t.start, t.stop)` is `t`'s lexeme in the bytes is the lexer half's `token_delimits_lexeme_partial`;
a statement about BYTE continuations would be false — `fragment on` is rejected at `on`, `fragment onx …` is not.) -/
theorem bytes_syntax_error_not_later (src : Lexer.Bytes) (pos : Nat) (b : Bool) (l : Nat)
    (h : parseBytes src = .error (.parse (.syntax pos b l))) (hl : 0 < l) :
    ∃ toks e, splitEOF ((Lexer.lexAll src).tokens.map Lexer.LTok.toToken) = some (toks, e) ∧
      (Lexer.lexAll src).err = none ∧ l ≤ toks.length ∧
      (∃ t, toks[toks.length - l]? = some t ∧ pos = t.start) ∧
      ¬ ViablePrefix (toks.take (toks.length - l + 1)) := by
  unfold parseBytes at h
  split at h
  · cases h
  · rename_i herr
    split at h
    · cases h
    · rename_i e he
      cases h
      unfold parseTokens at he
      split at he
      · rename_i toks e hs
        have hb := parseToks_error_blames he
        exact ⟨toks, e, hs, herr, hb.1, hb.real hl, syntax_error_not_later toks e.start pos b l he hl⟩
      · cases he
        omega

/-! ## Lazy lexing: a parser rejection at token k is reported even if token k+1 is malformed

`parser.Parse` lexes one token ahead (`advance` returns the lexical error of the NEXT token at once), so on a text
whose tokens `toks` are followed by a malformed lexeme two errors compete.  `parseLazy toks` is the model's verdict
(`GqlModel/Parser.lean`): M runs on `toks`; an error M raises while at least one token is still unconsumed, and which
does not blame the non-existent token after `toks`, is the parser's own rejection and is what is returned; in every
other case (M advanced or looked past the last token, or would accept) the lexical error is returned.  That this is
what the real parser does is checked by the C03 differential on every text with a lexical error (stream `lexafter`:
every token sequence followed by a malformed lexeme of every class in LF/CR/CRLF layouts). -/

/-- the `left` recorded in an error never exceeds the number of tokens: it counts unconsumed tokens -/
theorem error_left_le (toks : List Token) (eofPos pos : Nat) (b : Bool) (l : Nat)
    (h : parseDocument (initState toks eofPos) = .error (.syntax pos b l)) : l ≤ toks.length :=
  (syntax_error_blames_token toks eofPos pos b l h).1

/-- **ordering**: if M rejects and the token it blames is one of the real tokens (`0 < left`), that rejection is
reported — the malformed lexeme after `toks` is never looked at -/
theorem parser_rejection_before_lexical_error (toks : List Token) (pos : Nat) (b : Bool) (l : Nat)
    (h : parseDocument (initState toks (freshEOF toks)) = .error (.syntax pos b l)) (hl : 0 < l) :
    parseLazy toks = .syntax pos := by
  simp [parseLazy, h, hl]

/-- conversely the lexical error is reported exactly when M accepts or blames the token after the last one -/
theorem lexical_error_reported_iff (toks : List Token) :
    parseLazy toks = .lexError ↔
      ((∃ r, parseDocument (initState toks (freshEOF toks)) = .ok r) ∨
       (∃ pos b, parseDocument (initState toks (freshEOF toks)) = .error (.syntax pos b 0))) := by
  unfold parseLazy
  match parseDocument (initState toks (freshEOF toks)) with
  | .ok r => simp
  | .error (.syntax pos b l) =>
    simp only [reduceCtorEq, exists_false, false_or, Except.error.injEq, PErr.syntax.injEq]
    constructor
    · intro h
      split at h
      · cases h
      · rename_i hc
        exact ⟨pos, b, rfl, rfl, by omega⟩
    · rintro ⟨pos', b', rfl, rfl, rfl⟩
      simp
  | .error .fuel => simp

theorem freshEOF_gt (toks : List Token) : ∀ t ∈ toks, t.start < freshEOF toks := by
  intro t ht
  have := (foldl_max_ge (toks.map (·.start + 1)) 0).2 _ (List.mem_map_of_mem ht)
  rwa [List.foldl_map] at this

/-- a reported parser rejection points at the start of one of the real tokens — never at or beyond the malformed lexeme -/
theorem lazy_syntax_error_at_real_token (toks : List Token) (pos : Nat) (h : parseLazy toks = .syntax pos) :
    ∃ t ∈ toks, pos = t.start := by
  unfold parseLazy at h
  match hr : parseDocument (initState toks (freshEOF toks)) with
  | .ok r => simp [hr] at h
  | .error (.syntax p b l) =>
    simp only [hr] at h
    split at h
    · rename_i hc
      cases h
      obtain ⟨t, ht, hpos⟩ := ((inferInstance : ErrAt parseDocument).err _ _ _ _ hr).real hc
      exact ⟨t, List.mem_of_getElem? ht, hpos⟩
    · cases h
  | .error .fuel => simp [hr] at h

/-- the lazy-lexing verdict is never "out of fuel" -/
theorem lazy_never_fuel (toks : List Token) : parseLazy toks ≠ .fuel := by
  unfold parseLazy
  match hr : parseDocument (initState toks (freshEOF toks)) with
  | .ok r => simp
  | .error (.syntax p b l) => simp only; split <;> simp
  | .error .fuel =>
    exact absurd hr ((inferInstance : NFb toks.length parseDocument).nf (initState toks (freshEOF toks)) (Nat.le_refl _))

end GqlModel.Parser
