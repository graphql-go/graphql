import GqlProofs.Introspection
import GqlProofs.IntrospectionValues
/-! # C10 — Introspection describes the schema exactly

`introspect s supplied` (model M of `graphql.Do(schema, IntrospectionQuery)`, `GqlModel/Introspection.lean`) for every
schema `s` and every list `supplied` of type names handed to `SchemaConfig.Types` / `AppendType`.
Helper lemmas are in `GqlProofs/Introspection*.lean`, except `metaTypes_wfInputTypes` and `wfInputTypes_all` below (the
hypothesis of `default_roundtrip` carried over from the user's types to all types): DESIGN §10.2 counts them among the
fourteen theorems of this file. -/
namespace GqlModel.Introspection

/-- The description is exact: rebuilding a schema from the introspection result gives the schema's normal form
(type map restricted to what is reachable plus the introspection types, types / fields / arguments / enum values /
input fields sorted by name — Go keeps them in maps —, defaults as their literal text, runtime-only attributes
erased).  Holds for every schema (no well-formedness needed) and every split of its types. Covers kinds, names,
descriptions, fields with arguments and wrapped type references at any depth, interfaces, union members, enum values,
input fields, deprecation flags and reasons, directives with locations and arguments, and the root type names. -/
theorem introspection_lossless (s : Schema) (supplied : List String) :
    rebuild (introspect s supplied) = normalise s supplied := by
  simp only [rebuild, introspect, normalise, List.map_map]
  congr 1
  · exact List.map_congr_left (fun td _ => rebuildType_describeType _ _ td)
  · exact List.map_congr_left (fun d _ => rebuildDirective_directiveI _ d)

/-- The reported type set is the reachable closure: a name is in `__schema.types` iff it is reachable from the roots,
`__Schema` and the supplied types through the references `typeMapReducer` follows (and resolves to a definition); the
list of reported names is `typesClosure`, without duplicates. -/
theorem types_eq_reachable_closure (s : Schema) (supplied : List String) :
    (introspect s supplied).types.map (·.name) = typesClosure s supplied ∧
    (typesClosure s supplied).Nodup ∧
    ∀ n, n ∈ typesClosure s supplied ↔ Reachable (allTypes s) (initialNames s supplied) n :=
  ⟨introspect_type_names s supplied, typesClosure_nodup s supplied, mem_typesClosure_iff s supplied⟩

/-- Every named type a described type refers to is itself described (no dangling reference in the result). -/
theorem described_types_closed (s : Schema) (supplied : List String) (n : String) (td : TypeDef) (c : String)
    (hn : n ∈ typesClosure s supplied) (htd : findType (allTypes s) n = some td) (hc : c ∈ typeRefs td)
    (hr : (findType (allTypes s) c).isSome) : c ∈ typesClosure s supplied :=
  (mem_typesClosure_iff s supplied c).mpr (((mem_typesClosure_iff s supplied n).mp hn).step htd hc hr)

/-- … and so is every type a directive argument refers to. -/
theorem directive_arg_types_described (s : Schema) (supplied : List String) (d : DirectiveDefS) (a : ArgDef)
    (hd : d ∈ s.directives) (ha : a ∈ d.args) (hr : (findType (allTypes s) a.type.namedName).isSome) :
    a.type.namedName ∈ typesClosure s supplied := by
  refine (mem_typesClosure_iff s supplied _).mpr (Reachable.init ?_ hr)
  simp only [initialNames, List.mem_append, List.mem_flatMap, List.mem_map]
  exact Or.inr ⟨d, hd, a, ha, rfl⟩

/-- Possible types are listed once: for a schema in which no object lists an interface twice and no union a member
twice (`membersOnce`: what `defineInterfaces` / `defineUnionTypes` reject since commit 9abaf54, and what C11 proves of
every constructed schema, `newSchema_ok_membersOnce`; a hypothesis here because the theorem speaks of every `Schema`),
the `possibleTypes` of every described type are pairwise distinct. -/
theorem possibleTypes_nodup (s : Schema) (supplied : List String) (h : s.types.all membersOnce = true) :
    ∀ t ∈ (introspect s supplied).types, ∀ pts, t.possibleTypes = some pts → (pts.map TRef.name).Nodup := by
  have hnames : ((closureDefs s supplied).map (·.name)).Nodup :=
    closureDefs_names s supplied ▸ typesClosure_nodup s supplied
  intro t ht pts hp
  simp only [introspect, List.mem_map] at ht
  obtain ⟨td, htd, rfl⟩ := ht
  have hall : ∀ td ∈ allTypes s, membersOnce td = true :=
    List.all_eq_true.mp (by rw [allTypes, List.all_append, h, metaTypes_membersOnce]; rfl)
  cases td with
  | scalar => simp [describeType] at hp
  | object => simp [describeType] at hp
  | enum => simp [describeType] at hp
  | inputObject => simp [describeType] at hp
  | union n ms rt d =>
    simp only [describeType, Option.some.injEq] at hp
    subst hp
    have := hall _ (mem_closureDefs htd)
    simp only [membersOnce, decide_eq_true_eq] at this
    simpa [List.map_map, Function.comp_def, name_describeRef_named] using this
  | interface n fs rt d =>
    simp only [describeType, Option.some.injEq] at hp
    subst hp
    simp only [List.map_map, Function.comp_def, name_describeRef_named, List.map_id']
    refine List.Nodup.sublist (flatMap_sublist_map _ TypeDef.name (closureDefs s supplied) ?_) hnames
    intro td' htd'
    have hm := hall _ (mem_closureDefs htd')
    cases td' with
    | object n' ifaces fs' ito d' =>
      simp only [membersOnce, decide_eq_true_eq] at hm
      rcases filter_eq_nodup ifaces n hm with h0 | h1
      · left; simp [h0]
      · right; simp [h1, TypeDef.name]
    | _ => left; rfl

/-- the hypothesis is needed: on a `Schema` in which an object lists its interface twice (no constructed schema does),
introspection lists the object twice (notes/agents/C10.md, at the repository root, has the reproduction on the library
as it was before commit 9abaf54) -/
example :
    let s : Schema := { types := [.interface "I" [] true "", .object "O" ["I", "I"] [] false "",
                                  .object "Q" [] [{ name := "o", type := .named "O", args := [] }] false "",
                                  .scalar "String" .string "", .scalar "Boolean" .boolean ""],
                        query := "Q", mutation := none, subscription := none, directives := [] }
    ((introspect s).types.filter (·.name == "I")).map (fun t => (t.possibleTypes.getD []).map TRef.name) = [["O", "O"]] := by
  decide +kernel

/-! ## What the possible types, interfaces and reference kinds are -/

/-- the possible types of a described interface are exactly the described object types that list it -/
theorem interface_possibleTypes_spec (s : Schema) (supplied : List String) (n : String) (fs : List FieldDefS) (rt : Bool) (d : String) (o : String) :
    o ∈ ((describeType (allTypes s) (closureDefs s supplied) (.interface n fs rt d)).possibleTypes.getD []).map TRef.name ↔
      ∃ ifaces ofs ito od, TypeDef.object o ifaces ofs ito od ∈ closureDefs s supplied ∧ n ∈ ifaces := by
  simp only [describeType, Option.getD_some, List.map_map, Function.comp_def, name_describeRef_named, List.map_id']
  exact mem_implementers _ n o

/-- the possible types of a union are its configured members, in order -/
theorem union_possibleTypes_spec (all defs : List TypeDef) (n : String) (ms : List String) (rt : Bool) (d : String) :
    ((describeType all defs (.union n ms rt d)).possibleTypes.getD []).map TRef.name = ms := by
  simp [describeType, Function.comp_def, name_describeRef_named]

/-- the interfaces of an object are the configured ones, in order -/
theorem object_interfaces_spec (all defs : List TypeDef) (n : String) (ifaces : List String) (fs : List FieldDefS) (ito : Bool) (d : String) :
    ((describeType all defs (.object n ifaces fs ito d)).interfaces.getD []).map TRef.name = ifaces := by
  simp [describeType, Function.comp_def, name_describeRef_named]

/-- a reference carries the kind of the type it names -/
theorem ref_kind_spec (all : List TypeDef) (n : String) (td : TypeDef) (h : findType all n = some td) :
    describeRef all (.named n) = .named (kindStr td) n := by
  simp [describeRef, h]

/-! ## Default values -/

theorem metaTypes_wfInputTypes : wfInputTypes metaTypes = true := by decide +kernel

theorem wfInputTypes_all (s : Schema) (h : wfInputTypes s.types = true) : wfInputTypes (allTypes s) = true := by
  simp only [wfInputTypes, allTypes, List.all_append, Bool.and_eq_true] at h ⊢
  exact ⟨h, metaTypes_wfInputTypes⟩

/-- Every reported default value is a GraphQL literal that, parsed and coerced against the argument's type, gives back
the configured default: for every schema whose enums and input objects are well-formed (`wfInputTypes`: value / field
names are valid names, distinct, and no enum value is called true / false / null — what `NewEnum` and `NewInputObject`
enforce), every input type `t` and every conformant value `v` (a value input coercion can produce for `t`),
reading the printed text back (`parseValue`) and coercing it (`coerceLit` = `valueFromAST`) yields `v`.
Full strength on the repaired tree (commit b8e02d5); it was false at the pinned tree, see the witnesses below. -/
theorem default_roundtrip (s : Schema) (t : GType) (v : JVal) (hwf : wfInputTypes s.types = true)
    (hc : conformant (allTypes s) t v = true) :
    reread s t (printDefault s t v) = some v := by
  obtain ⟨l, hl, hok, hco⟩ := value_roundtrip (allTypes s) (wfInputTypes_all s hwf) v t hc
  simp only [reread, parseValue, printDefault, printDefaultIn, hl, Option.map_some, Option.getD_some,
    String.toList_ofList, readLit_printLit l hok, hco]

/-- … and that text is what introspection reports as `defaultValue` (never null for a conformant default). -/
theorem conformant_default_reported (s : Schema) (t : GType) (v : JVal) (hwf : wfInputTypes s.types = true)
    (hc : conformant (allTypes s) t v = true) :
    defaultText (allTypes s) t (some v) = some (printDefault s t v) := by
  obtain ⟨l, hl, _, _⟩ := value_roundtrip (allTypes s) (wfInputTypes_all s hwf) v t hc
  simp [defaultText, printDefault, printDefaultIn, hl]

/-! ### The record of D-10a: the same statement was false for the function as it was at the pinned tree -/

def d10aSchema : Schema :=
  { types := [.enum "Color" [{ name := "RED", internal := .int 0 }, { name := "GREEN", internal := .int 1 }] "",
              .inputObject "In" [{ name := "a", type := .named "Int", default := none }] "",
              .scalar "Int" .int "", .scalar "String" .string "", .scalar "Boolean" .boolean "",
              .object "Q" [] [{ name := "f", type := .named "String", args := [] }] false ""],
    query := "Q", mutation := none, subscription := none, directives := [] }

/-- hypotheses of `default_roundtrip` are satisfiable, with values of enum and input-object kind -/
example : wfInputTypes d10aSchema.types = true ∧
    conformant (allTypes d10aSchema) (.named "Color") (.int 0) = true ∧
    conformant (allTypes d10aSchema) (.list (.named "In")) (.list [.obj [("a", .int 1)]]) = true := by decide +kernel

/-- What held at the pinned tree: the round trip for defaults without an enum or
input-object value inside (`defaultIsScalarLike`), because there the old function computes what the repaired one does. -/
theorem default_roundtrip_pinned_partial (s : Schema) (t : GType) (v : JVal) (hwf : wfInputTypes s.types = true)
    (hc : conformant (allTypes s) t v = true) (hs : defaultIsScalarLike s t v = true) :
    reread s t (printDefaultPinned s t v) = some v := by
  have hp : printDefaultPinned s t v = printDefault s t v := by
    simp only [printDefaultPinned, printDefault, printDefaultIn, pinned_eq_on_scalarLike (allTypes s) v t hs]
    cases astFromValue (allTypes s) t v <;> rfl
  rw [hp]; exact default_roundtrip s t v hwf hc

/-- pinned tree: `e: Color = 0` was reported as `0`, which reads back as null, not as the configured `0` … -/
example : printDefaultPinned d10aSchema (.named "Color") (.int 0) = "0" ∧
    (reread d10aSchema (.named "Color") (printDefaultPinned d10aSchema (.named "Color") (.int 0)) == some (.int 0)) = false ∧
    (reread d10aSchema (.named "Color") (printDefaultPinned d10aSchema (.named "Color") (.int 0)) == some .null) = true := by
  decide +kernel

/-- … and `o: In = {a: 1}` as the string literal `"map[a:1]"` (reads back as null) -/
example : printDefaultPinned d10aSchema (.named "In") (.obj [("a", .int 1)]) = "\"map[a:1]\"" ∧
    (reread d10aSchema (.named "In") (printDefaultPinned d10aSchema (.named "In") (.obj [("a", .int 1)]))
      == some (.obj [("a", .int 1)])) = false := by
  decide +kernel

/-- the repaired function on the same inputs -/
example : printDefault d10aSchema (.named "Color") (.int 0) = "RED" ∧
    printDefault d10aSchema (.list (.named "In")) (.list [.obj [("a", .int 1)]]) = "[{a: 1}]" := by decide +kernel

end GqlModel.Introspection
