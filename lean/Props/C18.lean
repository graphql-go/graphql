import GqlProofs.Location
/-! # C18 — Error locations and paths point at the offending source and response position

Property theorems only. `getLocation` (M) is the regexp-match loop of `location.GetLocation`; `spec` (S) is
"line = 1 + number of line terminators (CR LF counted once) that start before `pos`; column = `pos` + 1 − end of the
last such terminator". Bytes are `UInt8`; positions are byte offsets; `pos` may lie beyond the end of the body
(both sides then behave as at the end of the body, as the Go loop does).

What these theorems do NOT cover (carried by the correspondence streams of harness/cmd/c18, see notes/agents/C18.md):
that `terms` is what Go's `regexp` returns for `"\r\n|[\n\r]"` (exhaustive stream a), and which position the lexer,
parser, validator and executor pass to `GetLocation` (streams b, c, d).
The clause "a syntax error falls within the first token at which the text stops being a prefix of a valid document"
is the subject of Props/C18Syntax.lean: proved there for the parser model, except its "not earlier" half for whole
documents, which is proved for values and for every input that has a certified completion. -/
namespace GqlModel.Location

/-! ## line and column -/

/-- For every body and every position the loop of `GetLocation` computes the specified line and column. -/
theorem getLocation_eq_spec (body : List UInt8) (pos : Nat) : getLocation body pos = spec body pos := by
  unfold getLocation spec
  have hn : ¬ insideCRLF body 0 := by intro ⟨h, _⟩; omega
  rw [terms_eq body 0 body (by simp) hn]
  have hsplit : List.range' 0 body.length
      = List.range' 0 (min pos body.length) ++ List.range' (min pos body.length) (body.length - min pos body.length) := by
    have := List.range'_append (s := 0) (m := min pos body.length) (n := body.length - min pos body.length) (step := 1)
    simp only [Nat.one_mul, Nat.zero_add] at this
    rw [this]
    congr 1
    omega
  rw [hsplit, List.filter_append, List.map_append, goLoop_prefix body pos _ (Nat.min_le_left _ _)]
  rw [goLoop_all_ge, specLine_min, specLineStart_min]
  intro x hx
  simp only [List.mem_map, List.mem_filter, List.mem_range'_1] at hx
  obtain ⟨j, ⟨⟨hj1, hj2⟩, _⟩, rfl⟩ := hx
  simp only
  omega

/-- the specification read as a count: the line is one more than the number of indices below `pos` at which a line
terminator starts (so CR LF counts once, LF CR and CR CR twice) -/
theorem line_counts_terminators (body : List UInt8) (pos : Nat) :
    (getLocation body pos).1 = 1 + ((List.range pos).filter (startsTerm body)).length := by
  rw [getLocation_eq_spec]; rfl

/-- lines and columns are 1-based. The column hypothesis is necessary (`column_zero_inside_crlf`): the only positions
with column 0 are those pointing at the LF of a CR LF pair, which is never a token start nor a lexer error position. -/
theorem one_based (body : List UInt8) (pos : Nat) (h : ¬ insideCRLF body pos) :
    1 ≤ (getLocation body pos).1 ∧ 1 ≤ (getLocation body pos).2 := by
  rw [getLocation_eq_spec]
  have := (specLineStart_le body pos).2 h
  simp only [spec, specLine]
  omega

theorem line_one_based (body : List UInt8) (pos : Nat) : 1 ≤ (getLocation body pos).1 := by
  rw [getLocation_eq_spec]; simp only [spec, specLine]; omega

/-- the exceptional case of `one_based`: between the CR and the LF of a CR LF pair the column is 0 -/
theorem column_zero_inside_crlf (body : List UInt8) (pos : Nat) (h : insideCRLF body pos) :
    (getLocation body pos).2 = 0 := by
  rw [getLocation_eq_spec]
  obtain ⟨h1, h2, h3⟩ := h
  obtain ⟨q, rfl⟩ : ∃ q, pos = q + 1 := ⟨pos - 1, by omega⟩
  simp only [Nat.add_sub_cancel] at h2
  have hs : startsTerm body q = true := by simp [startsTerm, h2]
  have he : termEnd body q = q + 2 := by simp [termEnd, h2, h3]
  simp only [spec, specLineStart_succ, hs, if_true, he]
  omega

/-- the line never exceeds the number of lines of the text, wherever `pos` points (also beyond the end) -/
theorem line_le_lines (body : List UInt8) (pos : Nat) : (getLocation body pos).1 ≤ numLines body := by
  rw [getLocation_eq_spec]
  simp only [spec, numLines]
  rw [← specLine_min]
  exact specLine_mono body (Nat.min_le_right _ _)

/-- the column stays within its line: `column − 1` bytes before `pos` lies the start `s` of the line, `s` is the
beginning of the text or directly follows a CR or LF (and is not the LF of a CR LF), and no CR or LF lies in `[s, pos)`.
These three facts determine `s`, hence the column, uniquely. -/
theorem column_within_line (body : List UInt8) (pos : Nat) (h : ¬ insideCRLF body pos) :
    let col := (getLocation body pos).2
    let s := pos + 1 - col
    s ≤ pos ∧ s + (col - 1) = pos ∧
    (s = 0 ∨ (1 ≤ s ∧ (body[s - 1]? = some 13 ∨ body[s - 1]? = some 10))) ∧ ¬ insideCRLF body s ∧
    (∀ j, s ≤ j → j < pos → body[j]? ≠ some 13 ∧ body[j]? ≠ some 10) := by
  intro col s
  have hle := (specLineStart_le body pos).2 h
  have hs : s = specLineStart body pos := by
    simp only [s, col]
    rw [getLocation_eq_spec]
    simp only [spec]
    omega
  have hcol : col = pos + 1 - specLineStart body pos := by
    simp only [col]; rw [getLocation_eq_spec]; rfl
  have h3 := specLineStart_after_terminator body pos
  rw [hs]
  exact ⟨hle, by omega, h3.1, h3.2, specLineStart_no_terminator body pos⟩

/-- the line is monotone in the position -/
theorem line_monotone (body : List UInt8) {p q : Nat} (h : p ≤ q) :
    (getLocation body p).1 ≤ (getLocation body q).1 := by
  rw [getLocation_eq_spec, getLocation_eq_spec]
  exact specLine_mono body h

/-- on one line the column advances exactly with the byte offset -/
theorem column_advances_on_line (body : List UInt8) {p q : Nat} (h : p ≤ q)
    (hl : (getLocation body p).1 = (getLocation body q).1) :
    (getLocation body q).2 = (getLocation body p).2 + (q - p) := by
  rw [getLocation_eq_spec, getLocation_eq_spec] at *
  obtain ⟨k, rfl⟩ := Nat.exists_eq_add_of_le h
  have hs := specLineStart_eq_of_specLine_eq body p k hl.symm
  have := (specLineStart_le body p).1
  simp only [spec, hs]
  omega

/-- (line, column) is strictly increasing in the position, lexicographically -/
theorem location_strictly_monotone (body : List UInt8) {p q : Nat} (h : p < q) :
    (getLocation body p).1 < (getLocation body q).1 ∨
    ((getLocation body p).1 = (getLocation body q).1 ∧ (getLocation body p).2 < (getLocation body q).2) := by
  have hm := line_monotone body (Nat.le_of_lt h)
  by_cases hl : (getLocation body p).1 = (getLocation body q).1
  · right
    refine ⟨hl, ?_⟩
    rw [column_advances_on_line body (Nat.le_of_lt h) hl]
    omega
  · left; omega

/-- different positions get different locations: a location identifies its byte offset -/
theorem location_injective (body : List UInt8) {p q : Nat} (h : getLocation body p = getLocation body q) : p = q := by
  have ne : ∀ {p q}, p < q → getLocation body p ≠ getLocation body q := fun hlt h => by
    rcases location_strictly_monotone body hlt with h1 | ⟨_, h2⟩
    · rw [h] at h1; omega
    · rw [h] at h2; omega
  rcases Nat.lt_trichotomy p q with hlt | heq | hgt
  · exact absurd h (ne hlt)
  · exact heq
  · exact absurd h.symm (ne hgt)

/-! ## response paths -/

/-- `AsArray` lists the keys from the root to the field: the `Prev` chain reversed -/
theorem asArray_eq_reversed_chain (p : RPath) : p.asArray = p.chain.reverse := by
  induction p with
  | nil => rfl
  | cons p k ih => simp [RPath.asArray, RPath.chain, ih]

theorem asArray_withKey (p : RPath) (k : Key) : (p.withKey k).asArray = p.asArray ++ [k] := rfl

/-- a path built by successive `WithKey` calls from the nil path reads back as exactly those keys, in order
(list indices included) -/
theorem asArray_of_withKeys (ks : List Key) : (ks.foldl RPath.withKey .nil).asArray = ks := by
  simpa [RPath.asArray] using foldl_withKey_asArray ks .nil

/-- following `AsArray` of the path the executor hands to a field, from the root of the data the executor builds
around that field (any siblings, any list neighbours, unique response keys per map), reaches the field's own value -/
theorem path_addresses (fs : List Frame) (t : Tree) (h : ∀ f ∈ fs, f.wf) :
    (plug fs t).get? (pathOf fs).asArray = some t := by
  rw [pathOf_asArray]
  induction fs with
  | nil => rfl
  | cons f fs ih =>
    rw [List.map_cons, plug, get?_cons_of_step _ (step_fill f _ (h f List.mem_cons_self))]
    exact ih (fun g hg => h g (List.mem_cons_of_mem _ hg))

/-- consequence used by stream (d): if the value placed at the field's position is null, the data at the error path is null -/
theorem null_at_path (fs : List Frame) (h : ∀ f ∈ fs, f.wf) :
    (plug fs .null).get? (pathOf fs).asArray = some .null := path_addresses fs .null h

/-! ## non-vacuity: LF, CR, CR LF mixes -/

/-- `"a\nb\r\nc\rd"`: a=0 LF=1 b=2 CR=3 LF=4 c=5 CR=6 d=7 -/
def sample : List UInt8 := [97, 10, 98, 13, 10, 99, 13, 100]

example : terms sample 0 = [(1, 2), (3, 5), (6, 7)] := by decide
example : getLocation sample 0 = (1, 1) := by decide
example : getLocation sample 1 = (1, 2) := by decide   -- the LF itself still belongs to line 1
example : getLocation sample 2 = (2, 1) := by decide
example : getLocation sample 3 = (2, 2) := by decide   -- the CR of CR LF
example : getLocation sample 4 = (3, 0) := by decide   -- inside CR LF: the exceptional case
example : insideCRLF sample 4 := by decide
example : getLocation sample 5 = (3, 1) := by decide
example : getLocation sample 7 = (4, 1) := by decide
example : getLocation sample 8 = (4, 2) := by decide   -- end of text
example : getLocation sample 50 = (4, 44) := by decide  -- beyond the end: as the Go loop
example : spec sample 5 = (3, 1) := by decide
example : numLines sample = 4 := by decide
/-- LF CR is two terminators, CR CR LF is CR followed by CR LF -/
example : getLocation [10, 13, 97] 2 = (3, 1) := by decide
example : getLocation [13, 13, 10, 97] 3 = (3, 1) := by decide
example : terms [13, 13, 10, 10] 0 = [(0, 1), (1, 3), (3, 4)] := by decide
example : ¬ insideCRLF sample 5 ∧ ¬ insideCRLF sample 0 := by decide

/-- `data.a[1].b` -/
example : (((RPath.nil.withKey (.name "a")).withKey (.idx 1)).withKey (.name "b")).asArray
    = [.name "a", .idx 1, .name "b"] := by decide
example :
    let fs := [Frame.field [("x", .leaf "1")] "a" [], .item [.null] [.leaf "z"], .field [] "b" [("c", .null)]]
    (∀ f ∈ fs, f.wf) ∧ (pathOf fs).asArray = [.name "a", .idx 1, .name "b"] := by
  refine ⟨?_, by decide⟩
  intro f hf
  simp only [List.mem_cons, List.not_mem_nil, or_false] at hf
  rcases hf with rfl | rfl | rfl <;> simp [Frame.wf, lookup]

end GqlModel.Location
