import GqlProofs.Determinism
import Generated.Tables
/-! # C12 — The same request always produces the same response

Full statement (properties.jsonl): executing the same request against the same schema yields byte-identical JSON
every time, independent of history, of hash-map iteration order and of plan caching; validation likewise.

What is proved here. Go's map iteration is an adversary `adv : Adversary α` (`adv.ord l ~ l`). For each *pattern* in
which package graphql ranges over a map, the outcome is independent of the adversary (`sortedAfter`, `commutative`,
`orderIrrelevant`), or the pattern provably leaks the order (`leaks`, with witnesses). The regenerated list of all
map-range sites of /repo must equal the hand-classified list `siteClass`, each site must still have the syntactic shape
it was classified under, `sortedAfter` must coincide with the collect-then-sort shapes, and every `leaks` site must be
in the explicit list of known findings.

Not proved: `output_order_independent` for a whole-pipeline model (`GqlModel.Pipeline` keeps only the class of a result, not
its bytes, so there is no model to state it about; the per-site classification is the hand-written step between the pattern theorems and the
code) and `history_independent` (no state besides plan/cache: C06). Byte-identical output of the real binary is
sampled by harness/cmd/c12 (50 repetitions interleaved with other requests, 8 fresh processes). -/
namespace GqlModel.Determinism
open List

/-! ## Pattern theorems (all adversaries, all entry lists) -/

/-- collect – (filter) – sort with a total order: any two iteration orders give the same list, hence the same
everything computed from it. `antisymm` only on the entries: for keys of a map with `sort.Strings` it is string
order; for `sort.Slice(values, by name)` it holds because the names are the (distinct) keys. -/
theorem sorted_after_range_order_independent {α : Type} (le : α → α → Bool) (keep : α → Bool)
    (trans : ∀ a b c : α, le a b → le b c → le a c) (total : ∀ a b : α, le a b || le b a)
    (entries : List α) (antisymm : ∀ a b, a ∈ entries → b ∈ entries → le a b → le b a → a = b)
    (adv₁ adv₂ : Adversary α) :
    collectSorted le keep adv₁ entries = collectSorted le keep adv₂ entries := by
  unfold collectSorted
  have hp : (((adv₁.ord entries).filter keep).mergeSort le).Perm (((adv₂.ord entries).filter keep).mergeSort le) :=
    (mergeSort_perm _ _).trans (((adv₁.ord_perm_ord adv₂ entries).filter keep).trans (mergeSort_perm _ _).symm)
  refine hp.eq_of_pairwise (le := fun a b => le a b = true) ?_ (pairwise_mergeSort trans total _)
    (pairwise_mergeSort trans total _)
  intro a b ha hb
  exact antisymm a b ((adv₁.perm entries).subset (mem_filter.mp (mem_mergeSort.mp ha)).1)
    ((adv₂.perm entries).subset (mem_filter.mp (mem_mergeSort.mp hb)).1)

/-- … hence whatever is built from the sorted list, in that order -/
theorem sorted_use_order_independent {α β : Type} (le : α → α → Bool) (keep : α → Bool) (use : List α → β)
    (trans : ∀ a b c : α, le a b → le b c → le a c) (total : ∀ a b : α, le a b || le b a)
    (entries : List α) (antisymm : ∀ a b, a ∈ entries → b ∈ entries → le a b → le b a → a = b)
    (adv₁ adv₂ : Adversary α) :
    useSorted le keep use adv₁ entries = useSorted le keep use adv₂ entries := by
  unfold useSorted
  rw [sorted_after_range_order_independent le keep trans total entries antisymm adv₁ adv₂]

/-- the instance `sort.Strings` on collected names, unconditionally -/
theorem sort_strings_order_independent (keep : String → Bool) (names : List String) (adv₁ adv₂ : Adversary String) :
    collectSorted strLe keep adv₁ names = collectSorted strLe keep adv₂ names :=
  sorted_after_range_order_independent strLe keep strLe_trans strLe_total names
    (fun a b _ _ => strLe_antisymm a b) adv₁ adv₂

/-- `suggestionList` after D-12a's repair: filter by threshold, sort by (distance, name) — for every distance function -/
theorem suggestion_list_order_independent (dist : String → Nat) (thr : Nat) (names : List String)
    (adv₁ adv₂ : Adversary String) :
    suggestionList dist thr adv₁ names = suggestionList dist thr adv₂ names :=
  sorted_after_range_order_independent (suggestLe dist) _ (suggestLe_trans dist) (suggestLe_total dist) names
    (fun a b _ _ => suggestLe_antisymm dist a b) adv₁ adv₂

/-- D-12a as it was (sort on distance only): the order leaks although the list is "sorted" -/
theorem suggestion_list_by_distance_only_leaks :
    ∃ (dist : String → Nat) (names : List String),
      collectSorted (byDistance dist) (fun _ => true) Adversary.id names ≠
      collectSorted (byDistance dist) (fun _ => true) Adversary.reverse names :=
  ⟨fun _ => 1, ["ab", "ac"], by
    have h1 : List.Pairwise (fun a b => byDistance (fun _ => 1) a b = true) ["ab", "ac"] := by decide
    have h2 : List.Pairwise (fun a b => byDistance (fun _ => 1) a b = true) ["ac", "ab"] := by decide
    simp [collectSorted, Adversary.id, Adversary.reverse, List.mergeSort_of_pairwise h1, List.mergeSort_of_pairwise h2]⟩

/-- commutative accumulation into a map: same final map (extensionally) for every iteration order -/
theorem commutative_accumulation_order_independent {κ ν ν' : Type} [DecidableEq κ] (f : κ × ν → ν')
    (entries : List (κ × ν)) (hu : KeysUnique entries) (init : AMap κ ν') (adv₁ adv₂ : Adversary (κ × ν)) :
    accumulate f adv₁ entries init = accumulate f adv₂ entries init := by
  unfold accumulate
  have hp : (adv₁.ord entries).Perm (adv₂.ord entries) := adv₁.ord_perm_ord adv₂ entries
  exact foldl_set_perm f hp (hu.perm (adv₁.perm entries).symm) init

/-- accumulation with abort at the first invalid entry: whether it fails, and the map if it does not, are the same
for every iteration order (which invalid entry is reported is not) -/
theorem checked_accumulation_order_independent {κ ν ν' ε : Type} [DecidableEq κ] (bad : κ × ν → Option ε)
    (f : κ × ν → ν') (entries : List (κ × ν)) (hu : KeysUnique entries) (init : AMap κ ν')
    (adv₁ adv₂ : Adversary (κ × ν)) :
    outcome (accumulateChecked bad f adv₁ entries init) = outcome (accumulateChecked bad f adv₂ entries init) := by
  unfold accumulateChecked
  have hp : (adv₁.ord entries).Perm (adv₂.ord entries) := adv₁.ord_perm_ord adv₂ entries
  have hs := hp.isSome_findSome? bad
  rw [accCheckedGo_eq, accCheckedGo_eq]
  cases h1 : (adv₁.ord entries).findSome? bad <;> cases h2 : (adv₂.ord entries).findSome? bad
  · exact congrArg some (commutative_accumulation_order_independent f entries hu init adv₁ adv₂)
  · rw [h1, h2] at hs; cases hs
  · rw [h1, h2] at hs; cases hs
  · rfl

/-- the error that is reported is the error of *some* entry of the map (never an invented one) -/
theorem checked_accumulation_error_is_of_an_entry {κ ν ν' ε : Type} [DecidableEq κ] (bad : κ × ν → Option ε)
    (f : κ × ν → ν') (entries : List (κ × ν)) (init : AMap κ ν') (adv : Adversary (κ × ν)) (err : ε)
    (h : accumulateChecked bad f adv entries init = .error err) : ∃ e ∈ entries, bad e = some err := by
  unfold accumulateChecked at h
  rw [accCheckedGo_eq] at h
  cases hf : (adv.ord entries).findSome? bad with
  | none => rw [hf] at h; cases h
  | some err' =>
    rw [hf] at h
    cases h
    obtain ⟨e, he, hb⟩ := exists_of_findSome?_eq_some hf
    exact ⟨e, (adv.perm entries).subset he, hb⟩

/-- existence checks / "return the first error": whether there is one does not depend on the order -/
theorem order_irrelevant_first_error {α ε : Type} (bad : α → Option ε) (entries : List α) (adv₁ adv₂ : Adversary α) :
    (firstError bad adv₁ entries).isSome = (firstError bad adv₂ entries).isSome :=
  (adv₁.ord_perm_ord adv₂ entries).isSome_findSome? bad

theorem order_irrelevant_exists_check {α : Type} (p : α → Bool) (entries : List α) (adv₁ adv₂ : Adversary α) :
    existsCheck p adv₁ entries = existsCheck p adv₂ entries :=
  (adv₁.ord_perm_ord adv₂ entries).any_eq

/-- what a leaking site can do and what it cannot: two runs emit the same *multiset* (the outputs are permutations of
each other — this is what the harness's known-finding predicate tests), but not always the same list -/
theorem leak_is_only_order {α β : Type} (f : α → Option β) (entries : List α) (adv₁ adv₂ : Adversary α) :
    (emitInOrder f adv₁ entries).Perm (emitInOrder f adv₂ entries) := by
  unfold emitInOrder
  exact (adv₁.ord_perm_ord adv₂ entries).filterMap f

theorem emit_in_order_leaks :
    ∃ entries : List Nat, emitInOrder some Adversary.id entries ≠ emitInOrder some Adversary.reverse entries :=
  ⟨[1, 2], by decide⟩

/-- the first-match use of a leaked order (`defaultResolveTypeFn` over `implementations`, `responseNames[0]`) changes
the *value*, not only an order (D-12g, D-12i) -/
theorem first_match_leaks_value :
    ∃ (p : Nat → Bool) (entries : List Nat), firstMatch p Adversary.id entries ≠ firstMatch p Adversary.reverse entries :=
  ⟨fun _ => true, [1, 2], by decide⟩

/-! ## Table obligations (re-checked against /repo on every run) -/

/-- `Generated.mapRangeSites` (every `range` over a map in package graphql) is exactly the classified list: a new site,
a removed one or a moved one breaks this. -/
theorem all_map_range_sites_classified : allClassified Generated.mapRangeSites = true :=
  -- the two tables are identical literal for literal; deciding `==` instead would UTF-8-encode every string in the kernel
  beq_iff_eq.2 rfl

/-- every site still has the syntactic shape it was classified under (a removed `sort.Strings` turns `keys>sort.Strings`
into `keys>unsorted`, an added `append` turns `noappend` into `append`, …) -/
theorem site_shapes_as_classified : shapesAsClassified Generated.mapRangeShapes = true :=
  beq_iff_eq.2 rfl

/-- `sortedAfter` exactly for collect-then-sort shapes (sink is `sort.*`, or a function in which the regenerated
`sortCalls` finds a `sort.*` call); no non-leaking site appends in iteration order unless waived with a reason -/
theorem classes_fit_shapes : classesFitShapes Generated.sortCalls = true := by
  show siteClass.all (rowFits Generated.sortCalls) = true
  decide +kernel

/-- every site classified `leaks` is in the explicit list of known leaking sites, and conversely -/
theorem no_leaking_site_unlisted : leaksAreListed = true := by
  decide +kernel

/-! ## Non-vacuity -/

/-- a nontrivial adversary and entries on which the theorems say something -/
example : collectSorted strLe (fun _ => true) Adversary.reverse ["c", "b", "a"] = ["a", "b", "c"] := by
  have h : List.Pairwise (fun a b => strLe a b = true) ["a", "b", "c"] := by decide
  simpa [collectSorted, Adversary.reverse] using List.mergeSort_of_pairwise h
example : KeysUnique [("a", 1), ("b", 2)] := by
  intro x hx y hy h
  simp only [List.mem_cons, List.mem_nil_iff, or_false] at hx hy
  rcases hx with rfl | rfl <;> rcases hy with rfl | rfl <;> simp_all
example : outcome (accumulateChecked (fun e : String × Nat => if e.2 = 0 then some e.1 else none) (·.2)
    Adversary.id [("a", 0), ("b", 0)] AMap.empty) = none := by decide
example : accumulateChecked (fun e : String × Nat => if e.2 = 0 then some e.1 else none) (·.2)
      Adversary.id [("a", 0), ("b", 0)] (AMap.empty (ν := Nat)) = .error "a" ∧
    accumulateChecked (fun e : String × Nat => if e.2 = 0 then some e.1 else none) (·.2)
      Adversary.reverse [("a", 0), ("b", 0)] (AMap.empty (ν := Nat)) = .error "b" := by
  constructor <;> rfl

end GqlModel.Determinism
