import GqlProofs.ExecBasic
import GqlProofs.ExecLog
import GqlProofs.ExecSerial
import GqlProofs.ExecCollect
import GqlProofs.ExecExample
/-! # C13 — Top-level mutation fields execute serially in document order

Property theorems only, about the execution-algorithm model `GqlModel.Exec.execute` (`GqlModel/Exec.lean`), for EVERY
schema, document, operation name, variable input, resolver world (values, errors, thunks, failing thunks at any level)
and fuel (premise: the response is a `.result`). The observable is the resolver invocation log (one `LogEntry` per
resolver call, in the order of the calls; work a resolver deferred in a thunk is logged with `deferred := true` at the
point where the algorithm forces it). The statements hold for every operation type of the model (the algorithm is
serial throughout); the property claims them of mutations, and that is what the harness compares on the real
executor (`topLevelSerial`, `topLevelOrder`, 20 repetitions per case). -/
namespace GqlModel.Exec

/-- C13: the log of a request is the concatenation, in the order of the top-level groups (response keys of the
collected root selection), of one contiguous block per top-level group; every entry of a block has that group's key
as its first path segment — nothing belonging to a later top-level field (its resolver, the resolvers of its
sub-selection, work it deferred) runs before everything belonging to every earlier one has finished. The keys are
pairwise distinct, so the blocks are exactly `blocksOf`: the log split by first path segment. -/
theorem mutation_serial (s : Schema) (doc : Document) (opName : String) (inputs : Coerce.Vars) (w : World) (fuel : Nat)
    (data : Option (List (String × JVal))) (errs : List (Path × Bool)) (log : List LogEntry) (kf : List Path)
    (h : execute s doc opName inputs w fuel = .result data errs log kf) :
    ∃ c root sel, requestCtx s doc opName inputs w = some (c, root, sel) ∧
      let keys := (rootGroups c root sel).map (·.1)
      keys.Nodup ∧ SerialBlocks keys log ∧ log = (blocksOf keys log).flatten := by
  obtain ⟨c, root, sel, r, st, hc, hr, -, hlog, -, -⟩ := execute_result h
  refine ⟨c, root, sel, hc, ?_⟩
  obtain ⟨new, hl, hb⟩ := (logP c fuel).groups _ _ _ _ _ _ _ _ _ hr
  have hnd : ((rootGroups c root sel).map (·.1)).Nodup := rootGroups_keys_nodup c root sel
  have hlog' : log = new.reverse := by
    rw [hlog, hl]; simp [St.empty]
  have hs := serialBlocks_of_blocks hb
  rw [← hlog'] at hs
  exact ⟨hnd, hs, hs.eq_flatten hnd⟩

/-- The order of the top-level groups is document order: for every split `pre ++ post` of the root selection list the
keys collected from `pre` come first (a prefix), and (`key_present_iff_some_occurrence_included`, C01) a key is among
them iff an included occurrence of it is found in `pre` — so the groups are ordered by the first top-level selection
in which an included occurrence appears. -/
theorem top_level_order_is_document_order (c : Ctx) (root : String) (pre post : List Selection) (l : Loc) :
    (rootGroups c root (.mk pre l)).map (·.1) <+: (rootGroups c root (.mk (pre ++ post) l)).map (·.1) ∧
    ∀ k, k ∈ (rootGroups c root (.mk pre l)).map (·.1) ↔ ∃ f, Occurs c root pre f ∧ f.key = k := by
  refine ⟨?_, ?_⟩
  · simp only [rootGroups, collect, collectSet]
    rw [collectList_append]
    exact (collectList_steps _ post _).keys_prefix
  · exact fun k => mem_collect_keys_iff pre l k

/-! ## Non-vacuity -/

open Ex in
/-- `mutation M { m1 { y } m2 m1 { x } }`: the two `m1` occurrences merge, `m1` returns a thunk (deferred work), its
sub-fields run inside the block of `m1`, before `m2` -/
example : obsLog (execute schema doc "M" [] world 50) = ["m1", "m1.y", "m1.x", "m2"] := by decide +kernel

open Ex in
example : (match execute schema doc "M" [] world 50 with
    | .result _ _ log _ => (blocksOf ["m1", "m2"] log).map (fun b => b.map (fun e => (pathStr e.path, e.deferred)))
    | _ => []) = [[("m1", false), ("m1.y", true), ("m1.x", true)], [("m2", false)]] := by decide +kernel

end GqlModel.Exec
