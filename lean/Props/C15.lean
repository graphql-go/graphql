import GqlProofs.Subscription
import Generated.Tables
import GqlModel.ChanTables
/-! # C15 — A subscription delivers one correct result per source event, then closes

Property theorems, with the configuration their examples use. The object is the transition system `GqlModel.Subscription.step` (model M of
`graphql.Subscribe` / `ExecuteSubscription`, see the anchors there). A *schedule* is a list of actions; `run`
returns `none` when an action of the list is not enabled, so `run … acts = some s` says "`acts` is a possible
run and ends in `s`". All theorems quantify over **every** schedule of **any** length (induction over the
action list), every event list, every `exec` (what `Execute` makes of an event) and every consumer behaviour.

`Cfg.ctxErr` is the result `{data: null, errors: [ctx.Err()]}`. `Execute` runs under the request context, so a
result computed for an event taken *after* cancellation may be that context error instead of the mapped result
(C16); the model marks this on the action (`produce true`, enabled only once cancelled). -/
namespace GqlModel.Subscription
variable {ε ρ : Type}

/-- **One result per source event, in source order, each the mapped event** — on every schedule.
What the consumer has received corresponds one-to-one and in order to a prefix `pre` of the source's events;
each result is `exec` of its event, except that a result may be the context error when the context is
cancelled by now; and if `Execute` never ran under the done context (no `produce true` in the schedule — in
particular if the context was never cancelled) the delivered list is exactly `map exec pre`. -/
theorem delivered_is_mapped_prefix (c : Cfg ε ρ) (events : List ε) (acts : List Act) (s : St ε ρ)
    (h : run c (init (.stream events)) acts = some s) :
    ∃ pre rest, events = pre ++ rest ∧ s.delivered.length = pre.length ∧
      (∀ (i : Nat) (r : ρ) (e : ε), s.delivered[i]? = some r → pre[i]? = some e →
          r = c.exec e ∨ (s.cancelled = true ∧ r = c.ctxErr)) ∧
      ((∀ a ∈ acts, a ≠ .produce true) → s.delivered = pre.map c.exec) := by
  obtain ⟨_, pre, rest, hev, hm, _⟩ := streamInv_run acts _ s streamInv_init h
  refine ⟨pre, rest, hev, hm.length_eq, hm.get, fun hp => ?_⟩
  obtain ⟨_, pre', rest', hev', hm', _⟩ :=
    streamInv_run_pure acts _ s hp streamInv_init h
  rw [List.append_inj_left (hev.symm.trans hev') (hm.length_eq.symm.trans hm'.length_eq)]
  exact hm'.eq_map_exec

/-- corollary: as long as the context is not cancelled the delivered list is exactly the mapped prefix -/
theorem delivered_exact_until_cancel (c : Cfg ε ρ) (events : List ε) (acts : List Act) (s : St ε ρ)
    (h : run c (init (.stream events)) acts = some s) (hc : s.cancelled = false) :
    ∃ pre rest, events = pre ++ rest ∧ s.delivered = pre.map c.exec := by
  obtain ⟨_, pre, rest, hev, hm, _⟩ := streamInv_run acts _ s streamInv_init h
  rw [hc] at hm
  exact ⟨pre, rest, hev, hm.eq_map_exec⟩

/-- **Closed after the source closes or the context is cancelled.**
(1) *only then*: whenever the result channel is closed, either the context was cancelled, or the source was
closed after its last event and then every event's result has been delivered;
(2) *then indeed*: once the context is cancelled, or the source is closed and drained and the consumer reads,
at most two further steps of the forwarder and the consumer (no step of anybody else) close the channel. -/
theorem closed_after_source_closed_or_cancelled (c : Cfg ε ρ) (events : List ε) (acts : List Act) (s : St ε ρ)
    (h : run c (init (.stream events)) acts = some s) :
    (s.closedSeen = true → s.cancelled = true ∨ (s.srcClosed = true ∧ s.delivered = events.map c.exec)) ∧
    ((s.cancelled = true ∨ (s.srcClosed = true ∧ s.pending = [] ∧ s.consumer = .reading)) →
      ∃ more t, more.length ≤ 2 ∧ (∀ a ∈ more, a = .deliver ∨ a = .finish ∨ a = .observeCancel) ∧
        run c s more = some t ∧ t.closedSeen = true) := by
  have hinv := streamInv_run acts _ s streamInv_init h
  have hb : s.buf = [] := hinv.1
  have closed : ∀ t : St ε ρ, t.buf = s.buf → t.fwd = .done → t.closedSeen = true :=
    fun t h1 h2 => St.closedSeen_iff.2 ⟨h1.trans hb, h2⟩
  constructor
  · intro hcl
    cases hc : s.cancelled with
    | true => exact .inl rfl
    | false => exact .inr (hinv.complete_of_done (St.closedSeen_iff.1 hcl).2 hc)
  · intro hpre
    by_cases hd : s.fwd = .done
    · exact ⟨[], s, Nat.zero_le _, nofun, rfl, closed s rfl hd⟩
    rcases hpre with hc | ⟨h1, h2, h3⟩
    · exact ⟨[.observeCancel], _, by decide, by decide, Step.run_cons (.observeCancel hc hd) rfl, closed _ rfl rfl⟩
    obtain ⟨_, pre, rest, _, _, hf⟩ := hinv
    cases hfw : s.fwd with
    | done => exact absurd hfw hd
    | final r => simp only [hfw] at hf
    | idle => exact ⟨[.finish], _, by decide, by decide, Step.run_cons (.finish hfw h2 h1) rfl, closed _ rfl rfl⟩
    | holding r =>
      exact ⟨[.deliver, .finish], _, by decide, by decide,
        Step.run_cons (.deliverHolding h3 hb hfw) (Step.run_cons (.finish rfl h2 h1) rfl), closed _ rfl rfl⟩

/-- **A request that fails to parse, validate or subscribe delivers exactly one error result and is then
closed.** `r` is that error result. For both mechanisms (buffered closed channel of `sendOneResultAndClose`;
`send(r)` inside the goroutine) and on every schedule: nothing but `r` is ever delivered and at most once; a
reading consumer's next receive delivers `r` and the channel is closed right after; once closed, `r` has been
delivered — unless the context was cancelled first, the only way the goroutine may drop it. -/
theorem invalid_request_one_error_then_closed (c : Cfg ε ρ) (r : ρ) (req : Request ε ρ)
    (hreq : req = .invalid r ∨ req = .oneShot r) (acts : List Act) (s : St ε ρ)
    (h : run c (init req) acts = some s) :
    (s.delivered = [] ∨ s.delivered = [r]) ∧
    (s.closedSeen = true → s.delivered = [r] ∨ (req = .oneShot r ∧ s.cancelled = true ∧ s.delivered = [])) ∧
    (s.closedSeen = false → s.consumer = .reading →
      ∃ t, step c s .deliver = some t ∧ t.delivered = [r] ∧ t.closedSeen = true) := by
  rcases hreq with rfl | rfl
  · obtain ⟨_, hf, hb⟩ : InvalidInv r s :=
      inv_run (I := InvalidInv r) (invalidInv_step r) acts _ s ⟨rfl, rfl, Or.inl ⟨rfl, rfl⟩⟩ h
    rcases hb with ⟨hb, hd⟩ | ⟨hb, hd⟩
    · refine ⟨.inl hd, fun hcl => ?_, fun _ hc => ?_⟩
      · cases hb.symm.trans (St.closedSeen_iff.1 hcl).1
      · exact ⟨_, (Step.deliverBuf hc hb).step_eq, congrArg (· ++ [r]) hd, St.closedSeen_iff.2 ⟨rfl, hf⟩⟩
    · exact ⟨.inr hd, fun _ => .inl hd, fun hncl => nomatch (St.closedSeen_iff.2 ⟨hb, hf⟩).symm.trans hncl⟩
  · obtain ⟨_, hb, hf⟩ : OneShotInv r s :=
      inv_run (I := OneShotInv r) (oneShotInv_step r) acts _ s ⟨rfl, rfl, Or.inl ⟨rfl, rfl⟩⟩ h
    rcases hf with ⟨hf, hd⟩ | ⟨hf, hd⟩ | ⟨hf, hd, hc⟩
    · refine ⟨.inl hd, fun hcl => ?_, fun _ hc => ?_⟩
      · cases hf.symm.trans (St.closedSeen_iff.1 hcl).2
      · exact ⟨_, (Step.deliverFinal hc hb hf).step_eq, congrArg (· ++ [r]) hd, St.closedSeen_iff.2 ⟨hb, rfl⟩⟩
    · exact ⟨.inr hd, fun _ => .inl hd, fun hncl => nomatch (St.closedSeen_iff.2 ⟨hb, hf⟩).symm.trans hncl⟩
    · exact ⟨.inl hd, fun _ => .inr ⟨rfl, hc, hd⟩,
        fun hncl => nomatch (St.closedSeen_iff.2 ⟨hb, hf⟩).symm.trans hncl⟩

/-- every schedule made of forwarder / receive / producer actions only is finite: at most `2·|events| + 2`
steps from the start (so maximal runs exist and end in terminal states) -/
theorem progress_runs_are_bounded (c : Cfg ε ρ) (events : List ε) (acts : List Act) (s : St ε ρ)
    (hp : ∀ a ∈ acts, a ∈ progressActs) (h : run c (init (.stream events)) acts = some s) :
    acts.length ≤ 2 * events.length + 2 :=
  -- `stepsLeft` of the initial state computes to `2 * events.length + 2`
  Nat.le_trans (Nat.le_add_right _ _) (progress_run_bound acts _ s hp h)

/-- **Prompt consumer, no cancellation ⇒ every maximal run delivers all events, then closes.**
If the schedule contains no `cancel` and the consumer never pauses or stops, then in any state where no
action of the forwarder, the consumer or the producer is enabled any more (a terminal state; by
`progress_runs_are_bounded` every run reaches one) all events have been delivered, mapped, in order, and the
channel is closed. -/
theorem terminal_states_complete (c : Cfg ε ρ) (events : List ε) (acts : List Act) (s : St ε ρ)
    (h : run c (init (.stream events)) acts = some s)
    (hno : ∀ a ∈ acts, a ≠ .cancel ∧ a ≠ .pause ∧ a ≠ .stop)
    (hterm : s.terminal c = true) :
    s.delivered = events.map c.exec ∧ s.closedSeen = true ∧ s.goroutineAlive = false := by
  have ⟨hcons, hcanc⟩ : s.consumer = .reading ∧ s.cancelled = false :=
    inv_run_of (I := fun s => s.consumer = .reading ∧ s.cancelled = false) prompt_uncancelled_step acts _ s hno
      ⟨rfl, rfl⟩ h
  have hinv := streamInv_run acts _ s streamInv_init h
  have hb : s.buf = [] := hinv.1
  -- in each state but the last some progress action is enabled, so the state is not terminal
  cases hfw : s.fwd with
  | idle =>
    cases hp : s.pending with
    | cons e es => exact (not_step_of_terminal hterm (by decide) (.produce false hfw hp nofun)).elim
    | nil =>
      cases hsrc : s.srcClosed with
      | false => exact (not_step_of_terminal hterm (by decide) (.closeSource hp hsrc)).elim
      | true => exact (not_step_of_terminal hterm (by decide) (.finish hfw hp hsrc)).elim
  | holding r => exact (not_step_of_terminal hterm (by decide) (.deliverHolding hcons hb hfw)).elim
  | final r =>
    obtain ⟨_, _, _, _, _, hf⟩ := hinv
    simp only [hfw] at hf
  | done =>
    exact ⟨(hinv.complete_of_done hfw hcanc).2, St.closedSeen_iff.2 ⟨hb, hfw⟩, by rw [St.goroutineAlive, hfw]⟩

/-- **After cancellation no goroutine of the subscription stays blocked.** For every kind of request and on
every schedule: once the context is cancelled, a forwarder that has not returned yet — idle, holding a stream
result, or holding a one-shot result — can take its `<-ctx.Done()` branch at once, whatever the consumer does
(also when it stopped reading for good), and that step ends the goroutine and closes the channel without
delivering anything further. (True because both sends are `select`s with `ctx.Done()`: repairs cdfe557, 8fc288b.) -/
theorem no_forwarder_stuck_after_cancel (c : Cfg ε ρ) (req : Request ε ρ) (acts : List Act) (s : St ε ρ)
    (_h : run c (init req) acts = some s) (hc : s.cancelled = true) (ha : s.goroutineAlive = true) :
    ∃ t, step c s .observeCancel = some t ∧ t.goroutineAlive = false ∧ t.delivered = s.delivered ∧
      t.consumer = s.consumer :=
  ⟨_, (Step.observeCancel hc (St.fwd_ne_done_of_alive ha)).step_eq, rfl, rfl, rfl⟩

/-- …and the forwarder cannot stay anywhere else: a cancelled state in which no action of the forwarder, the
consumer or the producer is enabled has no live goroutine (with `progress_runs_are_bounded`: after cancel
every maximal run ends with the goroutine gone). -/
theorem cancelled_terminal_has_no_goroutine (c : Cfg ε ρ) (s : St ε ρ) (hc : s.cancelled = true)
    (hterm : s.terminal c = true) : s.goroutineAlive = false :=
  Bool.eq_false_iff.2 fun ha =>
    not_step_of_terminal hterm (by decide) (.observeCancel hc (St.fwd_ne_done_of_alive ha))

/-- Tie to the code, re-checked against the regenerated `Generated/Tables.lean` on every run: the result
channel of `ExecuteSubscription` is the only channel made there and is unbuffered (so `deliver` is a
rendezvous, as modelled), and `sendOneResultAndClose` makes one channel of capacity 1 (so preloading it with
the single error result cannot block, as modelled by `Request.invalid`). -/
theorem result_channels_as_modelled :
    ChanTables.chanCaps Generated.chanMakes "subscription.go" "ExecuteSubscription" = [some 0] ∧
    ChanTables.chanCaps Generated.chanMakes "subscription.go" "sendOneResultAndClose" = [some 1] := by
  decide +kernel

/-! ## Non-vacuity: concrete schedules (events are numbers, `exec e = 10·e + 1`, context error = 0) -/

def exCfg : Cfg Nat Nat := { exec := fun e => 10 * e + 1, ctxErr := 0 }

/-- a complete run: two events, prompt consumer, source closes, forwarder finishes -/
example : (run exCfg (init (.stream [1, 2])) [.produce false, .deliver, .produce false, .deliver, .closeSource, .finish]).map
    (fun s => (s.delivered, s.closedSeen, s.terminal exCfg)) = some ([11, 21], true, true) := by decide
/-- cancel while a result is pending and the consumer has stopped: the forwarder leaves -/
example : (run exCfg (init (.stream [1, 2])) [.produce false, .stop, .cancel, .observeCancel]).map
    (fun s => (s.delivered, s.closedSeen, s.goroutineAlive)) = some ([], true, false) := by decide
/-- an event taken after cancellation may be answered with the context error -/
example : (run exCfg (init (.stream [1, 2])) [.produce false, .cancel, .deliver, .produce true, .deliver]).map
    (fun s => s.delivered) = some [11, 0] := by decide
/-- `produce true` is not enabled before cancellation, nor a second `deliver` without a result -/
example : run exCfg (init (.stream [1])) [.produce true] = none := by decide
example : run exCfg (init (.stream [1])) [.produce false, .deliver, .deliver] = none := by decide
/-- one-shot paths -/
example : (run exCfg (init (.invalid 7)) [.cancel, .deliver]).map (fun s => (s.delivered, s.closedSeen)) =
    some ([7], true) := by decide
example : (run exCfg (init (.oneShot 7)) [.stop, .cancel, .observeCancel]).map
    (fun s => (s.delivered, s.closedSeen)) = some ([], true) := by decide

end GqlModel.Subscription
