import GqlProofs.RoundTripMain
import Props.C03Lexer
import Props.C03Parser
import GqlProofs.RoundTripWFGrammar
import GqlProofs.RoundTripWFLexer
import Props.C08
/-! # C08, byte level — printing an AST and parsing the BYTES back yields the same AST

The lexer half of the whole-document round trip (`Props/C08.lean` has the token level):

* `print d` is taken as bytes through Lean's own UTF-8 encoder (`printBytes d = (print d).toUTF8.data.toList`);
* they are lexed by C03's bug-faithful lexer model `Lexer.lexAll` (two cursors, D-03a included);
* the tokens go through `LTok.toToken` into C03's parser model (`parseBytes = lexAll ≫ parseTokens`,
  GqlModel/ParseBytes.lean).

`WFDocument d` (GqlModel/PrinterWF.lean) is the premise: what every parser-produced tree satisfies.
Proof route: the printer's token view `docI d` satisfies the invariant `RoundTrip.LexK` (every separator is space /
newline / comma; every token text is a lexeme of its kind; a NAME / number / string is always followed by a separator
or a punctuator — `lexK_docI`); C03's SPEC tokeniser on such bytes yields exactly the items' tokens
(`lexLoopG_items`, per-token lemmas for names, numbers, punctuators, `...`, quoted strings, block-string
descriptions, all through the UTF-8 bridge); all Ignored gaps are ASCII, so D-03a's predicates are false and C03's
`model_eq_spec_partial` transports the result to the model M. -/
namespace GqlModel.C08
open GqlModel.Printer GqlModel.Lexer GqlModel.RoundTrip

/-! ## any rendered item list -/

/-- M on the bytes of a rendered item list satisfying the invariant: the items' tokens at their byte offsets, EOF, no error -/
theorem lexAll_items (is : List Item) (h : LexK is []) :
    lexAll (utf8 (render is)) =
      ⟨lexToks is 0 ++ [⟨.eof, (utf8 (render is)).length, (utf8 (render is)).length, []⟩], none⟩ := by
  obtain ⟨h1, h2⟩ := kf_false_items is h
  rw [model_eq_spec_partial _ h1 h2, Spec.lexAll, lexAllG_items is h]
  simp only [Option.map_none]
  rw [lexItems_split]
  simp

/-! ## the printed text is ASCII outside string contents -/

/-- in the token stream of the printed bytes every Ignored gap is free of bytes ≥ 0x80 (separators are spaces, newlines
and commas), and lexing does not fail: both known-finding predicates of D-03a are false on printed text -/
theorem printed_text_ascii_ignored (d : Document) (hwf : WFDocument d) :
    (∀ gt ∈ (Spec.lexAllG (printBytes d)).tokens, Spec.hasHigh gt.1 = false) ∧
    (Spec.lexAllG (printBytes d)).err = none ∧
    Spec.nameAfterMultibyteIgnored (printBytes d) = false ∧ Spec.errorAfterMultibyte (printBytes d) = false := by
  have hk := lexK_docI d hwf
  rw [printBytes_eq]
  refine ⟨?_, ?_, (kf_false_items _ hk).1, (kf_false_items _ hk).2⟩
  · rw [lexAllG_items _ hk]
    exact lexItems_gaps _ [] 0 hk (by intro b hb; simp at hb)
  · rw [lexAllG_items _ hk]

/-! ## `lex_render_tokens` -/

/-- the tokens of the printed document at the byte offsets of their texts (`lexToks` walks the item list of
`printTokens_render` and adds up the UTF-8 lengths of the texts before each token) -/
def printedTokens (d : Document) : List LTok := lexToks (docI d) 0

/-- **`lex_render_tokens`**: for every well-formed document, the lexer model on the UTF-8 bytes of `print d`
yields exactly the printed tokens — kinds, values (as bytes), start/end offsets — followed by EOF at the end of the
text, and no error. -/
theorem lex_render_tokens (d : Document) (hwf : WFDocument d) :
    lexAll (printBytes d) =
      ⟨printedTokens d ++ [⟨.eof, (printBytes d).length, (printBytes d).length, []⟩], none⟩ := by
  rw [printBytes_eq]; exact lexAll_items _ (lexK_docI d hwf)

/-- … their kinds and values (converted to the shared `Token`) are `printTokens d` … -/
theorem printedTokens_kinds_values (d : Document) :
    (printedTokens d).map (fun t => kvOf t.toToken) = printTokens d := lexToks_kv (docI d) 0

/-- … and their positions are those the rendering assigns: every printed token is an item `(kind, value, text)` of
the token view (`printTokens_render`), its value is the UTF-8 encoding of the item's value, and the bytes of the
printed text from `start` to `stop` are the UTF-8 encoding of the item's text -/
theorem printedTokens_extent (d : Document) : ∀ t ∈ printedTokens d,
    ∃ k v tx, Item.tok k v tx ∈ docI d ∧ t.kind = k ∧ t.value = utf8 v.toList ∧ t.stop = t.start + (utf8 tx).length ∧
      ((printBytes d).drop t.start).take (t.stop - t.start) = utf8 tx := by
  intro t ht
  rw [printBytes_eq]
  exact lexToks_extent (docI d) [] t ht

/-- `lex_render_tokens` with the tokens left existential: kinds and values of the tokens before EOF are `printTokens d` -/
theorem lex_render_tokens_kv (d : Document) (hwf : WFDocument d) :
    ∃ toks, lexAll (print d).toUTF8.data.toList = ⟨toks, none⟩ ∧
      toks.dropLast.map (fun t => kvOf t.toToken) = printTokens d := by
  refine ⟨_, lex_render_tokens d hwf, ?_⟩
  rw [List.dropLast_concat]
  exact printedTokens_kinds_values d

/-! ## `parse_print` -/

/-- **`parse_print`, the property's main clause on bytes**: for every well-formed document — executable and
type-system definitions, descriptions, every value kind, arbitrary string contents — lexing and parsing the UTF-8
bytes of the printed text succeeds, the malformed-type flag stays down, and the result is the same document,
locations aside. -/
theorem parse_print (d : Document) (hwf : WFDocument d) :
    ∃ d', parseBytes (printBytes d) = .ok ⟨d', false⟩ ∧ d'.stripLoc = d.stripLoc := by
  have hl := lex_render_tokens d hwf
  have hk := lexK_docI d hwf
  have hne : ∀ t ∈ (printedTokens d).map LTok.toToken, t.kind ≠ .eof := lexToks_toToken_ne_eof (docI d) hk
  obtain ⟨d', hp, hs⟩ := parseTokens_printTokens d hwf ((printedTokens d).map LTok.toToken) (printBytes d).length
    (by rw [List.map_map]; exact printedTokens_kinds_values d)
  refine ⟨d', ?_, hs⟩
  simp only [parseBytes, hl, List.map_append, List.map_cons, List.map_nil]
  rw [Parser.parseTokens, Parser.splitEOF_append (by rfl) hne]
  simp only [LTok.toToken, hp]

/-- **`print_stable_bytes`**: whatever `parseBytes` returns for the printed bytes prints to the same text -/
theorem print_stable_bytes (d : Document) (hwf : WFDocument d) (p : Parser.Parsed)
    (hp : parseBytes (printBytes d) = .ok p) : print p.doc = print d ∧ p.typeRefMalformed = false := by
  obtain ⟨d', hd, hs⟩ := parse_print d hwf
  rw [hd] at hp
  cases hp
  exact ⟨print_eq_of_same_shape _ _ hs, rfl⟩

/-- printing, parsing the bytes, printing again: a fixed point after one round -/
theorem print_parse_print (d : Document) (hwf : WFDocument d) :
    ∃ p, parseBytes (printBytes d) = .ok p ∧ printBytes p.doc = printBytes d := by
  obtain ⟨d', hd, hs⟩ := parse_print d hwf
  exact ⟨_, hd, by simp only [printBytes, print_eq_of_same_shape _ _ hs]⟩

/-! ## layers: values and types on their own -/

/-- a printed value lexes to its tokens (`printValueTokens`) -/
theorem lex_printValue (v : Value) (hwf : Reader.WFValue v) :
    lexAll (printValue v).toUTF8.data.toList =
      ⟨lexToks (valueI v) 0 ++ [⟨.eof, (printValue v).toUTF8.data.toList.length, (printValue v).toUTF8.data.toList.length, []⟩], none⟩ ∧
    (lexToks (valueI v) 0).map (fun t => kvOf t.toToken) = printValueTokens v := by
  have e : (printValue v).toUTF8.data.toList = utf8 (render (valueI v)) := by
    rw [toUTF8_eq, render_valueI]; simp [printValue]
  rw [e]
  exact ⟨lexAll_items _ ((prints_valueI v hwf).lex [] trivial), lexToks_kv _ 0⟩

/-- a printed type reference lexes to its tokens (`printTypeTokens`) -/
theorem lex_printType (t : TypeRef) (hwf : Reader.WFType t) :
    lexAll (printType t).toUTF8.data.toList =
      ⟨lexToks (typeI t) 0 ++ [⟨.eof, (printType t).toUTF8.data.toList.length, (printType t).toUTF8.data.toList.length, []⟩], none⟩ ∧
    (lexToks (typeI t) 0).map (fun t => kvOf t.toToken) = printTypeTokens t := by
  have e : (printType t).toUTF8.data.toList = utf8 (render (typeI t)) := by
    rw [toUTF8_eq, render_typeI]; simp [printType]
  rw [e]
  exact ⟨lexAll_items _ ((prints_typeI t hwf).lex [] trivial), lexToks_kv _ 0⟩

/-! ## `parse_ok_WF`: the premise is exactly "the parser accepts"

Full statement of the property's quantifier ("every document the parser accepts"): FALSE as such on the pinned tree —
documents that went through the malformed-type-reference path of `parseType` (D-03b, known finding of C03, pinned by
`TestParseTypeErrorBracket*`) carry nil / partial type references; they are outside `WFDocument` and the flag
`typeRefMalformed` marks them.  With the flag down everything lexer + parser accept is well-formed. -/

/-- **`parse_ok_WF`**: whatever `parseBytes` accepts with the malformed-type flag down is a `WFDocument`
(C03's `parser_sound_partial` gives a derivation in the grammar; the lexer model only produces well-formed NAME / INT /
FLOAT tokens — for every input, D-03a included; a derivation over such tokens denotes a well-formed tree). -/
theorem parse_ok_WF (src : Lexer.Bytes) (p : Parser.Parsed) (hp : parseBytes src = .ok p)
    (hb : p.typeRefMalformed = false) : WFDocument p.doc := by
  unfold parseBytes at hp
  split at hp
  · cases hp
  · split at hp
    · next p' hpt =>
      cases hp
      have hwf : Parser.typeRefWellFormed ((lexAll src).tokens.map LTok.toToken) = true := by
        simp [Parser.typeRefWellFormed, Parser.typeRefMalformed, hpt, hb]
      obtain ⟨toks, e, rest, hall, _, _, hd⟩ := Parser.parser_sound_partial _ _ hpt hwf
      apply derivesDoc_wf hd
      intro t ht
      exact lexAll_tokWF src t (by rw [hall]; simp [ht])
    · cases hp

/-- **the property, closed**: for every source the lexer + parser accept (flag down), printing the resulting AST and
parsing the printed bytes again succeeds and yields the same AST, locations aside; and printing is stable. -/
theorem roundtrip_of_accepted (src : Lexer.Bytes) (p : Parser.Parsed) (hp : parseBytes src = .ok p)
    (hb : p.typeRefMalformed = false) :
    ∃ d', parseBytes (printBytes p.doc) = .ok ⟨d', false⟩ ∧ d'.stripLoc = p.doc.stripLoc ∧ print d' = print p.doc := by
  obtain ⟨d', h1, h2⟩ := parse_print p.doc (parse_ok_WF src p hp hb)
  exact ⟨d', h1, h2, print_eq_of_same_shape _ _ h2⟩

/-- the flag hypothesis is needed: `query($a: ) {f}` is accepted (D-03b), the flag is up, and the variable definition
has no type (so `WFVarDef` fails) -/
example : (match parseBytes "query($a: ) {f}".toUTF8.data.toList with
    | .ok p => p.typeRefMalformed &&
        p.doc.defs.any (fun | .operation _ _ vars _ _ _ => vars.any (fun v => v.type.isNone) | _ => false)
    | .error _ => false) = true := by decide +kernel

/-! ## non-vacuity -/

private def L0 : Loc := ⟨0, 0⟩

/-- `{ f(a: "é⏎", b: -1.5e3, c: [E, $v]) @d ... on T { g } }` and
`"""café ☕""" type T implements I { "x\"" f(a: Int = 0): [T!]! }`: non-ASCII string and description contents, a description
that is not block-safe (printed quoted), a float, a variable, nested blocks -/
private def sampleDoc : Document :=
  ⟨[ .operation .query none [] []
      (.mk [ .field none ⟨"f", L0⟩
               [⟨⟨"a", L0⟩, .str "é\n" L0, L0⟩, ⟨⟨"b", L0⟩, .float "-1.5e3" L0, L0⟩,
                ⟨⟨"c", L0⟩, .list [.enum "E" L0, .var "v" L0] L0, L0⟩]
               [⟨⟨"d", L0⟩, [], L0⟩] none L0,
             .inline (some (.named "T" L0)) [] (.mk [.field none ⟨"g", L0⟩ [] [] none L0] L0) L0 ] L0) L0,
     .object ⟨some "café ☕", ⟨"T", L0⟩, [.named "I" L0], [],
       [⟨some "x\"", ⟨"f", L0⟩, [⟨none, ⟨"a", L0⟩, .named "Int" L0, some (.int "0" L0), [], L0⟩],
         .nonNull (.list (.nonNull (.named "T" L0) L0) L0) L0, [], L0⟩], L0⟩ ], L0⟩

private theorem sample_float : Reader.IsFloatLit "-1.5e3".toList :=
  ⟨"-1".toList, ".5".toList, "e3".toList, by decide +kernel, by decide +kernel, Or.inr (by decide +kernel), Or.inr (by decide +kernel), Or.inl (by decide +kernel)⟩

local macro "nm" : tactic => `(tactic| (show Reader.isNameC _ = true; decide +kernel))

/-- the premise of the byte-level theorems is satisfiable by a document with executable and type-system definitions -/
private theorem sample_wf : WFDocument sampleDoc := by
  refine ⟨by simp [sampleDoc], ?_, ?_, trivial⟩
  · refine ⟨trivial, trivial, trivial, by simp, ?_, ?_, trivial⟩
    · refine ⟨trivial, by nm, ⟨⟨by nm, trivial⟩, ⟨by nm, sample_float⟩, ⟨by nm, ?_⟩, trivial⟩, ⟨⟨by nm, trivial⟩, trivial⟩, trivial⟩
      exact ⟨⟨by nm, by decide, by decide, by decide⟩, by nm, trivial⟩
    · refine ⟨by nm, trivial, by simp, ?_, trivial⟩
      exact ⟨trivial, by nm, trivial, trivial, trivial⟩
  · refine ⟨by nm, ⟨by nm, trivial⟩, trivial, ?_, trivial⟩
    refine ⟨by nm, ⟨⟨by nm, by nm, ⟨by (show Reader.isIntLit _ = true; decide +kernel), trivial⟩, trivial⟩, trivial⟩, ?_, trivial⟩
    exact ⟨⟨by nm, trivial⟩, trivial⟩

example : ∃ d', parseBytes (printBytes sampleDoc) = .ok ⟨d', false⟩ ∧ d'.stripLoc = sampleDoc.stripLoc :=
  parse_print sampleDoc sample_wf

/-- `{ f(a: "é") }`: the models evaluated on the printed bytes — `"é"` occupies the four bytes [9, 13) -/
private def tinyDoc : Document :=
  ⟨[.operation .query none [] [] (.mk [.field none ⟨"f", L0⟩ [⟨⟨"a", L0⟩, .str "é" L0, L0⟩] [] none L0] L0) L0], L0⟩

example : (lexAll (printBytes tinyDoc)).tokens.map (fun t => (t.kind, t.start, t.stop)) =
    [(.braceL, 0, 1), (.name, 4, 5), (.parenL, 5, 6), (.name, 6, 7), (.colon, 7, 8), (.string, 9, 13), (.parenR, 13, 14),
     (.braceR, 15, 16), (.eof, 17, 17)] := by decide +kernel

example : (match parseBytes (printBytes tinyDoc) with | .ok p => print p.doc | .error _ => "") = print tinyDoc := by
  decide +kernel

end GqlModel.C08
