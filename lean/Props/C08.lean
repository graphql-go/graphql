import GqlProofs.PrinterQuote
import GqlProofs.PrinterLoc
import GqlProofs.PrinterReadValue
import GqlProofs.PrinterTokens
import GqlProofs.PrinterPrintsDoc
import GqlProofs.PrinterDeriveDefs
import GqlProofs.ParserCorrect
import GqlProofs.PrinterBlockScan
import Props.C03Lexer
/-! # C08 — printing an AST and parsing the text back yields the same AST

`M` = `GqlModel.Printer` (`print`, `printValue`, `printType`, …, `printTokens`), the bottom-up reduction of
`printer.Print` written as a structural recursion, byte-for-byte equal to the real printer on every generated
document (correspondence: harness/cmd/c08).  The theorems below are about M and

* `Printer.Bytes.unquoteB` — an independent byte-level model of the escape loop of the lexer's `readString`;
* `Reader.readValue` / `Reader.readType` — a small reference reader for the value and type sub-languages
  (`GqlModel/ValueReader.lean`; it is compared with the real `parser.ParseValue` by the harness);
* `Printer.docI` — the token-level view of the printed document.

What is proved, for unbounded sizes and nesting depths:

(a) string quoting is injective and exactly inverted by the lexer's escape decoding, for every byte string and
    every continuation (`quote_unquote`), and never emits a control byte (`quote_emits_no_control_byte`);
    printing ignores locations (`print_ignores_locations`); the printed document is its token texts separated by
    Ignored characters only (`printTokens_render`);
(b) the value and type round trip through the reference reader: every `Value` whose names are GraphQL names and
    whose number texts are well-formed — strings with arbitrary content, lists/objects nested arbitrarily — reads
    back as the same value, locations aside (`readValue_printValue`), the same for type references
    (`readType_printType`), and printing is stable after one round (`print_stable_on_values`);
(c) the token-level round trip through the shared grammar S and parser model M of C03 (end of this file); the byte
    level (lexer model, UTF-8, `parse_print` on bytes, `parse_ok_WF`) is in `Props/C08Bytes.lean`. -/
namespace GqlModel.C08
open GqlModel.Printer GqlModel.Reader

/-! ## (a) strings -/

/-- C08 string core (bytes): for every byte string `s` — quotes, backslashes, every control byte, DEL, invalid
UTF-8 — and every continuation `rest`, the lexer's string loop applied to `quoteString(s)` followed by `rest`
yields exactly `s` and resumes exactly at `rest`. -/
theorem quote_unquote (s rest : List UInt8) : Bytes.unquoteB (Bytes.quoteB s ++ rest) = some (s, rest) :=
  Bytes.unquoteB_quoteB s rest

/-- distinct strings have distinct printed forms (the overlap rule compares printed argument values) -/
theorem quote_injective (s t : List UInt8) (h : Bytes.quoteB s = Bytes.quoteB t) : s = t := by
  have hs := Bytes.unquoteB_quoteB s []
  have ht := Bytes.unquoteB_quoteB t []
  rw [h, ht] at hs
  simpa using hs.symm

/-- between its two quotes the printed form of a string holds no byte below 0x20: no raw line terminator, TAB or
other control character, so `indent` and the lexer's "Invalid character within String" check never meet one -/
theorem quote_emits_no_control_byte (s : List UInt8) : ∀ x ∈ Bytes.quoteBodyB s, 32 ≤ x := by
  induction s with
  | nil => intro x hx; simp [Bytes.quoteBodyB] at hx
  | cons b bs ih =>
    intro x hx
    simp only [Bytes.quoteBodyB, List.mem_append] at hx
    rcases hx with hx | hx
    · exact Bytes.escB_printable b x hx
    · exact ih x hx

/-- the same core on the model's characters: the reference reader's string loop inverts `quoteString` -/
theorem quote_unquote_chars (s : String) (rest : List Char) :
    unquoteC ((quoteString s).toList ++ rest) = some (s.toList, rest) := by
  simp only [quoteString, String.toList_ofList]
  exact unquoteC_quoteC s.toList rest

/-! ## (a) locations -/

/-- printing never looks at a location: a tree and its location-stripped image print identically -/
theorem print_ignores_locations (d : Document) : print d = print d.stripLoc := by
  simp [print, documentC_stripLoc]

theorem printValue_ignores_locations (v : Value) : printValue v = printValue v.stripLoc := by
  simp [printValue, valueC_stripLoc]

theorem printType_ignores_locations (t : TypeRef) : printType t = printType t.stripLoc := by
  simp [printType, typeC_stripLoc]

theorem printSelectionSet_ignores_locations (s : SelectionSet) : printSelectionSet s = printSelectionSet s.stripLoc := by
  simp [printSelectionSet, selSetC_stripLoc]

theorem printDefinition_ignores_locations (d : Definition) : printDefinition d = printDefinition d.stripLoc := by
  simp [printDefinition, definitionC_stripLoc]

/-- structurally identical documents (locations aside) print identically -/
theorem print_eq_of_same_shape (d e : Document) (h : d.stripLoc = e.stripLoc) : print d = print e := by
  rw [print_ignores_locations d, print_ignores_locations e, h]

/-! ## (a) token view -/

/-- the printed document is the texts of `printTokens d`, in order, separated by runs of Ignored characters
(space, newline, comma) only -/
theorem printTokens_render (d : Document) :
    ∃ items : List Item, render items = (print d).toList ∧ tokensOf items = printTokens d ∧ sepsIgnored items = true :=
  ⟨docI d, by simp [print, render_docI], rfl, seps_docI d⟩

theorem printValueTokens_render (v : Value) :
    ∃ items : List Item, render items = (printValue v).toList ∧ tokensOf items = printValueTokens v ∧
      sepsIgnored items = true :=
  ⟨valueI v, by simp [printValue, render_valueI], rfl, seps_valueI v⟩

theorem printTypeTokens_render (t : TypeRef) :
    ∃ items : List Item, render items = (printType t).toList ∧ tokensOf items = printTypeTokens t ∧
      sepsIgnored items = true :=
  ⟨typeI t, by simp [printType, render_typeI], rfl, seps_typeI t⟩

/-! ## (b) round trip through the reference reader -/

/-- C08 for values: every well-formed value (names are GraphQL names, number texts well-formed; string contents
arbitrary; lists and objects nested to any depth) reads back from its printed text as the same value, locations
aside, and the reader stops exactly at the continuation. -/
theorem readValue_printValue_then (v : Value) (h : WFValue v) (rest : List Char) (hr : Delim rest) :
    readValueTop ((printValue v).toList ++ rest) = some (v.stripLoc, rest) := by
  simp only [printValue, String.toList_ofList]
  exact readValueTop_valueC v h rest hr

theorem readValue_printValue (v : Value) (h : WFValue v) :
    readValueTop (printValue v).toList = some (v.stripLoc, []) := by
  simpa using readValue_printValue_then v h [] trivial

/-- the same for type references; `TypeDelim`: no `!` may follow either -/
theorem readType_printType_then (t : TypeRef) (h : WFType t) (rest : List Char) (hr : TypeDelim rest) :
    readTypeTop ((printType t).toList ++ rest) = some (t.stripLoc, rest) := by
  simp only [printType, String.toList_ofList]
  exact readTypeTop_typeC t h rest hr

theorem readType_printType (t : TypeRef) (h : WFType t) : readTypeTop (printType t).toList = some (t.stripLoc, []) := by
  simpa using readType_printType_then t h [] ⟨trivial, trivial⟩

/-- printing is stable after one round: whatever the reader returns for the printed text prints to the same text -/
theorem print_stable_on_values (v : Value) (h : WFValue v) (v' : Value) (r : List Char)
    (hread : readValueTop (printValue v).toList = some (v', r)) : printValue v' = printValue v ∧ r = [] := by
  rw [readValue_printValue v h] at hread
  simp only [Option.some.injEq, Prod.mk.injEq] at hread
  obtain ⟨rfl, rfl⟩ := hread
  exact ⟨(printValue_ignores_locations v).symm, rfl⟩

theorem print_stable_on_types (t : TypeRef) (h : WFType t) (t' : TypeRef) (r : List Char)
    (hread : readTypeTop (printType t).toList = some (t', r)) : printType t' = printType t ∧ r = [] := by
  rw [readType_printType t h] at hread
  simp only [Option.some.injEq, Prod.mk.injEq] at hread
  obtain ⟨rfl, rfl⟩ := hread
  exact ⟨(printType_ignores_locations t).symm, rfl⟩

/-- the printed forms of two well-formed values coincide only if the values have the same shape (the overlap rule's
"same arguments" test by printed text is exact) -/
theorem printValue_injective (v w : Value) (hv : WFValue v) (hw : WFValue w) (h : printValue v = printValue w) :
    v.stripLoc = w.stripLoc := by
  have a := readValue_printValue v hv
  have b := readValue_printValue w hw
  rw [h, b] at a
  simpa using a.symm

/-! ## non-vacuity -/

private def sample : Value :=
  .list [.int "-12" ⟨3, 6⟩, .float "6.0221413e+23" ⟨0, 0⟩,
         .obj [.mk ⟨"k", ⟨1, 2⟩⟩ (.str "say \"hi\"\n\u0007\u007f é" ⟨2, 9⟩) ⟨1, 9⟩, .mk ⟨"l", ⟨0, 0⟩⟩ (.list [] ⟨0, 0⟩) ⟨0, 0⟩] ⟨0, 0⟩,
         .var "v_1" ⟨0, 0⟩, .bool true ⟨0, 0⟩, .enum "RED" ⟨0, 0⟩] ⟨0, 40⟩

private theorem sample_float : IsFloatLit "6.0221413e+23".toList :=
  ⟨"6".toList, ".0221413".toList, "e+23".toList, by decide +kernel, by decide +kernel, Or.inr (by decide +kernel), Or.inr (by decide +kernel),
    Or.inl (by decide +kernel)⟩

/-- the hypotheses of the round-trip theorems are satisfiable, with every value kind, nesting and a string full of
escapes -/
private theorem sample_wf : WFValue sample := by
  refine ⟨?_, sample_float, ⟨⟨?_, trivial⟩, ⟨?_, trivial⟩, trivial⟩, ?_, trivial, ⟨?_, ?_, ?_, ?_⟩, trivial⟩
  · show isIntLit _ = true; decide +kernel
  · show isNameC _ = true; decide +kernel
  · show isNameC _ = true; decide +kernel
  · show isNameC _ = true; decide +kernel
  · show isNameC _ = true; decide +kernel
  · show _ ≠ trueC; decide +kernel
  · show _ ≠ falseC; decide +kernel
  · show _ ≠ nullC; decide +kernel

example : WFValue sample := sample_wf

example : readValueTop (printValue sample).toList = some (sample.stripLoc, []) := readValue_printValue sample sample_wf

example : printValue sample = "[-12, 6.0221413e+23, {k: \"say \\\"hi\\\"\\n\\u0007\\u007F é\", l: []}, $v_1, true, RED]" := by
  rfl

example : WFType (.nonNull (.list (.nonNull (.named "Int" ⟨1, 4⟩) ⟨1, 5⟩) ⟨0, 6⟩) ⟨0, 7⟩) := by
  refine ⟨⟨?_, trivial⟩, trivial⟩
  show isNameC _ = true; decide +kernel

/-- the two hypotheses that exclude something are needed: `null` is not read back as an enum value, `T!!` is not
read back as a doubly non-null type (neither is producible by the parser) -/
example : readValueTop (printValue (.enum "null" ⟨0, 0⟩)).toList = none := by decide
example : readTypeTop (printType (.nonNull (.nonNull (.named "T" ⟨0, 0⟩) ⟨0, 0⟩) ⟨0, 0⟩)).toList
    = some (.nonNull (.named "T" Loc.none) Loc.none, ['!']) := by decide

/-! ## (c) the round trip through the shared grammar S and parser model M (token level)

`GqlModel.Grammar` (S: the derivation relations of the GraphQL grammar) and `GqlModel.Parser` (M: parser.go on
token lists) belong to C03; `Parser.parseToks_complete` is C03's completeness theorem.  The theorems below connect
the printer model to both, for **whole documents** — executable and type-system definitions, every value kind nested
arbitrarily, directives on every definition kind, variable definitions with defaults, descriptions — and for tokens
placed at arbitrary source offsets (`toks.map kvOf = printTokens d` fixes only kinds and values). -/

/-- the token sequence of the printed document is a sentence of the grammar and denotes the same document,
locations aside -/
theorem printTokens_in_grammar (d : Document) (hwf : WFDocument d) (toks : List Token) (eofPos : Nat)
    (h : toks.map kvOf = printTokens d) :
    ∃ d', Grammar.DerivesDoc toks eofPos d' ∧ d'.stripLoc = d.stripLoc := by
  rw [printTokens_eq_docT d hwf] at h
  exact derivesDoc_docT d hwf toks eofPos h

/-- C08 at token level (the byte-level statement is `parse_print` in `Props/C08Bytes.lean`): for every well-formed
document — everything the parser can produce — the parser model accepts the tokens of the printed text, without raising
the malformed-type flag, and returns a structurally identical document (same kinds, names, values, order; locations
aside). -/
theorem parseTokens_printTokens (d : Document) (hwf : WFDocument d) (toks : List Token) (eofPos : Nat)
    (h : toks.map kvOf = printTokens d) :
    ∃ d', Parser.parseToks toks eofPos = .ok ⟨d', false⟩ ∧ d'.stripLoc = d.stripLoc := by
  obtain ⟨d', hd, hs⟩ := printTokens_in_grammar d hwf toks eofPos h
  exact ⟨d', Parser.parseToks_complete hd, hs⟩

/-- `print_stable` at token level: whatever the parser model returns for the tokens of the printed text prints to
the same text -/
theorem print_stable (d : Document) (hwf : WFDocument d) (toks : List Token) (eofPos : Nat)
    (h : toks.map kvOf = printTokens d) (p : Parser.Parsed) (hp : Parser.parseToks toks eofPos = .ok p) :
    print p.doc = print d ∧ p.typeRefMalformed = false := by
  obtain ⟨d', hd, hs⟩ := parseTokens_printTokens d hwf toks eofPos h
  rw [hd] at hp
  cases hp
  exact ⟨print_eq_of_same_shape _ _ hs, rfl⟩

/-- the same for a single value (`Value[Const]` when `c`), through the grammar's `DValue` … -/
theorem printValueTokens_in_grammar (c : Bool) (v : Value) (hwf : WFValue v) (hc : c = true → ConstValue v)
    (toks : List Token) (h : toks.map kvOf = printValueTokens v) :
    ∃ v', Grammar.DerivesValue c toks v' [] ∧ v'.stripLoc = v.stripLoc := by
  rw [printValueTokens_eq_valueT v hwf] at h
  obtain ⟨v', p', hd, hk, hs⟩ := derive_value c v hwf hc ⟨0, toks⟩ [] (by simp [kvs, h])
  obtain ⟨e, ts⟩ := p'
  have : ts = [] := by simpa [kvs] using hk
  subst this
  exact ⟨v', ⟨e, hd⟩, hs⟩

/-- … and against the parser model's `parseValue` (the model of `parseValueLiteral`): it consumes exactly the
printed tokens and returns the same value, locations aside -/
theorem parseValue_printValueTokens (c : Bool) (v : Value) (hwf : WFValue v) (hc : c = true → ConstValue v)
    (toks : List Token) (eofPos : Nat) (h : toks.map kvOf = printValueTokens v) :
    ∃ v' σ', Parser.parseValue c (Parser.initState toks eofPos) = .ok (v', σ') ∧ σ'.toks = [] ∧
      v'.stripLoc = v.stripLoc := by
  obtain ⟨v', ⟨e, hd⟩, hs⟩ := printValueTokens_in_grammar c v hwf hc toks h
  exact ⟨v', _, Parser.parseValue_cmp c (Parser.initState toks eofPos) v' ⟨e, []⟩ hd, rfl, hs⟩

/-- … and for a type reference -/
theorem parseType_printTypeTokens (t : TypeRef) (hwf : WFType t) (toks : List Token) (eofPos : Nat)
    (h : toks.map kvOf = printTypeTokens t) :
    ∃ t' σ', Parser.parseType (Parser.initState toks eofPos) = .ok (t', σ') ∧ σ'.toks = [] ∧
      t'.stripLoc = t.stripLoc := by
  rw [printTypeTokens_eq_typeT t] at h
  obtain ⟨t', p', hd, hk, hs⟩ := derive_type hwf (p := ⟨0, toks⟩) (k := []) (by simp [kvs, h]) (nextNe_nil _)
  obtain ⟨e, ts⟩ := p'
  have : ts = [] := by simpa [kvs] using hk
  subst this
  exact ⟨t', _, Parser.parseType_cmp (Parser.initState toks eofPos) t' ⟨e, []⟩ hd, rfl, hs⟩

/-! ## block-string descriptions (soundness of the D-08b repair)

`Printer.Block.blockText k d` is the printed description — `"""`, the text `blockRaw k d` (`d` itself, or each line of
`d` on a line of its own, indented by the `k` spaces the enclosing blocks add), `"""` — on bytes;
`blockSafeB` is printer.go `blockStringSafe`.  The block form is used only for block-safe descriptions; the others
are printed with `quoteString`, for which `quote_unquote` applies. -/

/-- `BlockStringValue()` (the GraphQL spec's algorithm, `Lexer.Spec.blockStringValue`) of the printed text between the
quotes is the description itself, at every indentation -/
theorem description_blockStringValue (k : Nat) (d : List UInt8) (h : Block.blockSafeB d = true) :
    Lexer.Spec.blockStringValue (Block.blockRaw k d) = d :=
  Block.blockStringValue_blockRaw k d h

/-- C03's lexer model M reads the printed block-string description back as one BLOCK_STRING token whose value is
exactly the description and whose extent is exactly the printed text, whatever follows it -/
theorem description_block_token (k : Nat) (d rest : List UInt8) (h : Block.blockSafeB d = true) (start fuel : Nat)
    (hf : (Block.blockText k d ++ rest).length < fuel) :
    Lexer.readBlockString fuel (Block.blockText k d ++ rest) start =
      .ok ⟨.blockString, start, start + (Block.blockText k d).length, d⟩ := by
  have e : Block.blockText k d ++ rest = 34 :: 34 :: 34 :: (Block.blockRaw k d ++ 34 :: 34 :: 34 :: rest) := by
    simp [Block.blockText]
  rw [e] at hf ⊢
  rw [(Lexer.blockString_token_spec fuel _ start (by simp at hf ⊢; omega)).1 _ _ (Block.blockBody_blockRaw k d rest h),
    Block.blockStringValue_blockRaw k d h]
  simp [Block.blockText]; omega

/-- `a⏎ b\` (two lines, the second indented and ending in a backslash) is block-safe; `a"` is not -/
example : Block.blockSafeB [97, 10, 32, 98, 92] = true := by decide
example : Block.blockSafeB [97, 34] = false := by decide
/-- `a⏎b` inside one block: `"""⏎  a⏎  b⏎  """` -/
example : Block.blockText 2 [97, 10, 98] = [34, 34, 34, 10, 32, 32, 97, 10, 32, 32, 98, 10, 32, 32, 34, 34, 34] := by decide

end GqlModel.C08
