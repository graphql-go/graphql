import GqlProofs.ValidateTyped
/-! # C02: the type-directed rules against INDEPENDENT declarative specifications

For ArgumentsOfCorrectType, DefaultValuesOfCorrectType, VariablesAreInputTypes, FragmentsOnCompositeTypes and
PossibleFragmentSpreads the rule functions of `Validate/Local.lean` are the code; here each gets a specification in
the style of the spec text, stated without the rule's own machinery, and the theorem `rule reports nothing ⇔ S`
plus location soundness (`e ∈ rule → e is located at a node that violates S`). Names: the one function of a
type-directed rule is called `…_S` in `Validate/Local.lean`; here it is the code side, and the specification is the
predicate beside it (`ArgumentsCoercible`, `DefaultsCoercible`, …):

* literals: `LiteralCoercible` = the SPECIFICATION's literal coercion (`Coerce.Spec.coerceLiteral`, property C05)
  succeeds for every assignment of values to the literal's variables; the rule side is C05's model of
  `isValidLiteralValue`, the bridge is `isValid_iff_coercible` (on top of C05's `lit_agree`);
* input types: `IsInputType` by recursion on the type, as in the spec's `IsInputType(type)`;
* possible spreads: `runtimeTypes` (GetPossibleTypes) of the condition and of the parent type intersect.

Side conditions (decidable, evaluated by drv_c02 on every case): `schemaInputsOkB s` — argument / directive-argument /
input-field types are input types; `AbstractInhabited s` — every interface / union has a possible type. -/
namespace GqlModel.Validate
open GqlModel.Coerce

/-! ## ArgumentsOfCorrectType -/

/-- spec ("Values of correct type", arguments): every argument that the field's / directive's definition declares
carries a literal coercible to the declared type -/
def ArgumentsCoercible (s : Schema) (d : Document) : Prop :=
  (∀ c nm args sel lc fd, Item.field c nm args sel lc ∈ items s d → c.fieldDef = some fd →
      ∀ a ∈ args, ∀ ad, fd.args.find? (fun x => x.name == a.name.value) = some ad →
        LiteralCoercible s.plus ad.type a.value) ∧
  (∀ site c dir dd, Item.directive site c dir ∈ items s d → s.directive? dir.name.value = some dd →
      ∀ a ∈ dir.args, ∀ ad, dd.args.find? (fun x => x.name == a.name.value) = some ad →
        LiteralCoercible s.plus ad.type a.value)

theorem badArgValues_mem (s : Schema) (rule : String) (lookup : String → Option ArgDef) (args : List Argument)
    (hok : ∀ a ∈ args, ∀ ad, lookup a.name.value = some ad → inputKind s.plus ad.type.namedName = true)
    (hS : InputClosed s.plus) (e : VErr) :
    e ∈ badArgValues s rule lookup args ↔
      ∃ a ∈ args, ∃ ad, lookup a.name.value = some ad ∧ ¬ LiteralCoercible s.plus ad.type a.value ∧
        e = ⟨rule, [a.value.loc]⟩ := by
  unfold badArgValues
  simp only [List.mem_filterMap]
  refine exists_congr fun a => and_congr_right fun ha => ?_
  cases hl : lookup a.name.value with
  | none => simp
  | some ad =>
    have hk := hok a ha ad hl
    have hco := isValid_iff_coercible s.plus hS ad.type hk a.value
    simp only [validLiteral_eq s ad.type _ hk, Option.some.injEq, exists_eq_left']
    by_cases hv : isValidLiteralValue s.plus ad.type (some a.value) = true
    · simp [hv, hco.1 hv]
    · have hnc : ¬ LiteralCoercible s.plus ad.type a.value := fun hc => hv (hco.2 hc)
      simp [hv, hnc, eq_comm]

theorem argDefFor_field (fd : FieldDefS) (n : String) :
    argDefFor none (some fd) n = fd.args.find? (fun x => x.name == n) := rfl
theorem argDefFor_dir (dd : DirectiveDefS) (n : String) :
    argDefFor (some dd) none n = dd.args.find? (fun x => x.name == n) := rfl
theorem argDefFor_none (n : String) : argDefFor none none n = none := rfl

/-- the definition behind a field item is a definition of the schema -/
theorem field_item_def (s : Schema) (d : Document) {c nm args sel lc fd}
    (hit : Item.field c nm args sel lc ∈ items s d) (hfd : c.fieldDef = some fd) :
    ∃ p, c.parent = some p ∧ s.fieldDef? p nm.value = some fd := by
  have := (items_ok s d _ hit).1
  rw [hfd] at this
  cases hp : c.parent with
  | none => simp [hp] at this
  | some p => exact ⟨p, rfl, by simpa [hp] using this.symm⟩

/-- element-wise characterisation: each error is an argument value that is not coercible to its declared type
(location soundness), and every such argument is reported -/
theorem argumentsOfCorrectType_mem (s : Schema) (d : Document) (h : schemaInputsOkB s = true) (e : VErr) :
    e ∈ argumentsOfCorrectType_S s d ↔
      (∃ c nm args sel lc fd a ad, Item.field c nm args sel lc ∈ items s d ∧ c.fieldDef = some fd ∧ a ∈ args ∧
          fd.args.find? (fun x => x.name == a.name.value) = some ad ∧ ¬ LiteralCoercible s.plus ad.type a.value ∧
          e = ⟨"ArgumentsOfCorrectType", [a.value.loc]⟩) ∨
      (∃ site c dir dd a ad, Item.directive site c dir ∈ items s d ∧ s.directive? dir.name.value = some dd ∧
          a ∈ dir.args ∧ dd.args.find? (fun x => x.name == a.name.value) = some ad ∧
          ¬ LiteralCoercible s.plus ad.type a.value ∧ e = ⟨"ArgumentsOfCorrectType", [a.value.loc]⟩) := by
  have hS := schemaOk_closed s h
  have hokF : ∀ {c nm args sel lc fd}, Item.field c nm args sel lc ∈ items s d → c.fieldDef = some fd →
      ∀ a ∈ args, ∀ ad, argDefFor none (some fd) a.name.value = some ad →
        inputKind s.plus ad.type.namedName = true := by
    intro c nm args sel lc fd hit hfd a _ ad had
    obtain ⟨p, _, hdef⟩ := field_item_def s d hit hfd
    exact schemaOk_fieldArgs s h p _ fd hdef ad (List.mem_of_find?_eq_some had)
  have hokD : ∀ {dir : Directive} {dd}, s.directive? dir.name.value = some dd →
      ∀ a ∈ dir.args, ∀ ad, argDefFor (some dd) none a.name.value = some ad →
        inputKind s.plus ad.type.namedName = true :=
    fun hdd a _ ad had => schemaOk_dirArgs s h _ _ hdd ad (List.mem_of_find?_eq_some had)
  unfold argumentsOfCorrectType_S
  simp only [List.mem_flatMap]
  constructor
  · rintro ⟨it, hit, he⟩
    cases it with
    | field c nm args sel lc =>
      simp only at he
      cases hfd : c.fieldDef with
      | none => simp [hfd, badArgValues, argDefFor_none] at he
      | some fd =>
        rw [hfd] at he
        obtain ⟨a, ha, ad, hl, hnc, rfl⟩ := (badArgValues_mem s _ _ args (hokF hit hfd) hS e).1 he
        exact Or.inl ⟨c, nm, args, sel, lc, fd, a, ad, hit, hfd, ha, hl, hnc, rfl⟩
    | directive site c dir =>
      simp only at he
      cases hdd : s.directive? dir.name.value with
      | none => simp [hdd, badArgValues, argDefFor_none] at he
      | some dd =>
        rw [hdd] at he
        obtain ⟨a, ha, ad, hl, hnc, rfl⟩ := (badArgValues_mem s _ _ dir.args (hokD hdd) hS e).1 he
        exact Or.inr ⟨site, c, dir, dd, a, ad, hit, hdd, ha, hl, hnc, rfl⟩
    | _ => simp at he
  · rintro (⟨c, nm, args, sel, lc, fd, a, ad, hit, hfd, ha, hl, hnc, rfl⟩ | ⟨site, c, dir, dd, a, ad, hit, hdd, ha, hl, hnc, rfl⟩)
    · refine ⟨_, hit, ?_⟩
      simp only [hfd]
      exact (badArgValues_mem s _ _ args (hokF hit hfd) hS _).2 ⟨a, ha, ad, hl, hnc, rfl⟩
    · refine ⟨_, hit, ?_⟩
      simp only [hdd]
      exact (badArgValues_mem s _ _ dir.args (hokD hdd) hS _).2 ⟨a, ha, ad, hl, hnc, rfl⟩

/-- C02 for ArgumentsOfCorrectType: the rule reports nothing iff every declared argument's literal is coercible to
its type by the specification's input coercion -/
theorem argumentsOfCorrectType_iff (s : Schema) (d : Document) (h : schemaInputsOkB s = true) :
    argumentsOfCorrectType_S s d = [] ↔ ArgumentsCoercible s d := by
  rw [List.eq_nil_iff_forall_not_mem]
  simp only [argumentsOfCorrectType_mem s d h]
  constructor
  · intro hno
    refine ⟨?_, ?_⟩
    · intro c nm args sel lc fd hit hfd a ha ad hl
      apply Classical.byContradiction
      intro hnc
      exact hno _ (Or.inl ⟨c, nm, args, sel, lc, fd, a, ad, hit, hfd, ha, hl, hnc, rfl⟩)
    · intro site c dir dd hit hdd a ha ad hl
      apply Classical.byContradiction
      intro hnc
      exact hno _ (Or.inr ⟨site, c, dir, dd, a, ad, hit, hdd, ha, hl, hnc, rfl⟩)
  · rintro ⟨hf, hd⟩ e (⟨c, nm, args, sel, lc, fd, a, ad, hit, hfd, ha, hl, hnc, _⟩ | ⟨site, c, dir, dd, a, ad, hit, hdd, ha, hl, hnc, _⟩)
    · exact hnc (hf c nm args sel lc fd hit hfd a ha ad hl)
    · exact hnc (hd site c dir dd hit hdd a ha ad hl)

/-! ## VariablesAreInputTypes -/

/-- the spec's `IsInputType(type)`: strip list and non-null wrappers; the named type is a scalar, enum or input
object of the schema -/
inductive IsInputType (s : Schema) : GType → Prop
  | named (n : String) : s.inputT n = true → IsInputType s (.named n)
  | list {t : GType} : IsInputType s t → IsInputType s (.list t)
  | nonNull {t : GType} : IsInputType s t → IsInputType s (.nonNull t)

theorem isInputType_iff (s : Schema) (t : GType) : IsInputType s t ↔ s.inputT t.namedName = true := by
  induction t with
  | named n => exact ⟨fun h => by cases h; assumption, fun h => .named n h⟩
  | list t ih => exact ⟨fun h => by cases h with | list h => exact ih.1 h, fun h => .list (ih.2 h)⟩
  | nonNull t ih => exact ⟨fun h => by cases h with | nonNull h => exact ih.1 h, fun h => .nonNull (ih.2 h)⟩

theorem toGType_namedName (t : TypeRef) : t.toGType.namedName = t.namedName := by
  induction t with
  | named n l => rfl
  | list t l ih => simpa [TypeRef.toGType, GType.namedName, TypeRef.namedName] using ih
  | nonNull t l ih => simpa [TypeRef.toGType, GType.namedName, TypeRef.namedName] using ih

/-- spec ("Variables are input types"): the declared type of every variable, when the schema defines its named
type, is an input type -/
def VariablesAreInput (s : Schema) (d : Document) : Prop :=
  ∀ v, Item.varDef v ∈ items s d → ∀ tr, v.type = some tr → s.known tr.namedName = true → IsInputType s tr.toGType

theorem variablesAreInputTypes_mem (s : Schema) (d : Document) (e : VErr) :
    e ∈ variablesAreInputTypes_S s d ↔
      ∃ v tr, Item.varDef v ∈ items s d ∧ v.type = some tr ∧ s.known tr.namedName = true ∧
        ¬ IsInputType s tr.toGType ∧ e = ⟨"VariablesAreInputTypes", [tr.loc]⟩ := by
  unfold variablesAreInputTypes_S
  simp only [List.mem_filterMap]
  constructor
  · rintro ⟨it, hit, he⟩
    cases it with
    | varDef v =>
      cases ht : v.type with
      | none => simp [ht] at he
      | some tr =>
        simp only [ht] at he
        by_cases hk : s.known tr.namedName = true <;> by_cases hi : s.inputT tr.namedName = true <;> simp [hk, hi] at he
        refine ⟨v, tr, hit, ht, hk, ?_, he.symm⟩
        rw [isInputType_iff, toGType_namedName]; exact hi
    | _ => simp at he
  · rintro ⟨v, tr, hit, ht, hk, hni, rfl⟩
    refine ⟨_, hit, ?_⟩
    have hi : s.inputT tr.namedName = false := by
      cases h : s.inputT tr.namedName with
      | false => rfl
      | true => exact absurd ((isInputType_iff s _).2 (by rw [toGType_namedName]; exact h)) hni
    simp [ht, hk, hi]

theorem variablesAreInputTypes_iff (s : Schema) (d : Document) :
    variablesAreInputTypes_S s d = [] ↔ VariablesAreInput s d := by
  rw [List.eq_nil_iff_forall_not_mem]
  simp only [variablesAreInputTypes_mem]
  constructor
  · intro hno v hit tr ht hk
    apply Classical.byContradiction
    intro hni
    exact hno _ ⟨v, tr, hit, ht, hk, hni, rfl⟩
  · rintro h e ⟨v, tr, hit, ht, hk, hni, _⟩
    exact hni (h v hit tr ht hk)

/-! ## DefaultValuesOfCorrectType -/

/-- spec (edition without `null`): a variable with a default value has a nullable type, and the default is
coercible to that type -/
def DefaultsCoercible (s : Schema) (d : Document) : Prop :=
  ∀ v, Item.varDef v ∈ items s d → ∀ dv, v.default = some dv → ∀ tr, v.type = some tr →
    tr.toGType.isNonNull = false ∧ LiteralCoercible s.plus tr.toGType dv

theorem astType_known (s : Schema) (t : GType) (h : s.known t.namedName = true) : astType s t = t := by
  induction t with
  | named n =>
    simp only [GType.namedName] at h
    simp [astType, h]
  | list t ih => simp only [astType]; rw [ih (by simpa [GType.namedName] using h)]
  | nonNull t ih => simp only [astType]; rw [ih (by simpa [GType.namedName] using h)]

theorem typeFromRef_known (s : Schema) (tr : TypeRef) (h : s.known tr.namedName = true) :
    typeFromRef s (some tr) = some tr.toGType := by
  cases tr with
  | named n l => simp [typeFromRef, TypeRef.toGType, TypeRef.namedName] at h ⊢; exact h
  | list t l => rfl
  | nonNull t l => rfl

/-- the declared types of the variables are known input types (what KnownTypeNames and VariablesAreInputTypes
establish) -/
def VarTypesOK (s : Schema) (d : Document) : Prop :=
  ∀ v, Item.varDef v ∈ items s d → ∀ tr, v.type = some tr → s.known tr.namedName = true ∧ s.inputT tr.namedName = true

theorem defaultValuesOfCorrectType_mem (s : Schema) (d : Document) (h : schemaInputsOkB s = true)
    (hv : VarTypesOK s d) (e : VErr) :
    e ∈ defaultValuesOfCorrectType_S s d ↔
      ∃ v dv tr, Item.varDef v ∈ items s d ∧ v.default = some dv ∧ v.type = some tr ∧
        (tr.toGType.isNonNull = true ∨ ¬ LiteralCoercible s.plus tr.toGType dv) ∧
        e = ⟨"DefaultValuesOfCorrectType", [dv.loc]⟩ := by
  have hS := schemaOk_closed s h
  unfold defaultValuesOfCorrectType_S
  simp only [List.mem_flatMap]
  -- the shape of the rule for a variable definition with known input type
  have key : ∀ v dv tr, Item.varDef v ∈ items s d → v.type = some tr →
      (e ∈ ((match (typeFromRef s v.type).map (astType s) with
              | some (.nonNull _) => [(⟨"DefaultValuesOfCorrectType", [dv.loc]⟩ : VErr)] | _ => [])
            ++ (if validLiteral s ((typeFromRef s v.type).map (astType s)) (some dv) then []
                else [⟨"DefaultValuesOfCorrectType", [dv.loc]⟩]))
        ↔ (tr.toGType.isNonNull = true ∨ ¬ LiteralCoercible s.plus tr.toGType dv) ∧
            e = ⟨"DefaultValuesOfCorrectType", [dv.loc]⟩) := by
    intro v dv tr hit ht
    obtain ⟨hk, hi⟩ := hv v hit tr ht
    have hkind : inputKind s.plus tr.toGType.namedName = true := by
      rw [toGType_namedName]; exact inputT_inputKind s _ hi
    have ht' : (typeFromRef s v.type).map (astType s) = some tr.toGType := by
      rw [ht, typeFromRef_known s tr hk]
      simp [astType_known s tr.toGType (by rw [toGType_namedName]; exact hk)]
    rw [ht', validLiteral_eq s _ _ hkind]
    have hco := isValid_iff_coercible s.plus hS tr.toGType hkind dv
    generalize tr.toGType = g at hco ⊢
    by_cases hvl : isValidLiteralValue s.plus g (some dv) = true
    · have hc := hco.1 hvl
      cases g <;> simp [GType.isNonNull, hvl, hc]
    · have hc : ¬ LiteralCoercible s.plus g dv := fun hc => hvl (hco.2 hc)
      cases g <;> simp [GType.isNonNull, hvl, hc]
  constructor
  · rintro ⟨it, hit, he⟩
    cases it with
    | varDef v =>
      simp only at he
      cases hd : v.default with
      | none => simp [hd] at he
      | some dv =>
        simp only [hd] at he
        cases ht : v.type with
        | none => simp [ht, typeFromRef, validLiteral] at he
        | some tr =>
          obtain ⟨h1, h2⟩ := (key v dv tr hit ht).1 he
          exact ⟨v, dv, tr, hit, hd, ht, h1, h2⟩
    | _ => simp at he
  · rintro ⟨v, dv, tr, hit, hd, ht, h1, h2⟩
    refine ⟨_, hit, ?_⟩
    simp only [hd]
    exact (key v dv tr hit ht).2 ⟨h1, h2⟩

/-- C02 for DefaultValuesOfCorrectType, for documents whose variable types are known input types (the two rules
that say so are part of the conjunction of `all_rules_iff`) -/
theorem defaultValuesOfCorrectType_iff (s : Schema) (d : Document) (h : schemaInputsOkB s = true)
    (hv : VarTypesOK s d) : defaultValuesOfCorrectType_S s d = [] ↔ DefaultsCoercible s d := by
  rw [List.eq_nil_iff_forall_not_mem]
  simp only [defaultValuesOfCorrectType_mem s d h hv]
  constructor
  · intro hno v hit dv hd tr ht
    refine ⟨?_, ?_⟩
    · cases hnn : tr.toGType.isNonNull with
      | false => rfl
      | true => exact absurd ⟨v, dv, tr, hit, hd, ht, Or.inl hnn, rfl⟩ (hno _)
    · apply Classical.byContradiction
      intro hnc
      exact hno _ ⟨v, dv, tr, hit, hd, ht, Or.inr hnc, rfl⟩
  · rintro hall e ⟨v, dv, tr, hit, hd, ht, h1 | h1, _⟩
    · have := (hall v hit dv hd tr ht).1; rw [this] at h1; cases h1
    · exact h1 (hall v hit dv hd tr ht).2

/-! ## FragmentsOnCompositeTypes -/

/-- the type conditions written in the document: of fragment definitions and of inline fragments -/
def typeConditions (s : Schema) (d : Document) : List TypeRef :=
  (items s d).filterMap (fun
    | .inline _ (some tc) _ => some tc
    | .frag _ _ tc _ => some tc
    | _ => none)

/-- spec ("Fragments on composite types"): a type condition whose type the schema defines names an object,
interface or union type -/
def FragmentsOnComposite (s : Schema) (d : Document) : Prop :=
  ∀ tc ∈ typeConditions s d, s.known tc.namedName = true → s.compositeT tc.namedName = true

/-- the rule is one test, on every type condition of the document -/
theorem fragmentsOnCompositeTypes_eq (s : Schema) (d : Document) :
    fragmentsOnCompositeTypes_S s d = (typeConditions s d).filterMap (fun tc =>
      if s.known tc.namedName && !s.compositeT tc.namedName then some ⟨"FragmentsOnCompositeTypes", [tc.loc]⟩ else none) := by
  unfold fragmentsOnCompositeTypes_S typeConditions
  rw [List.filterMap_filterMap]
  refine filterMap_congr' _ _ _ fun it _ => ?_
  cases it with
  | inline c tc lc => cases tc <;> rfl
  | _ => rfl

theorem fragmentsOnCompositeTypes_mem (s : Schema) (d : Document) (e : VErr) :
    e ∈ fragmentsOnCompositeTypes_S s d ↔
      ∃ tc ∈ typeConditions s d, s.known tc.namedName = true ∧ s.compositeT tc.namedName = false ∧
        e = ⟨"FragmentsOnCompositeTypes", [tc.loc]⟩ := by
  rw [fragmentsOnCompositeTypes_eq]
  simp only [List.mem_filterMap]
  refine exists_congr fun tc => and_congr_right fun _ => ?_
  by_cases hk : s.known tc.namedName = true <;> by_cases hc : s.compositeT tc.namedName = true <;>
    simp [hk, hc, eq_comm]

theorem fragmentsOnCompositeTypes_iff (s : Schema) (d : Document) :
    fragmentsOnCompositeTypes_S s d = [] ↔ FragmentsOnComposite s d := by
  rw [List.eq_nil_iff_forall_not_mem]
  simp only [fragmentsOnCompositeTypes_mem]
  constructor
  · intro hno tc htc hk
    cases hc : s.compositeT tc.namedName with
    | true => rfl
    | false => exact absurd ⟨tc, htc, hk, hc, rfl⟩ (hno _)
  · rintro h e ⟨tc, htc, hk, hc, _⟩
    rw [h tc htc hk] at hc; cases hc

/-! ## PossibleFragmentSpreads -/

/-- the visitor that reads the fragment type off TypeInfo reports exactly what the reading off the syntax gives:
an inline fragment without type condition has the enclosing selection's own type, which overlaps with itself -/
theorem possibleFragmentSpreads_M_eq_S (s : Schema) (d : Document) :
    possibleFragmentSpreads_M s d = possibleFragmentSpreads_S s d := by
  unfold possibleFragmentSpreads_M possibleFragmentSpreads_S
  apply filterMap_congr'
  intro it hit
  have hok := items_ok s d it hit
  cases it with
  | inline c tc lc =>
    obtain ⟨hpar, hty⟩ := hok
    cases tc with
    | some t =>
      simp only at hty ⊢
      rw [hty]
      unfold TCtx.condType
      cases hp : c.parent with
      | none => by_cases hk : s.known t.namedName = true <;> simp [hk]
      | some p =>
        by_cases hk : s.known t.namedName = true
        · simp [hk, GType.namedName]
        · have hc : s.compositeT t.namedName = false := by
            unfold Schema.known at hk
            unfold Schema.compositeT
            cases hl : s.lookup t.namedName with
            | none => rfl
            | some _ => simp [hl] at hk
          simp [hk, hc]
    | none =>
      simp only at hty ⊢
      cases hp : c.parent with
      | none => cases c.ty <;> rfl
      | some p =>
        obtain ⟨t, ht, hn⟩ := hty p hp
        simp [ht, hn, doTypesOverlap]
  | _ => rfl

/-- spec ("Fragment spread is possible"): where a fragment with a composite type condition is spread into a
selection with a parent type, the possible runtime types of the two intersect -/
def SpreadsPossible (s : Schema) (d : Document) : Prop :=
  (∀ c tc lc p, Item.inline c (some tc) lc ∈ items s d → c.parent = some p → s.compositeT tc.namedName = true →
      ∃ o, o ∈ runtimeTypes s tc.namedName ∧ o ∈ runtimeTypes s p) ∧
  (∀ c nm lc p ft, Item.spread c nm lc ∈ items s d → c.parent = some p → fragmentType s d nm.value = some ft →
      s.compositeT ft = true → ∃ o, o ∈ runtimeTypes s ft ∧ o ∈ runtimeTypes s p)

theorem possibleFragmentSpreads_mem (s : Schema) (d : Document) (hinh : AbstractInhabited s) (e : VErr) :
    e ∈ possibleFragmentSpreads_M s d ↔
      (∃ c tc lc p, Item.inline c (some tc) lc ∈ items s d ∧ c.parent = some p ∧ s.compositeT tc.namedName = true ∧
          (¬ ∃ o, o ∈ runtimeTypes s tc.namedName ∧ o ∈ runtimeTypes s p) ∧ e = ⟨"PossibleFragmentSpreads", [lc]⟩) ∨
      (∃ c nm lc p ft, Item.spread c nm lc ∈ items s d ∧ c.parent = some p ∧ fragmentType s d nm.value = some ft ∧
          s.compositeT ft = true ∧ (¬ ∃ o, o ∈ runtimeTypes s ft ∧ o ∈ runtimeTypes s p) ∧
          e = ⟨"PossibleFragmentSpreads", [lc]⟩) := by
  rw [possibleFragmentSpreads_M_eq_S]
  unfold possibleFragmentSpreads_S
  simp only [List.mem_filterMap]
  -- the test on a type condition `T` under a composite parent `p`
  have core : ∀ (T p : String) (lc : Loc), s.compositeT p = true →
      ((if s.compositeT T && !doTypesOverlap s T p then some (⟨"PossibleFragmentSpreads", [lc]⟩ : VErr) else none)
          = some e ↔
        s.compositeT T = true ∧ (¬ ∃ o, o ∈ runtimeTypes s T ∧ o ∈ runtimeTypes s p) ∧
          e = ⟨"PossibleFragmentSpreads", [lc]⟩) := by
    intro T p lc hpc
    by_cases hc : s.compositeT T = true
    · have hov := doTypesOverlap_iff s hinh T p hc hpc
      by_cases ho : doTypesOverlap s T p = true
      · simp [hc, ho, hov.1 ho]
      · have hno : ¬ ∃ o, o ∈ runtimeTypes s T ∧ o ∈ runtimeTypes s p := fun h => ho (hov.2 h)
        simp [hc, ho, hno, eq_comm]
    · simp [hc]
  constructor
  · rintro ⟨it, hit, he⟩
    have hok := items_ok s d it hit
    cases it with
    | inline c tc lc =>
      cases tc with
      | none => simp at he
      | some tc =>
        simp only at he
        cases hp : c.parent with
        | none => simp [hp] at he
        | some p =>
          simp only [hp] at he
          obtain ⟨hc, hno, he⟩ := (core _ p lc (hok.1 p hp)).1 he
          exact Or.inl ⟨c, tc, lc, p, hit, hp, hc, hno, he⟩
    | spread c nm lc =>
      simp only at he
      cases hf : fragmentType s d nm.value with
      | none => simp [hf] at he
      | some ft =>
        cases hp : c.parent with
        | none => simp [hf, hp] at he
        | some p =>
          simp only [hf, hp] at he
          obtain ⟨hc, hno, he⟩ := (core ft p lc (hok p hp)).1 he
          exact Or.inr ⟨c, nm, lc, p, ft, hit, hp, hf, hc, hno, he⟩
    | _ => simp at he
  · rintro (⟨c, tc, lc, p, hit, hp, hc, hno, he⟩ | ⟨c, nm, lc, p, ft, hit, hp, hf, hc, hno, he⟩)
    · refine ⟨_, hit, ?_⟩
      simp only [hp]
      exact (core _ p lc ((items_ok s d _ hit).1 p hp)).2 ⟨hc, hno, he⟩
    · refine ⟨_, hit, ?_⟩
      simp only [hf, hp]
      exact (core ft p lc ((items_ok s d _ hit) p hp)).2 ⟨hc, hno, he⟩

/-- C02 for PossibleFragmentSpreads: the rule (as coded, reading TypeInfo) reports nothing iff every spread of a
fragment on a composite type is possible -/
theorem possibleFragmentSpreads_iff (s : Schema) (d : Document) (hinh : AbstractInhabited s) :
    possibleFragmentSpreads_M s d = [] ↔ SpreadsPossible s d := by
  rw [List.eq_nil_iff_forall_not_mem]
  simp only [possibleFragmentSpreads_mem s d hinh]
  constructor
  · intro hno
    refine ⟨?_, ?_⟩
    · intro c tc lc p hit hp hc
      apply Classical.byContradiction
      intro h
      exact hno _ (Or.inl ⟨c, tc, lc, p, hit, hp, hc, h, rfl⟩)
    · intro c nm lc p ft hit hp hf hc
      apply Classical.byContradiction
      intro h
      exact hno _ (Or.inr ⟨c, nm, lc, p, ft, hit, hp, hf, hc, h, rfl⟩)
  · rintro ⟨hi, hs⟩ e (⟨c, tc, lc, p, hit, hp, hc, hno, _⟩ | ⟨c, nm, lc, p, ft, hit, hp, hf, hc, hno, _⟩)
    · exact hno (hi c tc lc p hit hp hc)
    · exact hno (hs c nm lc p ft hit hp hf hc)

end GqlModel.Validate
