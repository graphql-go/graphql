import GqlProofs.CoerceSpec
import GqlProofs.CoerceFuel
import GqlProofs.CoerceEmbed
import GqlProofs.CoerceArgs
import GqlProofs.CoerceRange
/-! # C05 — Variables and arguments are coerced per declared type before resolvers run

Property theorems only. `M` = the library's functions as modelled in `GqlModel/Coerce.lean`
(`isValidInputValue`, `coerceValue`, `isValidLiteralValue`, `valueFromAST`, `getVariableValues`,
`getArgumentValues`, `planArguments`); `S` = `Coerce.Spec` (the GraphQL input coercion rules, edition without
a `null` literal). All statements hold for every schema, every type (arbitrary list / non-null nesting, nested
and recursive input objects) and every value / literal; the recursion is on fuel that only counts descents into
input-object fields, and the fuel-free functions use `odepth + 1`, which `fuel_bound_*` prove sufficient.

Where S applies (DESIGN §10.2 row C05; the decision is argued in §4 C05): `strictlyTyped s v t` for variable values (excludes only the
implementation-defined leniency: booleans / numeric strings / fractions for Int and Float, non-strings for
String, non-booleans for Boolean, non-string-non-integers for ID, and named types that are not input types);
`varsProvided s t lit vars` for literals (variables in non-null positions have a value, named types are input
types). -/
namespace GqlModel.Coerce
open Spec

/-! ## The four recursive functions against the specification -/

/-- `isValidInputValue` accepts exactly the values the specification can coerce. -/
theorem validInput_iff_coercible (s : Schema) (t : GType) (v : JVal) (h : strictlyTyped s v t = true) :
    isValidInputValue s t v = true ↔ ∃ r, Spec.coerceVariable s t (some v) = .ok r :=
  (var_agree s t v h).ok_iff

/-- On accepted values `coerceValue` is the specification's coercion (list-of-one wrapping, nested input
objects with field defaults, enum internal values, custom scalar tables, 32-bit Int). -/
theorem coerceValue_eq_spec (s : Schema) (t : GType) (v : JVal) (h : strictlyTyped s v t = true)
    (hv : isValidInputValue s t v = true) : Spec.coerceVariable s t (some v) = .ok (coerceValue s t v) :=
  (var_agree s t v h).eq_ok hv

/-- Rejected values are exactly the spec's errors (null for non-null, non-numeric / out-of-range Int, unknown enum
value, non-object, unknown or missing field …): nothing is coerced. -/
theorem invalidInput_spec_error (s : Schema) (t : GType) (v : JVal) (h : strictlyTyped s v t = true)
    (hv : isValidInputValue s t v = false) : ∃ e, Spec.coerceVariable s t (some v) = .error e := by
  rcases var_agree s t v h with ⟨h1, _⟩ | ⟨_, e, h2⟩
  · rw [hv] at h1; cases h1
  · exact ⟨e, h2⟩

/-- `isValidLiteralValue` accepts exactly the literals the specification can coerce. -/
theorem validLiteral_iff_coercible (s : Schema) (t : GType) (lit : Option Value) (vars : Vars)
    (h : varsProvided s t lit vars = true) :
    isValidLiteralValue s t lit = true ↔ ∃ r, Spec.coerceLiteral s t lit vars = .ok r :=
  (lit_agree s t lit vars h).ok_iff

/-- On valid literals (with variables inside) `valueFromAST` is the specification's literal coercion. -/
theorem valueFromAST_eq_spec (s : Schema) (t : GType) (lit : Option Value) (vars : Vars)
    (h : varsProvided s t lit vars = true) (hv : isValidLiteralValue s t lit = true) :
    Spec.coerceLiteral s t lit vars = .ok (valueFromAST s t lit vars) :=
  (lit_agree s t lit vars h).eq_ok hv

/-- Supplying a conformant value as an inline literal or through a variable gives the same argument: the four
functions agree pointwise. (`inputFieldsNodup`: Go keeps input fields in a map; `customCoherent`: a custom
scalar's two user functions agree on values that have a literal form.) -/
theorem literal_variable_agree (s : Schema) (hwf : inputFieldsNodup s) (hc : customCoherent s)
    (t : GType) (v : JVal) (vars : Vars) (h : conformant s t v = true) :
    valueFromAST s t (embed s t v) vars = coerceValue s t v := by
  have h1 := embedF_fromAST s vars hwf hc (odepth v + 1) t v h
  have hd : optLitDepth (embed s t v) < odepth v + 1 := Nat.lt_succ_of_le (embedF_depth s _ t v)
  rw [← valueFromASTF_stable s vars (odepth v + 1) t (embed s t v) hd]
  exact h1

/-- Conformant values are in the domain of the other theorems: strictly typed and accepted. -/
theorem conformant_strict_and_valid (s : Schema) (t : GType) (v : JVal) (h : conformant s t v = true) :
    strictlyTyped s v t = true ∧ isValidInputValue s t v = true :=
  conformant_strict_valid s t v h

/-- Hence the literal form of a conformant value evaluates to exactly what the specification coerces the value to. -/
theorem literal_form_eq_spec (s : Schema) (hwf : inputFieldsNodup s) (hc : customCoherent s)
    (t : GType) (v : JVal) (vars : Vars) (h : conformant s t v = true) :
    Spec.coerceVariable s t (some v) = .ok (valueFromAST s t (embed s t v) vars) := by
  obtain ⟨h1, h2⟩ := conformant_strict_valid s t v h
  rw [literal_variable_agree s hwf hc t v vars h]
  exact coerceValue_eq_spec s t v h1 h2

/-! ## Variables -/

/-- `getVariableValues` yields a value map iff every declared variable has an input type and a valid value;
otherwise it fails and there is no map (so nothing can be executed with it). -/
theorem uncoercible_vars_error (s : Schema) (defs : List VarDef) (inputs : Vars) :
    (∃ m, getVariableValues s defs inputs = .ok m) ↔
      ∀ d ∈ defs, ∃ tr, d.type = some tr ∧ isInputType s (typeOfRef tr) = true ∧
        isValidInputValue s (typeOfRef tr) (lookupD inputs d.var.value) = true := by
  unfold getVariableValues
  rw [getVariableValuesGo_ok_iff]
  exact forall₂_congr fun d _ => getVariableValue_ok_iff s d _

/-- In terms of the specification: a strictly typed variable value that the spec cannot coerce to the declared
type makes `getVariableValues` fail. -/
theorem spec_uncoercible_var_fails (s : Schema) (defs : List VarDef) (inputs : Vars) (d : VarDef) (tr : TypeRef)
    (hd : d ∈ defs) (ht : d.type = some tr)
    (hs : strictlyTyped s (lookupD inputs d.var.value) (typeOfRef tr) = true)
    (he : ∃ e, Spec.coerceVariable s (typeOfRef tr) (some (lookupD inputs d.var.value)) = .error e) :
    ∃ e, getVariableValues s defs inputs = .error e := by
  cases hg : getVariableValues s defs inputs with
  | error e => exact ⟨e, rfl⟩
  | ok m =>
    obtain ⟨tr', ht', _, hv⟩ := (uncoercible_vars_error s defs inputs).mp ⟨m, hg⟩ d hd
    rw [ht] at ht'; cases ht'
    obtain ⟨r, hr⟩ := (validInput_iff_coercible s _ _ hs).mp hv
    obtain ⟨e, he⟩ := he
    rw [hr] at he; cases he

/-- One variable: value / variable default / error exactly as the specification's CoerceVariableValues. -/
theorem getVariableValue_eq_spec (s : Schema) (d : VarDef) (input : JVal)
    (hs : ∀ tr, d.type = some tr → strictlyTyped s input (typeOfRef tr) = true)
    (hd : ∀ tr dv, d.type = some tr → d.default = some dv →
      isValidLiteralValue s (typeOfRef tr) (some dv) = true ∧ varsProvided s (typeOfRef tr) (some dv) [] = true) :
    (∃ v, getVariableValue s d input = .ok v ∧ Spec.variableValue s d (some input) = .ok v) ∨
    ((∃ e, getVariableValue s d input = .error e) ∧ ∃ e, Spec.variableValue s d (some input) = .error e) := by
  unfold getVariableValue Spec.variableValue
  cases ht : d.type with
  | none => right; simp
  | some tr =>
    simp only
    by_cases hi : isInputType s (typeOfRef tr) = true
    · simp only [hi, Bool.not_true, Bool.false_eq_true, if_false, Option.getD_some]
      rcases var_agree s (typeOfRef tr) input (hs tr ht) with ⟨h1, h2⟩ | ⟨h1, e, h2⟩
      · left
        simp only [h1, if_true, h2]
        cases hn : input.isNull with
        | false => simp
        | true =>
          cases hdv : d.default with
          | none => simp
          | some dv =>
            obtain ⟨hv, hp⟩ := hd tr dv ht hdv
            have := (lit_agree s (typeOfRef tr) (some dv) [] hp).eq_ok hv
            simp [this]
      · right
        simp only [h1, Bool.false_eq_true, if_false, h2]
        constructor
        · cases input.isNull <;> simp
        · exact ⟨e, rfl⟩
    · right
      simp [hi]

/-! ## Arguments -/

/-- The argument map handed to a resolver is the specification's (literal / variable / variable default /
argument default), for documents whose argument literals are valid (ArgumentsOfCorrectType,
ProvidedNonNullArguments). -/
theorem getArgumentValues_eq_spec (s : Schema) (defs : List ArgDef) (asts : List Argument) (vars : Vars)
    (hvalid : ∀ d ∈ defs, isValidLiteralValue s d.type (argLookup asts d.name) = true)
    (hprov : ∀ d ∈ defs, varsProvided s d.type (argLookup asts d.name) vars = true) :
    Spec.argumentValues s defs asts vars = .ok (getArgumentValues s defs asts vars) := by
  unfold Spec.argumentValues getArgumentValues
  have h2 := (mapE_agree (fun _ => true)
    (fun d => fieldResult ⟨d.name, d.type, d.default, ""⟩ (coerceLiteral s d.type (argLookup asts d.name) vars))
    (fun d => argEntry s asts vars d) defs
    (fun d hd => by
      left
      refine ⟨rfl, ?_⟩
      have h := (lit_agree s d.type (argLookup asts d.name) vars (hprov d hd)).eq_ok (hvalid d hd)
      simp only [h, fieldResult, argEntry, spec_fieldEntry_eq, Coerce.fieldEntry])).eq_ok (by simp)
  simp only [h2, List.filterMap_map]
  rfl

/-- Arguments without variables do not depend on the variable map: plan-time pre-coercion is sound. -/
theorem static_args_eq_dynamic (s : Schema) (defs : List ArgDef) (asts : List Argument) (vars : Vars)
    (h : astHasVariables asts = false) :
    getArgumentValues s defs asts vars = getArgumentValues s defs asts [] :=
  getArgumentValues_static s defs asts vars [] h

/-- `planArguments` + the argument switch of `resolvePlannedField` = per-request `getArgumentValues`, always. -/
theorem planned_args_eq (s : Schema) (defs : List ArgDef) (asts : List Argument) (vars : Vars) :
    plannedArgs s (planArguments s defs asts) vars = getArgumentValues s defs asts vars :=
  plannedArgs_eq s defs asts vars

/-- The static/dynamic split scans the whole literal: `hasVars` is true iff a variable occurs anywhere inside
(any depth, any list index, any field position — first, middle or last), so an argument literal that mixes
literal and variable parts is never pre-coerced; together with `planned_args_eq` (which holds for all argument
ASTs, mixed ones included) plan-time pre-coercion can never lose a variable. -/
theorem hasVars_full_scan (l : Value) : hasVars l = true ↔ VarIn l := ⟨hasVars_sound l, hasVars_complete⟩

theorem astHasVariables_full_scan (asts : List Argument) :
    astHasVariables asts = true ↔ ∃ a ∈ asts, VarIn a.value := by
  simp only [astHasVariables, List.any_eq_true, hasVars_full_scan]

/-- a mixed argument literal is planned as dynamic -/
theorem mixed_literal_is_dynamic (s : Schema) (defs : List ArgDef) (asts : List Argument)
    (h : ∃ a ∈ asts, VarIn a.value) : planArguments s defs asts = .dynamic defs asts := by
  have hv := (astHasVariables_full_scan asts).mpr h
  obtain ⟨a, ha, _⟩ := h
  have hne : asts.isEmpty = false := by cases asts with
    | nil => cases ha
    | cons _ _ => rfl
  simp [planArguments, hv, hne]

/-! ## 32-bit Int -/

/-- Every Int the library coerces — from a variable value of any kind (bool, int, fraction, numeric string) or
from a literal — is within 32 bits. -/
theorem int_range (v : JVal) (l : Value) (i : Int) :
    (parseValue .int v = .int i → minInt32 ≤ i ∧ i ≤ maxInt32) ∧
    (parseLiteral .int l = .int i → minInt32 ≤ i ∧ i ≤ maxInt32) := by
  constructor
  · intro h
    have := coerceInt_range v i h
    simpa [inInt32] using this
  · intro h
    have := parseLiteral_int_range l i h
    simpa [inInt32] using this

/-- Structural version: in the value `coerceValue` produces for any type (lists, non-null, nested input objects),
every position of declared type Int holds null or a 32-bit integer, checked with any fuel `m` above the nesting depth
of the INPUT `v` (the result can be deeper than the input, through defaults, which is why the statement is not about the
fuel-free `intsInRange` of the result). Values the library copies uncoerced from input-field defaults are covered by the
schema premise `defaultsInRange`. -/
theorem int_range_everywhere (s : Schema) (hwf : inputFieldsNodup s) (hd : defaultsInRange s)
    (t : GType) (v : JVal) (m : Nat) (hm : odepth v < m) :
    intsInRangeF s m t (coerceValue s t v) = true := by
  rw [← coerceValueF_stable s m t v hm]
  exact coerceValueF_intsInRange s hwf hd m t v

/-! ## Fuel: the bound is explicit and proved (any fuel above the object-nesting depth gives the same result) -/

theorem fuel_bound_coerceValue (s : Schema) (n : Nat) (t : GType) (v : JVal) (h : odepth v < n) :
    coerceValueF s n t v = coerceValue s t v := coerceValueF_stable s n t v h
theorem fuel_bound_isValidInputValue (s : Schema) (n : Nat) (t : GType) (v : JVal) (h : odepth v < n) :
    isValidInputValueF s n t v = isValidInputValue s t v := isValidInputValueF_stable s n t v h
theorem fuel_bound_isValidLiteralValue (s : Schema) (n : Nat) (t : GType) (l : Option Value) (h : optLitDepth l < n) :
    isValidLiteralValueF s n t l = isValidLiteralValue s t l :=
  iter_stable optLitDepth _ _ (validLitStep_local s) n _ t l h (Nat.lt_succ_self _)
theorem fuel_bound_valueFromAST (s : Schema) (vars : Vars) (n : Nat) (t : GType) (l : Option Value)
    (h : optLitDepth l < n) : valueFromASTF s vars n t l = valueFromAST s t l vars :=
  valueFromASTF_stable s vars n t l h
theorem fuel_bound_spec_variable (s : Schema) (n : Nat) (t : GType) (v : JVal) (h : odepth v < n) :
    coerceVariableF s n t v = Spec.coerceVariable s t (some v) := coerceVariable_no_fuel_error s t v n h
theorem fuel_bound_spec_literal (s : Schema) (vars : Vars) (n : Nat) (t : GType) (l : Option Value)
    (h : optLitDepth l < n) : coerceLiteralF s vars n t l = Spec.coerceLiteral s t l vars :=
  iter_stable optLitDepth _ _ (litStep_local s vars) n _ t l h (Nat.lt_succ_self _)
theorem fuel_bound_strictlyTyped (s : Schema) (n : Nat) (t : GType) (v : JVal) (h : odepth v < n) :
    strictlyTypedF s n t v = strictlyTyped s v t :=
  iter_stable odepth _ _ (strictStep_local s) n _ t v h (Nat.lt_succ_self _)
theorem fuel_bound_varsProvided (s : Schema) (vars : Vars) (n : Nat) (t : GType) (l : Option Value)
    (h : optLitDepth l < n) : varsProvidedF s vars n t l = varsProvided s t l vars :=
  iter_stable optLitDepth _ _ (varsProvidedStep_local s vars) n _ t l h (Nat.lt_succ_self _)

/-! ## Non-vacuity: the hypotheses are satisfiable and the functions do what the examples say -/

section Examples

def exFields : List InputFieldS :=
  [⟨"a", .named "Int", some (.int 5), ""⟩, ⟨"b", .nonNull (.named "Int"), none, ""⟩,
   ⟨"r", .named "In", none, ""⟩, ⟨"l", GType.list (.named "E"), none, ""⟩]
def exTypes : List TypeDef :=
  [.scalar "Int" .int "", .scalar "Float" .float "", .scalar "String" .string "", .scalar "Boolean" .boolean "",
   .scalar "ID" .id "", .enum "E" [⟨"RED", .int 0, "", ""⟩, ⟨"GREEN", .str "g", "", ""⟩] "",
   .scalar "Odd" (.custom [] [(.int 1, .int 1), (.str "3", .int 3)] [(.int 1, .int 1), (.str "3", .int 3)]) "",
   .inputObject "In" exFields ""]
def exSchema : Schema := { types := exTypes, query := "Q", mutation := none, subscription := none, directives := [] }
def L0 : Loc := Loc.none

/-- nested input object through a variable: list-of-one, enum internal value, field default, recursion -/
def exVal : JVal := .obj [("b", .int 1), ("r", .obj [("b", .int 2)]), ("l", .str "RED")]
def exOut : JVal := .obj [("a", .int 5), ("b", .int 1), ("l", .list [.int 0]),
  ("r", .obj [("a", .int 5), ("b", .int 2)])]

example : strictlyTyped exSchema exVal (.named "In") = true := by decide +kernel
example : isValidInputValue exSchema (.named "In") exVal = true := by decide +kernel
example : conformant exSchema (.named "In") exVal = true := by decide +kernel
example : (coerceValue exSchema (.named "In") exVal == exOut) = true := by decide +kernel
example : (valueFromAST exSchema (.named "In") (embed exSchema (.named "In") exVal) [] == exOut) = true := by
  decide +kernel
-- missing required field, unknown field, null in non-null, out-of-range Int, unknown enum value: rejected
example : isValidInputValue exSchema (.named "In") (.obj [("a", .int 1)]) = false := by decide +kernel
example : isValidInputValue exSchema (.named "In") (.obj [("b", .int 1), ("zz", .int 1)]) = false := by decide +kernel
example : isValidInputValue exSchema (.list (.nonNull (.named "Int"))) (.list [.int 1, .null]) = false := by
  decide +kernel
example : isValidInputValue exSchema (.named "Int") (.int 3000000000) = false := by decide +kernel
example : isValidInputValue exSchema (.named "E") (.str "BLUE") = false := by decide +kernel
example : strictlyTyped exSchema (.int 3000000000) (.named "Int") = true := by decide +kernel
-- the spellings ParseFloat reads as NaN / ±Inf are non-numeric values: rejected for Int and Float, in any position
example : strictlyTyped exSchema (.str "NaN") (.named "Int") = true ∧
    isValidInputValue exSchema (.named "Int") (.str "NaN") = false ∧
    isValidInputValue exSchema (.named "Int") (.str "-inf") = false ∧
    isValidInputValue exSchema (.named "Float") (.str "+Inf") = false ∧
    isValidInputValue exSchema (.named "Float") (.str "nan") = false ∧
    isValidInputValue exSchema (.list (.named "Int")) (.list [.int 1, .str "Infinity"]) = false ∧
    isValidInputValue exSchema (.named "In") (.obj [("b", .str "NAN")]) = false := by decide +kernel
-- leniency is outside S
example : strictlyTyped exSchema (.str "5") (.named "Int") = false ∧
    (coerceValue exSchema (.named "Int") (.str "5") == .int 5) = true := by decide +kernel
-- D-05a (repaired): the Int literal 3000000000 is rejected like the variable value
example : isValidLiteralValue exSchema (.named "Int") (some (.int "3000000000" L0)) = false := by decide +kernel
-- D-05b (repaired): a field given as an absent variable takes the field default
example : (valueFromAST exSchema (.named "In")
    (some (.obj [.mk ⟨"a", L0⟩ (.var "v" L0) L0, .mk ⟨"b", L0⟩ (.int "1" L0) L0] L0)) []
    == .obj [("a", .int 5), ("b", .int 1)]) = true := by decide +kernel
example : varsProvided exSchema (.named "In")
    (some (.obj [.mk ⟨"a", L0⟩ (.var "v" L0) L0, .mk ⟨"b", L0⟩ (.int "1" L0) L0] L0)) [] = true := by decide +kernel
-- variables: an uncoercible value gives no map
def exVarDef : VarDef := ⟨⟨"v", L0⟩, L0, some (.nonNull (.named "Int" L0) L0), none, L0⟩
example : (match getVariableValues exSchema [exVarDef] [("v", .str "abc")] with | .ok _ => false | .error _ => true) = true := by
  decide +kernel
example : (match getVariableValues exSchema [exVarDef] [] with | .ok _ => false | .error _ => true) = true := by
  decide +kernel
example : (match getVariableValues exSchema [exVarDef] [("v", .int 7)] with
    | .ok m => JVal.obj m == .obj [("v", .int 7)] | .error _ => false) = true := by decide +kernel
-- an out-of-range Int never gets into a coerced value, whatever its textual form
example : (coerceValue exSchema (.list (.named "Int")) (.list [.int 1, .str "3000000000", .dec 25 1]) ==
    .list [.int 1, .null, .int 2]) = true := by decide +kernel
example : intsInRange exSchema (.named "In") exOut = true := by decide +kernel
example : intsInRange exSchema (.named "In") (.obj [("b", .int 3000000000)]) = false := by decide +kernel
-- static arguments
def exArgDefs : List ArgDef := [⟨"a", GType.list (.named "Int"), none, ""⟩, ⟨"b", .named "Odd", some (.int 1), ""⟩]
def exArgs : List Argument := [⟨⟨"a", L0⟩, .int "7" L0, L0⟩]
example : astHasVariables exArgs = false := by decide +kernel
example : (JVal.obj (getArgumentValues exSchema exArgDefs exArgs [("x", .int 1)])
    == .obj [("a", .list [.int 7]), ("b", .int 1)]) = true := by decide +kernel

-- mixed literal/variable argument: `search(f: {name: "x", tag: $tag, limit: $lim})` — variable in the middle and
-- last field, in a list, nested; planned as dynamic and evaluated with the request's variables
def exMixed : Value := .obj [.mk ⟨"b", L0⟩ (.int "1" L0) L0, .mk ⟨"a", L0⟩ (.var "x" L0) L0,
  .mk ⟨"r", L0⟩ (.obj [.mk ⟨"b", L0⟩ (.int "2" L0) L0, .mk ⟨"l", L0⟩ (.list [.enum "RED" L0, .var "e" L0] L0) L0] L0) L0] L0
def exMixedDefs : List ArgDef := [⟨"f", .named "In", none, ""⟩]
def exMixedArgs : List Argument := [⟨⟨"f", L0⟩, exMixed, L0⟩]
example : hasVars exMixed = true := by decide +kernel
example : hasVars (.obj [.mk ⟨"b", L0⟩ (.int "1" L0) L0, .mk ⟨"a", L0⟩ (.var "x" L0) L0] L0) = true := by decide +kernel
example : hasVars (.list [.int "1" L0, .int "2" L0, .var "x" L0] L0) = true := by decide +kernel
example : (match planArguments exSchema exMixedDefs exMixedArgs with | .dynamic _ _ => true | _ => false) = true := by
  decide +kernel
example : (JVal.obj (plannedArgs exSchema (planArguments exSchema exMixedDefs exMixedArgs) [("x", .int 9), ("e", .str "g")])
    == .obj [("f", .obj [("a", .int 9), ("b", .int 1), ("r", .obj [("a", .int 5), ("b", .int 2), ("l", .list [.int 0, .str "g"])])])]) = true := by
  decide +kernel
example : (JVal.obj (plannedArgs exSchema (planArguments exSchema exMixedDefs exMixedArgs) [])
    == .obj [("f", .obj [("a", .int 5), ("b", .int 1), ("r", .obj [("a", .int 5), ("b", .int 2), ("l", .list [.int 0, .null])])])]) = true := by
  decide +kernel

end Examples

end GqlModel.Coerce
