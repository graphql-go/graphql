import GqlProofs.Validate
import GqlProofs.ValidateInput
/-! # C02 (local rules): the stateful visitors compute the declarative predicates; the type-directed rules say what
their names promise.

`…_M` = the rule as coded in /repo/rules.go (a fold over the projected traversal with the rule's private state),
`…_S` = the rule as the spec edition states it; both in `GqlModel/Validate/Local.lean`. The tie of `…_M` to the real
code is the per-rule correspondence of harness/cmd/c02 (multiset of errors with the locations of their nodes).

Full statement of C02 for one local rule R:  `∀ s d, R_M s d = [] ↔ R holds of (s, d)`  and every reported node is an
offending node. It is proved below for the six stateful rules and for LoneAnonymousOperation; for
UniqueOperationNames the code deviates (two anonymous operations are reported as "operation named \"\"" ), so the
exact characterisation of the code is proved, the spec statement under the hypothesis that excludes the deviation,
and a witness that the deviation is real. For the type-directed rules the declarative predicate is the definition
(`R_S`); the `…_iff` theorems unfold it to the statement over the typed items of the document. -/
namespace GqlModel.Validate

/-! ## UniqueArgumentNames: `knownArgNames`, reset on Field and Directive enter -/

def argNamesOf : Item → Option (List Name)
  | .field _ _ args _ _ => some (args.map (·.name))
  | .directive _ _ dir => some (dir.args.map (·.name))
  | _ => none

theorem argLists_names (s : Schema) (d : Document) :
    (argLists s d).map (fun args => args.map (·.name)) = (items s d).filterMap argNamesOf := by
  unfold argLists
  rw [List.map_filterMap]
  congr 1
  funext it
  cases it <;> rfl

/-- the stateful visitor reports exactly the per-argument-list duplicate reports, in order -/
theorem uniqueArgumentNames_M_eq_S (s : Schema) (d : Document) :
    uniqueArgumentNames_M s d = uniqueArgumentNames_S s d := by
  unfold uniqueArgumentNames_M uniqueArgumentNames_S
  have hstep : uanStep = groupStep "UniqueArgumentNames" argNamesOf := by
    funext st it
    cases it <;> simp [uanStep, groupStep, argNamesOf, List.foldl_map]
  rw [hstep, foldl_groups]
  rw [← argLists_names]
  simp [List.flatMap_map]

/-- C02 for UniqueArgumentNames, full strength: nothing is reported iff the arguments of every field and of every
directive of the document are uniquely named -/
theorem uniqueArgumentNames_iff (s : Schema) (d : Document) :
    uniqueArgumentNames_M s d = [] ↔ ∀ args ∈ argLists s d, (args.map (·.name.value)).Nodup := by
  rw [uniqueArgumentNames_M_eq_S]
  unfold uniqueArgumentNames_S
  simp only [List.flatMap_eq_nil_iff, dupErrs_eq_nil, List.map_map]
  rfl

/-- location soundness: every error names an argument whose name an EARLIER argument of the same list has -/
theorem uniqueArgumentNames_sound (s : Schema) (d : Document) (e : VErr) (h : e ∈ uniqueArgumentNames_M s d) :
    ∃ args ∈ argLists s d, ∃ pre x post f, args.map (·.name) = pre ++ x :: post ∧ f ∈ pre ∧ f.value = x.value ∧
      e = ⟨"UniqueArgumentNames", [f.loc, x.loc]⟩ := by
  rw [uniqueArgumentNames_M_eq_S] at h
  unfold uniqueArgumentNames_S at h
  obtain ⟨args, ha, he⟩ := List.mem_flatMap.1 h
  exact ⟨args, ha, dupErrs_sound _ _ e he⟩

/-! ## UniqueVariableNames: `knownVariableNames`, reset on OperationDefinition enter -/

def varNamesOf : Definition → Option (List Name)
  | .operation _ _ vars _ _ _ => some (vars.map (·.var))
  | _ => none

theorem varLists_names (d : Document) :
    (varLists d).map (fun vars => vars.map (·.var)) = d.defs.filterMap varNamesOf := by
  unfold varLists
  rw [List.map_filterMap]
  congr 1
  funext df
  cases df <;> rfl

theorem uniqueVariableNames_M_eq_S (s : Schema) (d : Document) :
    uniqueVariableNames_M s d = uniqueVariableNames_S s d := by
  unfold uniqueVariableNames_M uniqueVariableNames_S
  have hstep : uvnStep = groupStep "UniqueVariableNames" varNamesOf := by
    funext st df
    cases df <;> simp [uvnStep, groupStep, varNamesOf, List.foldl_map]
  rw [hstep, foldl_groups]
  rw [← varLists_names]
  simp [List.flatMap_map]

/-- C02 for UniqueVariableNames: nothing is reported iff every operation's variables are uniquely named -/
theorem uniqueVariableNames_iff (s : Schema) (d : Document) :
    uniqueVariableNames_M s d = [] ↔ ∀ vars ∈ varLists d, (vars.map (·.var.value)).Nodup := by
  rw [uniqueVariableNames_M_eq_S]
  unfold uniqueVariableNames_S
  simp only [List.flatMap_eq_nil_iff, dupErrs_eq_nil, List.map_map]
  rfl

theorem uniqueVariableNames_sound (s : Schema) (d : Document) (e : VErr) (h : e ∈ uniqueVariableNames_M s d) :
    ∃ vars ∈ varLists d, ∃ pre x post f, vars.map (·.var) = pre ++ x :: post ∧ f ∈ pre ∧ f.value = x.value ∧
      e = ⟨"UniqueVariableNames", [f.loc, x.loc]⟩ := by
  rw [uniqueVariableNames_M_eq_S] at h
  unfold uniqueVariableNames_S at h
  obtain ⟨vars, ha, he⟩ := List.mem_flatMap.1 h
  exact ⟨vars, ha, dupErrs_sound _ _ e he⟩

/-! ## UniqueFragmentNames: one `knownFragmentNames` map for the document -/

def fragNameOf : Definition → Option Name
  | .fragment nm _ _ _ _ => some nm
  | _ => none

theorem uniqueFragmentNames_M_eq_S (s : Schema) (d : Document) :
    uniqueFragmentNames_M s d = uniqueFragmentNames_S s d := by
  unfold uniqueFragmentNames_M uniqueFragmentNames_S
  have hstep : ufnStep = selectStep "UniqueFragmentNames" fragNameOf := by
    funext st df
    cases df <;> rfl
  rw [hstep, foldl_select, foldl_uniqStep]
  have : d.defs.filterMap fragNameOf = fragmentNames d := by
    unfold fragmentNames
    apply filterMap_congr'
    intro df _
    cases df <;> rfl
  simp [this, dupErrs]

/-- C02 for UniqueFragmentNames: nothing is reported iff the fragment definitions are uniquely named -/
theorem uniqueFragmentNames_iff (s : Schema) (d : Document) :
    uniqueFragmentNames_M s d = [] ↔ ((fragmentNames d).map (·.value)).Nodup := by
  rw [uniqueFragmentNames_M_eq_S]
  exact dupErrs_eq_nil _ _

theorem uniqueFragmentNames_sound (s : Schema) (d : Document) (e : VErr) (h : e ∈ uniqueFragmentNames_M s d) :
    ∃ pre x post f, fragmentNames d = pre ++ x :: post ∧ f ∈ pre ∧ f.value = x.value ∧
      e = ⟨"UniqueFragmentNames", [f.loc, x.loc]⟩ := by
  rw [uniqueFragmentNames_M_eq_S] at h
  exact dupErrs_sound _ _ e h

/-! ## UniqueOperationNames: `knownOperationNames`, keyed by `""` for anonymous operations -/

/-- the key node the code files an operation under: its name node, or (anonymous) the operation itself under `""` -/
def opKeyOf : Definition → Option Name
  | .operation _ (some nm) _ _ _ _ => some nm
  | .operation _ none _ _ _ lc => some ⟨"", lc⟩
  | _ => none

def opKeys (d : Document) : List Name := d.defs.filterMap opKeyOf

theorem uniqueOperationNames_M_eq (s : Schema) (d : Document) :
    uniqueOperationNames_M s d = dupErrs "UniqueOperationNames" (opKeys d) := by
  unfold uniqueOperationNames_M
  have hstep : uonStep = selectStep "UniqueOperationNames" opKeyOf := by
    funext st df
    cases df with
    | operation op nm vars dirs sel lc => cases nm <;> rfl
    | _ => rfl
  rw [hstep, foldl_select, foldl_uniqStep]
  simp [dupErrs, opKeys]

/-- exact characterisation of the code: nothing is reported iff the keys — names, and `""` per anonymous operation —
are pairwise distinct -/
theorem uniqueOperationNames_M_iff (s : Schema) (d : Document) :
    uniqueOperationNames_M s d = [] ↔ ((opKeys d).map (·.value)).Nodup := by
  rw [uniqueOperationNames_M_eq]
  exact dupErrs_eq_nil _ _

/-- the rule as specified: named operations are uniquely named -/
theorem uniqueOperationNames_S_iff (s : Schema) (d : Document) :
    uniqueOperationNames_S s d = [] ↔ ((operationNames d).map (·.value)).Nodup := dupErrs_eq_nil _ _

/-- deviation class: more than one anonymous operation -/
def anonymousOps (d : Document) : List Loc :=
  d.defs.filterMap (fun | .operation _ none _ _ _ lc => some lc | _ => none)

/- Full statement (FALSE for the code as it is, see `uniqueOperationNames_deviation`):
   `∀ s d, uniqueOperationNames_M s d = [] ↔ ((operationNames d).map (·.value)).Nodup` -/

/-- C02 for UniqueOperationNames outside the deviation class: for documents without anonymous operations the code
reports nothing iff the operations are uniquely named -/
theorem uniqueOperationNames_iff_partial (s : Schema) (d : Document) (h : anonymousOps d = []) :
    uniqueOperationNames_M s d = [] ↔ ((operationNames d).map (·.value)).Nodup := by
  rw [uniqueOperationNames_M_iff]
  have : opKeys d = operationNames d := by
    unfold opKeys operationNames
    unfold anonymousOps at h
    rw [List.filterMap_eq_nil_iff] at h
    apply filterMap_congr'
    intro df hdf
    have := h df hdf
    cases df with
    | operation op nm vars dirs sel lc =>
      cases nm with
      | none => simp at this
      | some nm => rfl
    | _ => rfl
  rw [this]

/-- the deviation is real: two anonymous operations satisfy the rule as specified, the code reports them -/
theorem uniqueOperationNames_deviation :
    ∃ d : Document, ∀ s, uniqueOperationNames_S s d = [] ∧ uniqueOperationNames_M s d ≠ [] :=
  ⟨⟨[.operation .query none [] [] (.mk [] ⟨0, 5⟩) ⟨0, 5⟩, .operation .query none [] [] (.mk [] ⟨6, 11⟩) ⟨6, 11⟩], ⟨0, 11⟩⟩,
   fun s => ⟨(uniqueOperationNames_S_iff s _).2 (by decide),
     fun h => absurd ((uniqueOperationNames_M_iff s _).1 h) (by decide)⟩⟩

theorem uniqueOperationNames_sound (s : Schema) (d : Document) (e : VErr) (h : e ∈ uniqueOperationNames_M s d) :
    ∃ pre x post f, opKeys d = pre ++ x :: post ∧ f ∈ pre ∧ f.value = x.value ∧
      e = ⟨"UniqueOperationNames", [f.loc, x.loc]⟩ := by
  rw [uniqueOperationNames_M_eq] at h
  exact dupErrs_sound _ _ e h

/-! ## LoneAnonymousOperation: `operationCount` computed on Document enter -/

theorem opCount_eq_fold (d : Document) : d.defs.foldl countStep 0 = opCount d := by
  unfold opCount
  suffices h : ∀ (l : List Definition) (k : Nat), l.foldl countStep k = k + (l.filter isOperation).length by
    simpa using h d.defs 0
  intro l
  induction l with
  | nil => simp
  | cons df rest ih =>
    intro k
    simp only [List.foldl_cons, List.filter_cons]
    rw [ih]
    cases df <;> simp [countStep, isOperation] <;> omega

theorem loneAnonymousOperation_M_eq_S (s : Schema) (d : Document) :
    loneAnonymousOperation_M s d = loneAnonymousOperation_S s d := by
  unfold loneAnonymousOperation_M loneAnonymousOperation_S
  rw [opCount_eq_fold]
  suffices h : ∀ (l : List Definition) (errs : List VErr),
      l.foldl (loneStep (opCount d)) errs = errs ++ l.filterMap (loneErr (opCount d)) by
    simpa using h d.defs []
  intro l
  induction l with
  | nil => simp
  | cons df rest ih =>
    intro errs
    simp only [List.foldl_cons, List.filterMap_cons]
    rw [ih]
    cases df with
    | operation op nm vars dirs sel lc =>
      cases nm with
      | none => by_cases hc : opCount d > 1 <;> simp [loneStep, loneErr, hc]
      | some nm => simp [loneStep, loneErr]
    | _ => simp [loneStep, loneErr]

/-- C02 for LoneAnonymousOperation: nothing is reported iff an anonymous operation, if present, is the only
operation of the document -/
theorem loneAnonymousOperation_iff (s : Schema) (d : Document) :
    loneAnonymousOperation_M s d = [] ↔ (anonymousOps d = [] ∨ opCount d ≤ 1) := by
  rw [loneAnonymousOperation_M_eq_S]
  unfold loneAnonymousOperation_S anonymousOps
  rw [List.filterMap_eq_nil_iff, List.filterMap_eq_nil_iff]
  by_cases hc : opCount d ≤ 1
  · simp only [hc, or_true, iff_true]
    intro df _
    cases df with
    | operation op nm vars dirs sel lc => cases nm <;> simp [loneErr, Nat.not_lt.2 hc]
    | _ => rfl
  · simp only [hc, or_false]
    refine forall_congr' fun df => imp_congr_right fun _ => ?_
    cases df with
    | operation op nm vars dirs sel lc => cases nm <;> simp [loneErr, Nat.lt_of_not_le hc]
    | _ => simp [loneErr]

/-- location soundness: every reported node is an anonymous operation of a document with several operations -/
theorem loneAnonymousOperation_sound (s : Schema) (d : Document) (e : VErr) (h : e ∈ loneAnonymousOperation_M s d) :
    ∃ lc ∈ anonymousOps d, opCount d > 1 ∧ e = ⟨"LoneAnonymousOperation", [lc]⟩ := by
  rw [loneAnonymousOperation_M_eq_S] at h
  unfold loneAnonymousOperation_S at h
  obtain ⟨df, hdf, he⟩ := List.mem_filterMap.1 h
  cases df with
  | operation op nm vars dirs sel lc =>
    cases nm with
    | none =>
      by_cases hc : opCount d > 1
      · simp only [loneErr, hc, if_true, Option.some.injEq] at he
        refine ⟨lc, ?_, hc, he.symm⟩
        unfold anonymousOps
        exact List.mem_filterMap.2 ⟨_, hdf, rfl⟩
      · simp [loneErr, hc] at he
    | some nm => simp [loneErr] at he
  | _ => simp [loneErr] at he

/-! ## UniqueInputFieldNames: `knownNameStack` -/

/-- the reports are the same errors as the spec's (as sets) -/
theorem uniqueInputFieldNames_mem_iff (s : Schema) (d : Document) (e : VErr) :
    e ∈ uniqueInputFieldNames_M s d ↔ e ∈ uniqueInputFieldNames_S s d := by
  rw [uniqueInputFieldNames_M_mem]
  unfold uniqueInputFieldNames_S
  simp only [List.mem_flatMap]
  rfl

/-- C02 for UniqueInputFieldNames, full strength: the visitor with its stack of name maps reports nothing iff the
fields of every input-object literal of the document, at any nesting depth, are uniquely named -/
theorem uniqueInputFieldNames_iff (s : Schema) (d : Document) :
    uniqueInputFieldNames_M s d = [] ↔
      ∀ fs ∈ (topValues s d).flatMap objectsDeep, (fs.map (·.name.value)).Nodup := by
  -- the code reports nothing iff the spec's rule does
  rw [List.eq_nil_iff_forall_not_mem]
  simp only [uniqueInputFieldNames_mem_iff]
  rw [← List.eq_nil_iff_forall_not_mem]
  unfold uniqueInputFieldNames_S
  simp only [List.flatMap_eq_nil_iff, dupErrs_eq_nil, List.map_map]
  rfl

/-- the stack discipline: the visitor's report is the recursive report `valueErrs` of each top-level value — entering
an object saves the enclosing object's names, leaving restores them, whatever is nested in between -/
theorem uniqueInputFieldNames_M_eq (s : Schema) (d : Document) :
    uniqueInputFieldNames_M s d = (topValues s d).flatMap valueErrs :=
  uniqueInputFieldNames_M_eq_rec s d

/-- location soundness: every error names a field of some object literal of the document whose name an earlier
field of the same literal has -/
theorem uniqueInputFieldNames_sound (s : Schema) (d : Document) (e : VErr) (h : e ∈ uniqueInputFieldNames_M s d) :
    ∃ fs ∈ (topValues s d).flatMap objectsDeep, ∃ pre x post f,
      fs.map (·.name) = pre ++ x :: post ∧ f ∈ pre ∧ f.value = x.value ∧ e = ⟨"UniqueInputFieldNames", [f.loc, x.loc]⟩ := by
  obtain ⟨fs, hfs, he⟩ := (uniqueInputFieldNames_M_mem s d e).1 h
  exact ⟨fs, hfs, dupErrs_sound _ _ e he⟩

/-! ## Type-directed rules: what "no error" means over the typed items -/

/-- `DefaultTypeInfoFieldDef` unfolded: a field name is defined on a parent type iff it is a root meta field on the
query type, `__typename` on a composite type, or a declared field of the object / interface -/
theorem fieldDef?_isSome_iff (s : Schema) (parent field : String) :
    (s.fieldDef? parent field).isSome ↔
      ((field = "__schema" ∨ field = "__type") ∧ parent = s.query) ∨ (field = "__typename" ∧ s.compositeT parent = true)
      ∨ ∃ f ∈ s.fieldsOf parent, f.name = field := by
  unfold Schema.fieldDef?
  by_cases h1 : (field == "__schema" && parent == s.query) = true
  · rw [if_pos h1]
    simp only [Bool.and_eq_true, beq_iff_eq] at h1
    exact ⟨fun _ => .inl ⟨.inl h1.1, h1.2⟩, fun _ => rfl⟩
  by_cases h2 : (field == "__type" && parent == s.query) = true
  · rw [if_neg h1, if_pos h2]
    simp only [Bool.and_eq_true, beq_iff_eq] at h2
    exact ⟨fun _ => .inl ⟨.inr h2.1, h2.2⟩, fun _ => rfl⟩
  by_cases h3 : (field == "__typename" && s.compositeT parent) = true
  · rw [if_neg h1, if_neg h2, if_pos h3]
    simp only [Bool.and_eq_true, beq_iff_eq] at h3
    exact ⟨fun _ => .inr (.inl h3), fun _ => rfl⟩
  rw [if_neg h1, if_neg h2, if_neg h3]
  simp only [Bool.and_eq_true, beq_iff_eq] at h1 h2 h3
  simp only [List.find?_isSome, beq_iff_eq]
  constructor
  · exact fun h => .inr (.inr h)
  · rintro (⟨hf | hf, hp⟩ | h | h)
    · exact absurd ⟨hf, hp⟩ h1
    · exact absurd ⟨hf, hp⟩ h2
    · exact absurd h h3
    · exact h

/-- FieldsOnCorrectType: no error iff every field selected under a composite parent type is a field of that type
(see `fieldDef?_isSome_iff`: a declared field, `__typename`, or a root meta field) -/
theorem fieldsOnCorrectType_iff (s : Schema) (d : Document) :
    fieldsOnCorrectType_S s d = [] ↔
      ∀ c nm args sel lc, Item.field c nm args sel lc ∈ items s d → c.parent.isSome → c.fieldDef.isSome := by
  unfold fieldsOnCorrectType_S
  rw [List.filterMap_eq_nil_iff]
  constructor
  · intro h c nm args sel lc hm hp
    have := h _ hm
    cases hfd : c.fieldDef with
    | some fd => rfl
    | none => simp [hp, hfd] at this
  · intro h it hit
    cases it with
    | field c nm args sel lc =>
      have := h c nm args sel lc hit
      by_cases hp : c.parent.isSome
      · have := this hp
        cases hfd : c.fieldDef with
        | some fd => simp [hfd]
        | none => simp [hfd] at this
      · simp [hp]
    | _ => rfl

/-- ScalarLeafs: no error iff every field whose type is known has a selection set exactly when its named type is
not a leaf type -/
theorem scalarLeafs_iff (s : Schema) (d : Document) :
    scalarLeafs_S s d = [] ↔
      ∀ c nm args sel lc t, Item.field c nm args sel lc ∈ items s d → c.ty = some t →
        (sel.isSome ↔ s.leafT t.namedName = false) := by
  -- per field: no error iff a selection set is present exactly on non-leaf types
  have one : ∀ (leaf : Bool) (sel : Option SelectionSet) (lc : Loc),
      (if leaf then sel.map (fun ss => (⟨"ScalarLeafs", [ss.loc]⟩ : VErr))
        else if sel.isNone then some ⟨"ScalarLeafs", [lc]⟩ else none) = none ↔ (sel.isSome ↔ leaf = false) := by
    intro leaf sel lc
    cases leaf <;> cases sel <;> simp
  unfold scalarLeafs_S
  rw [List.filterMap_eq_nil_iff]
  constructor
  · intro h c nm args sel lc t hm ht
    have := h _ hm
    simp only [ht] at this
    exact (one _ sel lc).1 this
  · intro h it hit
    cases it with
    | field c nm args sel lc =>
      cases ht : c.ty with
      | none => simp only [ht]
      | some t =>
        simp only [ht]
        exact (one _ sel lc).2 (h c nm args sel lc t hit ht)
    | _ => rfl

/-- a rule that runs `chk` on the argument list of every field whose definition is known and of every known directive -/
theorem argListRule_nil_iff (s : Schema) (d : Document) (chk : List ArgDef → List Argument → Loc → List VErr)
    (P : List ArgDef → List Argument → Prop) (hchk : ∀ defs args lc, chk defs args lc = [] ↔ P defs args) :
    (items s d).flatMap (fun
      | .field c _ args _ lc => match c.fieldDef with
        | some fd => chk fd.args args lc
        | none => []
      | .directive _ _ dir => match s.directive? dir.name.value with
        | some dd => chk dd.args dir.args dir.loc
        | none => []
      | _ => []) = [] ↔
    (∀ c nm args sel lc fd, Item.field c nm args sel lc ∈ items s d → c.fieldDef = some fd → P fd.args args) ∧
    (∀ site c dir dd, Item.directive site c dir ∈ items s d → s.directive? dir.name.value = some dd →
        P dd.args dir.args) := by
  rw [List.flatMap_eq_nil_iff]
  constructor
  · intro h
    refine ⟨fun c nm args sel lc fd hm hfd => ?_, fun site c dir dd hm hdd => ?_⟩
    · have := h _ hm
      simp only [hfd] at this
      exact (hchk _ _ _).1 this
    · have := h _ hm
      simp only [hdd] at this
      exact (hchk _ _ _).1 this
  · rintro ⟨hf, hd⟩ it hit
    cases it with
    | field c nm args sel lc =>
      cases hfd : c.fieldDef with
      | none => simp [hfd]
      | some fd => simp only [hfd]; exact (hchk _ _ _).2 (hf c nm args sel lc fd hit hfd)
    | directive site c dir =>
      cases hdd : s.directive? dir.name.value with
      | none => simp [hdd]
      | some dd => simp only [hdd]; exact (hchk _ _ _).2 (hd site c dir dd hit hdd)
    | _ => rfl

theorem unknownArgs_eq_nil (rule : String) (defs : List ArgDef) (args : List Argument) :
    unknownArgs rule defs args = [] ↔ ∀ a ∈ args, ∃ dd ∈ defs, dd.name = a.name.value := by
  unfold unknownArgs
  rw [filterMap_ite_eq_nil]
  -- `defs.any …` is the existence on the right
  simp only [List.any_eq_true, beq_iff_eq]

/-- KnownArgumentNames: no error iff every argument of a field with a known definition, and of a directive the
schema knows, is one of its defined arguments -/
theorem knownArgumentNames_iff (s : Schema) (d : Document) :
    knownArgumentNames_S s d = [] ↔
      (∀ c nm args sel lc fd, Item.field c nm args sel lc ∈ items s d → c.fieldDef = some fd →
          ∀ a ∈ args, ∃ dd ∈ fd.args, dd.name = a.name.value) ∧
      (∀ site c dir dd, Item.directive site c dir ∈ items s d → s.directive? dir.name.value = some dd →
          ∀ a ∈ dir.args, ∃ ad ∈ dd.args, ad.name = a.name.value) :=
  argListRule_nil_iff s d (fun defs args _ => unknownArgs "KnownArgumentNames" defs args) _
    fun _ _ _ => unknownArgs_eq_nil _ _ _

theorem missingArgs_eq_nil (rule : String) (defs : List ArgDef) (args : List Argument) (lc : Loc) :
    missingArgs rule defs args lc = [] ↔
      ∀ dd ∈ defs, dd.type.isNonNull = true → ∃ a ∈ args, a.name.value = dd.name := by
  unfold missingArgs
  rw [List.filterMap_eq_nil_iff]
  refine forall_congr' fun dd => imp_congr_right fun _ => ?_
  -- `args.any …` is the existence on the right
  have hany : args.any (fun a => a.name.value == dd.name) = true ↔ ∃ a ∈ args, a.name.value = dd.name := by
    simp only [List.any_eq_true, beq_iff_eq]
  rw [← hany]
  by_cases hnn : dd.type.isNonNull = true <;> by_cases ha : args.any (fun a => a.name.value == dd.name) = true <;>
    simp [hnn, ha]

/-- ProvidedNonNullArguments: no error iff every non-null argument of every known field definition and known
directive is supplied -/
theorem providedNonNullArguments_iff (s : Schema) (d : Document) :
    providedNonNullArguments_S s d = [] ↔
      (∀ c nm args sel lc fd, Item.field c nm args sel lc ∈ items s d → c.fieldDef = some fd →
          ∀ dd ∈ fd.args, dd.type.isNonNull = true → ∃ a ∈ args, a.name.value = dd.name) ∧
      (∀ site c dir dd, Item.directive site c dir ∈ items s d → s.directive? dir.name.value = some dd →
          ∀ ad ∈ dd.args, ad.type.isNonNull = true → ∃ a ∈ dir.args, a.name.value = ad.name) :=
  argListRule_nil_iff s d (missingArgs "ProvidedNonNullArguments") _ fun _ _ _ => missingArgs_eq_nil _ _ _ _

/-- KnownDirectives: no error iff every directive is known to the schema and allowed at the place it stands -/
theorem knownDirectives_iff (s : Schema) (d : Document) :
    knownDirectives_S s d = [] ↔
      ∀ site c dir, Item.directive site c dir ∈ items s d →
        ∃ dd, s.directive? dir.name.value = some dd ∧ site.location ∈ dd.locations := by
  unfold knownDirectives_S
  rw [List.filterMap_eq_nil_iff]
  constructor
  · intro h site c dir hm
    have := h _ hm
    cases hdd : s.directive? dir.name.value with
    | none => simp [hdd] at this
    | some dd =>
      refine ⟨dd, rfl, ?_⟩
      simp only [hdd] at this
      by_cases hl : site.location ∈ dd.locations
      · exact hl
      · exfalso
        simp [hl] at this
  · intro h it hit
    cases it with
    | directive site c dir =>
      obtain ⟨dd, hdd, hl⟩ := h site c dir hit
      simp [hdd, hl]
    | _ => rfl

/-- KnownFragmentNames: no error iff every spread names a fragment defined in the document -/
theorem knownFragmentNames_iff (s : Schema) (d : Document) :
    knownFragmentNames_S s d = [] ↔
      ∀ c nm lc, Item.spread c nm lc ∈ items s d → fragmentDefined d nm.value = true := by
  unfold knownFragmentNames_S
  rw [List.filterMap_eq_nil_iff]
  constructor
  · intro h c nm lc hm
    have := h _ hm
    by_cases hf : fragmentDefined d nm.value = true
    · exact hf
    · simp [hf] at this
  · intro h it hit
    cases it with
    | spread c nm lc => simp [h c nm lc hit]
    | _ => rfl

/-- KnownTypeNames: no error iff every named type written in a variable definition or a type condition is in the
schema's type map -/
theorem knownTypeNames_iff (s : Schema) (d : Document) :
    knownTypeNames_S s d = [] ↔ ∀ p ∈ namedTypeNodes s d, s.known p.1 = true := by
  unfold knownTypeNames_S
  rw [List.filterMap_eq_nil_iff]
  refine forall_congr' fun p => imp_congr_right fun _ => ?_
  by_cases hk : s.known p.1 = true <;> simp [hk]

/-! ## Non-vacuity: the hypotheses / right-hand sides are satisfiable and refutable on concrete documents -/

private def nm (v : String) (a b : Nat) : Name := ⟨v, ⟨a, b⟩⟩
private def argOf (v : String) (a : Nat) : Argument := ⟨nm v a (a + 1), .int "1" ⟨a + 3, a + 4⟩, ⟨a, a + 4⟩⟩
private def emptySchema : Schema := { types := [], query := "Q", mutation := none, subscription := none, directives := [] }
/-- `{ f(a: 1, a: 1) }` -/
private def docDupArgs : Document :=
  ⟨[.operation .query none [] [] (.mk [.field none (nm "f" 2 3) [argOf "a" 4, argOf "a" 10] [] none ⟨2, 15⟩] ⟨0, 17⟩) ⟨0, 17⟩], ⟨0, 17⟩⟩
/-- `{ f(a: 1, b: 1) }` -/
private def docOkArgs : Document :=
  ⟨[.operation .query none [] [] (.mk [.field none (nm "f" 2 3) [argOf "a" 4, argOf "b" 10] [] none ⟨2, 15⟩] ⟨0, 17⟩) ⟨0, 17⟩], ⟨0, 17⟩⟩

example : uniqueArgumentNames_M emptySchema docDupArgs = [⟨"UniqueArgumentNames", [⟨4, 5⟩, ⟨10, 11⟩]⟩] := by decide
example : uniqueArgumentNames_M emptySchema docOkArgs = [] := by decide
example : loneAnonymousOperation_M emptySchema docOkArgs = [] := by decide

end GqlModel.Validate
