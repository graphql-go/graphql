import GqlProofs.TypeInfoStacks
import Generated.Tables
/-! # C14, clause "type tracking reports at each node the schema types that apply at that position"

M = `GqlModel.TypeInfoStacks`: `graphql.TypeInfo` as coded (four stacks, three registers, `Enter`/`Leave` case by case)
driven the way `visitor.Visit(doc, visitor.VisitWithTypeInfo(ti, v))` drives it (Enter before the wrapped visitor's
enter, Leave after its leave, Leave also on SKIP). S = `GqlModel.Validate.tiRecords`: the type context of every node
computed top-down, without stacks; `refWalk` / `ctxRecords` are S for wrapped visitors that carry state / skip nodes.

Premises, exactly:
* `ArgsUnique s` — within each field / directive definition of the schema, argument names are pairwise distinct
  (the Go loops keep the LAST argument of a name, S the first; the library's config maps cannot produce two).
  Decidable sufficient check: `argsUniqueB s = true` (`argsUnique_of_check`), evaluated by the driver on every case.
* `isExecDoc d` (only where `tiRecords` itself is mentioned) — operations and fragments only; `tiRecords` does not
  descend into type-system definitions.
Nothing is assumed about the document being valid, about the stacks' depth, or about the wrapped visitor.
Not covered: `ActionUpdate` (edits), BREAK, a custom `FieldDefFn`. Name / Named / List / NonNull nodes ARE in the walked
tree (TypeInfo has no case for them: they are shown their parent's context); S does not list them, hence `obs` where
`tiRecords` is mentioned. The composition with the small-step machine of `visitor.Visit` is Props/C14Bridge. -/
namespace GqlModel.TypeInfoStacks
open GqlModel.Validate
variable {σ : Type}

/-- Core (any wrapped visitor: any state type, any enter/leave functions, skipping whatever it likes, also depending
on what it has seen): the traversal driven by the stack machine ends with the machine back at `NewTypeInfo`'s state,
and the wrapped visitor ends in exactly the state the TOP-DOWN reference walk leads it to — i.e. at every enter and
at every leave it was shown, by the getters, the context `ctxStep` derives from the parent's context alone. -/
theorem typeinfo_walk_eq_reference (s : Schema) (hU : ArgsUnique s) (v : Inner σ) (d : Document) (st : σ) :
    walkM s v d st = (TI.empty, refWalk s v d st) :=
  visit_M s hU v (docTree d) false false TI.empty st (docTree_wf d) pre_empty

/-- `typeinfo_eq_context`: for every schema and every executable document, a wrapped visitor that never skips is
shown at every node it enters — by `Type() / ParentType() / InputType() / FieldDef() / Directive() / Argument()`, i.e.
by the tops of the four stacks and the registers of M — exactly what the top-down S `tiRecords` assigns to that node
(and at the Document node the empty context). `obs` drops the Name / Named / List / NonNull nodes, which S does not
list; what those are shown is their parent's context (`typeinfo_walk_eq_reference`, `ctxStep … .other`). -/
theorem typeinfo_eq_context (s : Schema) (hU : ArgsUnique s) (d : Document) (hE : isExecDoc d = true) :
    obs (mRecords s noSkip d) = ⟨"Document", d.loc, TIState.empty⟩ :: tiRecords s d := by
  simp only [mRecords, typeinfo_walk_eq_reference s hU, refWalk, ref_logger, List.nil_append]
  exact ctxRecs_docTree s d hE

/-- `typeinfo_eq_context_under_skips` (the D-14a repair as a theorem): when the wrapped visitor skips arbitrary nodes
(`pol`, which may look at the node and at the type info it is shown), every node it still visits is shown the
top-down context of that node (`ctxRecords`), and what it sees is a sub-sequence of what a visitor that never skips
sees: same node, same registers. -/
theorem typeinfo_eq_context_under_skips (s : Schema) (hU : ArgsUnique s) (pol : TIRec → Bool) (d : Document) :
    mRecords s pol d = ctxRecords s pol d ∧ (mRecords s pol d).Sublist (mRecords s noSkip d) := by
  have h : ∀ p, mRecords s p d = ctxRecords s p d := fun p => by
    simp only [mRecords, typeinfo_walk_eq_reference s hU, refWalk, ref_logger, List.nil_append, ctxRecords]
  exact ⟨h pol, by rw [h pol, h noSkip]; exact ctxRecs_sublist s pol (docTree d) TIState.empty⟩

/-- …in terms of `tiRecords`: each record shown to a skipping visitor on an executable document is the Document
record or one of S's records. -/
theorem typeinfo_under_skips_sublist_tiRecords (s : Schema) (hU : ArgsUnique s) (pol : TIRec → Bool) (d : Document)
    (hE : isExecDoc d = true) :
    (obs (mRecords s pol d)).Sublist (⟨"Document", d.loc, TIState.empty⟩ :: tiRecords s d) := by
  rw [← typeinfo_eq_context s hU d hE]
  exact ((typeinfo_eq_context_under_skips s hU pol d).2).filter _

/-- `stacks_balanced`: after the walk all four stacks are empty again and the three registers are nil — for every
document, every wrapped visitor, whatever it skips. -/
theorem stacks_balanced (s : Schema) (hU : ArgsUnique s) (v : Inner σ) (d : Document) (st : σ) :
    (walkM s v d st).1 = TI.empty := by
  rw [typeinfo_walk_eq_reference s hU]

/-- balanced push/pop, locally and for arbitrary stacks: visiting any well-formed subtree from any machine state that
satisfies the register invariant gives the machine back unchanged (so every later sibling sees what the first saw). -/
theorem stacks_restored_after_every_subtree (s : Schema) (hU : ArgsUnique s) (v : Inner σ) (n : TNode)
    (inDir inArg : Bool) (ti : TI) (st : σ) (hwf : n.wf inDir inArg = true) (hpre : Pre inDir inArg ti) :
    (visit (M s) v n ti st).1 = ti := by
  rw [visit_M s hU v n inDir inArg ti st hwf hpre]

/-- `typeinfo_independent_of_handler_set`: the wrapped visitor as `*VisitorOptions` with ABSENT callbacks — enter-only,
leave-only, KindFuncMap entries with only Kind / Enter / Leave, EnterKindMap / LeaveKindMap for any set of kinds, any mix
(`GetVisitFn`'s precedence is `getEnterFn` / `getLeaveFn`). The machine is pushed and popped at every node whether or
not a callback fires there: it ends at `NewTypeInfo`'s state, and every callback that does fire is shown the top-down
context of its node (the option set behaves exactly like the total visitor whose missing functions do nothing). -/
theorem typeinfo_independent_of_handler_set (s : Schema) (hU : ArgsUnique s) (o : Opts σ) (d : Document) (st : σ) :
    walkMO s o d st = (TI.empty, refWalk s o.total d st) := by
  unfold walkMO
  rw [visitO_eq_visit (M s) rfl o]
  exact typeinfo_walk_eq_reference s hU o.total d st

/-- …in particular the stacks do not depend on which handlers the wrapped visitor has (two arbitrary option sets,
even over different state types, leave the same machine state after every well-formed subtree: the one they found). -/
theorem stacks_independent_of_handler_set {σ₁ σ₂ : Type} (s : Schema) (hU : ArgsUnique s) (o₁ : Opts σ₁) (o₂ : Opts σ₂)
    (n : TNode) (inDir inArg : Bool) (ti : TI) (st₁ : σ₁) (st₂ : σ₂) (hwf : n.wf inDir inArg = true) (hpre : Pre inDir inArg ti) :
    (visitO (M s) o₁ n ti st₁).1 = (visitO (M s) o₂ n ti st₂).1 := by
  rw [visitO_eq_visit (M s) rfl o₁, visitO_eq_visit (M s) rfl o₂, visit_M s hU _ n inDir inArg ti st₁ hwf hpre,
    visit_M s hU _ n inDir inArg ti st₂ hwf hpre]

/-- an enter-only generic visitor (`VisitorOptions{Enter: f}`) that records what it is shown sees exactly what the
enter+leave recorder sees — on an executable document `tiRecords` after the Document record -/
theorem typeinfo_eq_context_enter_only_visitor (s : Schema) (hU : ArgsUnique s) (d : Document) (hE : isExecDoc d = true) :
    obs (walkMO s (enterOnly (logger noSkip).enter) d []).2 = ⟨"Document", d.loc, TIState.empty⟩ :: tiRecords s d := by
  rw [typeinfo_independent_of_handler_set s hU, ← typeinfo_eq_context s hU d hE, mRecords, typeinfo_walk_eq_reference s hU]
  rfl

theorem argsUnique_of_argsUniqueB (s : Schema) (h : argsUniqueB s = true) : ArgsUnique s := argsUnique_of_check s h

/-- the child order the walked tree is built in is the one `visitor.QueryDocumentKeys` lists (regenerated from /repo
on every run) for every node kind the tree contains -/
theorem walk_child_order_is_queryDocumentKeys :
    walkChildKeys.all (fun p => Generated.queryDocumentKeys.lookup p.1 == some p.2) = true := by
  decide +kernel

/-! ## Witnesses (all `decide`): the repaired defect D-14a, the two seeded ListValue mutants, non-vacuity -/

private def L (a b : Nat) : Loc := ⟨a, b⟩
private def nm (s : String) (a b : Nat) : Name := ⟨s, L a b⟩
private def fdS (name : String) (t : GType) (args : List ArgDef := []) : FieldDefS := { name := name, type := t, args := args }

/-- `type Q { p: P }  type P { a: String, x: String }` -/
def exSchema : Schema :=
  { types := [.object "Q" [] [fdS "p" (.named "P")] false "",
              .object "P" [] [fdS "a" (.named "String"), fdS "x" (.named "String")] false "",
              .scalar "String" .string ""],
    query := "Q", mutation := none, subscription := none, directives := [] }

/-- `{ p { a ... { x } } }` (D-14a) -/
def exDoc : Document :=
  ⟨[.operation .query none [] []
      (.mk [.field none (nm "p" 2 3) [] []
              (some (.mk [.field none (nm "a" 6 7) [] [] none (L 6 7),
                          .inline none [] (.mk [.field none (nm "x" 14 15) [] [] none (L 14 15)] (L 12 17)) (L 8 17)]
                      (L 4 19))) (L 2 19)] (L 0 21)) (L 0 21)], L 0 21⟩

/-- the wrapped visitor skips the field `a` -/
def exSkipA : TIRec → Bool := fun r => r.kind == "Field" && r.loc.start == 6

/-- `VisitWithTypeInfo` before fix de010d7: no `Leave` for a skipped node -/
def preFix (s : Schema) : Tracker := { M s with leaveOnSkip := false }

theorem exSchema_argsUnique : ArgsUnique exSchema := argsUnique_of_check _ (by decide +kernel)

/-- D-14a, as a record of the repaired defect: WITHOUT the leave-on-skip, `typeinfo_eq_context_under_skips` fails —
after skipping `a`, the field `x` is shown type nil / parent type nil / no field definition, which is not what it is
shown without skips. -/
theorem without_leave_on_skip_fails :
    ¬ (mRecordsWith (preFix exSchema) exSkipA exDoc).Sublist (mRecords exSchema noSkip exDoc) :=
  fun h => absurd (h.map row) (by decide +kernel)

/-- …the offending row, and the row of the code as it is -/
example : ⟨"Field", 14, 15, "nil", "nil", "nil", "nil", "nil", "nil"⟩ ∈ (mRecordsWith (preFix exSchema) exSkipA exDoc).map row := by
  decide +kernel
example : ⟨"Field", 14, 15, "String", "P", "nil", "x", "nil", "nil"⟩ ∈ (mRecords exSchema exSkipA exDoc).map row := by
  decide +kernel
/-- non-vacuity of the skip theorem on the same input: `a`'s subtree is gone, everything else is as without skips -/
example : (obs (mRecords exSchema exSkipA exDoc)).map row = ((obs (mRecords exSchema noSkip exDoc)).map row) := by
  decide +kernel   -- below `a` there is only its Name node: skipping removes no other record and — with the repair — changes none

/-- `{ p { a } p }` -/
def exDocSibling : Document :=
  ⟨[.operation .query none [] []
      (.mk [.field none (nm "p" 2 3) [] [] (some (.mk [.field none (nm "a" 6 7) [] [] none (L 6 7)] (L 4 9))) (L 2 9),
            .field none (nm "p" 10 11) [] [] none (L 10 11)] (L 0 13)) (L 0 13)], L 0 13⟩

/-- seeded variant C14-4: `TypeInfo.Leave` only inside `if fn != nil` of the Leave wrapper -/
def leaveOnlyWithHandler (s : Schema) : Tracker := { M s with leaveNeedsHandler := true }

/-- the enter-only recorder: `VisitorOptions{Enter: record}` -/
def exEnterOnly : Opts (List (String × TIRec)) := loggerOpts noSkip (true, false) (fun _ => none) (fun _ => false) (fun _ => false)

/-- seeded C14-4 as a record: with the variant, an enter-only visitor is shown the second `p` of `{ p { a } p }` with
parent type P (the frame of the first `p`'s selection set was never popped), no field definition, type nil; with the
code as it is: parent Q, field definition `p`, type P. So `typeinfo_independent_of_handler_set` fails for the variant. -/
theorem leave_only_with_handler_fails :
    (⟨"Field", 10, 11, "nil", "P", "nil", "nil", "nil", "nil"⟩ : Row) ∈
      ((mEventsWith (leaveOnlyWithHandler exSchema) exEnterOnly exDocSibling).map (fun e => row e.2)) ∧
    (⟨"Field", 10, 11, "P", "Q", "nil", "p", "nil", "nil"⟩ : Row) ∈
      ((mEvents exSchema exEnterOnly exDocSibling).map (fun e => row e.2)) ∧
    (mEventsWith (leaveOnlyWithHandler exSchema) exEnterOnly exDocSibling).map (fun e => row e.2) ≠
      (mEvents exSchema exEnterOnly exDocSibling).map (fun e => row e.2) := by
  decide +kernel

/-- `type Q { f(a: In, b: [Int]!): String }  input In { x: Int, y: Int }` -/
def exSchemaIn : Schema :=
  { types := [.object "Q" []
                [fdS "f" (.named "String")
                  [{ name := "a", type := .named "In", default := none },
                   { name := "b", type := .nonNull (.list (.named "Int")), default := none }]] false "",
              .inputObject "In" [{ name := "x", type := .named "Int", default := none },
                                 { name := "y", type := .named "Int", default := none }] "",
              .scalar "Int" .int "", .scalar "String" .string ""],
    query := "Q", mutation := none, subscription := none, directives := [] }

def exObjX : ObjField := .mk (nm "x" 8 9) (.list [.int "1" (L 12 13)] (L 11 14)) (L 8 14)
def exObjY : ObjField := .mk (nm "y" 16 17) (.int "2" (L 19 20)) (L 16 20)

/-- `{ f(a: {x: [1], y: 2}) }`: a list literal at the non-list position `x: Int` -/
def exDocListAtNonList : Document :=
  ⟨[.operation .query none [] []
      (.mk [.field none (nm "f" 2 3) [⟨nm "a" 4 5, .obj [exObjX, exObjY] (L 7 21), L 4 21⟩] [] none (L 2 22)] (L 0 24))
      (L 0 24)], L 0 24⟩

/-- `{ f(b: [1]) }`: a list literal for `[Int]!` -/
def exDocNonNullList : Document :=
  ⟨[.operation .query none [] []
      (.mk [.field none (nm "f" 2 3) [⟨nm "b" 4 5, .list [.int "1" (L 8 9)] (L 7 10), L 4 10⟩] [] none (L 2 11)] (L 0 13))
      (L 0 13)], L 0 13⟩

theorem exSchemaIn_argsUnique : ArgsUnique exSchemaIn := argsUnique_of_check _ (by decide +kernel)

/-- seeded mutant B ("ListValue at a non-list position no longer pushes nil", Leave still pops): the push/pop balance
is broken — visiting the ObjectField `x: [1]` with one entry on the input-type stack comes back with none … -/
def mutantB (s : Schema) : Tracker := { M s with enter := tiEnterNoNilPush s }
def tiOneInput : TI := { TI.empty with inputTypeStack := [some (.named "In")] }

theorem mutantB_unbalanced :
    (visit (mutantB exSchemaIn) (logger noSkip) (.mk "ObjectField" (L 8 14) (.objectField "x") [valueTree exObjX.value])
      tiOneInput []).1.inputTypeStack.length = 0 ∧
    (visit (M exSchemaIn) (logger noSkip) (.mk "ObjectField" (L 8 14) (.objectField "x") [valueTree exObjX.value])
      tiOneInput []).1.inputTypeStack.length = 1 := by
  decide +kernel

/-- … so the next sibling `y` is shown input type nil instead of `Int`: `typeinfo_eq_context` fails for the mutant
(while the final stacks are still empty: `Leave` pops only `if len > 0`, so the imbalance is visible only in between) -/
theorem mutantB_breaks_typeinfo_eq_context :
    (obs (mRecordsWith (mutantB exSchemaIn) noSkip exDocListAtNonList)).map row ≠
      ((⟨"Document", exDocListAtNonList.loc, TIState.empty⟩ :: tiRecords exSchemaIn exDocListAtNonList).map row) ∧
    ⟨"IntValue", 19, 20, "String", "Q", "nil", "f", "nil", "a"⟩ ∈ (mRecordsWith (mutantB exSchemaIn) noSkip exDocListAtNonList).map row ∧
    ⟨"IntValue", 19, 20, "String", "Q", "Int", "f", "nil", "a"⟩ ∈ (mRecords exSchemaIn noSkip exDocListAtNonList).map row := by
  decide +kernel

/-- seeded mutant A (`GetNullable` dropped before the `*List` assertion): inside a list literal for `[Int]!` the
element is shown input type nil instead of `Int` -/
def mutantA (s : Schema) : Tracker := { M s with enter := tiEnterNoNullable s }

theorem mutantA_breaks_typeinfo_eq_context :
    ⟨"IntValue", 8, 9, "String", "Q", "nil", "f", "nil", "b"⟩ ∈ (mRecordsWith (mutantA exSchemaIn) noSkip exDocNonNullList).map row ∧
    ⟨"IntValue", 8, 9, "String", "Q", "Int", "f", "nil", "b"⟩ ∈ (mRecords exSchemaIn noSkip exDocNonNullList).map row := by
  decide +kernel

/-- non-vacuity of `typeinfo_eq_context`: premises hold and M shows this 11-row table on a concrete input (by the theorem, S assigns the same) -/
example : isExecDoc exDocListAtNonList = true := by decide
example : (obs (mRecords exSchemaIn noSkip exDocListAtNonList)).map row =
    [⟨"Document", 0, 24, "nil", "nil", "nil", "nil", "nil", "nil"⟩,
     ⟨"OperationDefinition", 0, 24, "Q", "nil", "nil", "nil", "nil", "nil"⟩,
     ⟨"SelectionSet", 0, 24, "Q", "Q", "nil", "nil", "nil", "nil"⟩,
     ⟨"Field", 2, 22, "String", "Q", "nil", "f", "nil", "nil"⟩,
     ⟨"Argument", 4, 21, "String", "Q", "In", "f", "nil", "a"⟩,
     ⟨"ObjectValue", 7, 21, "String", "Q", "In", "f", "nil", "a"⟩,
     ⟨"ObjectField", 8, 14, "String", "Q", "Int", "f", "nil", "a"⟩,
     ⟨"ListValue", 11, 14, "String", "Q", "nil", "f", "nil", "a"⟩,
     ⟨"IntValue", 12, 13, "String", "Q", "nil", "f", "nil", "a"⟩,
     ⟨"ObjectField", 16, 20, "String", "Q", "Int", "f", "nil", "a"⟩,
     ⟨"IntValue", 19, 20, "String", "Q", "Int", "f", "nil", "a"⟩] := by
  decide +kernel

/-- …and S, computed on its own, is that table too (both sides of the theorem evaluated) -/
example : ((⟨"Document", exDocListAtNonList.loc, TIState.empty⟩ :: tiRecords exSchemaIn exDocListAtNonList).map row) =
    (obs (mRecords exSchemaIn noSkip exDocListAtNonList)).map row := by
  decide +kernel

end GqlModel.TypeInfoStacks
