import GqlProofs.Locks
import Generated.Tables
/-! # C07 — One schema, plan and plan cache can serve concurrent requests safely

Full statement (properties.jsonl): any number of goroutines may concurrently validate, plan and execute against the
same schema, plan and plan cache: no data race, no panic/deadlock, and every response equals the sequential one —
including the first use of lazily initialised state on several goroutines at once.

The theorems are about the abstract trace model `GqlModel.Locks` (races, the two lazy-initialisation protocols) and about
the tables regenerated from /repo (which sites follow which discipline, and the shape premises of the protocols).

Residual (sampled by harness/cmd/c07 under the race detector, not proved): that the extractor's syntactic facts imply
the trace discipline for the real program (aliasing, user callbacks, the Go memory model itself), panics/deadlocks,
and equality of concurrent and sequential responses of the real binary. -/
namespace GqlModel.Locks

/-- No data race under the three disciplines (a location is written only before publication / accessed only under its
mutex / accessed only atomically): in a well-formed trace any two conflicting accesses are ordered by happens-before. -/
theorem discipline_race_free (tr : Trace) (p : Nat) (wf : WF tr p) (disc : Loc → Discipline)
    (hd : ∀ x, Respects tr p x (disc x)) :
    ∀ i j e₁ e₂, i < j → tr[i]? = some e₁ → tr[j]? = some e₂ → Conflict e₁ e₂ → HB tr i j := by
  intro i j e₁ e₂ hij h1 h2 hc
  rcases hc with ⟨x, w₁, a₁, w₂, a₂, ha1, ha2, hne, hw, hpl⟩
  have hx := hd x
  generalize disc x = dx at hx
  cases dx with
  | atomicOnly =>
    rcases hpl with h | h
    · cases (hx i e₁ w₁ a₁ h1 ha1).symm.trans h
    · cases (hx j e₂ w₂ a₂ h2 ha2).symm.trans h
  | guardedBy m =>
    exact guarded_ordered tr p wf m i j e₁ e₂ hij h1 h2 ha1 (hx i e₁ w₁ a₁ h1 ha1) (hx j e₂ w₂ a₂ h2 ha2) hne
  | prePublication =>
    -- the writer is thread 0 before the publication; the other access is by a thread that acquired after it
    have later_thread : ∀ k (e : Ev), tr[k]? = some e → e.tid ≠ 0 → ∃ a, p < a ∧ a ≤ k ∧ tr[a]? = some (Ev.acquire e.tid) := by
      intro k e hk hz
      rcases wf.acquired k e hk hz with ⟨a, hak, haq⟩
      exact ⟨a, wf.acquire_after a _ haq, hak, haq⟩
    rcases hw with hw | hw
    · subst hw
      rcases hx i e₁ a₁ h1 ha1 with ⟨ht0, hip⟩
      have hz : e₂.tid ≠ 0 := by rw [← ht0]; exact fun h => hne h.symm
      rcases later_thread j e₂ h2 hz with ⟨a, hpa, haj, haq⟩
      have haj' : a < j := Nat.lt_of_le_of_ne haj fun h => by
        subst h; rw [h2] at haq; rw [Option.some.inj haq] at ha2; cases ha2
      exact .trans (.trans (.po hip h1 wf.published ht0) (.pub hpa wf.published haq)) (.po haj' haq h2 rfl)
    · subst hw
      rcases hx j e₂ a₂ h2 ha2 with ⟨ht0, hjp⟩
      have hz : e₁.tid ≠ 0 := by rw [← ht0]; exact hne
      rcases later_thread i e₁ h1 hz with ⟨a, hpa, hai, _⟩
      omega

/-- Every interleaving of any number of first uses of a lock-protected lazy initialiser: whoever has finished saw
`init (key t)`, the table holds `init k` for every key somebody finished with, and never anything else. -/
theorem lazy_init_schedule_independent {κ V : Type} [DecidableEq κ] (key : Tid → κ) (init : κ → V) (sched : List Tid) :
    (∀ t, (lrun key init sched).pc t = 4 →
      (lrun key init sched).out t = some (init (key t)) ∧ (lrun key init sched).cell (key t) = some (init (key t))) ∧
    (∀ k v, (lrun key init sched).cell k = some v → v = init k) := by
  have inv := LInv.run key init sched
  exact ⟨fun t h => ⟨inv.done_out t (by omega), inv.done_cell t (by omega)⟩, inv.cell_init⟩

/-- two schedules, same answers: the value a finished caller got does not depend on the interleaving -/
theorem lazy_init_same_result_any_two_schedules {κ V : Type} [DecidableEq κ] (key : Tid → κ) (init : κ → V)
    (s₁ s₂ : List Tid) (t : Tid) (h₁ : (lrun key init s₁).pc t = 4) (h₂ : (lrun key init s₂).pc t = 4) :
    (lrun key init s₁).out t = (lrun key init s₂).out t := by
  rw [((lazy_init_schedule_independent key init s₁).1 t h₁).1, ((lazy_init_schedule_independent key init s₂).1 t h₂).1]

/-- the critical section is exclusive: two threads are never both between Lock and Unlock -/
theorem lazy_init_mutually_exclusive {κ V : Type} [DecidableEq κ] (key : Tid → κ) (init : κ → V) (sched : List Tid)
    (t t' : Tid) :
    let s := lrun key init sched
    1 ≤ s.pc t → s.pc t ≤ 3 → 1 ≤ s.pc t' → s.pc t' ≤ 3 → t = t' := by
  intro s a b c d
  have inv := LInv.run key init sched
  have h1 := inv.crit_holds t a b
  have h2 := inv.crit_holds t' c d
  rw [h1] at h2
  exact Option.some.inj h2

/-- `PlanCache.Get`: lookup under the lock, compute WITHOUT the lock on a miss, store under the lock. Every schedule of
any number of threads: whoever has finished got `init (key t)`, and the table never holds anything else. (Sound because a
miss is a miss — compare `split_critical_section_breaks_lazy_init`, where a placeholder is read as an entry.) -/
theorem lookup_compute_store_schedule_independent {κ V : Type} [DecidableEq κ] (key : Tid → κ) (init : κ → V)
    (sched : List Tid) :
    (∀ t, (crun key init sched).pc t = 5 → (crun key init sched).out t = some (init (key t))) ∧
    (∀ k v, (crun key init sched).cell k = some v → v = init k) := by
  have inv := CInv.run key init sched
  exact ⟨inv.done_out, inv.cell_init⟩

/-- Table obligation: every write site of /repo to a field of a shared type (`Generated.lockFacts`) and every use of a
lock-protected field (`Generated.fieldAccesses`) respects the discipline declared for that field in `GqlModel.Locks`
(construction-only function / lazy initialiser forced at construction / named mutex held), the atomic and mutex fields
are the expected ones, and every lazy initialiser is reachable from `NewSchema`/`NewEnum` in the regenerated call
graph. A new unguarded write, a removed `Lock()`, a de-atomised counter break it. -/
theorem sites_respect_discipline :
    sitesRespectDiscipline Generated.lockFacts Generated.fieldAccesses Generated.atomicFields Generated.mutexFields
      Generated.constructionCalls = true := by
  decide +kernel

/-- Table obligation: every critical section of /repo is `Lock(); defer Unlock()` — one per function and mutex —, every
field used under a mutex is used in exactly one critical section of the function, and `Plan.abstractAlternative` has one:
the check-then-store atomicity that `lazy_init_schedule_independent` presupposes. -/
theorem lazy_inits_single_critical_section :
    singleCriticalSections Generated.critSections Generated.fieldRegions = true := by
  decide +kernel

/-- Table obligation: the lazy initialisers still start with the write-once guard they were classified under. -/
theorem lazy_guards_as_classified : lazyGuardsAsClassified Generated.lazyGuards = true := by
  decide +kernel

/-- Table obligation: package graphql has no process-wide mutable map / slice besides the two read-only configuration
lists. -/
theorem no_new_shared_package_state : (Generated.packageVars == expectedPackageVars) = true :=
  -- the tables are identical literal for literal; deciding `==` instead would UTF-8-encode every string in the kernel
  beq_iff_eq.2 rfl

/-- Table obligation: the schema walk of `NewSchema` still follows every kind of edge (the warm-up premise: every lazily
initialised type reachable from the type map is initialised before the schema is published). -/
theorem schema_walk_covers_all_edges : (Generated.schemaWalkEdges == expectedSchemaWalk) = true :=
  beq_iff_eq.2 rfl

/-- Table obligation: no function reachable (through the package's static call graph) from a call made while a mutex is
held locks that mutex again — `sync.Mutex` self-deadlocks. -/
theorem no_reentrant_locking : noReentrantLocking Generated.heldCalls Generated.reentrantLocks = true :=
  Bool.and_eq_true_iff.2 ⟨rfl, beq_iff_eq.2 rfl⟩

/-- Why the shape matters: with the critical section split in two and the slot claimed by a placeholder in between, all
accesses are still under the mutex, yet there is a schedule of two threads in which the second one finishes with the
placeholder instead of `init`. -/
theorem split_critical_section_breaks_lazy_init :
    ∃ sched : List Tid, (srun (7 : Nat) sched).pc 1 = 5 ∧ (srun (7 : Nat) sched).out 1 = some none := by
  exact ⟨[0, 0, 1, 1], by decide⟩

/-! ## Non-vacuity -/

/-- a trace with a publication, two request threads, a guarded location (1, mutex 7), a pre-publication location (0)
and an atomic one (2); the examples below exhibit a conflicting pair in it and the happens-before chain that orders it
(that it satisfies `WF` and `Respects` is not proved here) -/
def exTrace : Trace :=
  [.write 0 0, .publish 0, .acquire 1, .acquire 2, .lock 1 7, .write 1 1, .unlock 1 7, .read 2 0, .awrite 1 2,
   .lock 2 7, .read 2 1, .unlock 2 7, .aread 2 2]

example : Conflict (.write 1 1) (.read 2 1) := ⟨1, true, false, false, false, rfl, rfl, by decide, .inl rfl, .inl rfl⟩

example : HB exTrace 5 10 :=
  .trans (.trans (.po (by decide) (by decide : exTrace[5]? = some (.write 1 1)) (by decide : exTrace[6]? = some (.unlock 1 7)) rfl)
    (.sync (by decide) (by decide : exTrace[6]? = some (.unlock 1 7)) (by decide : exTrace[9]? = some (.lock 2 7))))
    (.po (by decide) (by decide : exTrace[9]? = some (.lock 2 7)) (by decide : exTrace[10]? = some (.read 2 1)) rfl)

/-- three threads, two keys, an adversarial-looking schedule: all finished with the initial value -/
example : (lrun (fun t => t % 2) (fun k => k + 100) [0, 1, 2, 0, 1, 0, 0, 1, 2, 1, 1, 1, 2, 2, 2, 2]).out 2 = some 100 := by decide
example : (lrun (fun t => t % 2) (fun k => k + 100) [0, 1, 2, 0, 1, 0, 0, 1, 2, 1, 1, 1, 2, 2, 2, 2]).pc 2 = 4 := by decide

end GqlModel.Locks
