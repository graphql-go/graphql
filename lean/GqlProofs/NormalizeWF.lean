import GqlProofs.NormalizeRel
import GqlModel.PrinterWF

/-!
# C06 — the normaliser keeps a document printer-well-formed

`Printer.WFDocument` is the premise of C08's read-back theorem (`parse (print d)` gives `d` back up to source positions).
A cache key that is the PRINTED normalised document identifies that document only if the normalised document is
itself well-formed: the synthetic variable names `__pcvN` are GraphQL names, the synthetic definitions carry the
argument's declared type (well-formed by `SchemaOK`), everything else is the caller's.
-/

-- the four members of the walk's induction share one signature, so `hsch` is a premise of all of them
set_option linter.unusedSectionVars false
namespace GqlModel.Normalize
open GqlModel.Reader GqlModel.Printer

theorem isNameCont_of_toDigits (k : Nat) : ∀ c ∈ Nat.toDigits 10 k, isNameCont c = true := by
  intro c hc
  simp only [isNameCont, isDigit_eq_isDigit, Nat.isDigit_of_mem_toDigits (by decide) (by decide) hc, Bool.or_true]

theorem pcv_chars : "__pcv".toList = ['_', '_', 'p', 'c', 'v'] := by decide

/-- `__pcvN` is a GraphQL name -/
theorem synthName_wf (k : Nat) : isNameC (synthName k).toList = true := by
  unfold synthName
  rw [String.toList_ofList, pcv_chars]
  simp only [List.cons_append, List.nil_append, isNameC, List.all_cons, Bool.and_eq_true, List.all_eq_true]
  exact ⟨by decide, by decide, by decide, by decide, by decide, isNameCont_of_toDigits k⟩

/-- invariant of the walk for well-formedness: every recorded entry has a GraphQL name and a well-formed type -/
def EntriesWF (st : NState) : Prop :=
  ∀ e ∈ st.entries, isNameC e.name.toList = true ∧ Reader.WFType (typeRefOf e.type)

theorem tryExtract_wf (s : Schema) (st : NState) (v : Value) (t : GType)
    (h : EntriesWF st) (hv : Reader.WFValue v) (ht : Reader.WFType (typeRefOf t)) :
    Reader.WFValue (tryExtract s st v t).1 ∧ EntriesWF (tryExtract s st v t).2 := by
  rcases tryExtract_cases s st v t with h' | ⟨_, _, _, ⟨e, he, h'⟩ | ⟨_, h'⟩⟩ <;> rw [h']
  · exact ⟨hv, h⟩
  · exact ⟨by simpa only [Reader.WFValue] using (h e (List.mem_of_find?_eq_some he)).1, h⟩
  · obtain ⟨_, c', _, _, hn⟩ := nextName_spec st.taken st.counter
    have hw : isNameC (nextName st.taken st.counter).1.toList = true := by rw [hn]; exact synthName_wf c'
    refine ⟨by simpa only [Reader.WFValue] using hw, ?_⟩
    intro e he
    rcases List.mem_append.mp he with he | he
    · exact h e he
    · cases List.mem_singleton.mp he
      exact ⟨hw, ht⟩

theorem normArgs_wf (s : Schema) (defs : List ArgDef) (hd : ∀ d ∈ defs, Reader.WFType (typeRefOf d.type)) :
    ∀ (as : List Argument) (st : NState), EntriesWF st → WFArguments as →
      WFArguments (normArgs s defs as st).1 ∧ EntriesWF (normArgs s defs as st).2 := by
  intro as
  induction as with
  | nil => intro st h _; exact ⟨trivial, h⟩
  | cons a as ih =>
    intro st h ha
    simp only [WFArguments] at ha
    simp only [normArgs]
    cases hf : defs.find? (fun d => d.name == a.name.value) with
    | none =>
      simp only
      obtain ⟨h1, h2⟩ := ih st h ha.2
      exact ⟨⟨ha.1, h1⟩, h2⟩
    | some d =>
      simp only
      obtain ⟨hv, hst⟩ := tryExtract_wf s st a.value d.type h ha.1.2 (hd d (List.mem_of_find?_eq_some hf))
      obtain ⟨h1, h2⟩ := ih _ hst ha.2
      exact ⟨⟨⟨ha.1.1, hv⟩, h1⟩, h2⟩

/-! ## printer-well-formed documents satisfy `LexSet` (the lexical premise of `normalized_transparent`) -/

theorem wfArguments_iff : ∀ as : List Argument, WFArguments as ↔ ∀ a ∈ as, WFArgument a
  | [] => by simp [WFArguments]
  | a :: as => by simp [WFArguments, wfArguments_iff as]

theorem wfVarDefs_iff : ∀ vs : List VarDef, WFVarDefs vs ↔ ∀ v ∈ vs, WFVarDef v
  | [] => by simp [WFVarDefs]
  | v :: vs => by simp [WFVarDefs, wfVarDefs_iff vs]

theorem wfDefinitions_iff : ∀ ds : List Definition, WFDefinitions ds ↔ ∀ d ∈ ds, WFDefinition d
  | [] => by simp [WFDefinitions]
  | d :: ds => by simp [WFDefinitions, wfDefinitions_iff ds]

mutual
theorem lexSel_of_wf : ∀ (x : Selection), WFSelection x → LexSel x
  | .field _ _ args _ sel _, h => by
    simp only [WFSelection] at h
    simp only [LexSel]
    exact ⟨fun a ha => ((wfArguments_iff args).mp h.2.2.1 a ha).2, lexOpt_of_wf sel h.2.2.2.2⟩
  | .inline _ _ ss _, h => by
    simp only [WFSelection] at h
    simp only [LexSel]
    exact lexSet_of_wf ss h.2.2
  | .spread _ _ _, _ => by simp only [LexSel]
theorem lexOpt_of_wf : ∀ (x : Option SelectionSet), WFOptSelSet x → LexOpt x
  | none, _ => by simp only [LexOpt]
  | some ss, h => by
    simp only [WFOptSelSet] at h
    simp only [LexOpt]
    exact lexSet_of_wf ss h
theorem lexSet_of_wf : ∀ (x : SelectionSet), WFSelSet x → LexSet x
  | .mk sels _, h => by
    simp only [WFSelSet] at h
    simp only [LexSet]
    exact lexList_of_wf sels h.2
theorem lexList_of_wf : ∀ (xs : List Selection), WFSelections xs → LexList xs
  | [], _ => by simp only [LexList]
  | x :: xs, h => by
    simp only [WFSelections] at h
    simp only [LexList]
    exact ⟨lexSel_of_wf x h.1, lexList_of_wf xs h.2⟩
end

section Walk
variable (s : Schema) (hsch : SchemaOK s) {keep : List String}
include hsch

mutual
theorem normSel_wf : ∀ (x : Selection) (P : String) (st : NState), EntriesWF st → WFSelection x →
    WFSelection (normSel s keep P x st).1 ∧ EntriesWF (normSel s keep P x st).2
  | .field al nm args dirs sel loc, P, st, h, hw => by
    simp only [WFSelection] at hw
    obtain ⟨hal, hnm, hargs, hdirs, hsel⟩ := hw
    rcases normSel_field s keep P al nm args dirs sel loc st with ⟨_, e⟩ | ⟨fd, hfd, ⟨_, e⟩ | ⟨_, e⟩⟩ <;> rw [e]
    · exact ⟨by simp only [WFSelection]; exact ⟨hal, hnm, hargs, hdirs, hsel⟩, h⟩
    all_goals
      have hd : ∀ d ∈ argDefsFor keep (respKey al nm) fd, Reader.WFType (typeRefOf d.type) :=
        fun d hdm => ((hsch.1 P nm.value fd hfd).2 d (mem_argDefsFor hdm)).2
      obtain ⟨ha, hst⟩ := normArgs_wf s (argDefsFor keep (respKey al nm) fd) hd args st h hargs
    · obtain ⟨hs, hst'⟩ := normOpt_wf sel fd.type.namedName _ hst hsel
      exact ⟨by simp only [WFSelection]; exact ⟨hal, hnm, ha, hdirs, hs⟩, hst'⟩
    · exact ⟨by simp only [WFSelection]; exact ⟨hal, hnm, ha, hdirs, hsel⟩, hst⟩
  | .inline tc dirs ss loc, P, st, h, hw => by
    simp only [WFSelection] at hw
    obtain ⟨htc, hdirs, hss⟩ := hw
    rw [normSel_inline]
    obtain ⟨hs, hst⟩ := normSet_wf ss (inlineParent s P tc) st h hss
    exact ⟨by simp only [WFSelection]; exact ⟨htc, hdirs, hs⟩, hst⟩
  | .spread n d l, P, st, h, hw => by rw [normSel_spread]; exact ⟨hw, h⟩
theorem normOpt_wf : ∀ (x : Option SelectionSet) (P : String) (st : NState), EntriesWF st → WFOptSelSet x →
    WFOptSelSet (normOpt s keep P x st).1 ∧ EntriesWF (normOpt s keep P x st).2
  | none, P, st, h, _ => by rw [normOpt_none]; exact ⟨trivial, h⟩
  | some ss, P, st, h, hw => by
    simp only [WFOptSelSet] at hw
    rw [normOpt_some]
    obtain ⟨hs, hst⟩ := normSet_wf ss P st h hw
    exact ⟨by simpa only [WFOptSelSet] using hs, hst⟩
theorem normSet_wf : ∀ (x : SelectionSet) (P : String) (st : NState), EntriesWF st → WFSelSet x →
    WFSelSet (normSet s keep P x st).1 ∧ EntriesWF (normSet s keep P x st).2
  | .mk sels loc, P, st, h, hw => by
    simp only [WFSelSet] at hw
    rw [normSet_mk]
    obtain ⟨hs, hst⟩ := normList_wf sels P st h hw.2
    refine ⟨?_, hst⟩
    simp only [WFSelSet]
    refine ⟨?_, hs⟩
    cases sels with
    | nil => exact absurd rfl hw.1
    | cons x xs => rw [normList_cons]; exact List.cons_ne_nil _ _
theorem normList_wf : ∀ (xs : List Selection) (P : String) (st : NState), EntriesWF st → WFSelections xs →
    WFSelections (normList s keep P xs st).1 ∧ EntriesWF (normList s keep P xs st).2
  | [], P, st, h, _ => by rw [normList_nil]; exact ⟨trivial, h⟩
  | x :: xs, P, st, h, hw => by
    simp only [WFSelections] at hw
    rw [normList_cons]
    obtain ⟨h1, hst⟩ := normSel_wf x P st h hw.1
    obtain ⟨h2, hst'⟩ := normList_wf xs P _ hst hw.2
    exact ⟨by simp only [WFSelections]; exact ⟨h1, h2⟩, hst'⟩
end

theorem normalizeOperation_wf (keep : List String) (root : String) (docNames : List String) (d : Definition) (h : WFDefinition d) :
    WFDefinition (normalizeOperation s keep root docNames d).1 := by
  cases d with
  | operation op name vars dirs sel loc =>
    simp only [WFDefinition] at h
    simp only [normalizeOperation, WFDefinition]
    have h0 : EntriesWF (initState vars docNames) := by intro e he; simp [initState] at he
    obtain ⟨hs, hst⟩ := normSet_wf s hsch sel root _ h0 h.2.2.2
    refine ⟨h.1, (wfVarDefs_iff _).mpr fun v hv => ?_, h.2.2.1, hs⟩
    rcases List.mem_append.mp hv with hv | hv
    · exact (wfVarDefs_iff vars).mp h.2.1 v hv
    · obtain ⟨e, he, rfl⟩ := List.mem_map.mp hv
      exact ⟨(hst e he).1, ⟨_, rfl, (hst e he).2⟩, trivial⟩
  | _ => simpa only [normalizeOperation] using h

omit hsch in
theorem wfDefinitions_replaceAt (ds : List Definition) (i : Nat) (d : Definition) (h : WFDefinitions ds) (hd : WFDefinition d) :
    WFDefinitions (replaceAt ds i d) :=
  (wfDefinitions_iff _).mpr fun d' hd' => (List.mem_or_eq_of_mem_set (replaceAt_eq_set ds i d ▸ hd')).elim
    ((wfDefinitions_iff ds).mp h d') (· ▸ hd)

end Walk

end GqlModel.Normalize
