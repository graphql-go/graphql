import GqlModel.TwoWorlds
/-! A small concrete request (schema, document with fragments / aliases / a cyclic fragment / a variable-driven
directive, world with failures) used by the non-vacuity `example`s of Props/C01, C04, C13, C20. Definitions only. -/
namespace GqlModel.Exec.Ex
open GqlModel.Coerce

def nm (s : String) : Name := ⟨s, Loc.none⟩

def fld (name : String) (sel : Option (List Selection) := none) (alias : Option String := none)
    (dirs : List Directive := []) : Selection :=
  .field (alias.map nm) (nm name) [] dirs (sel.map (fun l => .mk l Loc.none)) Loc.none

def spread (name : String) (dirs : List Directive := []) : Selection := .spread (nm name) dirs Loc.none

def skipIf (var : String) : Directive :=
  { name := nm "skip", args := [{ name := nm "if", value := .var var Loc.none, loc := Loc.none }], loc := Loc.none }

def schema : Schema :=
  { types := [
      .scalar "Int" .int "", .scalar "String" .string "", .scalar "Boolean" .boolean "",
      .object "Query" [] [
        { name := "a", type := .nonNull (.named "Int"), args := [] },
        { name := "b", type := .list (.named "Int"), args := [] },
        { name := "o", type := .named "O", args := [] },
        { name := "n", type := .named "Node", args := [] }] false "",
      .object "Mutation" [] [
        { name := "m1", type := .named "O", args := [] },
        { name := "m2", type := .named "Int", args := [] }] false "",
      .interface "Node" [{ name := "y", type := .named "Int", args := [] }] false "",
      .object "O" ["Node"] [
        { name := "x", type := .nonNull (.named "String"), args := [] },
        { name := "y", type := .named "Int", args := [] }] true ""],
    query := "Query", mutation := some "Mutation", subscription := none, directives := [] }

/-- `query Q($s: Boolean!) { a b ...F o { y } w: o @skip(if: $s) { x } n { __typename y } }`,
`fragment F on Query { o { ...G } }`, `fragment G on O { y ...G }` (cyclic),
`mutation M { m1 { y } m2 m1 { x } }` -/
def doc : Document :=
  { defs := [
      .operation .query (some (nm "Q"))
        [{ var := nm "s", varLoc := Loc.none, type := some (.nonNull (.named "Boolean" Loc.none) Loc.none),
           default := none, loc := Loc.none }] []
        (.mk [fld "a", fld "b", spread "F", fld "o" (some [fld "y"]),
              fld "o" (some [fld "x"]) (some "w") [skipIf "s"],
              fld "n" (some [fld "__typename", fld "y"])] Loc.none) Loc.none,
      .fragment (nm "F") (.named "Query" Loc.none) [] (.mk [fld "o" (some [spread "G"])] Loc.none) Loc.none,
      .fragment (nm "G") (.named "O" Loc.none) [] (.mk [fld "y", spread "G"] Loc.none) Loc.none,
      .operation .mutation (some (nm "M")) [] []
        (.mk [fld "m1" (some [fld "y"]), fld "m2", fld "m1" (some [fld "x"])] Loc.none) Loc.none],
    loc := Loc.none }

/-- object 1 is an `O` whose `x` resolver fails; `b` returns a list with a string and an out-of-range integer -/
def world : World :=
  { objects := [(1, { typeName := "O", fields := [("x", .fail), ("y", .value (.int 2))] })],
    rootFields := [("a", .value (.int 7)), ("b", .value (.list [.int 1, .str "zz", .int 5000000000])),
                   ("o", .value (.ref 1)), ("n", .value (.ref 1)), ("m1", .value (.thunk (.ok (.ref 1)))),
                   ("m2", .value (.int 3))],
    isTypeOf := [], resolveType := [] }

def varsT : Vars := [("s", .bool true)]
def varsF : Vars := [("s", .bool false)]

/-- observations as plain data (so that `decide` can compare them) -/
def pathStr (p : Path) : String :=
  String.intercalate "." (p.map (fun | .key k => k | .idx i => toString i))

def obsLog (r : Response) : List String :=
  match r with
  | .result _ _ log _ => log.map (fun e => pathStr e.path)
  | _ => ["<no result>"]

def obsErrs (r : Response) : List String :=
  match r with
  | .result _ errs _ _ => errs.map (fun e => pathStr e.1)
  | _ => ["<no result>"]

def obsData (r : Response) : Option (List (String × JVal)) :=
  match r with
  | .result d _ _ _ => d
  | _ => none

def obsKeys (r : Response) : List String := ((obsData r).getD []).map (·.1)

/-! ## a second request for the two-world theorem: a list of objects with a non-null field -/

def schemaTW : Schema :=
  { types := [
      .scalar "Int" .int "",
      .object "Query" [] [
        { name := "items", type := .list (.named "Item"), args := [] },
        { name := "z", type := .named "Int", args := [] }] false "",
      .object "Item" [] [
        { name := "a", type := .nonNull (.named "Int"), args := [] },
        { name := "b", type := .named "Int", args := [] }] false ""],
    query := "Query", mutation := none, subscription := none, directives := [] }

/-- `{ items { a b } z }` -/
def docTW : Document :=
  { defs := [.operation .query none [] [] (.mk [fld "items" (some [fld "a", fld "b"]), fld "z"] Loc.none) Loc.none],
    loc := Loc.none }

/-- `items` is a list of two `Item`s; the resolver `(object 2, field a)` fails -/
def worldTW1 : World :=
  { objects := [(1, { typeName := "Item", fields := [("a", .value (.int 1)), ("b", .value (.int 2))] }),
                (2, { typeName := "Item", fields := [("a", .fail), ("b", .value (.int 3))] })],
    rootFields := [("items", .value (.list [.ref 1, .ref 2])), ("z", .value (.int 5))],
    isTypeOf := [], resolveType := [] }

/-- the same world, except that `(object 2, field a)` returns 7 -/
def worldTW2 : World :=
  { worldTW1 with objects := [(1, { typeName := "Item", fields := [("a", .value (.int 1)), ("b", .value (.int 2))] }),
                             (2, { typeName := "Item", fields := [("a", .value (.int 7)), ("b", .value (.int 3))] })] }

/-- the position of the differing resolver: `items[1].a` (depth 3, inside a list) -/
def pTW : Path := [.key "items", .idx 1, .key "a"]
/-- its nearest nullable ancestor: the list item `items[1]` (the field `a` is non-null) -/
def qTW : Path := [.key "items", .idx 1]

/-- does the log entry invoke the resolver `(object id, field f)`? (`Touches`, as a Boolean) -/
def touchesB (id : Nat) (f : String) (e : LogEntry) : Bool :=
  (match e.source with | .ref i => i == id | _ => false) && e.fieldName == f

/-- the paths at which a response's log invokes the resolver `(object id, field f)` -/
def touchPaths (id : Nat) (f : String) (r : Response) : List String :=
  match r with
  | .result _ _ log _ => (log.filter (touchesB id f)).map (fun e => pathStr e.path)
  | _ => ["<no result>"]

def errsOutsideS (q : Path) (r : Response) : List String :=
  match r with
  | .result _ errs _ _ => (errsOutside q errs).map (fun e => pathStr e.1)
  | _ => ["<no result>"]

def logOutsideS (q : Path) (r : Response) : List String :=
  match r with
  | .result _ _ log _ => (logOutside q log).map (fun e => pathStr e.path)
  | _ => ["<no result>"]

def showAt (d : Option (List (String × JVal))) (r : Path) : Option String :=
  (d.bind (fun fs => (JVal.obj fs).getAt r)).map fmtV

end GqlModel.Exec.Ex
