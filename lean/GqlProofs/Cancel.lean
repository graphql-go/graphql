import GqlModel.Cancel
/-! Helper lemmas for C16: the transitions of `step` as a relation, and the inductive invariant of the
caller / executor / channel / context system. -/
namespace GqlModel.Cancel
variable {rs : List Resolver} {cap : Nat} {s t : St} {a : Act}

/-- The enabled transitions of `step`, case by case: what the action requires of `s`, and the state it leads to (of the
value a resolver step appends only that it is acceptable for that step: `resolver` admits every such value where `step`
produces one, so unlike `Subscription.Step` the converse `Step.step_eq` holds for the other actions only, and that a
resolver step is enabled is shown on `step` itself). -/
inductive Step (rs : List Resolver) (cap : Nat) (s : St) : Act → St → Prop
  | resolver {acc v} saw : s.exec = .running acc → acc.length < rs.length → valOk rs s.ctx acc.length v = true →
      Step rs cap s (.resolverStep acc.length saw) { s with exec := .running (acc ++ [v]) }
  | finishBuffered {acc} : s.exec = .running acc → acc.length = rs.length → s.chan.length < cap →
      Step rs cap s .finish { s with exec := .sent, chan := s.chan ++ [acc] }
  | finishRendezvous {acc} : s.exec = .running acc → acc.length = rs.length → cap = 0 → s.caller = .waiting →
      Step rs cap s .finish { s with exec := .sent, caller := .returned (.normal acc) }
  | ctxDone e : s.ctx = none → Step rs cap s (.ctxDone e) { s with ctx := some e }
  | selectCtx {e} : s.caller = .waiting → s.ctx = some e →
      Step rs cap s .selectCtx { s with caller := .returned (.ctxError e) }
  | selectResult {r rest} : s.caller = .waiting → s.chan = r :: rest →
      Step rs cap s .selectResult { s with caller := .returned (.normal r), chan := rest }

theorem Step.of_step (hs : step rs cap s a = some t) : Step rs cap s a t := by
  obtain ⟨exec, chan, ctx, caller⟩ := s
  cases a with
  | resolverStep k saw =>
    cases exec with
    | sent => simp [step] at hs
    | running acc =>
      by_cases hk : k = acc.length
      · subst hk
        cases hr : rs[acc.length]? with
        | none => simp [step, hr] at hs
        | some r =>
          have hlt := (List.getElem?_eq_some_iff.1 hr).1
          cases saw with
          | false => simp [step, hr] at hs; subst hs; exact .resolver _ rfl hlt (by simp [valOk, hr])
          | true =>
            cases ctx with
            | none => simp [step, hr] at hs
            | some e =>
              simp [step, hr] at hs
              obtain ⟨ho, rfl⟩ := hs
              exact .resolver _ rfl hlt (by simp [valOk, hr, ho])
      · simp [step, hk] at hs
  | finish =>
    cases exec with
    | sent => simp [step] at hs
    | running acc =>
      by_cases hlen : acc.length = rs.length
      · by_cases hcap : chan.length < cap
        · simp [step, hlen, hcap] at hs; subst hs; exact .finishBuffered rfl hlen hcap
        · simp [step, hlen, hcap] at hs
          obtain ⟨⟨h0, hw⟩, rfl⟩ := hs
          exact .finishRendezvous rfl hlen h0 hw
      · simp [step, hlen] at hs
  | ctxDone e => cases ctx <;> simp [step] at hs; subst hs; exact .ctxDone e rfl
  | selectCtx => cases caller <;> cases ctx <;> simp [step] at hs; subst hs; exact .selectCtx rfl rfl
  | selectResult => cases caller <;> cases chan <;> simp [step] at hs; subst hs; exact .selectResult rfl rfl

theorem Step.step_eq (hs : Step rs cap s a t) (ha : ∀ k saw, a ≠ .resolverStep k saw) : step rs cap s a = some t := by
  cases hs with
  | resolver saw => exact absurd rfl (ha _ saw)
  | _ => simp [step, *]

theorem run_cons_some {as : List Act} (h : run rs cap s (a :: as) = some t) :
    ∃ u, Step rs cap s a u ∧ run rs cap u as = some t := by
  simp only [run] at h
  cases hs : step rs cap s a with
  | none => rw [hs] at h; cases h
  | some u => rw [hs] at h; exact ⟨u, .of_step hs, h⟩

theorem inv_run_of {I : St → Prop} {A : Act → Prop} (hstep : ∀ {s t a}, A a → I s → Step rs cap s a t → I t) :
    ∀ (acts : List Act) (s t : St), (∀ a ∈ acts, A a) → I s → run rs cap s acts = some t → I t
  | [], _, _, _, h, hr => Option.some.inj hr ▸ h
  | a :: as, _, t, hA, h, hr => by
    obtain ⟨u, hs, hr⟩ := run_cons_some hr
    exact inv_run_of hstep as u t (fun b hb => hA b (List.mem_cons_of_mem _ hb))
      (hstep (hA a (List.mem_cons_self ..)) h hs) hr

theorem valsOkFrom_mono (rs : List Resolver) (e : CtxErr) :
    ∀ (k : Nat) (vs : List Val), valsOkFrom rs none k vs = true → valsOkFrom rs (some e) k vs = true
  | _, [], _ => rfl
  | k, v :: vs, h => by
    simp only [valsOkFrom, Bool.and_eq_true] at h ⊢
    refine ⟨?_, valsOkFrom_mono rs e (k + 1) vs h.2⟩
    have h1 := h.1
    unfold valOk at h1 ⊢
    cases hr : rs[k]? with
    | none => simp [hr] at h1
    | some r => simp [hr] at h1 ⊢; exact .inl h1

theorem valsOkFrom_append (rs : List Resolver) (ctx : Option CtxErr) :
    ∀ (k : Nat) (vs : List Val) (v : Val),
      valsOkFrom rs ctx k (vs ++ [v]) = (valsOkFrom rs ctx k vs && valOk rs ctx (k + vs.length) v)
  | k, [], v => by simp [valsOkFrom]
  | k, w :: vs, v => by
    simp only [List.cons_append, valsOkFrom, valsOkFrom_append rs ctx (k + 1) vs v, List.length_cons, Bool.and_assoc]
    congr 3; omega

theorem valsOkFrom_none (rs : List Resolver) :
    ∀ (k : Nat) (vs : List Val), valsOkFrom rs none k vs = true → vs = ((rs.drop k).take vs.length).map Resolver.plain
  | _, [], _ => by simp
  | k, v :: vs, h => by
    simp only [valsOkFrom, Bool.and_eq_true] at h
    have ih := valsOkFrom_none rs (k + 1) vs h.2
    have h1 := h.1
    unfold valOk at h1
    cases hr : rs[k]? with
    | none => simp [hr] at h1
    | some r =>
      simp [hr] at h1
      obtain ⟨hk, rfl⟩ := List.getElem?_eq_some_iff.1 hr
      rw [List.drop_eq_getElem_cons hk, List.length_cons, List.take_succ_cons, List.map_cons, ← ih, h1]

theorem complete_none (rs : List Resolver) (vals : List Val) (h : complete rs none vals = true) :
    vals = rs.map Resolver.plain := by
  simp only [complete, Bool.and_eq_true, beq_iff_eq] at h
  have := valsOkFrom_none rs 0 vals h.2
  rw [h.1] at this
  simpa using this

structure Inv.Running (rs : List Resolver) (s : St) (acc : List Val) : Prop where
  len : acc.length ≤ rs.length
  ok : valsOkFrom rs s.ctx 0 acc = true
  chan : s.chan = []
  waiting : ∀ v, s.caller ≠ .returned (.normal v)

structure Inv (rs : List Resolver) (s : St) : Prop where
  /-- once sent, the complete result is in the channel or with the caller -/
  exec : match s.exec with
    | .running acc => Inv.Running rs s acc
    | .sent => ∃ vals, complete rs s.ctx vals = true ∧
        ((s.chan = [vals] ∧ ∀ v, s.caller ≠ .returned (.normal v)) ∨
         (s.chan = [] ∧ s.caller = .returned (.normal vals)))
  ctxErr : ∀ e, s.caller = .returned (.ctxError e) → s.ctx = some e

theorem inv_init (rs : List Resolver) : Inv rs init :=
  ⟨⟨Nat.zero_le _, rfl, rfl, nofun⟩, nofun⟩

theorem inv_step (h : Inv rs s) (hs : Step rs cap s a t) : Inv rs t := by
  have ⟨h1, h2⟩ := h
  cases hs with
  | resolver _ hex hlt hok =>
    simp only [hex] at h1
    refine ⟨⟨?_, ?_, h1.chan, h1.waiting⟩, h2⟩
    · rw [List.length_append]; exact hlt
    · rw [valsOkFrom_append, h1.ok, Nat.zero_add, hok]; rfl
  | finishBuffered hex hlen =>
    simp only [hex] at h1
    exact ⟨⟨_, Bool.and_eq_true_iff.2 ⟨beq_iff_eq.2 hlen, h1.ok⟩,
      .inl ⟨congrArg (· ++ [_]) h1.chan, h1.waiting⟩⟩, h2⟩
  | finishRendezvous hex hlen =>
    simp only [hex] at h1
    exact ⟨⟨_, Bool.and_eq_true_iff.2 ⟨beq_iff_eq.2 hlen, h1.ok⟩, .inr ⟨h1.chan, rfl⟩⟩, nofun⟩
  | ctxDone e hctx =>
    refine ⟨?_, fun e' he' => nomatch hctx.symm.trans (h2 e' he')⟩
    rw [hctx] at h1
    revert h1
    cases s.exec with
    | running acc => exact fun h1 => { h1 with ok := valsOkFrom_mono rs e 0 acc (hctx ▸ h1.ok) }
    | sent =>
      refine fun ⟨vals, hcomp, hrest⟩ => ⟨vals, ?_, hrest⟩
      have ⟨hlen, hv⟩ := Bool.and_eq_true_iff.1 hcomp
      exact Bool.and_eq_true_iff.2 ⟨hlen, valsOkFrom_mono rs e 0 vals hv⟩
  | selectCtx hw hctx =>
    refine ⟨?_, fun e' he' => by cases he'; exact hctx⟩
    revert h1
    cases s.exec with
    | running acc => exact fun h1 => { h1 with waiting := nofun }
    | sent =>
      refine fun ⟨vals, hcomp, hrest⟩ => ⟨vals, hcomp, .inl ⟨?_, nofun⟩⟩
      rcases hrest with ⟨hc, _⟩ | ⟨_, hc⟩
      · exact hc
      · cases hw.symm.trans hc
  | selectResult hw hch =>
    refine ⟨?_, nofun⟩
    revert h1
    cases s.exec with
    | running acc => exact fun h1 => nomatch hch.symm.trans h1.chan
    | sent =>
      rintro ⟨vals, hcomp, ⟨hc, _⟩ | ⟨hc, _⟩⟩
      · cases hch.symm.trans hc
        exact ⟨_, hcomp, .inr ⟨rfl, rfl⟩⟩
      · cases hch.symm.trans hc

theorem Inv.run (acts : List Act) (s t : St) : Inv rs s → run rs cap s acts = some t → Inv rs t :=
  inv_run_of (A := fun _ => True) (fun _ => inv_step) acts s t fun _ _ => trivial

theorem run_append :
    ∀ (as bs : List Act) (s t : St), run rs cap s as = some t → run rs cap s (as ++ bs) = run rs cap t bs
  | [], _, _, _, h => Option.some.inj h ▸ rfl
  | a :: as, bs, s, t, h => by
    simp only [List.cons_append, run] at h ⊢
    cases hs : step rs cap s a with
    | none => rw [hs] at h; cases h
    | some u => rw [hs] at h; exact run_append as bs u t h

theorem ctx_none_run (acts : List Act) (s t : St) :
    (∀ a ∈ acts, a.isCtxDone = false) → s.ctx = none → run rs cap s acts = some t → t.ctx = none :=
  inv_run_of (I := (·.ctx = none)) (fun ha h hs => by
    cases hs with
    | ctxDone => cases ha
    | _ => exact h) acts s t

end GqlModel.Cancel
