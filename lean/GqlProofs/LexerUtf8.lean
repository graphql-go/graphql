import GqlModel.Lexer
/-! What `decodeRune` can return at a lead byte ≥ 0x80 (`Decoded`, `decodeRune_high`); and the tactic `bnorm` of the byte-level
proofs. -/
namespace GqlModel.Lexer
open GqlModel.Utf8

/-- turn equalities between bytes into equalities between their numeric values (for `omega`) -/
macro "bnorm" loc:(Lean.Parser.Tactic.location)? : tactic =>
  `(tactic| simp only [← UInt8.toNat_inj, UInt8.toNat_ofNat, Nat.reducePow, Nat.reduceMod, ne_eq] $[$loc]?)

theorem isCont_iff (b : UInt8) : isCont b = true ↔ 0x80 ≤ b.toNat ∧ b.toNat ≤ 0xBF := by
  simp [isCont]

/-- the results `decodeRune` can give at a lead byte ≥ 0x80: a multi-byte one with the shape of input that selects it, the
error on any input -/
inductive Decoded : Bytes → Nat × Nat → Prop
  | error (l : Bytes) : Decoded l (runeError, 1)
  | two (c b1 : UInt8) (r : Bytes) : 0xC2 ≤ c.toNat → c.toNat < 0xE0 → isCont b1 →
      Decoded (c :: b1 :: r) ((c.toNat % 32) * 64 + b1.toNat % 64, 2)
  | three (c b1 b2 : UInt8) (r : Bytes) : 0xE0 ≤ c.toNat → c.toNat < 0xF0 →
      lo3 c.toNat ≤ b1.toNat → b1.toNat ≤ hi3 c.toNat → isCont b2 →
      Decoded (c :: b1 :: b2 :: r) ((c.toNat % 16) * 4096 + (b1.toNat % 64) * 64 + b2.toNat % 64, 3)
  | four (c b1 b2 b3 : UInt8) (r : Bytes) : 0xF0 ≤ c.toNat → c.toNat < 0xF5 →
      lo4 c.toNat ≤ b1.toNat → b1.toNat ≤ hi4 c.toNat → isCont b2 → isCont b3 →
      Decoded (c :: b1 :: b2 :: b3 :: r)
        ((c.toNat % 8) * 262144 + (b1.toNat % 64) * 4096 + (b2.toNat % 64) * 64 + b3.toNat % 64, 4)

theorem decodeRune_decoded (c : UInt8) (r : Bytes) (h : 128 ≤ c.toNat) : Decoded (c :: r) (decodeRune (c :: r)) := by
  unfold decodeRune
  simp only
  rw [if_neg (Nat.not_lt.2 h)]
  by_cases h1 : c.toNat < 0xC2
  · rw [if_pos h1]; exact .error _
  rw [if_neg h1]
  by_cases h2 : c.toNat < 0xE0
  · rw [if_pos h2]
    match r with
    | [] => exact .error _
    | b1 :: r1 =>
      simp only
      by_cases hc : isCont b1 = true
      · rw [if_pos hc]; exact .two _ _ _ (Nat.le_of_not_lt h1) h2 hc
      · rw [if_neg hc]; exact .error _
  rw [if_neg h2]
  by_cases h3 : c.toNat < 0xF0
  · rw [if_pos h3]
    match r with
    | [] => exact .error _
    | [_] => exact .error _
    | b1 :: b2 :: r2 =>
      simp only
      by_cases hc : lo3 c.toNat ≤ b1.toNat ∧ b1.toNat ≤ hi3 c.toNat ∧ isCont b2 = true
      · rw [if_pos hc]; exact .three _ _ _ _ (Nat.le_of_not_lt h2) h3 hc.1 hc.2.1 hc.2.2
      · rw [if_neg hc]; exact .error _
  rw [if_neg h3]
  by_cases h4 : c.toNat < 0xF5
  · rw [if_pos h4]
    match r with
    | [] => exact .error _
    | [_] => exact .error _
    | [_, _] => exact .error _
    | b1 :: b2 :: b3 :: r3 =>
      simp only
      by_cases hc : lo4 c.toNat ≤ b1.toNat ∧ b1.toNat ≤ hi4 c.toNat ∧ isCont b2 = true ∧ isCont b3 = true
      · rw [if_pos hc]; exact .four _ _ _ _ _ (Nat.le_of_not_lt h3) h4 hc.1 hc.2.1 hc.2.2.1 hc.2.2.2
      · rw [if_neg hc]; exact .error _
  · rw [if_neg h4]; exact .error _

theorem lo3_spec (b : Nat) : (b = 0xE0 ∧ lo3 b = 0xA0) ∨ (b ≠ 0xE0 ∧ lo3 b = 0x80) := by
  unfold lo3; split <;> simp_all
theorem hi3_spec (b : Nat) : (b = 0xED ∧ hi3 b = 0x9F) ∨ (b ≠ 0xED ∧ hi3 b = 0xBF) := by
  unfold hi3; split <;> simp_all
theorem lo4_spec (b : Nat) : (b = 0xF0 ∧ lo4 b = 0x90) ∨ (b ≠ 0xF0 ∧ lo4 b = 0x80) := by
  unfold lo4; split <;> simp_all
theorem hi4_spec (b : Nat) : (b = 0xF4 ∧ hi4 b = 0x8F) ∨ (b ≠ 0xF4 ∧ hi4 b = 0xBF) := by
  unfold hi4; split <;> simp_all

theorem decodeRune_bom (r : Bytes) : decodeRune (0xEF :: 0xBB :: 0xBF :: r) = (0xFEFF, 3) := by
  simp [decodeRune, isCont, lo3, hi3]

/-! The code point as a number in base 64 with the payload bits of the bytes as digits. -/

theorem code2_bounds {c b : Nat} (h1 : 0xC2 ≤ c) (h2 : c < 0xE0) :
    0x80 ≤ c % 32 * 64 + b % 64 ∧ c % 32 * 64 + b % 64 < 0x800 := by omega

theorem code3_ge {c b1 b2 : Nat} (h1 : 0xE0 ≤ c) (h2 : c < 0xF0) (h3 : lo3 c ≤ b1) (h4 : b1 ≤ 0xBF) :
    0x800 ≤ c % 16 * 4096 + b1 % 64 * 64 + b2 % 64 := by
  have := lo3_spec c; omega

theorem code4_ge {c b1 b2 b3 : Nat} (h1 : 0xF0 ≤ c) (h2 : c < 0xF5) (h3 : lo4 c ≤ b1) (h4 : b1 ≤ 0xBF) :
    0x10000 ≤ c % 8 * 262144 + b1 % 64 * 4096 + b2 % 64 * 64 + b3 % 64 := by
  have := lo4_spec c; omega

/-- the base-64 digits of 0xFEFF are 15, 59, 63 -/
theorem digits_bom {x y z : Nat} (hy : y < 64) (hz : z < 64) (h : x * 4096 + y * 64 + z = 0xFEFF) :
    x = 15 ∧ y = 59 ∧ z = 63 := by omega

theorem code3_bom {c b1 b2 : Nat} (h1 : 0xE0 ≤ c) (h2 : c < 0xF0) (h3 : 0x80 ≤ b1) (h4 : b1 ≤ 0xBF) (h5 : 0x80 ≤ b2)
    (h6 : b2 ≤ 0xBF) (h : c % 16 * 4096 + b1 % 64 * 64 + b2 % 64 = 0xFEFF) : c = 0xEF ∧ b1 = 0xBB ∧ b2 = 0xBF := by
  have hd := digits_bom (Nat.mod_lt _ (by decide)) (Nat.mod_lt _ (by decide)) h
  clear h
  omega

theorem decodeRune_high (c : UInt8) (r : Bytes) (h : 128 ≤ c.toNat) :
    128 ≤ (decodeRune (c :: r)).1 ∧ 1 ≤ (decodeRune (c :: r)).2 ∧ (decodeRune (c :: r)).2 ≤ (c :: r).length ∧
    (∀ b ∈ (c :: r).take (decodeRune (c :: r)).2, 128 ≤ b.toNat) ∧
    ((decodeRune (c :: r)).1 = 0xFEFF ↔ ∃ r', c = 0xEF ∧ r = 0xBB :: 0xBF :: r') ∧
    ((decodeRune (c :: r)).1 = 0xFEFF → (decodeRune (c :: r)).2 = 3) := by
  have hrev : (∃ r', c = 0xEF ∧ r = 0xBB :: 0xBF :: r') → (decodeRune (c :: r)).1 = 0xFEFF := by
    rintro ⟨r', rfl, rfl⟩; rw [decodeRune_bom]
  have highCons : ∀ {a : UInt8} {l : Bytes}, 128 ≤ a.toNat → (∀ b ∈ l, 128 ≤ b.toNat) → ∀ b ∈ a :: l, 128 ≤ b.toNat :=
    fun ha hl => List.forall_mem_cons.2 ⟨ha, hl⟩
  have highNil : ∀ b ∈ ([] : Bytes), 128 ≤ b.toNat := nofun
  have hd := decodeRune_decoded c r h
  generalize decodeRune (c :: r) = d at hd hrev ⊢
  cases hd with
  | error =>
    refine ⟨(by decide : 128 ≤ runeError), Nat.le_refl 1, Nat.le_add_left 1 _, ?_, ⟨fun h' => absurd h' (by decide), hrev⟩,
      fun h' => absurd h' (by decide)⟩
    exact highCons h highNil
  | two _ b1 r1 h1 h2 h3 =>
    rw [isCont_iff] at h3
    have hb := code2_bounds (b := b1.toNat) h1 h2
    refine ⟨hb.1, (by decide : 1 ≤ 2), Nat.le_add_left 2 _, ?_, ⟨fun h' => ?_, hrev⟩, fun h' => ?_⟩
    · exact highCons h (highCons h3.1 highNil)
    · simp only at h'; rw [h'] at hb; exact absurd hb.2 (by decide)
    · simp only at h'; rw [h'] at hb; exact absurd hb.2 (by decide)
  | three _ b1 b2 r2 h1 h2 h3 h4 h5 =>
    rw [isCont_iff] at h5
    have hh3 := hi3_spec c.toNat
    have hl3 := lo3_spec c.toNat
    have h4' : b1.toNat ≤ 0xBF := by omega
    have h3' : 0x80 ≤ b1.toNat := by omega
    clear hh3 hl3
    refine ⟨Nat.le_trans (by decide) (code3_ge h1 h2 h3 h4'), (by decide : 1 ≤ 3), Nat.le_add_left 3 _, ?_, ⟨fun h' => ?_, hrev⟩, fun _ => rfl⟩
    · exact highCons h (highCons h3' (highCons h5.1 highNil))
    · obtain ⟨e0, e1, e2⟩ := code3_bom h1 h2 h3' h4' h5.1 h5.2 h'
      exact ⟨r2, UInt8.toNat_inj.1 e0, by rw [(UInt8.toNat_inj.1 e1 : b1 = 0xBB), (UInt8.toNat_inj.1 e2 : b2 = 0xBF)]⟩
  | four _ b1 b2 b3 r3 h1 h2 h3 h4 h5 h6 =>
    rw [isCont_iff] at h5 h6
    have hh4 := hi4_spec c.toNat
    have hl4 := lo4_spec c.toNat
    have h4' : b1.toNat ≤ 0xBF := by omega
    have h3' : 0x80 ≤ b1.toNat := by omega
    have hb := code4_ge (b2 := b2.toNat) (b3 := b3.toNat) h1 h2 h3 h4'
    refine ⟨Nat.le_trans (by decide) hb, (by decide : 1 ≤ 4), Nat.le_add_left 4 _, ?_, ⟨fun h' => ?_, hrev⟩, fun h' => ?_⟩
    · exact highCons h (highCons h3' (highCons h5.1 (highCons h6.1 highNil)))
    · simp only at h'; rw [h'] at hb; exact absurd hb (by decide)
    · simp only at h'; rw [h'] at hb; exact absurd hb (by decide)
end GqlModel.Lexer
