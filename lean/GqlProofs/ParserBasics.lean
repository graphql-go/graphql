import GqlModel.Parser
import GqlModel.Grammar
/-! A parser state as a grammar position (`PState.pos`, `PState.at`) and the equations of the primitives; `skip`, `expect`,
`expectKeyword` are unfolded here only. -/
namespace GqlModel.Parser
open GqlModel.Grammar

/-- the grammar position of a parser state -/
def PState.pos (σ : PState) : Pos := ⟨σ.prevEnd, σ.toks⟩

/-- the parser state moved to a grammar position (EOF offset and flag unchanged) -/
def PState.at (σ : PState) (p : Pos) : PState := ⟨p.e, p.ts, σ.eofPos, σ.bad⟩

@[simp] theorem PState.at_pos (σ : PState) (p : Pos) : (σ.at p).pos = p := rfl
@[simp] theorem PState.at_at (σ : PState) (p q : Pos) : (σ.at p).at q = σ.at q := rfl
@[simp] theorem PState.at_self (σ : PState) : σ.at σ.pos = σ := rfl
@[simp] theorem PState.at_bad (σ : PState) (p : Pos) : (σ.at p).bad = σ.bad := rfl
@[simp] theorem PState.at_eofPos (σ : PState) (p : Pos) : (σ.at p).eofPos = σ.eofPos := rfl
@[simp] theorem PState.at_toks (σ : PState) (p : Pos) : (σ.at p).toks = p.ts := rfl
@[simp] theorem PState.at_prevEnd (σ : PState) (p : Pos) : (σ.at p).prevEnd = p.e := rfl
@[simp] theorem PState.pos_ts (σ : PState) : σ.pos.ts = σ.toks := rfl
@[simp] theorem PState.pos_e (σ : PState) : σ.pos.e = σ.prevEnd := rfl

theorem bind_ok {α β} {m : P α} {f : α → P β} {σ : PState} {r : β × PState} :
    (m >>= f) σ = .ok r ↔ ∃ a σ1, m σ = .ok (a, σ1) ∧ f a σ1 = .ok r := by
  show P.bind m f σ = .ok r ↔ _
  unfold P.bind
  cases h : m σ with
  | error e => simp
  | ok p =>
    obtain ⟨a, σ1⟩ := p
    simp only [Except.ok.injEq, Prod.mk.injEq]
    constructor
    · intro hf; exact ⟨a, σ1, ⟨rfl, rfl⟩, hf⟩
    · rintro ⟨a', σ', ⟨rfl, rfl⟩, hf⟩; exact hf

theorem bind_error {α β} {m : P α} {f : α → P β} {σ : PState} {e : PErr} :
    (m >>= f) σ = .error e ↔ m σ = .error e ∨ ∃ a σ1, m σ = .ok (a, σ1) ∧ f a σ1 = .error e := by
  show P.bind m f σ = .error e ↔ _
  unfold P.bind
  cases h : m σ with
  | error e' => simp
  | ok p =>
    obtain ⟨a, σ1⟩ := p
    simp only [reduceCtorEq, false_or, Except.ok.injEq, Prod.mk.injEq]
    constructor
    · intro hf; exact ⟨a, σ1, ⟨rfl, rfl⟩, hf⟩
    · rintro ⟨a', σ', ⟨rfl, rfl⟩, hf⟩; exact hf

theorem bind_run' {α β} (m : P α) (f : α → P β) (σ : PState) :
    (m >>= f) σ = (match m σ with | .error e => .error e | .ok (a, σ1) => f a σ1) := rfl

theorem bind_eq_of_ok {α β} {m : P α} {f : α → P β} {σ σ1 : PState} {a : α} (h : m σ = .ok (a, σ1)) :
    (m >>= f) σ = f a σ1 := by
  show P.bind m f σ = _
  unfold P.bind
  rw [h]

@[simp] theorem pure_run {α} (a : α) (σ : PState) : (pure a : P α) σ = .ok (a, σ) := rfl

theorem pure_ok {α} {a b : α} {σ σ' : PState} : (pure a : P α) σ = .ok (b, σ') ↔ a = b ∧ σ = σ' := by
  simp [pure_run]

@[simp] theorem cur_run (σ : PState) : cur σ = .ok (σ.cur, σ) := rfl
@[simp] theorem advance_run (σ : PState) : advance σ = .ok ((), σ.adv) := rfl
@[simp] theorem loc_run (s : Nat) (σ : PState) : loc s σ = .ok (⟨s, σ.prevEnd⟩, σ) := rfl
@[simp] theorem loopFuel_run (σ : PState) : loopFuel σ = .ok (σ.toks.length + 1, σ) := rfl
@[simp] theorem peek_run (k : TokenKind) (σ : PState) : peek k σ = .ok (decide (σ.cur.kind = k), σ) := rfl
@[simp] theorem flagBad_run (σ : PState) : flagBad σ = .ok ((), { σ with bad := true }) := rfl
@[simp] theorem fail_run {α} (p : Nat) (σ : PState) : (fail p : P α) σ = .error (.syntax p σ.bad σ.toks.length) := rfl
@[simp] theorem failAt_run {α} (a : Bool) (p : Nat) (σ : PState) :
    (failAt a p : P α) σ = .error (.syntax p σ.bad (if a then σ.toks.length - 1 else σ.toks.length)) := rfl
@[simp] theorem unexpected_run {α} (σ : PState) : (unexpected : P α) σ = .error (.syntax σ.cur.start σ.bad σ.toks.length) := rfl
@[simp] theorem outOfFuel_run {α} (σ : PState) : (outOfFuel : P α) σ = .error .fuel := rfl
@[simp] theorem lookahead_run (σ : PState) : lookahead σ = .ok (σ.adv.cur, σ) := rfl

theorem skip_eq (k : TokenKind) :
    skip k = cur >>= fun t => if t.kind = k then (advance >>= fun _ => pure true) else pure false := by
  funext σ
  show skip k σ = (if σ.cur.kind = k then (advance >>= fun _ => pure true) else pure false : P Bool) σ
  unfold skip
  split <;> rfl

theorem expect_eq (k : TokenKind) :
    expect k = cur >>= fun t => if t.kind = k then (advance >>= fun _ => pure t) else fail t.start := by
  funext σ
  show expect k σ = (if σ.cur.kind = k then (advance >>= fun _ => pure σ.cur) else fail σ.cur.start : P Token) σ
  unfold expect
  split <;> rfl

theorem expectKeyword_eq (s : String) :
    expectKeyword s = cur >>= fun t => if t.kind = .name ∧ t.value = s then (advance >>= fun _ => pure t) else fail t.start := by
  funext σ
  show expectKeyword s σ =
    (if σ.cur.kind = .name ∧ σ.cur.value = s then (advance >>= fun _ => pure σ.cur) else fail σ.cur.start : P Token) σ
  unfold expectKeyword
  split <;> rfl

theorem skip_ne_error {k : TokenKind} {σ : PState} {e : PErr} : skip k σ ≠ .error e := by
  unfold skip; split <;> (intro h; cases h)

theorem cur_kind_of_skip {k : TokenKind} {σ σ' : PState} (h : skip k σ = .ok (true, σ')) : σ.cur.kind = k := by
  unfold skip at h
  split at h
  · assumption
  · simp at h

theorem expect_of_kind {k : TokenKind} {σ : PState} (h : σ.cur.kind = k) : expect k σ = .ok (σ.cur, σ.adv) := by
  unfold expect; rw [if_pos h]

theorem expect_err0 {k : TokenKind} {σ : PState} {pos : Nat} {b : Bool} (h : expect k σ = .error (.syntax pos b 0)) : σ.toks = [] := by
  unfold expect at h
  split at h
  · simp at h
  · simp at h; exact h.2.2

theorem expectKeyword_ok_iff {s : String} {σ σ' : PState} {t : Token} :
    expectKeyword s σ = .ok (t, σ') ↔ expect .name σ = .ok (t, σ') ∧ t.value = s := by
  unfold expectKeyword expect
  constructor
  · intro h
    split at h
    · rename_i hc; cases h; exact ⟨if_pos hc.1, hc.2⟩
    · cases h
  · rintro ⟨h, hv⟩
    split at h
    · rename_i hc; cases h; exact if_pos ⟨hc, hv⟩
    · cases h

theorem parseTypeBaseWith_bracketL {inner : P (Option TypeRef)} {tok : Token} (h : tok.kind = .bracketL) :
    parseTypeBaseWith inner tok = (do
      advance
      let t ← inner
      if (← cur).kind = .bracketR then pure () else flagBad
      advance
      pure (some (TypeRef.list (t.getD nilType) (← loc tok.start)))) := by
  unfold parseTypeBaseWith; rw [h]

theorem parseTypeBaseWith_bracketR {inner : P (Option TypeRef)} {tok : Token} (h : tok.kind = .bracketR) :
    parseTypeBaseWith inner tok = (do
      flagBad
      advance
      pure (some (TypeRef.list nilType (← loc tok.start)))) := by
  unfold parseTypeBaseWith; rw [h]

theorem parseTypeBaseWith_name {inner : P (Option TypeRef)} {tok : Token} (h : tok.kind = .name) :
    parseTypeBaseWith inner tok = (do let t ← parseNamed; pure (some t)) := by
  unfold parseTypeBaseWith; rw [h]

theorem parseTypeBaseWith_other {inner : P (Option TypeRef)} {tok : Token} (h1 : tok.kind ≠ .bracketL) (h2 : tok.kind ≠ .bracketR)
    (h3 : tok.kind ≠ .name) : parseTypeBaseWith inner tok = (do flagBad; pure none) := by
  unfold parseTypeBaseWith
  split
  · exact absurd ‹_› h1
  · exact absurd ‹_› h2
  · exact absurd ‹_› h3
  · rfl
/-- `parseTypeSystemDefinition` by cases on whether a description comes first: then the keyword is the token after it,
rejected at once unless it introduces a definition that takes a description -/
theorem parseTypeSystemDefinition_run (σ : PState) : parseTypeSystemDefinition σ =
    if σ.cur.kind = .string ∨ σ.cur.kind = .blockString then
      if σ.adv.cur.kind = .name ∧ ¬ (σ.adv.cur.value = "scalar" ∨ σ.adv.cur.value = "type" ∨ σ.adv.cur.value = "interface" ∨
          σ.adv.cur.value = "union" ∨ σ.adv.cur.value = "enum" ∨ σ.adv.cur.value = "input" ∨ σ.adv.cur.value = "directive") then
        .error (.syntax σ.adv.cur.start σ.bad (σ.toks.length - 1))
      else dispatchKeyword true σ.adv.cur σ
    else dispatchKeyword false σ.cur σ := by
  by_cases hk : σ.cur.kind = .string ∨ σ.cur.kind = .blockString
  · rw [if_pos hk]
    split
    · rename_i hkw
      simp only [parseTypeSystemDefinition, keywordToken, bind_run', cur_run, if_pos hk, lookahead_run, if_pos hkw, failAt_run,
        if_true]
    · rename_i hkw
      simp only [parseTypeSystemDefinition, keywordToken, bind_run', cur_run, if_pos hk, lookahead_run, if_neg hkw, pure_run,
        decide_eq_true hk]
  · simp only [parseTypeSystemDefinition, keywordToken, bind_run', cur_run, if_neg hk, pure_run, decide_eq_false hk]

/-- the common shape of the loops `parseNamedSep` and `parseDirectiveLocations` -/
def sepLoop {α} (item : P α) (sep : TokenKind) : Nat → P (List α)
  | 0 => outOfFuel
  | k + 1 => do
    let x ← item
    if (← skip sep) then
      let xs ← sepLoop item sep k
      pure (x :: xs)
    else pure [x]

theorem parseNamedSep_eq (sep : TokenKind) : parseNamedSep sep = sepLoop parseNamed sep := by
  funext k
  induction k with
  | zero => rfl
  | succ k ih => simp only [parseNamedSep, sepLoop, ih]

theorem parseDirectiveLocations_eq : parseDirectiveLocations = sepLoop parseName .pipe := by
  funext k
  induction k with
  | zero => rfl
  | succ k ih => simp only [parseDirectiveLocations, sepLoop, ih]

theorem cur_cons {σ : PState} {t : Token} {r : List Token} (h : σ.toks = t :: r) : σ.cur = t := by
  simp [PState.cur, h]

theorem cur_nil {σ : PState} (h : σ.toks = []) : σ.cur = eofToken σ.eofPos := by
  simp [PState.cur, h]

theorem toks_of_cur_kind {σ : PState} {k : TokenKind} (hk : k ≠ .eof) (h : σ.cur.kind = k) :
    ∃ r, σ.toks = σ.cur :: r := by
  cases ht : σ.toks with
  | nil => rw [cur_nil ht] at h; simp [eofToken] at h; exact absurd h.symm hk
  | cons t r => exact ⟨r, by rw [cur_cons ht]⟩

theorem adv_cons {σ : PState} {t : Token} {r : List Token} (h : σ.toks = t :: r) : σ.adv = σ.at ⟨t.stop, r⟩ := by
  cases σ; simp_all [PState.adv, PState.at]

theorem pos_kind_eq (σ : PState) : σ.pos.kind = σ.cur.kind := by
  cases h : σ.toks <;> simp [Pos.kind, PState.pos, PState.cur, h, eofToken]

theorem pos_start_eq {σ : PState} (h : σ.toks ≠ []) : σ.pos.start = σ.cur.start := by
  cases h' : σ.toks with
  | nil => exact absurd h' h
  | cons t r => simp [Pos.start, PState.pos, PState.cur, h']

theorem pos_start_of_kind {σ : PState} {k : TokenKind} (hk : k ≠ .eof) (h : σ.cur.kind = k) : σ.pos.start = σ.cur.start := by
  obtain ⟨r, hr⟩ := toks_of_cur_kind hk h
  exact pos_start_eq (by rw [hr]; simp)

theorem tok_iff {k : TokenKind} {σ : PState} {t : Token} {p' : Pos} :
    Tok k σ.pos t p' ↔ t.kind = k ∧ σ.toks = t :: p'.ts ∧ p'.e = t.stop := by
  constructor
  · intro h
    cases hσ : σ.pos with
    | mk e ts =>
      rw [hσ] at h
      cases h with
      | mk e t r hk =>
        have : σ.toks = t :: r := by have := congrArg Pos.ts hσ; simpa using this
        exact ⟨hk, this, rfl⟩
  · rintro ⟨hk, ht, he⟩
    obtain ⟨e', ts'⟩ := p'
    simp at ht he
    subst he
    have : σ.pos = ⟨σ.prevEnd, t :: ts'⟩ := by simp [PState.pos, ht]
    rw [this]
    exact Tok.mk _ _ _ hk

theorem expect_of_tok {k : TokenKind} {σ : PState} {t : Token} {p' : Pos} (h : Tok k σ.pos t p') :
    expect k σ = .ok (t, σ.at p') := by
  obtain ⟨hk', hts, he⟩ := tok_iff.mp h
  have hc : σ.cur = t := cur_cons hts
  unfold expect
  rw [if_pos (by rw [hc]; exact hk'), hc, adv_cons hts]
  congr 2
  obtain ⟨e', ts'⟩ := p'
  simp_all [PState.at]

theorem expect_ok {k : TokenKind} (hk : k ≠ .eof) {σ σ' : PState} {t : Token} :
    expect k σ = .ok (t, σ') ↔ Tok k σ.pos t σ'.pos ∧ σ' = σ.at σ'.pos := by
  constructor
  · intro h
    unfold expect at h
    split at h
    · rename_i hc
      simp only [Except.ok.injEq, Prod.mk.injEq] at h
      obtain ⟨rfl, rfl⟩ := h
      obtain ⟨r, hr⟩ := toks_of_cur_kind hk hc
      rw [adv_cons hr]
      exact ⟨tok_iff.mpr ⟨hc, by simpa using hr, rfl⟩, rfl⟩
    · simp at h
  · rintro ⟨ht, hσ⟩
    exact hσ.symm ▸ expect_of_tok ht

theorem skip_true_iff_expect {k : TokenKind} {σ σ' : PState} :
    skip k σ = .ok (true, σ') ↔ ∃ t, expect k σ = .ok (t, σ') := by
  unfold skip expect
  by_cases hc : σ.cur.kind = k <;> simp [hc]

theorem skip_true {k : TokenKind} (hk : k ≠ .eof) {σ σ' : PState} :
    skip k σ = .ok (true, σ') ↔ ∃ t, Tok k σ.pos t σ'.pos ∧ σ' = σ.at σ'.pos := by
  rw [skip_true_iff_expect]
  exact exists_congr fun t => expect_ok hk

theorem skip_of_tok {k : TokenKind} {σ : PState} {t : Token} {p' : Pos} (h : Tok k σ.pos t p') :
    skip k σ = .ok (true, σ.at p') :=
  skip_true_iff_expect.mpr ⟨t, expect_of_tok h⟩

theorem skip_false {k : TokenKind} {σ σ' : PState} :
    skip k σ = .ok (false, σ') ↔ σ.pos.kind ≠ k ∧ σ' = σ := by
  unfold skip
  rw [pos_kind_eq]
  by_cases hc : σ.cur.kind = k <;> simp [hc, eq_comm]

theorem skip_of_not {k : TokenKind} {σ : PState} (h : σ.pos.kind ≠ k) : skip k σ = .ok (false, σ) := by
  rw [pos_kind_eq] at h
  unfold skip
  rw [if_neg h]

theorem tok_len {k : TokenKind} {p : Pos} {t : Token} {p' : Pos} (h : Tok k p t p') : p.ts.length = p'.ts.length + 1 := by
  cases h; simp

theorem tok_e {k : TokenKind} {p : Pos} {t : Token} {p' : Pos} (h : Tok k p t p') : p'.e = t.stop := by
  cases h; rfl

theorem tok_unique {k k' : TokenKind} {p : Pos} {t t' : Token} {p' p'' : Pos} (h : Tok k p t p') (h' : Tok k' p t' p'') :
    t = t' ∧ p' = p'' := by
  cases h; cases h'; exact ⟨rfl, rfl⟩

end GqlModel.Parser
