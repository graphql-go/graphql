import GqlModel.Coerce
import GqlProofs.ListCount
/-! C05, vocabulary: `Agree`, and `iter_stable`, by which a `…Step_local` lemma (CoerceFuel) removes the fuel. In the
lemmas about a `…Step` function the abstract recursive calls are named by the function they stand for: `selfT`
strictlyTyped, `selfV` isValid…, `selfC` coerceValue, `selfS` the specification's coercion, `selfP` varsProvided, `selfA`
valueFromAST, `selfK` conformant, `selfE` embed, `selfR` intsInRange. -/
namespace GqlModel.Coerce
open Spec

/-- `b`/`r`/`c` agree: accepted with result `c`, or rejected (then `c` is not constrained; where the library reports
rejection as `null`, `Agree.error_null` ties it to `null`) -/
def Agree {β : Type} (b : Bool) (r : Except Err β) (c : β) : Prop :=
  (b = true ∧ r = .ok c) ∨ (b = false ∧ ∃ e, r = .error e)

theorem Agree.ok_iff {β : Type} {b : Bool} {r : Except Err β} {c : β} (h : Agree b r c) :
    b = true ↔ ∃ x, r = .ok x := by
  rcases h with ⟨hb, hr⟩ | ⟨hb, e, hr⟩
  · simp [hb, hr]
  · simp [hb, hr]

theorem Agree.eq_ok {β : Type} {b : Bool} {r : Except Err β} {c : β} (h : Agree b r c) (hb : b = true) :
    r = .ok c := by
  rcases h with ⟨_, hr⟩ | ⟨hb', _⟩
  · exact hr
  · rw [hb] at hb'; cases hb'

/-- the library reports failure as `null`; the outcome that says the same about a result `c` -/
theorem Agree.ok_nonNull {c : JVal} (h : c.isNull = false) : Agree (!c.isNull) (.ok c) c :=
  .inl ⟨by rw [h]; rfl, rfl⟩

theorem Agree.error_null (e : Err) : Agree (!JVal.null.isNull) (.error e) JVal.null := .inr ⟨rfl, e, rfl⟩

/-- an outcome that passes through a wrapper which keeps errors and maps results -/
theorem Agree.wrap {β γ : Type} {b : Bool} {r : Except Err β} {c : β} (h : Agree b r c) {r' : Except Err γ} {c' : γ}
    (hok : r = .ok c → r' = .ok c') (herr : ∀ e, r = .error e → ∃ e', r' = .error e') : Agree b r' c' := by
  rcases h with ⟨hb, hr⟩ | ⟨hb, e, hr⟩
  · exact .inl ⟨hb, hok hr⟩
  · exact .inr ⟨hb, herr e hr⟩

theorem mapE_agree {α β : Type} (p : α → Bool) (f : α → Except Err β) (g : α → β) (xs : List α)
    (h : ∀ x ∈ xs, Agree (p x) (f x) (g x)) : Agree (xs.all p) (mapE f xs) (xs.map g) := by
  induction xs with
  | nil => left; simp [mapE]
  | cons x xs ih =>
    have hx := h x (by simp)
    have hxs := ih (fun y hy => h y (by simp [hy]))
    rcases hx with ⟨hp, hf⟩ | ⟨hp, e, hf⟩
    · rcases hxs with ⟨hp', hf'⟩ | ⟨hp', e, hf'⟩
      · left; simp [mapE, hp, hf, hp', hf']
      · right; simp [mapE, hp, hf, hp', hf']
    · right; simp [mapE, hp, hf]

/-! ## Entries and defaults -/

theorem spec_fieldEntry_eq (f : InputFieldS) (r : JVal) : Spec.fieldEntry f r = Coerce.fieldEntry f r := by
  unfold Spec.fieldEntry Coerce.fieldEntry entryOf
  cases r <;> cases hd : f.default <;> simp [JVal.isNull]
  all_goals (rename_i d; cases d <;> simp)

theorem enumInternal_ne_null (ev : EnumValueS) : (enumInternal ev).isNull = false := by
  unfold enumInternal
  split
  · rfl
  · rename_i h; simpa using h

theorem enumByName_isNull (vals : List EnumValueS) (x : String) :
    (enumByName vals x).isNull = (vals.find? (fun ev => ev.name == x)).isNone := by
  unfold enumByName
  cases h : vals.find? (fun ev => ev.name == x) with
  | none => rfl
  | some ev => simp [enumInternal_ne_null]

/-! ## The step functions on `null`, an absent literal, a variable, a single value at a list type -/

def isVarLit : Value → Bool
  | .var _ _ => true
  | _ => false
def isListLit : Value → Bool
  | .list _ _ => true
  | _ => false
def isListVal : JVal → Bool
  | .list _ => true
  | _ => false

theorem coerceStep_null (s : Schema) (self : GType → JVal → JVal) (t : GType) : coerceStep s self t .null = .null := by
  induction t with
  | named n => simp [coerceStep, JVal.isNull]
  | list t ih => simp [coerceStep]
  | nonNull t ih => simp [coerceStep, JVal.isNull]

theorem fromASTStep_none (s : Schema) (vars : Vars) (self : GType → Option Value → JVal) (t : GType) :
    fromASTStep s vars self t none = .null := by
  cases t <;> simp [fromASTStep]

theorem embedStep_null (s : Schema) (self : GType → JVal → Option Value) (t : GType) : embedStep s self t .null = none := by
  induction t with
  | named n => simp [embedStep, JVal.isNull]
  | list t ih => simp [embedStep]
  | nonNull t ih => simpa [embedStep] using ih

theorem fromASTStep_nonNull_some (s : Schema) (vars : Vars) (self : GType → Option Value → JVal) (t : GType)
    (l : Value) (h : isVarLit l = false) :
    fromASTStep s vars self (.nonNull t) (some l) = fromASTStep s vars self t (some l) := by
  cases l <;> simp_all [fromASTStep, isVarLit]

theorem fromASTStep_list_one (s : Schema) (vars : Vars) (self : GType → Option Value → JVal) (t : GType)
    (l : Value) (h : isVarLit l = false) (h' : isListLit l = false) :
    fromASTStep s vars self (.list t) (some l) = .list [fromASTStep s vars self t (some l)] := by
  cases l <;> simp_all [fromASTStep, isVarLit, isListLit]

theorem validLitStep_var (s : Schema) (selfV : GType → Option Value → Bool) (t : GType) (x : String) (loc : Loc) :
    validLitStep s selfV t (some (.var x loc)) = true := by
  induction t with
  | named n => simp [validLitStep]
  | list t ih => simp [validLitStep]
  | nonNull t ih => simpa [validLitStep] using ih

theorem validLitStep_list_one (s : Schema) (self : GType → Option Value → Bool) (t : GType) {l : Value}
    (hv : isVarLit l = false) (hl : isListLit l = false) :
    validLitStep s self (.list t) (some l) = validLitStep s self t (some l) := by
  cases l <;> first | rfl | exact Bool.noConfusion hv | exact Bool.noConfusion hl

theorem validStep_list_one (s : Schema) (self : GType → JVal → Bool) (t : GType) {v : JVal}
    (hn : v.isNull = false) (hl : isListVal v = false) : validStep s self (.list t) v = validStep s self t v := by
  cases v <;> first | rfl | exact Bool.noConfusion hn | exact Bool.noConfusion hl

theorem coerceStep_list_one (s : Schema) (self : GType → JVal → JVal) (t : GType) {v : JVal}
    (hn : v.isNull = false) (hl : isListVal v = false) : coerceStep s self (.list t) v = .list [coerceStep s self t v] := by
  cases v <;> first | rfl | exact Bool.noConfusion hn | exact Bool.noConfusion hl

/-! ## `litLookup` and `argLookup` are the last-match lookup: `find?` on the reversed list -/

theorem litLookup_eq_find? (fs : List ObjField) (k : String) :
    litLookup fs k = (fs.reverse.find? (fun f => f.name.value == k)).map (·.value) := by
  induction fs with
  | nil => rfl
  | cons f fs ih =>
    rw [litLookup, ih, List.reverse_cons, List.find?_append]
    cases fs.reverse.find? (fun f => f.name.value == k) <;> by_cases h : f.name.value == k <;> simp [h]

theorem argLookup_eq_find? (as : List Argument) (k : String) :
    argLookup as k = (as.reverse.find? (fun a => a.name.value == k)).map (·.value) := by
  induction as with
  | nil => rfl
  | cons a as ih =>
    rw [argLookup, ih, List.reverse_cons, List.find?_append]
    cases as.reverse.find? (fun a => a.name.value == k) <;> by_cases h : a.name.value == k <;> simp [h]

theorem litLookup_mem {fs : List ObjField} {k : String} {v : Value} (h : litLookup fs k = some v) : ∃ f ∈ fs, f.value = v := by
  rw [litLookup_eq_find?] at h
  obtain ⟨f, hf, rfl⟩ := Option.map_eq_some_iff.mp h
  exact ⟨f, List.mem_reverse.mp (List.mem_of_find?_eq_some hf), rfl⟩

theorem argLookup_mem {as : List Argument} {k : String} {v : Value} (h : argLookup as k = some v) : ∃ a ∈ as, a.value = v := by
  rw [argLookup_eq_find?] at h
  obtain ⟨a, ha, rfl⟩ := Option.map_eq_some_iff.mp h
  exact ⟨a, List.mem_reverse.mp (List.mem_of_find?_eq_some ha), rfl⟩

/-! ## Depth bounds -/

theorem odepthList_le_iff {xs : List JVal} {D : Nat} : odepthList xs ≤ D ↔ ∀ x ∈ xs, odepth x ≤ D := by
  induction xs with
  | nil => simp [odepthList]
  | cons x xs ih => simp only [odepthList, Nat.max_le, ih, List.mem_cons, forall_eq_or_imp]

theorem odepth_mem_list {x : JVal} {xs : List JVal} (h : x ∈ xs) : odepth x ≤ odepthList xs :=
  odepthList_le_iff.mp (Nat.le_refl _) x h

theorem odepthFields_le_iff {kv : List (String × JVal)} {D : Nat} : odepthFields kv ≤ D ↔ ∀ p ∈ kv, odepth p.2 ≤ D := by
  induction kv with
  | nil => simp [odepthFields]
  | cons p kv ih => cases p; simp only [odepthFields, Nat.max_le, ih, List.mem_cons, forall_eq_or_imp]

theorem odepth_mem_fields {p : String × JVal} {kv : List (String × JVal)} (h : p ∈ kv) : odepth p.2 ≤ odepthFields kv :=
  odepthFields_le_iff.mp (Nat.le_refl _) p h

theorem odepth_lookupD (kv : List (String × JVal)) (k : String) : odepth (lookupD kv k) ≤ odepthFields kv := by
  unfold lookupD JVal.lookup
  cases h : kv.find? (fun p => p.1 == k) with
  | none => exact Nat.zero_le _
  | some p => exact odepth_mem_fields (List.mem_of_find?_eq_some h)

theorem litDepthList_le_iff {xs : List Value} {D : Nat} : litDepthList xs ≤ D ↔ ∀ x ∈ xs, litDepth x ≤ D := by
  induction xs with
  | nil => simp [litDepthList]
  | cons x xs ih => simp only [litDepthList, Nat.max_le, ih, List.mem_cons, forall_eq_or_imp]

theorem litDepth_mem_list {x : Value} {xs : List Value} (h : x ∈ xs) : litDepth x ≤ litDepthList xs :=
  litDepthList_le_iff.mp (Nat.le_refl _) x h

theorem litDepthFields_le_iff {fs : List ObjField} {D : Nat} : litDepthFields fs ≤ D ↔ ∀ f ∈ fs, litDepth f.value ≤ D := by
  induction fs with
  | nil => simp [litDepthFields]
  | cons f fs ih => cases f; simp only [litDepthFields, Nat.max_le, ih, List.mem_cons, forall_eq_or_imp, ObjField.value]

theorem litDepth_mem_fields {f : ObjField} {fs : List ObjField} (h : f ∈ fs) : litDepth f.value ≤ litDepthFields fs :=
  litDepthFields_le_iff.mp (Nat.le_refl _) f h

theorem optLitDepth_litLookup (fs : List ObjField) (k : String) : optLitDepth (litLookup fs k) ≤ litDepthFields fs := by
  cases hl : litLookup fs k with
  | none => exact Nat.zero_le _
  | some v => obtain ⟨f, hf, rfl⟩ := litLookup_mem hl; exact litDepth_mem_fields hf

/-! ## Generic fuel stability -/

/-- If `step` consults `self` only on arguments of strictly smaller depth, then any two fuels above the
depth of the argument give the same result. -/
theorem iter_stable {α β : Type} (depth : α → Nat) (junk : GType → α → β)
    (step : (GType → α → β) → GType → α → β)
    (hloc : ∀ (f g : GType → α → β) (t : GType) (a : α),
      (∀ t' a', depth a' < depth a → f t' a' = g t' a') → step f t a = step g t a) :
    ∀ (n m : Nat) (t : GType) (a : α), depth a < n → depth a < m → iter junk step n t a = iter junk step m t a := by
  intro n
  induction n with
  | zero => intro m t a h; exact absurd h (Nat.not_lt_zero _)
  | succ n ih =>
    intro m t a hn hm
    cases m with
    | zero => exact absurd hm (Nat.not_lt_zero _)
    | succ m =>
      simp only [iter]
      apply hloc
      intro t' a' hlt
      exact ih m t' a' (by omega) (by omega)

end GqlModel.Coerce
