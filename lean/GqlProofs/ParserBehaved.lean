import GqlProofs.ParserLocal
/-! The actions of M, function by function after `GqlModel/Parser.lean`: each is `Behaved` (its errors point at tokens, it
does not run out of fuel, its outcome is determined by the tokens it looked at), by type-class resolution over its `do`
block, and `Strict` where it consumes.  Inside the three fuelled recursions (values, types, selection sets) and the
fuelled loops the three properties are separate inductions on the fuel (the two sides of `Loc2` run on different fuel);
their entry points are `Behaved` again.  For the same reason a function with a parser parameter (`…With selSet`) has one
instance per class, each under that class for the parameter. -/

namespace GqlModel.Parser

instance {B} : Behaved B parseName := by unfold parseName; infer_instance
instance : Strict parseName := by unfold parseName; infer_instance
instance {B} : Behaved B parseVariable := by unfold parseVariable; infer_instance
instance : Strict parseVariable := by unfold parseVariable; infer_instance

instance {value : P Value} [ErrAt value] : ErrAt (parseObjectFieldWith value) := by unfold parseObjectFieldWith; infer_instance
instance parseValueLiteral_errAt (c : Bool) : ∀ n, ErrAt (parseValueLiteral c n) := by
  intro n
  induction n with
  | zero => unfold parseValueLiteral; infer_instance
  | succ n ih =>
    unfold parseValueLiteral
    refine ErrAt.bind (hf := fun tok => ?_)
    split <;> infer_instance

/-- the scalar branches consume by a bare `advance`, each knowing its token from the `match` -/
instance (c : Bool) (n : Nat) : Strict (parseValueLiteral c n) := by
  cases n with
  | zero => unfold parseValueLiteral; infer_instance
  | succ n =>
    unfold parseValueLiteral
    refine .of_cur fun σ => ?_
    split <;> intro a σ' h
    · exact Strict.lt _ _ _ h
    · exact Strict.lt _ _ _ h
    iterate 4 exact advance_lt (by assumption) (by decide) h
    · (repeat' split at h) <;> first | exact advance_lt (by assumption) (by decide) h | cases h
    · split at h
      · cases h
      · exact Strict.lt _ _ _ h
    · cases h

instance {B} {value : P Value} [NFb B value] [Mono value] : NFb B (parseObjectFieldWith value) := by
  unfold parseObjectFieldWith; infer_instance
instance {value : P Value} [Mono value] : Strict (parseObjectFieldWith value) := by unfold parseObjectFieldWith; infer_instance

theorem parseValueLiteral_nf (c : Bool) : ∀ n B, B < n → NFb B (parseValueLiteral c n) := by
  intro n
  induction n with
  | zero => intro B h; omega
  | succ n ih =>
    intro B hB
    unfold parseValueLiteral
    refine NFb.bind (hf := fun tok => ?_)
    split
    · haveI : NFb B (reverse .bracketL (parseValueLiteral c n) .bracketR false) :=
        reverse_nf (fun B' hB' => ih B' (by omega))
      infer_instance
    · refine NFb.bind_strict inferInstance (fun B' hB' _ => ?_)
      haveI : LoopNF B' (many .braceR (parseObjectFieldWith (parseValueLiteral c n))) :=
        .many fun B'' h => by haveI := ih B'' (by omega); infer_instance
      infer_instance
    all_goals infer_instance

instance {B'} {v v' : P Value} [Loc2 B' v v'] : Loc2 B' (parseObjectFieldWith v) (parseObjectFieldWith v') := by
  unfold parseObjectFieldWith; infer_instance

theorem parseValueLiteral_loc2 (c : Bool) : ∀ (n n' B' : Nat), B' < n' → Loc2 B' (parseValueLiteral c n) (parseValueLiteral c n') := by
  intro n
  induction n with
  | zero => intro n' B' _; exact .of_outOfFuel
  | succ n ih =>
    intro n' B' hn
    obtain ⟨m, rfl⟩ : ∃ m, n' = m + 1 := ⟨n' - 1, by omega⟩
    unfold parseValueLiteral
    refine Loc2.bind (hf := fun tok => ?_)
    split
    · haveI : Loc2 B' (reverse .bracketL (parseValueLiteral c n) .bracketR false) (reverse .bracketL (parseValueLiteral c m) .bracketR false) :=
        reverse_loc2 (fun B'' hB'' => ih m B'' (by omega))
      infer_instance
    · refine Loc2.bind_strict (inferInstance : Loc2 B' (expect .braceL) (expect .braceL)) (fun B'' hB'' _ => ?_)
      haveI : LoopLoc2 B'' (many .braceR (parseObjectFieldWith (parseValueLiteral c n))) (many .braceR (parseObjectFieldWith (parseValueLiteral c m))) :=
        ⟨fun k k' B3 hk h3 => many_loc2 k k' B3 hk (fun B4 h4 => by haveI := ih m B4 (by omega); infer_instance)⟩
      infer_instance
    all_goals infer_instance

instance {B} (c : Bool) : Behaved B (parseValue c) :=
  .of_fuel (parseValueLiteral_errAt c) (parseValueLiteral_nf c) (parseValueLiteral_loc2 c)

instance {B} : Behaved B parseArgument := by unfold parseArgument; infer_instance
instance : Strict parseArgument := by unfold parseArgument; infer_instance
instance {B} : Behaved B parseArguments := by unfold parseArguments; infer_instance
instance {B} : Behaved B parseDirective := by unfold parseDirective; infer_instance
instance : Strict parseDirective := by unfold parseDirective; infer_instance

instance (k : Nat) : ErrAt (parseDirectivesLoop k) := by
  induction k with
  | zero => unfold parseDirectivesLoop; infer_instance
  | succ k ih => unfold parseDirectivesLoop; infer_instance

instance {B} : LoopNF B parseDirectivesLoop := .of <| by
  intro k
  induction k with
  | zero => intro B' h; omega
  | succ k ih =>
    intro B' hk hB
    simp only [parseDirectivesLoop]
    refine NFb.bind (hf := fun b => ?_)
    split
    · refine NFb.bind_strict inferInstance (fun B'' hB'' d => ?_)
      haveI := ih B'' (by omega) (by omega)
      infer_instance
    · infer_instance

theorem parseDirectivesLoop_loc2 : ∀ (k k' B' : Nat), B' < k' → Loc2 B' (parseDirectivesLoop k) (parseDirectivesLoop k') := by
  intro k
  induction k with
  | zero => intro k' B' _; exact .of_outOfFuel
  | succ k ih =>
    intro k' B' hk
    obtain ⟨m, rfl⟩ : ∃ m, k' = m + 1 := ⟨k' - 1, by omega⟩
    simp only [parseDirectivesLoop]
    refine Loc2.bind (hf := fun b => ?_)
    split
    · refine Loc2.bind_strict (inferInstance : Loc2 B' parseDirective parseDirective) (fun B'' hB'' d => ?_)
      haveI := ih m B'' (by omega)
      infer_instance
    · infer_instance

instance {B'} : LoopLoc2 B' parseDirectivesLoop parseDirectivesLoop := ⟨fun k k' B'' hk _ => parseDirectivesLoop_loc2 k k' B'' hk⟩
instance {B} : Behaved B parseDirectives := by unfold parseDirectives; infer_instance
instance {B} : Behaved B parseNamed := by unfold parseNamed; infer_instance
instance : Strict parseNamed := by unfold parseNamed; infer_instance

/-! ### types (the recursion sits behind a bare `advance`) -/

instance {inner : P (Option TypeRef)} [ErrAt inner] (tok : Token) : ErrAt (parseTypeBaseWith inner tok) := by
  unfold parseTypeBaseWith; split <;> infer_instance
instance parseTypeFuel_errAt : ∀ n, ErrAt (parseTypeFuel n) := by
  intro n
  induction n with
  | zero => unfold parseTypeFuel; infer_instance
  | succ n ih => unfold parseTypeFuel; infer_instance

theorem parseTypeFuel_nf : ∀ n B, B < n → NFb B (parseTypeFuel n) := by
  intro n
  induction n with
  | zero => intro B h; omega
  | succ n ih =>
    intro B hB
    refine ⟨fun σ hσ h => ?_⟩
    simp only [parseTypeFuel] at h
    rcases bind_error.mp h with h1 | ⟨tok, σ0, h1, h2⟩
    · cases h1
    · simp only [cur_run, Except.ok.injEq, Prod.mk.injEq] at h1
      obtain ⟨rfl, rfl⟩ := h1
      rcases bind_error.mp h2 with h3 | ⟨base, σ1, _, h4⟩
      · by_cases hk : σ.cur.kind = .bracketL
        · rw [parseTypeBaseWith_bracketL hk, bind_eq_of_ok (advance_run σ)] at h3
          have hlt := adv_len_lt (k := .bracketL) (by decide) hk
          rcases bind_error.mp h3 with h7 | ⟨inner, σ2, _, h8⟩
          · exact (ih σ.adv.toks.length (by omega)).nf σ.adv (Nat.le_refl _) h7
          · exact (inferInstance : NFb σ2.toks.length (cur >>= _)).nf σ2 (Nat.le_refl _) h8
        by_cases hR : σ.cur.kind = .bracketR
        · rw [parseTypeBaseWith_bracketR hR] at h3
          exact (inferInstance : NFb B (flagBad >>= _)).nf σ hσ h3
        by_cases hN : σ.cur.kind = .name
        · rw [parseTypeBaseWith_name hN] at h3
          exact (inferInstance : NFb B (parseNamed >>= _)).nf σ hσ h3
        · rw [parseTypeBaseWith_other hk hR hN] at h3
          exact (inferInstance : NFb B (flagBad >>= _)).nf σ hσ h3
      · have : NFb σ1.toks.length (do
            if (← skip .bang) then pure (some (TypeRef.nonNull (base.getD nilType) (← loc σ.cur.start))) else pure base
              : P (Option TypeRef)) := inferInstance
        exact this.nf σ1 (Nat.le_refl _) h4

theorem parseTypeFuel_loc2 : ∀ (n n' B' : Nat), B' < n' → Loc2 B' (parseTypeFuel n) (parseTypeFuel n') := by
  intro n
  induction n with
  | zero => intro n' B' _; exact .of_outOfFuel
  | succ n ih =>
    intro n' B' hn
    obtain ⟨m, rfl⟩ : ∃ m, n' = m + 1 := ⟨n' - 1, by omega⟩
    unfold parseTypeFuel
    refine Loc2.bind (hf := fun tok => ?_)
    haveI : Loc2 B' (parseTypeBaseWith (parseTypeFuel n) tok) (parseTypeBaseWith (parseTypeFuel m) tok) := by
      unfold parseTypeBaseWith
      split
      · refine Loc2.bind_advance (fun B'' hB'' => ?_)
        haveI := ih m B'' (by omega)
        infer_instance
      all_goals infer_instance
    infer_instance

instance {B} : Behaved B parseTypeOpt := .of_fuel parseTypeFuel_errAt parseTypeFuel_nf parseTypeFuel_loc2

instance {B} : Behaved B parseType := by unfold parseType; infer_instance

instance {B} : Behaved B parseFragmentName := by unfold parseFragmentName; infer_instance

instance {selSet : P SelectionSet} [ErrAt selSet] {st : Nat} {al : Option Name} {nm : Name} :
    ErrAt (parseFieldRest selSet st al nm) := by unfold parseFieldRest; infer_instance
instance {selSet : P SelectionSet} [ErrAt selSet] : ErrAt (parseFieldWith selSet) := by unfold parseFieldWith; infer_instance
instance {selSet : P SelectionSet} [ErrAt selSet] {st : Nat} {tc : Option TypeRef} :
    ErrAt (parseInlineRest selSet st tc) := by unfold parseInlineRest; infer_instance
-- too long for one instance search: the branch on the token after `...` apart
instance {selSet : P SelectionSet} [ErrAt selSet] : ErrAt (parseFragmentWith selSet) := by
  unfold parseFragmentWith
  refine .bind (hf := fun st => .bind (hf := fun _ => ?_))
  infer_instance
instance {selSet : P SelectionSet} [ErrAt selSet] : ErrAt (parseSelectionWith selSet) := by
  unfold parseSelectionWith; infer_instance
instance parseSelectionSetFuel_errAt : ∀ n, ErrAt (parseSelectionSetFuel n) := by
  intro n
  induction n with
  | zero => unfold parseSelectionSetFuel; infer_instance
  | succ n ih => unfold parseSelectionSetFuel; infer_instance

instance {B} {selSet : P SelectionSet} [NFb B selSet] [Mono selSet] {st : Nat} {al : Option Name} {nm : Name} :
    NFb B (parseFieldRest selSet st al nm) := by unfold parseFieldRest; infer_instance
instance {selSet : P SelectionSet} [Mono selSet] {st : Nat} {al : Option Name} {nm : Name} :
    Mono (parseFieldRest selSet st al nm) := by unfold parseFieldRest; infer_instance
instance {B} {selSet : P SelectionSet} [NFb B selSet] [Mono selSet] : NFb B (parseFieldWith selSet) := by
  unfold parseFieldWith; infer_instance
instance {B} {selSet : P SelectionSet} [NFb B selSet] [Mono selSet] {st : Nat} {tc : Option TypeRef} :
    NFb B (parseInlineRest selSet st tc) := by unfold parseInlineRest; infer_instance
instance {B} {selSet : P SelectionSet} [NFb B selSet] [Mono selSet] : NFb B (parseFragmentWith selSet) := by
  unfold parseFragmentWith
  refine .bind (hf := fun st => .bind (hf := fun _ => ?_))
  infer_instance
instance {B} {selSet : P SelectionSet} [NFb B selSet] [Mono selSet] : NFb B (parseSelectionWith selSet) := by
  unfold parseSelectionWith; infer_instance

instance {selSet : P SelectionSet} [ErrAt selSet] : Strict (parseFragmentWith selSet) := by
  unfold parseFragmentWith
  refine .bind_right (hf := fun st => .bind_left (hf := fun _ => ?_))
  infer_instance
instance {selSet : P SelectionSet} [ErrAt selSet] : Strict (parseFieldWith selSet) := by unfold parseFieldWith; infer_instance
instance {selSet : P SelectionSet} [ErrAt selSet] : Strict (parseSelectionWith selSet) := by
  unfold parseSelectionWith; infer_instance
instance (n : Nat) : Strict (parseSelectionSetFuel n) := by
  cases n <;> unfold parseSelectionSetFuel <;> infer_instance
instance : Strict parseSelectionSet := ⟨fun σ a σ' h => Strict.lt (m := parseSelectionSetFuel _) σ a σ' h⟩

theorem parseSelectionSetFuel_nf : ∀ n B, B < n → NFb B (parseSelectionSetFuel n) := by
  intro n
  induction n with
  | zero => intro B h; omega
  | succ n ih =>
    intro B hB
    haveI : NFb B (reverse .braceL (parseSelectionWith (parseSelectionSetFuel n)) .braceR true) :=
      reverse_nf (fun B' hB' => by haveI := ih B' (by omega); infer_instance)
    unfold parseSelectionSetFuel
    infer_instance

instance {B'} {s s' : P SelectionSet} [Loc2 B' s s'] {st : Nat} {al : Option Name} {nm : Name} :
    Loc2 B' (parseFieldRest s st al nm) (parseFieldRest s' st al nm) := by unfold parseFieldRest; infer_instance
instance {B'} {s s' : P SelectionSet} [Loc2 B' s s'] : Loc2 B' (parseFieldWith s) (parseFieldWith s') := by
  unfold parseFieldWith; infer_instance
instance {B'} {s s' : P SelectionSet} [Loc2 B' s s'] {st : Nat} {tc : Option TypeRef} :
    Loc2 B' (parseInlineRest s st tc) (parseInlineRest s' st tc) := by unfold parseInlineRest; infer_instance
instance {B'} {s s' : P SelectionSet} [Loc2 B' s s'] : Loc2 B' (parseFragmentWith s) (parseFragmentWith s') := by
  unfold parseFragmentWith
  refine .bind (hf := fun st => .bind (hf := fun _ => ?_))
  infer_instance
instance {B'} {s s' : P SelectionSet} [Loc2 B' s s'] : Loc2 B' (parseSelectionWith s) (parseSelectionWith s') := by
  unfold parseSelectionWith; infer_instance

theorem parseSelectionSetFuel_loc2 : ∀ (n n' B' : Nat), B' < n' → Loc2 B' (parseSelectionSetFuel n) (parseSelectionSetFuel n') := by
  intro n
  induction n with
  | zero => intro n' B' _; exact .of_outOfFuel
  | succ n ih =>
    intro n' B' hn
    obtain ⟨m, rfl⟩ : ∃ m, n' = m + 1 := ⟨n' - 1, by omega⟩
    unfold parseSelectionSetFuel
    haveI : Loc2 B' (reverse .braceL (parseSelectionWith (parseSelectionSetFuel n)) .braceR true)
        (reverse .braceL (parseSelectionWith (parseSelectionSetFuel m)) .braceR true) :=
      reverse_loc2 (fun B'' hB'' => by haveI := ih m B'' (by omega); infer_instance)
    infer_instance

instance {B} : Behaved B parseSelectionSet :=
  .of_fuel parseSelectionSetFuel_errAt parseSelectionSetFuel_nf parseSelectionSetFuel_loc2

instance {B} : Behaved B parseOperationType where
  errAt := .of_cur fun σ => .ite (failAt_errAtOn false σ _ (errOK_cur σ)) .of_errAt
  nf := by unfold parseOperationType; infer_instance
  loc := by unfold parseOperationType; infer_instance
instance {B} : Behaved B parseVariableDefinition := by unfold parseVariableDefinition; infer_instance
instance : Strict parseVariableDefinition := by unfold parseVariableDefinition; infer_instance
instance {B} : Behaved B parseVariableDefinitions := by unfold parseVariableDefinitions; infer_instance
instance {B} : Behaved B parseOptName := by unfold parseOptName; infer_instance
instance {B} : Behaved B parseOperationDefinition := by unfold parseOperationDefinition; infer_instance
instance : Strict parseOperationDefinition := by unfold parseOperationDefinition; infer_instance
instance {B} : Behaved B parseFragmentDefinition := by unfold parseFragmentDefinition; infer_instance
instance : Strict parseFragmentDefinition := by unfold parseFragmentDefinition; infer_instance
instance {B} : Behaved B parseDescription := by unfold parseDescription; infer_instance
instance {B} : Behaved B parseOperationTypeDefinition := by unfold parseOperationTypeDefinition; infer_instance
instance : Strict parseOperationTypeDefinition := by unfold parseOperationTypeDefinition; infer_instance
instance {B} : Behaved B parseSchemaDefinition := by unfold parseSchemaDefinition; infer_instance
instance : Strict parseSchemaDefinition := by unfold parseSchemaDefinition; infer_instance
instance {B} : Behaved B parseScalarTypeDefinition := by unfold parseScalarTypeDefinition; infer_instance
instance : Strict parseScalarTypeDefinition := by unfold parseScalarTypeDefinition; infer_instance

instance (sep : TokenKind) (k : Nat) : ErrAt (parseNamedSep sep k) := by rw [parseNamedSep_eq]; infer_instance
instance (k : Nat) : ErrAt (parseDirectiveLocations k) := by rw [parseDirectiveLocations_eq]; infer_instance
instance {B} (sep : TokenKind) : LoopNF B (parseNamedSep sep) := by rw [parseNamedSep_eq]; infer_instance
instance {B} : LoopNF B parseDirectiveLocations := by rw [parseDirectiveLocations_eq]; infer_instance
instance {B'} (sep : TokenKind) : LoopLoc2 B' (parseNamedSep sep) (parseNamedSep sep) := by
  rw [parseNamedSep_eq]
  exact ⟨fun k k' B'' hk _ => sepLoop_loc2 sep k k' B'' hk⟩

instance {B'} : LoopLoc2 B' parseDirectiveLocations parseDirectiveLocations := by
  rw [parseDirectiveLocations_eq]
  exact ⟨fun k k' B'' hk _ => sepLoop_loc2 .pipe k k' B'' hk⟩

instance {B} : Behaved B parseImplementsInterfaces := by unfold parseImplementsInterfaces; infer_instance
instance {B} : Behaved B parseDefaultValue := by unfold parseDefaultValue; infer_instance
instance {B} : Behaved B parseInputValueDef := by unfold parseInputValueDef; infer_instance
instance : Strict parseInputValueDef := by unfold parseInputValueDef; infer_instance
instance {B} : Behaved B parseArgumentDefs := by unfold parseArgumentDefs; infer_instance
instance {B} : Behaved B parseFieldDefinition := by unfold parseFieldDefinition; infer_instance
instance : Strict parseFieldDefinition := by unfold parseFieldDefinition; infer_instance
instance {B} : Behaved B parseObjectDef := by unfold parseObjectDef; infer_instance
instance : Strict parseObjectDef := by unfold parseObjectDef; infer_instance
instance {B} : Behaved B parseObjectTypeDefinition := by unfold parseObjectTypeDefinition; infer_instance
instance : Strict parseObjectTypeDefinition := by unfold parseObjectTypeDefinition; infer_instance
instance {B} : Behaved B parseInterfaceTypeDefinition := by unfold parseInterfaceTypeDefinition; infer_instance
instance : Strict parseInterfaceTypeDefinition := by unfold parseInterfaceTypeDefinition; infer_instance
instance {B} : Behaved B parseUnionTypeDefinition := by unfold parseUnionTypeDefinition; infer_instance
instance : Strict parseUnionTypeDefinition := by unfold parseUnionTypeDefinition; infer_instance
instance {B} : Behaved B parseEnumValueDefinition := by unfold parseEnumValueDefinition; infer_instance
instance : Strict parseEnumValueDefinition := by unfold parseEnumValueDefinition; infer_instance
instance {B} : Behaved B parseEnumTypeDefinition := by unfold parseEnumTypeDefinition; infer_instance
instance : Strict parseEnumTypeDefinition := by unfold parseEnumTypeDefinition; infer_instance
instance {B} : Behaved B parseInputObjectTypeDefinition := by unfold parseInputObjectTypeDefinition; infer_instance
instance : Strict parseInputObjectTypeDefinition := by unfold parseInputObjectTypeDefinition; infer_instance
instance {B} : Behaved B parseTypeExtensionDefinition := by unfold parseTypeExtensionDefinition; infer_instance
instance : Strict parseTypeExtensionDefinition := by unfold parseTypeExtensionDefinition; infer_instance
instance {B} : Behaved B parseDirectiveDefinition := by
  unfold parseDirectiveDefinition
  refine .bind (hf := fun st => .bind (hf := fun desc => .bind (hf := fun _ => .bind (hf := fun _ => ?_))))
  infer_instance
instance : Strict parseDirectiveDefinition := by unfold parseDirectiveDefinition; infer_instance

/-! ### keyword dispatch (the one place with two tokens of look-ahead) -/

instance : Mono keywordToken := by unfold keywordToken; infer_instance
instance {B} : NFb B keywordToken := by unfold keywordToken; infer_instance
instance (a : Bool) (kw : Token) : Strict (dispatchKeyword a kw) := by unfold dispatchKeyword; infer_instance
instance {B} (a : Bool) (kw : Token) : NFb B (dispatchKeyword a kw) := by unfold dispatchKeyword; infer_instance
instance {B'} (a : Bool) (kw : Token) : Loc2 B' (dispatchKeyword a kw) (dispatchKeyword a kw) := by
  unfold dispatchKeyword; infer_instance

theorem dispatch_errAtOn (ahead : Bool) (kw : Token) (σ : PState) (hkw : ErrOK σ kw.start (leftOf ahead σ)) :
    ErrAtOn σ (dispatchKeyword ahead kw) := by
  have hf := failAt_errAtOn (α := Definition) ahead σ _ hkw
  exact .ite hf          -- not a name
    <| .ite .of_errAt
    <| .ite .of_errAt
    <| .ite .of_errAt
    <| .ite .of_errAt
    <| .ite .of_errAt
    <| .ite .of_errAt
    <| .ite .of_errAt
    <| .ite .of_errAt
    <| .ite .of_errAt
    <| .ite .of_errAt
    <| .ite .of_errAt hf -- directive, and any other name

theorem parseTypeSystemDefinition_errAtOn (σ : PState) : ErrAtOn σ parseTypeSystemDefinition := by
  unfold ErrAtOn
  rw [parseTypeSystemDefinition_run]
  by_cases hk : σ.cur.kind = .string ∨ σ.cur.kind = .blockString
  · have hne : σ.toks ≠ [] := by
      intro he
      rw [cur_nil he] at hk
      simp [eofToken] at hk
    rw [if_pos hk]
    split
    · refine ⟨fun a σ' h => (by cases h), fun pos b l h => ?_⟩
      cases h
      exact errOK_next σ hne
    · exact dispatch_errAtOn true _ σ (errOK_next σ hne)
  · rw [if_neg hk]
    exact dispatch_errAtOn false _ σ (errOK_cur σ)

instance : Strict parseTypeSystemDefinition := by unfold parseTypeSystemDefinition; infer_instance

/-- an action that starts by consuming a description, on a state whose current token is one -/
def DescFirst {α} (m : P α) : Prop :=
  ∀ σ, (σ.cur.kind = .string ∨ σ.cur.kind = .blockString) →
    (∀ a σ1, m σ = .ok (a, σ1) → σ1.toks.length + 1 ≤ σ.toks.length) ∧
    (∀ pos b l, m σ = .error (.syntax pos b l) → l + 1 ≤ σ.toks.length)

theorem DescFirst.of_parseDescription {α} (rest : Token → Option String → P α) [mr : ∀ t d, Mono (rest t d)] [er : ∀ t d, ErrLe (rest t d)] :
    DescFirst (cur >>= fun st => parseDescription >>= fun d => rest st d) := by
  intro σ hk
  have hne : σ.toks ≠ [] := by
    intro he; rw [cur_nil he] at hk; simp [eofToken] at hk
  have hadv : σ.adv.toks.length + 1 = σ.toks.length := by
    cases ht : σ.toks with
    | nil => exact absurd ht hne
    | cons t r => simp [PState.adv, ht]
  have hd : parseDescription σ = .ok (some σ.cur.value, σ.adv) := by
    simp only [parseDescription, bind_run', cur_run, if_pos hk, advance_run, pure_run]
  constructor
  · intro a σ1 h
    rw [bind_eq_of_ok (cur_run σ), bind_eq_of_ok hd] at h
    have := (mr σ.cur (some σ.cur.value)).le _ _ _ h
    omega
  · intro pos b l h
    rw [bind_eq_of_ok (cur_run σ), bind_eq_of_ok hd] at h
    have := (er σ.cur (some σ.cur.value)).le _ _ _ _ h
    omega

theorem DescFirst.objectDef : DescFirst parseObjectDef := by unfold parseObjectDef; exact .of_parseDescription _

theorem DescFirst.object : DescFirst parseObjectTypeDefinition := by
  intro σ hk
  obtain ⟨h1, h2⟩ := DescFirst.objectDef σ hk
  unfold parseObjectTypeDefinition
  constructor
  · intro a σ1 h
    obtain ⟨d, σ2, g1, g2⟩ := bind_ok.mp h
    obtain ⟨_, rfl⟩ := pure_ok.mp g2
    exact h1 _ _ g1
  · intro pos b l h
    rcases bind_error.mp h with g | ⟨d, σ2, g1, g2⟩
    · exact h2 _ _ _ g
    · simp at g2

/-- after a description, whatever `dispatchKeyword` does to a keyword that `keywordToken` lets through involves the
token after the description -/
theorem DescFirst.dispatch (kw : Token) (hkw : ¬ (kw.kind = .name ∧ ¬ (kw.value = "scalar" ∨ kw.value = "type" ∨
    kw.value = "interface" ∨ kw.value = "union" ∨ kw.value = "enum" ∨ kw.value = "input" ∨ kw.value = "directive"))) :
    DescFirst (dispatchKeyword true kw) := by
  intro σ hk
  have hlen : 1 ≤ σ.toks.length := by
    cases ht : σ.toks with
    | nil => rw [cur_nil ht] at hk; simp [eofToken] at hk
    | cons t r => simp
  unfold dispatchKeyword
  by_cases h0 : kw.kind ≠ .name
  · rw [if_pos h0]
    exact ⟨fun a σ1 h => (by cases h), fun pos b l h => by simp at h; omega⟩
  rw [if_neg h0]
  have hv : kw.value = "scalar" ∨ kw.value = "type" ∨ kw.value = "interface" ∨ kw.value = "union" ∨ kw.value = "enum" ∨
      kw.value = "input" ∨ kw.value = "directive" := Classical.byContradiction fun hv => hkw ⟨Classical.not_not.mp h0, hv⟩
  rcases hv with hv | hv | hv | hv | hv | hv | hv <;> simp only [hv, String.reduceEq, if_false, if_true, or_self]
  · unfold parseScalarTypeDefinition; exact DescFirst.of_parseDescription _ σ hk
  · exact DescFirst.object σ hk
  · unfold parseInterfaceTypeDefinition; exact DescFirst.of_parseDescription _ σ hk
  · unfold parseUnionTypeDefinition; exact DescFirst.of_parseDescription _ σ hk
  · unfold parseEnumTypeDefinition; exact DescFirst.of_parseDescription _ σ hk
  · unfold parseInputObjectTypeDefinition; exact DescFirst.of_parseDescription _ σ hk
  · unfold parseDirectiveDefinition; exact DescFirst.of_parseDescription _ σ hk

instance : ErrAt parseTypeSystemDefinition :=
  ⟨fun σ => (parseTypeSystemDefinition_errAtOn σ).1, fun σ => (parseTypeSystemDefinition_errAtOn σ).2⟩

theorem parseTypeSystemDefinition_loc2 {B' : Nat} : Loc2 B' parseTypeSystemDefinition parseTypeSystemDefinition := by
  refine ⟨?_, ?_⟩
  · intro σ σ' j a σ2 hB hA h c
    refine ⟨Mono.le _ _ _ h, fun hc hj => ?_⟩
    have hcur := hA.cur (Nat.le_trans (Nat.le_add_left 1 c) hj)
    rw [parseTypeSystemDefinition_run] at h ⊢
    rw [← hcur]
    by_cases hk : σ.cur.kind = .string ∨ σ.cur.kind = .blockString
    · rw [if_pos hk] at h ⊢
      split at h
      · cases h
      · rename_i hkw
        -- the definition starts by consuming the description, so the keyword is among the common tokens
        have hc1 := ((DescFirst.dispatch _ hkw) σ hk).1 a σ2 h
        rw [← hA.next (by omega), if_neg hkw]
        exact (inferInstance : Loc2 B' (dispatchKeyword true σ.adv.cur) (dispatchKeyword true σ.adv.cur)).ok_at hB hA h hc hj
    · rw [if_neg hk] at h ⊢
      exact (inferInstance : Loc2 B' (dispatchKeyword false σ.cur) (dispatchKeyword false σ.cur)).ok_at hB hA h hc hj
  · intro σ σ' j pos b l hB hA h d
    refine ⟨ErrLe.le _ _ _ _ h, fun hd hj => ?_⟩
    have hcur := hA.cur (Nat.le_trans (Nat.le_add_left 1 d) hj)
    rw [parseTypeSystemDefinition_run] at h ⊢
    rw [← hcur]
    by_cases hk : σ.cur.kind = .string ∨ σ.cur.kind = .blockString
    · rw [if_pos hk] at h ⊢
      split at h
      · rename_i hkw
        -- the token after the description is rejected: it is token 1
        simp only [Except.error.injEq, PErr.syntax.injEq] at h
        obtain ⟨rfl, rfl, rfl⟩ := h
        have := hA.le; have := hA.le'
        rw [← hA.next (by omega), if_pos hkw]
        exact ⟨σ'.toks.length - 1, by rw [hA.bad], by omega⟩
      · rename_i hkw
        have hc1 := ((DescFirst.dispatch _ hkw) σ hk).2 pos b l h
        rw [← hA.next (by omega), if_neg hkw]
        exact (inferInstance : Loc2 B' (dispatchKeyword true σ.adv.cur) (dispatchKeyword true σ.adv.cur)).err_at hB hA h hd hj
    · rw [if_neg hk] at h ⊢
      exact (inferInstance : Loc2 B' (dispatchKeyword false σ.cur) (dispatchKeyword false σ.cur)).err_at hB hA h hd hj

instance {B} : Behaved B parseTypeSystemDefinition :=
  ⟨inferInstance, by unfold parseTypeSystemDefinition; infer_instance, parseTypeSystemDefinition_loc2⟩

instance {B} : Behaved B parseDefinition := by
  unfold parseDefinition
  refine Behaved.bind (hf := fun tok => ?_)
  split <;> infer_instance

instance : Strict parseDefinition := by
  unfold parseDefinition
  refine Strict.bind_right (hf := fun tok => ?_)
  split <;> infer_instance

instance (k : Nat) : ErrAt (parseDefinitions k) := by
  induction k with
  | zero => unfold parseDefinitions; infer_instance
  | succ k ih => unfold parseDefinitions; infer_instance

instance {B} : LoopNF B parseDefinitions := .of <| by
  intro k
  induction k with
  | zero => intro B' h; omega
  | succ k ih =>
    intro B' hk hB
    simp only [parseDefinitions]
    refine NFb.bind (hf := fun b => ?_)
    split
    · infer_instance
    · refine NFb.bind_strict inferInstance (fun B'' hB'' d => ?_)
      haveI := ih B'' (by omega) (by omega)
      infer_instance

theorem parseDefinitions_loc2 : ∀ (k k' B' : Nat), B' < k' → Loc2 B' (parseDefinitions k) (parseDefinitions k') := by
  intro k
  induction k with
  | zero => intro k' B' _; exact .of_outOfFuel
  | succ k ih =>
    intro k' B' hk
    obtain ⟨m, rfl⟩ : ∃ m, k' = m + 1 := ⟨k' - 1, by omega⟩
    simp only [parseDefinitions]
    refine Loc2.bind (hf := fun b => ?_)
    split
    · infer_instance
    · refine Loc2.bind_strict (inferInstance : Loc2 B' parseDefinition parseDefinition) (fun B'' hB'' d => ?_)
      haveI := ih m B'' (by omega)
      infer_instance

instance {B'} : LoopLoc2 B' parseDefinitions parseDefinitions := ⟨fun k k' B'' hk _ => parseDefinitions_loc2 k k' B'' hk⟩

instance {B} : Behaved B parseDocument := by unfold parseDocument; infer_instance

theorem parseToks_error_iff {toks : List Token} {eofPos : Nat} {e : PErr} :
    parseToks toks eofPos = .error e ↔ parseDocument (initState toks eofPos) = .error e := by
  unfold parseToks
  cases parseDocument (initState toks eofPos) with
  | ok r => simp
  | error e' => simp

/-- M terminates: the whole parser never reports fuel exhaustion -/
theorem parseToks_ne_fuel (toks : List Token) (eofPos : Nat) : parseToks toks eofPos ≠ .error .fuel := fun h =>
  (inferInstance : NFb toks.length parseDocument).nf (initState toks eofPos) (Nat.le_refl _) (parseToks_error_iff.mp h)

theorem parseToks_error_blames {toks : List Token} {eofPos pos : Nat} {b : Bool} {l : Nat}
    (h : parseToks toks eofPos = .error (.syntax pos b l)) : ErrOK (initState toks eofPos) pos l :=
  (inferInstance : ErrAt parseDocument).err _ _ _ _ (parseToks_error_iff.mp h)

theorem parseToks_error_at_token {toks : List Token} {eofPos pos : Nat} {b : Bool}
    {l : Nat} (h : parseToks toks eofPos = .error (.syntax pos b l)) :
    AtToken (initState toks eofPos) pos :=
  (parseToks_error_blames h).atToken

theorem parseToks_error_local {toks : List Token} {eofPos pos : Nat} {b : Bool} {l : Nat}
    (h : parseToks toks eofPos = .error (.syntax pos b l)) (hl : 0 < l) (rest : List Token) (eofPos' : Nat) :
    ∃ l', parseToks (toks.take (toks.length - l + 1) ++ rest) eofPos' = .error (.syntax pos b l') ∧
      (toks.take (toks.length - l + 1) ++ rest).length - l' = toks.length - l ∧
      l' ≤ (toks.take (toks.length - l + 1) ++ rest).length := by
  simp only [parseToks_error_iff] at h ⊢
  exact action_error_local parseDocument h hl rest eofPos'

theorem parseToks_truncated {toks : List Token} {eofPos pos : Nat} {b : Bool} {l : Nat}
    (h : parseToks toks eofPos = .error (.syntax pos b l)) (eofPos' pos' : Nat) (b' : Bool) (l' : Nat)
    (h' : parseToks (toks.take (toks.length - l)) eofPos' = .error (.syntax pos' b' l')) : l' = 0 :=
  action_truncated parseDocument (parseToks_error_iff.mp h) eofPos' pos' b' l' (parseToks_error_iff.mp h')

end GqlModel.Parser
