import GqlProofs.ValidateOverlapStatic
import GqlProofs.ValidateOverlapFuel
/-! # C02 completeness, assembly: the overlap rule misses no conflict (no fuel exhaustion + `overlapRun_cov` +
`conflict_free_of_covered`) -/
namespace GqlModel.Validate.Overlap
open GqlModel.Validate.Graph

theorem below_in_setsOfSel (s : Schema) : ∀ (c : TCtx) (x : Selection) (Y : SelectionSet),
    Y ∈ belowSel x → ∃ p, p ∈ setsOfSel s c x ∧ p.2 = Y := by
  intro c x Y h
  rw [← setsOfSel_map s c x] at h
  exact List.mem_map.1 h

theorem below_in_setsOfOpt (s : Schema) : ∀ (c : TCtx) (x : Option SelectionSet) (Y : SelectionSet),
    Y ∈ belowOpt x → ∃ p, p ∈ setsOfOpt s c x ∧ p.2 = Y := by
  intro c x Y h
  rw [← setsOfOpt_map s c x] at h
  exact List.mem_map.1 h

theorem allSets_sub_typed (s : Schema) (d : Document) : ∀ X, X ∈ allSets d → ∃ cs, cs ∈ typedSelSets s d ∧ cs.2 = X := by
  intro X hX
  rw [← typedSelSets_map s d] at hX
  exact List.mem_map.1 hX

/-- **completeness on any fragment table** (cyclic ones and repeated fragment names included): given parent-type
coherence and faithful printing of the argument values, a conflict in some visited selection set is reported -/
theorem complete_any (s : Schema) (d : Document) (hcoh : cohB s d (envM s d) = true)
    (hargs : argsFaithfulB s d (envM s d) = true)
    (hconf : ∃ cs, cs ∈ typedSelSets s d ∧ SetConflict (envM s d) cs.1.parent cs.2) :
    (overlapM s d).2 ≠ [] := by
  intro hnil
  have hc := coh_of_cohB s d (envM s d) (fragDefs_sel_sub d) hcoh
  have hoof : (overlapM s d).1.oof = false := by
    exact overlapRun_fuel (d := d) (e := envM s d) hc.1.locs (fragDefs_sel_sub d) (fuelFor d) (fuelFor_enough d)
      (typedSelSets s d) (typedSelSets_sub s d)
  have hrun := overlapRun_cov hc.1 (fuelFor d) (typedSelSets s d)
    (fun cs hcs => ⟨typedSelSets_sub s d cs hcs, hc.2 cs hcs⟩) hnil hoof
  have hvis : ∀ X, X ∈ allSets d → ∀ c, c ∈ visCalls (envM s d) (piOf s d) X →
      Cov (envM s d) (piOf s d) (overlapM s d).1 c := by
    intro X hX c hcm
    rcases allSets_sub_typed s d X hX with ⟨cs, hcs, rfl⟩
    exact hrun.2 cs hcs c hcm
  rcases hconf with ⟨cs, hcs, a, b, ha, hb, hk, hp⟩
  have hX := typedSelSets_sub s d cs hcs
  rw [← hc.2 cs hcs] at ha hb
  exact conflict_free_of_covered hc.1 hrun.1.hist hrun.1.tbl hvis
    (argsFaithful_of_argsFaithfulB s d _ hargs) hX ⟨a, b, ha, hb, hk, hp⟩

theorem compB_cohB {s : Schema} {d : Document} {e : Env} (h : compB s d e = true) : cohB s d e = true := by
  simp only [compB, Bool.and_eq_true] at h; exact h.1.1.1.1

theorem compB_argsFaithfulB {s : Schema} {d : Document} {e : Env} (h : compB s d e = true) :
    argsFaithfulB s d e = true := by
  simp only [compB, Bool.and_eq_true] at h; exact h.1.2

end GqlModel.Validate.Overlap
