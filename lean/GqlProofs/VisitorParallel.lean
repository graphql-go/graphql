import GqlModel.VisitorParallel
import GqlProofs.Visitor
/-! Lemmas for `parallel_projection` (C14): a traversal nobody cuts short is a fold over the full event
list; a wrapped sub-visitor folded over that list ends where the sub-visitor's own traversal ends.

A part of a tree (a node, the slots of a node, the elements of a list slot) has its full event list, its ids
in pre- and in post-order and its reference walk. Every part is built from the empty part by sequential
composition and by putting a node around its slots, so a property of parts needs these three cases only
(`walk_induct`). -/
namespace GqlModel.Visitor
variable {σ : Type}

/-- `G` holds of the events, the pre-order ids, the post-order ids and the walk of every part of every tree -/
abbrev WalkAll (v : Visitor σ) (G : List Ev → List Nat → List Nat → (σ → σ × Bool) → Prop) : Prop :=
  (∀ n c, G (n.events c) n.pre n.post (visitNode v n c)) ∧
  (∀ ss pid path anc,
    G (Slot.eventsList pid path anc ss) (Slot.preList ss) (Slot.postList ss) (visitSlots v pid path anc ss)) ∧
  (∀ ns i path anc,
    G (Node.eventsElems path anc ns i) (Node.preList ns) (Node.postList ns) (visitElems v path anc ns i))

section
variable {v : Visitor σ} {G : List Ev → List Nat → List Nat → (σ → σ × Bool) → Prop} (h : WalkAll v G)
include h

theorem WalkAll.node : ∀ n c, G (n.events c) n.pre n.post (visitNode v n c) := h.1

theorem WalkAll.slots : ∀ ss pid path anc,
    G (Slot.eventsList pid path anc ss) (Slot.preList ss) (Slot.postList ss) (visitSlots v pid path anc ss) := h.2.1

theorem WalkAll.elems : ∀ ns i path anc,
    G (Node.eventsElems path anc ns i) (Node.preList ns) (Node.postList ns) (visitElems v path anc ns i) := h.2.2
end

theorem walk_induct {v : Visitor σ} {G : List Ev → List Nat → List Nat → (σ → σ × Bool) → Prop}
    (nil : G [] [] [] fun st => (st, false))
    (seq : ∀ {l₁ l₂ p₁ p₂ q₁ q₂ f₁ f₂}, G l₁ p₁ q₁ f₁ → G l₂ p₂ q₂ f₂ →
      G (l₁ ++ l₂) (p₁ ++ p₂) (q₁ ++ q₂) fun st => andThen (f₁ st) f₂)
    (node : ∀ id slots c,
      G (Slot.eventsList id c.path (c.anc ++ [c.parent]) slots) (Slot.preList slots) (Slot.postList slots)
        (visitSlots v id c.path (c.anc ++ [c.parent]) slots) →
      G ((Node.mk id slots).events c) (Node.mk id slots).pre (Node.mk id slots).post (visitNode v (.mk id slots) c)) :
    WalkAll v G := by
  refine Node.induct ?_ ?_ ?_ ?_ ?_ ?_ ?_
  · exact fun id slots ih c => node id slots c (ih id _ _)
  · intro pid path anc
    rw [Slot.eventsList, Slot.preList, Slot.postList, funext (visitSlots_nil v pid path anc)]
    exact nil
  · intro k rest ih pid path anc
    rw [Slot.eventsList, Slot.preList, Slot.postList, funext (visitSlots_absent v pid path anc k rest)]
    exact ih pid path anc
  · intro k n rest ihn ih pid path anc
    rw [Slot.eventsList, Slot.preList, Slot.postList, funext (visitSlots_one v pid path anc k n rest)]
    exact seq (ihn _) (ih pid path anc)
  · intro k n ns rest ihe ih pid path anc
    rw [Slot.eventsList, Slot.preList, Slot.postList, funext (visitSlots_many v pid path anc k n ns rest)]
    exact seq (ihe 0 _ _) (ih pid path anc)
  · intro i path anc
    rw [Node.eventsElems, Node.preList, Node.postList, funext (visitElems_nil v path anc i)]
    exact nil
  · intro n ns ihn ih i path anc
    rw [Node.eventsElems, Node.preList, Node.postList, funext (visitElems_cons v path anc n ns i)]
    exact seq (ihn _) (ih (i + 1) path anc)


theorem fold_all (v : Visitor σ) (h : AlwaysCont v) :
    WalkAll v fun l _ _ f => ∀ st, f st = (l.foldl (applyEv v) st, false) := by
  refine walk_induct (fun _ => rfl) (fun h₁ h₂ st => ?_) (fun id slots c ih st => ?_)
  · show andThen _ _ = _
    rw [h₁, andThen, h₂, List.foldl_append]
  · rw [visitNode_cont slots (Prod.ext rfl (h.1 st id c)), ih, andThen]
    simp only [ofLeave, h.2, Node.events, List.foldl_cons, List.foldl_append, List.foldl_nil, applyEv]
    rfl

theorem slots_fold (v : Visitor σ) (h : AlwaysCont v) : ∀ (ss : List Slot) (pid : Nat) (path : List Key)
    (anc : List (Option Nat)) (st : σ),
    visitSlots v pid path anc ss st = ((Slot.eventsList pid path anc ss).foldl (applyEv v) st, false) :=
  (fold_all v h).slots

theorem elems_fold (v : Visitor σ) (h : AlwaysCont v) : ∀ (ns : List Node) (i : Nat) (path : List Key)
    (anc : List (Option Nat)) (st : σ),
    visitElems v path anc ns i st = ((Node.eventsElems path anc ns i).foldl (applyEv v) st, false) :=
  (fold_all v h).elems


/-- what the callback counts of `VisitorCount` (C19) rest on -/
def CallsWithin (v : Visitor σ) (l : List Ev) (st : σ) (r : σ × Bool) : Prop :=
  ∃ evs : List Ev, evs.Sublist l ∧ r.1 = evs.foldl (applyEv v) st

theorem CallsWithin.seq {v : Visitor σ} {l1 l2 : List Ev} {st : σ} {r : σ × Bool} {f : σ → σ × Bool}
    (h1 : CallsWithin v l1 st r) (h2 : ∀ st', CallsWithin v l2 st' (f st')) :
    CallsWithin v (l1 ++ l2) st (andThen r f) := by
  obtain ⟨e1, s1, q1⟩ := h1
  rcases r with ⟨st1, _ | _⟩
  · obtain ⟨e2, s2, q2⟩ := h2 st1
    exact ⟨e1 ++ e2, s1.append s2, by rw [List.foldl_append, ← q1]; exact q2⟩
  · exact ⟨e1, s1.trans (List.sublist_append_left _ _), q1⟩

theorem CallsWithin.done {v : Visitor σ} {l : List Ev} {st : σ} {b : Bool} : CallsWithin v l st (st, b) :=
  ⟨[], l.nil_sublist, rfl⟩

theorem CallsWithin.cons {v : Visitor σ} {l : List Ev} {e : Ev} {st : σ} {r : σ × Bool}
    (h : CallsWithin v l (applyEv v st e) r) : CallsWithin v (e :: l) st r :=
  have ⟨evs, hs, hq⟩ := h
  ⟨e :: evs, .cons_cons e hs, hq⟩

theorem callsWithin_all (v : Visitor σ) : WalkAll v fun l _ _ f => ∀ st, CallsWithin v l st (f st) := by
  refine walk_induct (fun _ => .done) (fun h₁ h₂ st => (h₁ st).seq h₂) (fun id slots c ih st => ?_)
  rw [Node.events]
  refine .cons ?_
  have hst : ∀ {st1 a}, v.enter st id c = (st1, a) → applyEv v st ⟨.enter, id, c⟩ = st1 := congrArg Prod.fst
  rcases hE : v.enter st id c with ⟨st1, _ | _ | _⟩
  · rw [visitNode_cont slots hE, hst hE]
    exact (ih st1).seq fun st2 => .cons .done
  · rw [visitNode_skip slots hE, hst hE]
    exact .done
  · rw [visitNode_brk slots hE, hst hE]
    exact .done


def idsOf (ph : Phase) (l : List Ev) : List Nat := (l.filter (fun e => e.phase = ph)).map (·.id)

theorem idsOf_append (ph : Phase) (a b : List Ev) : idsOf ph (a ++ b) = idsOf ph a ++ idsOf ph b := by
  simp only [idsOf, List.filter_append, List.map_append]

/-- enter events come in pre-order, leave events in post-order (the visitor plays no role) -/
theorem idsOf_events (v : Visitor σ) : WalkAll v fun l p q _ => idsOf .enter l = p ∧ idsOf .leave l = q := by
  refine walk_induct ⟨rfl, rfl⟩ (fun h₁ h₂ => ?_) (fun id slots c ih => ?_)
  · rw [idsOf_append, idsOf_append, h₁.1, h₁.2, h₂.1, h₂.2]
    exact ⟨rfl, rfl⟩
  · rw [Node.events, Node.pre, Node.post, ← List.singleton_append, idsOf_append, idsOf_append, idsOf_append,
      idsOf_append, ih.1, ih.2]
    exact ⟨congrArg (id :: ·) (List.append_nil _), rfl⟩

theorem event_ids_all (v : Visitor σ) : WalkAll v fun l p _ _ => ∀ e ∈ l, e.id ∈ p := by
  refine walk_induct (fun _ he => nomatch he) (fun h₁ h₂ e he => ?_) (fun id slots c ih e he => ?_)
  · rw [List.mem_append] at he ⊢
    exact he.imp (h₁ e) (h₂ e)
  · simp only [Node.events, List.mem_cons, List.mem_append, List.not_mem_nil, or_false] at he
    rw [Node.pre, List.mem_cons]
    rcases he with rfl | he | rfl
    · exact .inl rfl
    · exact .inr (ih e he)
    · exact .inl rfl

/-- a visitor to state facts about events alone through `WalkAll` -/
def idle : Visitor Unit := ⟨fun st _ _ => (st, .cont), fun st _ _ => (st, .cont)⟩

theorem node_event_ids : ∀ (n : Node) (c : Ctx) (e : Ev), e ∈ n.events c → e.id ∈ n.pre :=
  (event_ids_all idle).node

theorem elems_event_ids : ∀ (ns : List Node) (i : Nat) (path : List Key) (anc : List (Option Nat)) (e : Ev),
    e ∈ Node.eventsElems path anc ns i → e.id ∈ Node.preList ns :=
  (event_ids_all idle).elems

theorem logVisitor_alwaysCont : AlwaysCont (logVisitor fun _ _ => .cont) := ⟨fun _ _ _ => rfl, fun _ _ _ => rfl⟩

theorem fold_log (pol : Policy) (evs st : List Ev) :
    evs.foldl (applyEv (logVisitor pol)) st = evs.reverse ++ st := by
  have : applyEv (logVisitor pol) = fun st e => e :: st := by funext st ⟨ph, _, _⟩; cases ph <;> rfl
  rw [this, List.foldl_flip_cons_eq_append']

theorem idsOf_log {pol : Policy} {r : List Ev × Bool} {evs st : List Ev} {pre post : List Nat}
    (hr : r = (evs.foldl (applyEv (logVisitor pol)) st, false)) (hi : idsOf .enter evs = pre ∧ idsOf .leave evs = post) :
    r.2 = false ∧ idsOf .enter r.1.reverse = idsOf .enter st.reverse ++ pre ∧
      idsOf .leave r.1.reverse = idsOf .leave st.reverse ++ post := by
  subst hr
  rw [fold_log, ← hi.1, ← hi.2, List.reverse_append, List.reverse_reverse, idsOf_append, idsOf_append]
  exact ⟨rfl, rfl, rfl⟩


theorem foldl_fixed {α β : Type} (f : β → α → β) (s : β) (l : List α) (h : ∀ a ∈ l, f s a = s) : l.foldl f s = s :=
  List.foldlRecOn (motive := (· = s)) l f rfl fun b hb a ha => by rw [hb]; exact h a ha

theorem fold_broken (v : Visitor σ) (st : σ) (evs : List Ev) :
    evs.foldl (applyEv (wrap v)) (st, .broken) = (st, .broken) :=
  foldl_fixed _ _ _ fun ⟨ph, _, _⟩ _ => by cases ph <;> rfl

theorem fold_skipping (v : Visitor σ) (st : σ) (j : Nat) (evs : List Ev) (h : ∀ e ∈ evs, e.id ≠ j) :
    evs.foldl (applyEv (wrap v)) (st, .skippingAt j) = (st, .skippingAt j) :=
  foldl_fixed _ _ _ fun ⟨ph, id, c⟩ he => by
    cases ph
    · rfl
    · exact if_neg (Ne.symm (h _ he))

def markOf (b : Bool) : Mark := if b then .broken else .active

/-- `andThen` on the walk is `++` on the events a wrapped visitor is folded over: once BREAK is
recorded the rest of the events change nothing -/
theorem wrap_seq {v : Visitor σ} {evs1 evs2 : List Ev} {st : σ} {r : σ × Bool} {f : σ → σ × Bool}
    (h1 : evs1.foldl (applyEv (wrap v)) (st, .active) = (r.1, markOf r.2))
    (h2 : ∀ st', evs2.foldl (applyEv (wrap v)) (st', .active) = ((f st').1, markOf (f st').2)) :
    (evs1 ++ evs2).foldl (applyEv (wrap v)) (st, .active) = ((andThen r f).1, markOf (andThen r f).2) := by
  rw [List.foldl_append, h1]
  rcases r with ⟨st1, _ | _⟩
  · exact h2 st1
  · exact fold_broken v st1 evs2

theorem wrap_enter {v : Visitor σ} {id : Nat} {c : Ctx} {st st1 : σ} {a : Act} (h : v.enter st id c = (st1, a)) :
    applyEv (wrap v) (st, .active) ⟨.enter, id, c⟩ =
      (st1, match a with | .cont => .active | .skip => .skippingAt id | .brk => .broken) := by
  simp only [applyEv, wrap, subEnter, h]
  cases a <;> rfl

theorem wrap_all (v : Visitor σ) :
    WalkAll v fun l p _ f => p.Nodup → ∀ st, l.foldl (applyEv (wrap v)) (st, .active) = ((f st).1, markOf (f st).2) := by
  refine walk_induct (fun _ _ => rfl)
    (fun h₁ h₂ hnd st => wrap_seq (h₁ (List.nodup_append.mp hnd).1 st) (h₂ (List.nodup_append.mp hnd).2.1))
    (fun id slots c ih hnd st => ?_)
  rw [Node.pre, List.nodup_cons] at hnd
  rw [Node.events, List.foldl_cons]
  rcases hE : v.enter st id c with ⟨st1, _ | _ | _⟩
  · rw [visitNode_cont slots hE, wrap_enter hE]
    refine wrap_seq (ih hnd.2 st1) fun st2 => ?_
    simp only [List.foldl_cons, List.foldl_nil, applyEv, wrap, subLeave, ofLeave]
    rcases v.leave st2 id _ with ⟨st', _ | _ | _⟩ <;> rfl
  · -- the events below carry other ids, so the SKIP mark stays until this node's leave event removes it
    rw [visitNode_skip slots hE, wrap_enter hE, List.foldl_append]
    simp only []
    rw [fold_skipping v st1 id _ (fun e he heq => hnd.1 (heq ▸ (event_ids_all idle).slots slots _ _ _ e he))]
    simp [applyEv, wrap, subLeave, markOf]
  · rw [visitNode_brk slots hE, wrap_enter hE]
    exact fold_broken v st1 _

theorem wrap_slots (v : Visitor σ) : ∀ (ss : List Slot) (pid : Nat) (path : List Key) (anc : List (Option Nat))
    (st : σ), (Slot.preList ss).Nodup →
    (Slot.eventsList pid path anc ss).foldl (applyEv (wrap v)) (st, .active) =
      ((visitSlots v pid path anc ss st).1, markOf (visitSlots v pid path anc ss st).2) :=
  fun ss pid path anc st hnd => (wrap_all v).slots ss pid path anc hnd st

theorem wrap_elems (v : Visitor σ) : ∀ (ns : List Node) (i : Nat) (path : List Key) (anc : List (Option Nat))
    (st : σ), (Node.preList ns).Nodup →
    (Node.eventsElems path anc ns i).foldl (applyEv (wrap v)) (st, .active) =
      ((visitElems v path anc ns i st).1, markOf (visitElems v path anc ns i st).2) :=
  fun ns i path anc st hnd => (wrap_all v).elems ns i path anc hnd st


theorem parallel_alwaysCont (vs : List (Visitor σ)) : AlwaysCont (parallel vs) :=
  ⟨fun _ _ _ => rfl, fun _ _ _ => rfl⟩

theorem applyEv_parallel (vs : List (Visitor σ)) (ss : List (σ × Mark)) (e : Ev) :
    applyEv (parallel vs) ss e = List.zipWith (fun v s => applyEv (wrap v) s e) vs ss := by
  cases hp : e.phase <;> simp [applyEv, hp, parallel, wrap]

theorem parallel_fold (vs : List (Visitor σ)) (evs : List Ev) : ∀ (ss : List (σ × Mark)), ss.length = vs.length →
    evs.foldl (applyEv (parallel vs)) ss = List.zipWith (fun v s => evs.foldl (applyEv (wrap v)) s) vs ss := by
  induction evs with
  | nil =>
    intro ss hl
    -- no event: `zipWith` of identities gives `ss` back, but only if it does not truncate (`hl`)
    induction vs generalizing ss with
    | nil => cases ss <;> simp_all
    | cons v vs ih => cases ss with
      | nil => simp at hl
      | cons s ss => simpa using ih ss (by simpa using hl)
  | cons e evs ih =>
    intro ss hl
    rw [List.foldl_cons, applyEv_parallel, ih _ (by simp [hl])]
    clear ih
    -- `zipWith` of the folds over the `zipWith` of the single steps is the `zipWith` of step-then-fold
    induction vs generalizing ss with
    | nil => simp
    | cons v vs ihv => cases ss with
      | nil => simp
      | cons s ss => simp [ihv ss (by simpa using hl)]

end GqlModel.Visitor
