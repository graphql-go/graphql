import GqlProofs.SelRel
import GqlProofs.ExecRunSim
import GqlProofs.ExecGroupsInv
/-! C06: a simulation over the executor model. Two executions that differ only in (a) the variable map (`vars` / `vars'`)
and (b) selections related by `RSet` collect related groups (`collect_sim`) and produce the same result, errors and
invocation log (`execGroups_sim`), provided the groups of the first are hereditarily uniform (`HU`). -/
namespace GqlModel.Normalize
open GqlModel.Coerce GqlModel.Exec

def All2 {α β : Type} (R : α → β → Prop) : List α → List β → Prop
  | [], [] => True
  | a :: as, b :: bs => R a b ∧ All2 R as bs
  | _, _ => False

theorem All2.length_eq {α β : Type} {R : α → β → Prop} : ∀ {as : List α} {bs : List β}, All2 R as bs → as.length = bs.length
  | [], [], _ => rfl
  | _ :: as, _ :: bs, h => by simp [All2.length_eq h.2]
  | [], _ :: _, h => by cases h
  | _ :: _, [], h => by cases h

theorem All2.append {α β : Type} {R : α → β → Prop} : ∀ {as : List α} {bs : List β} {cs : List α} {ds : List β},
    All2 R as bs → All2 R cs ds → All2 R (as ++ cs) (bs ++ ds)
  | [], [], _, _, _, h => h
  | _ :: as, _ :: bs, _, _, h1, h2 => ⟨h1.1, All2.append h1.2 h2⟩
  | [], _ :: _, _, _, h, _ => by cases h
  | _ :: _, [], _, _, h, _ => by cases h

theorem All2.foldl {α β γ δ : Type} {R : α → β → Prop} {Q : γ → δ → Prop} {f : γ → α → γ} {g : δ → β → δ}
    (hstep : ∀ a b x y, R a b → Q x y → Q (f x a) (g y b)) : ∀ {as : List α} {bs : List β}, All2 R as bs →
    ∀ x y, Q x y → Q (as.foldl f x) (bs.foldl g y)
  | [], [], _, _, _, h => h
  | _ :: _, _ :: _, h, _, _, hq => All2.foldl hstep h.2 _ _ (hstep _ _ _ _ h.1 hq)
  | [], _ :: _, h, _, _, _ => h.elim
  | _ :: _, [], h, _, _, _ => h.elim

theorem collectMerged_ind (c : Ctx) (rt : String) (nodes : List FieldNode) (P : Groups × List String → Prop)
    (h0 : P ([], [])) (hstep : ∀ n ∈ nodes, ∀ sel, n.sel = some sel → ∀ acc, P acc → P (collect c rt sel acc)) :
    P (nodes.foldl (fun acc n => match n.sel with | some sel => collect c rt sel acc | none => acc) ([], [])) :=
  List.foldlRecOn nodes _ h0 fun acc hacc n hn => by
    cases hs : n.sel with
    | none => exact hacc
    | some sel => exact hstep n hn sel hs acc hacc

theorem groups_add_forall {P : FieldNode → Prop} {g : Groups} {f : FieldNode}
    (hg : ∀ p ∈ g, ∀ n ∈ p.2, n.key = p.1 ∧ P n) (hf : P f) : ∀ p ∈ g.add f, ∀ n ∈ p.2, n.key = p.1 ∧ P n :=
  fun p hp n hn => (Exec.allQ_add (Q := P) (fun p hp n hn => (hg p hp n hn).imp_left Eq.symm) hf p hp n hn).imp_left Eq.symm

section Sim
variable (c : Ctx) (vars' : Vars) (frags' : List (String × Definition))

def ctx' : Ctx := { c with vars := vars', frags := frags' }

abbrev RS := RSel c.schema c.vars vars'
abbrev RO := ROpt c.schema c.vars vars'
abbrev RT := RSet c.schema c.vars vars'
abbrev RL := RList c.schema c.vars vars'

/-- a field node and its counterpart: same alias and name (locations may differ); arguments that evaluate alike for the field
definition at runtime type `rt`; sub-selections related at the type the sub-selection will be executed at -/
def NodeRel (rt : String) (n n' : FieldNode) : Prop :=
  n'.alias = n.alias ∧ n'.name = n.name ∧
  ∀ fd, fieldDef? c.schema rt n.name = some fd →
    getArgumentValues c.schema fd.args n'.args vars' = getArgumentValues c.schema fd.args n.args c.vars ∧
    ∀ T, (c.schema.isObject fd.type.namedName = true → T = fd.type.namedName) → RO c vars' T n.sel n'.sel

def GRel (rt : String) (g g' : Groups) : Prop :=
  All2 (fun p p' => p'.1 = p.1 ∧ All2 (NodeRel c vars' rt) p.2 p'.2) g g'

variable {c vars'} in
theorem NodeRel.name {rt : String} {n n' : FieldNode} (h : NodeRel c vars' rt n n') : n'.name = n.name := h.2.1

variable {c vars'} in
theorem NodeRel.at {rt : String} {n n' : FieldNode} (h : NodeRel c vars' rt n n') {fd : FieldDefS}
    (hfd : fieldDef? c.schema rt n.name = some fd) :
    getArgumentValues c.schema fd.args n'.args vars' = getArgumentValues c.schema fd.args n.args c.vars ∧
    ∀ T, (c.schema.isObject fd.type.namedName = true → T = fd.type.namedName) → RO c vars' T n.sel n'.sel := h.2.2 fd hfd

theorem nodeRel_key {rt : String} {n n' : FieldNode} (h : NodeRel c vars' rt n n') : n'.key = n.key := by
  unfold FieldNode.key; rw [h.1, h.name]

theorem GRel.any_key {rt : String} : ∀ {g g' : Groups}, GRel c vars' rt g g' → ∀ k : String,
    g'.any (fun p => p.1 == k) = g.any (fun p => p.1 == k)
  | [], [], _, _ => rfl
  | _ :: g, _ :: g', h, k => by
    simp only [List.any_cons, h.1.1, GRel.any_key (g := g) (g' := g') h.2 k]
  | [], _ :: _, h, _ => by cases h
  | _ :: _, [], h, _ => by cases h

theorem GRel.add {rt : String} {g g' : Groups} {n n' : FieldNode} (hg : GRel c vars' rt g g')
    (hn : NodeRel c vars' rt n n') : GRel c vars' rt (g.add n) (g'.add n') := by
  unfold Groups.add
  rw [nodeRel_key c vars' hn, GRel.any_key c vars' hg]
  split
  · -- extend the existing group
    rename_i hany
    clear hany  -- it mentions `g`, on which the induction is
    induction g generalizing g' with
    | nil => cases g' with
      | nil => trivial
      | cons _ _ => cases hg
    | cons p ps ih =>
      cases g' with
      | nil => cases hg
      | cons p' ps' =>
        obtain ⟨⟨hk, hnodes⟩, hrest⟩ := hg
        refine ⟨?_, ih hrest⟩
        simp only [hk]
        split
        · exact ⟨rfl, All2.append hnodes ⟨hn, trivial⟩⟩
        · exact ⟨hk, hnodes⟩
  · exact All2.append hg ⟨⟨rfl, hn, trivial⟩, trivial⟩

/-- the two fragment tables define the same names, with type conditions that apply alike and bodies related at every
runtime type (for the normaliser: the same table, whose bodies only mention variables on which the maps agree; for
`stripLoc`: the table of the location-free document). Where it is used the second table also has the same LENGTH
(`hlen`): the fuel for following spreads is the number of fragment definitions + 1 (`Ctx.fragFuel`). -/
def FragsRel : Prop :=
  ∀ n, (c.frag? n = none ∧ (ctx' c vars' frags').frag? n = none) ∨
    ∃ tc sel tc' sel', c.frag? n = some (tc, sel) ∧ (ctx' c vars' frags').frag? n = some (tc', sel') ∧
      (∀ rt, condApplies c.schema (some tc') rt = condApplies c.schema (some tc) rt) ∧
      ∀ rt, RT c vars' rt sel sel'

theorem fragsRel_same (h : ∀ n tc sel, c.frag? n = some (tc, sel) → ∀ v ∈ setVars sel, Ag c.vars vars' v) :
    FragsRel c vars' c.frags := by
  intro n
  have hsame : (ctx' c vars' c.frags).frag? n = c.frag? n := rfl
  cases hf : c.frag? n with
  | none => exact Or.inl ⟨rfl, by rw [hsame, hf]⟩
  | some p =>
    obtain ⟨tc, sel⟩ := p
    exact Or.inr ⟨tc, sel, tc, sel, rfl, by rw [hsame, hf], fun _ => rfl,
      fun rt => RSet_refl c.schema c.vars vars' sel rt (h n tc sel hf)⟩

abbrev Expand := String → Groups × List String → Groups × List String

def ExpandSim (rt : String) (e e' : Expand) : Prop :=
  ∀ n g g' vis, GRel c vars' rt g g' →
    GRel c vars' rt (e n (g, vis)).1 (e' n (g', vis)).1 ∧ (e' n (g', vis)).2 = (e n (g, vis)).2

mutual
theorem collectSel_sim (rt : String) (e e' : Expand) (he : ExpandSim c vars' rt e e') :
    ∀ (x x' : Selection) (g g' : Groups) (vis : List String), RS c vars' rt x x' → GRel c vars' rt g g' →
      GRel c vars' rt (collectSel c rt e x (g, vis)).1 (collectSel (ctx' c vars' frags') rt e' x' (g', vis)).1 ∧
      (collectSel (ctx' c vars' frags') rt e' x' (g', vis)).2 = (collectSel c rt e x (g, vis)).2
  | .field al nm args dirs sel loc, x', g, g', vis, hr, hg => by
    simp only [RSel] at hr
    obtain ⟨al', nm', args', dirs', sel', loc', rfl, hal, hnm, hinc, hfd⟩ := hr
    rw [collectSel_field, collectSel_field]
    simp only [ctx', hinc]
    split
    · exact ⟨GRel.add c vars' hg ⟨hal, hnm, hfd⟩, rfl⟩
    · exact ⟨hg, rfl⟩
  | .inline tc dirs (.mk inner l1) loc, x', g, g', vis, hr, hg => by
    simp only [RSel] at hr
    obtain ⟨tc', dirs', ⟨inner', l1'⟩, loc', rfl, htc, hinc, hss⟩ := hr
    rw [collectSel_inline, collectSel_inline]
    simp only [ctx', hinc, htc rt]
    split
    · rename_i hcond
      have hin := hss (Bool.and_eq_true _ _ |>.mp hcond).2
      simp only [RSet] at hin
      obtain ⟨_, _, hmk, hin⟩ := hin
      cases hmk
      exact collectList_sim rt e e' he inner inner' g g' vis hin hg
    · exact ⟨hg, rfl⟩
  | .spread n d l, x', g, g', vis, hr, hg => by
    simp only [RSel] at hr
    obtain ⟨n', d', l', rfl, hn, hinc⟩ := hr
    rw [collectSel_spread, collectSel_spread]
    simp only [ctx', hinc, hn]
    split
    · exact he n.value g g' vis hg
    · exact ⟨hg, rfl⟩
theorem collectList_sim (rt : String) (e e' : Expand) (he : ExpandSim c vars' rt e e') :
    ∀ (xs xs' : List Selection) (g g' : Groups) (vis : List String), RL c vars' rt xs xs' → GRel c vars' rt g g' →
      GRel c vars' rt (collectList c rt e xs (g, vis)).1 (collectList (ctx' c vars' frags') rt e' xs' (g', vis)).1 ∧
      (collectList (ctx' c vars' frags') rt e' xs' (g', vis)).2 = (collectList c rt e xs (g, vis)).2
  | [], xs', g, g', vis, hr, hg => by
    simp only [RList] at hr
    subst hr
    exact ⟨hg, rfl⟩
  | x :: xs, xs', g, g', vis, hr, hg => by
    simp only [RList] at hr
    obtain ⟨x', xs'', rfl, hx, hxs⟩ := hr
    rw [collectList_cons, collectList_cons]
    obtain ⟨h1, h2⟩ := collectSel_sim rt e e' he x x' g g' vis hx hg
    rcases hc : collectSel c rt e x (g, vis) with ⟨g1, v1⟩
    rcases hc' : collectSel (ctx' c vars' frags') rt e' x' (g', vis) with ⟨g1', v1'⟩
    rw [hc, hc'] at h1 h2
    cases (h2 : v1' = v1)
    exact collectList_sim rt e e' he xs xs'' g1 g1' v1 hxs h1
end

theorem collectSet_sim (rt : String) (e e' : Expand) (he : ExpandSim c vars' rt e e') (x x' : SelectionSet) (g g' : Groups)
    (vis : List String) (hr : RT c vars' rt x x') (hg : GRel c vars' rt g g') :
    GRel c vars' rt (collectSet c rt e x (g, vis)).1 (collectSet (ctx' c vars' frags') rt e' x' (g', vis)).1 ∧
    (collectSet (ctx' c vars' frags') rt e' x' (g', vis)).2 = (collectSet c rt e x (g, vis)).2 := by
  obtain ⟨sels, loc⟩ := x
  simp only [RSet] at hr
  obtain ⟨sels', loc', rfl, hl⟩ := hr
  exact collectList_sim c vars' frags' rt e e' he sels sels' g g' vis hl hg

theorem expandSpread_sim (hf : FragsRel c vars' frags') (rt : String) : ∀ fuel : Nat,
    ExpandSim c vars' rt (expandSpread c rt fuel) (expandSpread (ctx' c vars' frags') rt fuel)
  | 0 => fun _ _ _ _ hg => ⟨hg, rfl⟩
  | fuel + 1 => by
    intro n g g' vis hg
    rw [expandSpread_succ, expandSpread_succ]
    by_cases hv : vis.contains n = true
    · simp only [hv, if_true]; exact ⟨hg, trivial⟩
    · simp only [hv, Bool.false_eq_true, if_false]
      rcases hf n with ⟨h1, h2⟩ | ⟨tc, sel, tc', sel', h1, h2, htc, hrel⟩
      · rw [h1, h2]; exact ⟨hg, rfl⟩
      · rw [h1, h2]
        simp only []
        rw [show (ctx' c vars' frags').schema = c.schema from rfl, htc rt]
        by_cases hc : condApplies c.schema (some tc) rt = true
        · simp only [hc, if_true]
          exact collectSet_sim c vars' frags' rt _ _ (expandSpread_sim hf rt fuel) sel sel' g g' (n :: vis) (hrel rt) hg
        · simp only [hc, Bool.false_eq_true, if_false]; exact ⟨hg, trivial⟩

theorem collect_sim (hf : FragsRel c vars' frags') (hlen : frags'.length = c.frags.length) (rt : String) (x x' : SelectionSet) (g g' : Groups) (vis : List String)
    (hr : RT c vars' rt x x') (hg : GRel c vars' rt g g') :
    GRel c vars' rt (collect c rt x (g, vis)).1 (collect (ctx' c vars' frags') rt x' (g', vis)).1 ∧
    (collect (ctx' c vars' frags') rt x' (g', vis)).2 = (collect c rt x (g, vis)).2 := by
  unfold collect
  have : (ctx' c vars' frags').fragFuel = c.fragFuel := by
    simp only [Ctx.fragFuel, ctx', hlen]
  rw [this]
  exact collectSet_sim c vars' frags' rt _ _ (expandSpread_sim c vars' frags' hf rt c.fragFuel) x x' g g' vis hr hg

theorem collectMerged_sim (hf : FragsRel c vars' frags') (hlen : frags'.length = c.frags.length) (ot : String) : ∀ (nodes nodes' : List FieldNode),
    All2 (fun n n' => RO c vars' ot n.sel n'.sel) nodes nodes' →
    GRel c vars' ot (collectMerged c ot nodes) (collectMerged (ctx' c vars' frags') ot nodes') := by
  intro nodes nodes' h
  unfold collectMerged
  refine And.left (All2.foldl (Q := fun (acc acc' : Groups × List String) => GRel c vars' ot acc.1 acc'.1 ∧ acc'.2 = acc.2)
    (f := fun acc (n : FieldNode) => match n.sel with | some sel => collect c ot sel acc | none => acc)
    (g := fun acc (n : FieldNode) => match n.sel with | some sel => collect (ctx' c vars' frags') ot sel acc | none => acc)
    ?_ h ([], []) ([], []) ⟨trivial, rfl⟩)
  intro n n' acc acc' hn hacc
  cases hs : n.sel with
  | none =>
    rw [hs] at hn
    simp only [ROpt] at hn
    rw [hn]
    exact hacc
  | some sel =>
    rw [hs] at hn
    simp only [ROpt] at hn
    obtain ⟨sel', hs', hrel⟩ := hn
    rw [hs']
    obtain ⟨g, vis⟩ := acc
    obtain ⟨g', vis'⟩ := acc'
    cases hacc.2
    exact collect_sim c vars' frags' hf hlen ot sel sel' g g' vis hrel hacc.1

/-! ## the premise the executor model needs in place of validation: merged groups have one field name -/

/-- the executor can run the sub-selections of a field of named type `N` at runtime type `ot` (`RuntimeObject`; see `HU`).
For an `N` that is neither an object nor an abstract type it does not descend, and every `ot` qualifies. -/
def Descends (s : Schema) (N ot : String) : Prop :=
  (s.isObject N = true → ot = N) ∧ (s.isAbstract N = true → s.isObject ot = true ∧ s.isPossibleType N ot = true)

def Uniform (nodes : List FieldNode) : Prop := ∀ h, nodes.head? = some h → ∀ n ∈ nodes, n.name = h.name

/-- hereditary uniformity to nesting depth `k`, for the ORIGINAL request. The runtime types `ot` at which a merged
sub-selection is examined are those the executor can reach: the field's own type when it is an object type, a POSSIBLE
object type of it when it is abstract (the executor checks `isObject ot && isPossibleType N ot` before descending). -/
def HU : Nat → String → Groups → Prop
  | 0, _, _ => True
  | k + 1, rt, g => ∀ p ∈ g, Uniform p.2 ∧
      ∀ h fd, p.2.head? = some h → fieldDef? c.schema rt h.name = some fd →
        ∀ ot, (c.schema.isObject fd.type.namedName = true → ot = fd.type.namedName) →
          (c.schema.isAbstract fd.type.namedName = true →
            c.schema.isObject ot = true ∧ c.schema.isPossibleType fd.type.namedName ot = true) →
          HU k ot (collectMerged c ot p.2)

def HUAll (rt : String) (g : Groups) : Prop := ∀ k, HU c k rt g

def HSub (N : String) (nodes : List FieldNode) : Prop :=
  ∀ ot, Descends c.schema N ot → HUAll c ot (collectMerged c ot nodes)

/-- only the first half of `Descends`, as in `RSel`: the normaliser walks a sub-selection only below an object-typed field -/
def SubRel (N : String) (nodes nodes' : List FieldNode) : Prop :=
  All2 (fun n n' => ∀ T, (c.schema.isObject N = true → T = N) → RO c vars' T n.sel n'.sel) nodes nodes'

theorem HUAll.tail {rt : String} {p : String × List FieldNode} {g : Groups} (h : HUAll c rt (p :: g)) : HUAll c rt g := by
  intro k
  cases k with
  | zero => trivial
  | succ k => intro q hq; exact (h (k + 1)) q (List.mem_cons_of_mem _ hq)

theorem HUAll.head {rt : String} {p : String × List FieldNode} {g : Groups} (h : HUAll c rt (p :: g)) :
    Uniform p.2 ∧ ∀ hd fd, p.2.head? = some hd → fieldDef? c.schema rt hd.name = some fd → HSub c fd.type.namedName p.2 := by
  refine ⟨((h 1) p List.mem_cons_self).1, fun hd fd hh hfd ot hot k => ?_⟩
  exact ((h (k + 1)) p List.mem_cons_self).2 hd fd hh hfd ot hot.1 hot.2

theorem subRel_of_nodeRel {rt : String} {fd : FieldDefS} : ∀ {nodes nodes' : List FieldNode},
    All2 (NodeRel c vars' rt) nodes nodes' → (∀ n ∈ nodes, fieldDef? c.schema rt n.name = some fd) →
    SubRel c vars' fd.type.namedName nodes nodes'
  | [], [], _, _ => trivial
  | n :: ns, n' :: ns', h, hfd => by
    refine ⟨fun T hT => (h.1.at (hfd n List.mem_cons_self)).2 T hT, ?_⟩
    exact subRel_of_nodeRel h.2 (fun m hm => hfd m (List.mem_cons_of_mem _ hm))
  | [], _ :: _, h, _ => by cases h
  | _ :: _, [], h, _ => by cases h

theorem subRel_at {N ot : String} (hot : c.schema.isObject N = true → ot = N) : ∀ {nodes nodes' : List FieldNode},
    SubRel c vars' N nodes nodes' → All2 (fun n n' => RO c vars' ot n.sel n'.sel) nodes nodes'
  | [], [], _ => trivial
  | _ :: _, _ :: _, h => ⟨h.1 ot hot, subRel_at hot h.2⟩
  | [], _ :: _, h => by cases h
  | _ :: _, [], h => by cases h

end Sim

theorem All2.heads {α β : Type} {R : α → β → Prop} : ∀ {as : List α} {bs : List β}, All2 R as bs →
    (as.head? = none ∧ bs.head? = none) ∨ ∃ a b, as.head? = some a ∧ bs.head? = some b ∧ R a b
  | [], [], _ => Or.inl ⟨rfl, rfl⟩
  | a :: _, b :: _, h => Or.inr ⟨a, b, rfl, rfl, h.1⟩
  | [], _ :: _, h => by cases h
  | _ :: _, [], h => by cases h

theorem All2.head_left {α β : Type} {R : α → β → Prop} {as : List α} {bs : List β} (h : All2 R as bs) {a : α}
    (ha : as.head? = some a) : ∃ b, bs.head? = some b ∧ R a b := by
  rcases All2.heads h with ⟨h1, _⟩ | ⟨a', b, h1, h2, hr⟩ <;> rw [h1] at ha <;> cases ha
  exact ⟨b, h2, hr⟩

theorem All2.head_right {α β : Type} {R : α → β → Prop} {as : List α} {bs : List β} (h : All2 R as bs) {b : β}
    (hb : bs.head? = some b) : ∃ a, as.head? = some a ∧ R a b := by
  rcases All2.heads h with ⟨_, h2⟩ | ⟨a, b', h1, h2, hr⟩ <;> rw [h2] at hb <;> cases hb
  exact ⟨a, h1, hr⟩

section Sim2
variable (c : Ctx) (vars' : Vars) (frags' : List (String × Definition))

def simRel : ArgRel where
  G rt g g' := GRel c vars' rt g g' ∧ HUAll c rt g
  F rt fd ns ns' := All2 (NodeRel c vars' rt) ns ns' ∧ (∀ h, ns.head? = some h → fieldDef? c.schema rt h.name = some fd) ∧
    Uniform ns ∧ HSub c fd.type.namedName ns
  C t ns ns' := SubRel c vars' t.namedName ns ns' ∧ HSub c t.namedName ns

theorem simRel_closed (hf : FragsRel c vars' frags') (hlen : frags'.length = c.frags.length) :
    (simRel c vars').Closed c (ctx' c vars' frags') where
  nil {rt g'} h := by
    cases g' with
    | nil => rfl
    | cons _ _ => exact h.1.elim
  cons {rt k ns rest g'} h := by
    cases g' with
    | nil => exact h.1.elim
    | cons p' rest' =>
      obtain ⟨k', ns'⟩ := p'
      obtain ⟨⟨⟨hk, hnodes⟩, hrest⟩, hu⟩ := h
      cases (show k' = k from hk)
      obtain ⟨hunif, hsub⟩ := HUAll.head c hu
      refine ⟨ns', rest', rfl, ⟨hrest, HUAll.tail c hu⟩, fun hno node' fd hh' hfd' => ?_, fun node fd hh hfd => ?_⟩
      · -- a key the first run skips: the two head nodes have one field name
        obtain ⟨node, hh, hrel⟩ := All2.head_right hnodes hh'
        exact hno node fd hh (hrel.name ▸ hfd')
      · -- a key the first run executes
        obtain ⟨node', hh', hrel⟩ := All2.head_left hnodes hh
        exact ⟨⟨node', hh', hrel.name ▸ hfd⟩, hnodes, fun h0 hh0 => by rw [hh] at hh0; cases hh0; exact hfd, hunif,
          hsub node fd hh hfd⟩
  entry {rt fd ns ns'} dfr src p h := by
    obtain ⟨hnodes, hhead, _, _⟩ := h
    unfold callEntry
    rw [All2.length_eq hnodes]
    rcases All2.heads hnodes with ⟨h1, h2⟩ | ⟨h, h', h1, h2, hrel⟩
    · rw [h1, h2]
    · rw [h1, h2]
      exact congrArg (LogEntry.mk p rt fd.name · src ns'.length dfr) (hrel.at (hhead h h1)).1
  field {rt fd ns ns'} h := by
    obtain ⟨hnodes, hhead, hunif, hsub⟩ := h
    refine ⟨subRel_of_nodeRel c vars' hnodes fun n hn => ?_, hsub⟩
    cases hh : ns.head? with
    | none => cases ns with
      | nil => cases hn
      | cons _ _ => cases hh
    | some h => rw [hunif h hh n hn]; exact hhead h hh
  nonNull h := h
  list h := h
  object {n ns ns' v ot} h ho := by
    obtain ⟨hsr, hsub⟩ := h
    have hd : Descends c.schema n ot := by
      cases ho with
      | abstract _ hab _ hobj hposs =>
        exact ⟨fun ho => (by rw [Exec.isAbstract_not_object hab] at ho; cases ho), fun _ => ⟨hobj, hposs⟩⟩
      | object _ hab _ _ => exact ⟨fun _ => rfl, fun ha => (by rw [hab] at ha; cases ha)⟩
    exact ⟨collectMerged_sim c vars' frags' hf hlen ot ns ns' (subRel_at c vars' hd.1 hsr), hsub ot hd⟩

theorem simRuns_all (hf : FragsRel c vars' frags') (hlen : frags'.length = c.frags.length) :
    ∀ n, SimRuns (fun _ => True) (simRel c vars') c (ctx' c vars' frags') n n
  | 0 => ⟨fun _ _ _ _ _ _ _ _ => rfl, fun _ _ _ _ _ _ _ _ _ => rfl, fun _ _ _ _ _ _ _ _ _ _ => rfl,
      fun _ _ _ _ _ _ _ _ _ _ _ => rfl⟩
  | n + 1 => simRuns_succ Inherited.true (simRel_closed c vars' frags' hf hlen) rfl (fun _ _ => rfl) (fun _ _ => rfl)
      (fun _ _ _ _ _ _ _ _ => rfl) (simRuns_all hf hlen n)

theorem execGroups_sim (hf : FragsRel c vars' frags') (hlen : frags'.length = c.frags.length) (fuel : Nat) (dfr : Bool)
    (rt : String) (src : GoVal) (path : Path) (g g' : Groups) (acc : List (String × JVal)) (st : St)
    (hg : GRel c vars' rt g g') (hu : HUAll c rt g) :
    execGroups (ctx' c vars' frags') fuel dfr rt src path g' acc st = execGroups c fuel dfr rt src path g acc st := by
  rw [execGroups_eq_run, execGroups_eq_run, (simRuns_all c vars' frags' hf hlen fuel).groups dfr rt src path g g' ⟨hg, hu⟩ trivial]

end Sim2

section Transfer
variable (c : Ctx) (vars' : Vars) (frags' : List (String × Definition))

theorem All2.mem_right {α β : Type} {R : α → β → Prop} : ∀ {as : List α} {bs : List β}, All2 R as bs →
    ∀ b ∈ bs, ∃ a ∈ as, R a b
  | [], [], _, b, hb => by cases hb
  | a :: as, b0 :: bs, h, b, hb => by
    rcases List.mem_cons.mp hb with rfl | hb'
    · exact ⟨a, List.mem_cons_self, h.1⟩
    · obtain ⟨a', ha', hr⟩ := All2.mem_right h.2 b hb'
      exact ⟨a', List.mem_cons_of_mem _ ha', hr⟩
  | [], _ :: _, h, _, _ => by cases h
  | _ :: _, [], h, _, _ => by cases h

theorem HU_transfer (hf : FragsRel c vars' frags') (hlen : frags'.length = c.frags.length) :
    ∀ (k : Nat) (rt : String) (g g' : Groups), GRel c vars' rt g g' → HUAll c rt g →
      HU (ctx' c vars' frags') k rt g'
  | 0, _, _, _, _, _ => trivial
  | k + 1, rt, g, g', hg, hu => by
    intro p' hp'
    obtain ⟨p, hp, hkey, hnodes⟩ := All2.mem_right hg p' hp'
    have hU : Uniform p.2 := ((hu 1) p hp).1
    have hschema : (ctx' c vars' frags').schema = c.schema := rfl
    refine ⟨?_, ?_⟩
    · -- names: pairwise equal to the original group's
      intro h' hh' n' hn'
      obtain ⟨n, hn, hrel⟩ := All2.mem_right hnodes n' hn'
      obtain ⟨h, h1, hrelh⟩ := All2.head_right hnodes hh'
      rw [hrel.name, hrelh.name]
      exact hU h h1 n hn
    · intro h' fd hh' hfd ot hot hab
      rw [hschema] at hfd hot hab
      obtain ⟨h, h1, hrelh⟩ := All2.head_right hnodes hh'
      rw [hrelh.name] at hfd
      have hall : ∀ n ∈ p.2, fieldDef? c.schema rt n.name = some fd := by
        intro n hn; rw [hU h h1 n hn]; exact hfd
      have hsr := subRel_of_nodeRel c vars' hnodes hall
      have hgr := collectMerged_sim c vars' frags' hf hlen ot p.2 p'.2 (subRel_at c vars' hot hsr)
      exact HU_transfer hf hlen k ot _ _ hgr
        (fun j => ((hu (j + 1)) p hp).2 h fd h1 hfd ot hot hab)

end Transfer

end GqlModel.Normalize
