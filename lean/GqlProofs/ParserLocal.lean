import GqlProofs.ParserProgress
/-! Prefix determinism of the parser model (C18, "not later"): the outcome of an action up to its first syntax error
depends only on the tokens it consumed plus the one it looks at (`Loc2 B' m m'`).  `m'` is `m` itself except for the
fuelled recursions, where the two sides run on different fuel (`B'` bounds the tokens of `σ'`, as in `NFb`).  `ErrLe m`
(an error of `m` blames a token still ahead) is the part of `ErrAt` that sequencing needs. -/
namespace GqlModel.Parser

/-- `σ` and `σ'` have the same parser registers and the same first `j` tokens (both have at least `j`) -/
structure Agree (j : Nat) (σ σ' : PState) : Prop where
  pe : σ.prevEnd = σ'.prevEnd
  bad : σ.bad = σ'.bad
  le : j ≤ σ.toks.length
  le' : j ≤ σ'.toks.length
  tk : σ.toks.take j = σ'.toks.take j

theorem Agree.mono {i j : Nat} {σ σ' : PState} (h : Agree j σ σ') (hij : i ≤ j) : Agree i σ σ' :=
  ⟨h.pe, h.bad, Nat.le_trans hij h.le, Nat.le_trans hij h.le', by
    have := congrArg (List.take i) h.tk
    simpa [List.take_take, Nat.min_eq_left hij] using this⟩

theorem Agree.cons {j : Nat} {σ σ' : PState} (h : Agree j σ σ') (hj : 1 ≤ j) :
    ∃ t r r', σ.toks = t :: r ∧ σ'.toks = t :: r' ∧ r.take (j - 1) = r'.take (j - 1) := by
  obtain ⟨pe, bad, le, le', tk⟩ := h
  cases hs : σ.toks with
  | nil => rw [hs] at le; simp at le; omega
  | cons t r =>
    cases hs' : σ'.toks with
    | nil => rw [hs'] at le'; simp at le'; omega
    | cons t' r' =>
      rw [hs, hs'] at tk
      obtain ⟨i, rfl⟩ : ∃ i, j = i + 1 := ⟨j - 1, by omega⟩
      simp only [List.take_succ_cons, List.cons.injEq] at tk
      exact ⟨t, r, r', rfl, by rw [tk.1], by simpa using tk.2⟩

theorem Agree.cur {j : Nat} {σ σ' : PState} (h : Agree j σ σ') (hj : 1 ≤ j) : σ.cur = σ'.cur := by
  obtain ⟨t, r, r', hs, hs', _⟩ := h.cons hj
  rw [cur_cons hs, cur_cons hs']

theorem Agree.adv {j : Nat} {σ σ' : PState} (h : Agree j σ σ') (hj : 1 ≤ j) :
    Agree (j - 1) σ.adv σ'.adv ∧ σ.adv.toks.length + 1 = σ.toks.length ∧ σ'.adv.toks.length + 1 = σ'.toks.length := by
  obtain ⟨t, r, r', hs, hs', htk⟩ := h.cons hj
  have hle := h.le; have hle' := h.le'
  rw [hs] at hle; rw [hs'] at hle'
  simp at hle hle'
  refine ⟨⟨by simp [PState.adv, hs, hs'], by simp [PState.adv, hs, hs', h.bad], by simp [PState.adv, hs]; omega,
    by simp [PState.adv, hs']; omega, by simpa [PState.adv, hs, hs'] using htk⟩, by simp [PState.adv, hs], by simp [PState.adv, hs']⟩

theorem Agree.next {j : Nat} {σ σ' : PState} (h : Agree j σ σ') (hj : 2 ≤ j) : σ.adv.cur = σ'.adv.cur := by
  obtain ⟨h1, _, _⟩ := h.adv (by omega)
  exact h1.cur (by omega)

class ErrLe {α} (m : P α) : Prop where
  le : ∀ σ pos b l, m σ = .error (.syntax pos b l) → l ≤ σ.toks.length

instance (priority := low) ErrAt.errLe {α} {m : P α} [h : ErrAt m] : ErrLe m := ⟨fun σ pos b l hm => (h.err σ pos b l hm).1⟩

instance {α} (a : α) : ErrLe (pure a : P α) := ⟨fun _ _ _ _ h => by cases h⟩
instance {α} (p : Nat) : ErrLe (fail p : P α) := ⟨fun σ pos b l h => by simp at h; omega⟩
instance {α} (a : Bool) (p : Nat) : ErrLe (failAt a p : P α) := ⟨fun σ pos b l h => by
  simp at h; obtain ⟨_, _, rfl⟩ := h; cases a <;> simp⟩
instance ErrLe.bind {α β} {m : P α} {f : α → P β} [hm : ErrLe m] [mm : Mono m] [hf : ∀ a, ErrLe (f a)] : ErrLe (m >>= f) :=
  ⟨fun σ pos b l h => by
    rcases bind_error.mp h with h1 | ⟨a, σ1, h1, h2⟩
    · exact hm.le _ _ _ _ h1
    · exact Nat.le_trans ((hf a).le _ _ _ _ h2) (mm.le _ _ _ h1)⟩
instance {α} {c : Prop} [Decidable c] {a b : P α} [ErrLe a] [ErrLe b] : ErrLe (if c then a else b) := by
  split <;> infer_instance

/-- `m` on `σ` and `m'` on `σ'` agree as far as `σ` and `σ'` do: a success of `m` that consumed `c` of the `j ≥ c + 1`
common tokens is a success of `m'` with the same result, and an error of `m` blaming the token at index `d < j` is the
same error of `m'`.  That `m` never grows the token list, nor blames a token behind it, is part of the property, so that it
composes without side conditions: both fields are `∀ c, A ∧ (… c … → …)` with `A` free of `c`; `Loc2.le` and `Loc2.errLe`
read `A` off, `Loc2.ok_at` and `Loc2.err_at` the implication. -/
class Loc2 {α} (B' : Nat) (m m' : P α) : Prop where
  ok : ∀ σ σ' j a σ1, σ'.toks.length ≤ B' → Agree j σ σ' → m σ = .ok (a, σ1) → ∀ c, σ1.toks.length ≤ σ.toks.length ∧
        (σ1.toks.length + c = σ.toks.length → c + 1 ≤ j →
          ∃ σ1', m' σ' = .ok (a, σ1') ∧ σ1'.toks.length + c = σ'.toks.length ∧ Agree (j - c) σ1 σ1')
  err : ∀ σ σ' j pos b l, σ'.toks.length ≤ B' → Agree j σ σ' → m σ = .error (.syntax pos b l) → ∀ d, l ≤ σ.toks.length ∧
        (l + d = σ.toks.length → d + 1 ≤ j → ∃ l', m' σ' = .error (.syntax pos b l') ∧ l' + d = σ'.toks.length)

theorem Agree.zero (σ : PState) : Agree 0 σ { σ with toks := [] } := ⟨rfl, rfl, Nat.zero_le _, Nat.zero_le _, rfl⟩

theorem Loc2.le {α} {B'} {m m' : P α} (h : Loc2 B' m m') {σ : PState} {a : α} {σ1 : PState} (hr : m σ = .ok (a, σ1)) :
    σ1.toks.length ≤ σ.toks.length :=
  (h.ok σ _ 0 a σ1 (Nat.zero_le _) (.zero σ) hr 0).1

theorem Loc2.errLe {α} {B'} {m m' : P α} (h : Loc2 B' m m') {σ : PState} {pos : Nat} {b : Bool} {l : Nat}
    (hr : m σ = .error (.syntax pos b l)) : l ≤ σ.toks.length :=
  (h.err σ _ 0 pos b l (Nat.zero_le _) (.zero σ) hr 0).1

theorem Loc2.ok_at {α} {B'} {m m' : P α} (h : Loc2 B' m m') {σ σ' σ1 : PState} {j c : Nat} {a : α} (hB : σ'.toks.length ≤ B')
    (hA : Agree j σ σ') (hr : m σ = .ok (a, σ1)) (hc : σ1.toks.length + c = σ.toks.length) (hj : c + 1 ≤ j) :
    ∃ σ1', m' σ' = .ok (a, σ1') ∧ σ1'.toks.length + c = σ'.toks.length ∧ Agree (j - c) σ1 σ1' :=
  (h.ok σ σ' j a σ1 hB hA hr c).2 hc hj

theorem Loc2.err_at {α} {B'} {m m' : P α} (h : Loc2 B' m m') {σ σ' : PState} {j d pos l : Nat} {b : Bool} (hB : σ'.toks.length ≤ B')
    (hA : Agree j σ σ') (hr : m σ = .error (.syntax pos b l)) (hd : l + d = σ.toks.length) (hj : d + 1 ≤ j) :
    ∃ l', m' σ' = .error (.syntax pos b l') ∧ l' + d = σ'.toks.length :=
  (h.err σ σ' j pos b l hB hA hr d).2 hd hj

theorem Agree.ne_nil {j : Nat} {σ σ' : PState} (h : Agree j σ σ') (hj : 1 ≤ j) : σ'.toks ≠ [] := by
  intro he
  have := h.le'
  rw [he] at this
  exact absurd (Nat.le_trans hj this) (by decide)

theorem Loc2.anti {α} {B' B'' : Nat} {m m' : P α} (h : Loc2 B' m m') (hb : B'' ≤ B') : Loc2 B'' m m' :=
  ⟨fun σ σ' j a σ1 hB => h.ok σ σ' j a σ1 (Nat.le_trans hB hb),
    fun σ σ' j pos b l hB => h.err σ σ' j pos b l (Nat.le_trans hB hb)⟩

/-- sequencing: the continuation is needed only at the bound its start state provides, which is smaller than `B'` when `m'`
consumes — the common prefix is nonempty whenever the property says anything -/
theorem Loc2.bind_of {α β} {B'} {m m' : P α} {f f' : α → P β} (hm : Loc2 B' m m')
    (hf : ∀ a σ' σ1', σ'.toks.length ≤ B' → σ'.toks ≠ [] → m' σ' = .ok (a, σ1') → σ1'.toks.length ≤ σ'.toks.length →
      Loc2 σ1'.toks.length (f a) (f' a))
    (mf : ∀ a σ b σ1, f a σ = .ok (b, σ1) → σ1.toks.length ≤ σ.toks.length)
    (ef : ∀ a σ pos b l, f a σ = .error (.syntax pos b l) → l ≤ σ.toks.length) :
    Loc2 B' (m >>= f) (m' >>= f') := by
  constructor
  · intro σ σ' j b σ2 hB hA h
    obtain ⟨a, σ1, h1, h2⟩ := bind_ok.mp h
    have l1 := hm.le h1
    have l2 := mf a _ _ _ h2
    intro c
    refine ⟨Nat.le_trans l2 l1, fun hc hj => ?_⟩
    obtain ⟨c1, hc1⟩ : ∃ c1, σ1.toks.length + c1 = σ.toks.length := ⟨_, Nat.add_sub_cancel' l1⟩
    obtain ⟨c2, hc2⟩ : ∃ c2, σ2.toks.length + c2 = σ1.toks.length := ⟨_, Nat.add_sub_cancel' l2⟩
    have hcc : c = c1 + c2 := by omega
    obtain ⟨σ1', g1, e1, A1⟩ := hm.ok_at hB hA h1 hc1 (by omega)
    obtain ⟨σ2', g2, e2, A2⟩ := (hf a σ' σ1' hB (hA.ne_nil (by omega)) g1 (by omega)).ok_at (Nat.le_refl _) A1 h2 hc2 (by omega)
    refine ⟨σ2', by rw [bind_eq_of_ok g1]; exact g2, by omega, ?_⟩
    rw [hcc, ← Nat.sub_sub]
    exact A2
  · intro σ σ' j pos b l hB hA h
    rcases bind_error.mp h with h1 | ⟨a, σ1, h1, h2⟩
    · intro d
      obtain ⟨hl, he⟩ := hm.err σ σ' j pos b l hB hA h1 d
      refine ⟨hl, fun hd hj => ?_⟩
      obtain ⟨l', g, e⟩ := he hd hj
      refine ⟨l', ?_, e⟩
      show P.bind m' f' σ' = _
      unfold P.bind; rw [g]
    · have l1 := hm.le h1
      have hl := ef a _ _ _ _ h2
      intro d
      refine ⟨Nat.le_trans hl l1, fun hd hj => ?_⟩
      obtain ⟨c1, hc1⟩ : ∃ c1, σ1.toks.length + c1 = σ.toks.length := ⟨_, Nat.add_sub_cancel' l1⟩
      obtain ⟨d2, hd2⟩ : ∃ d2, l + d2 = σ1.toks.length := ⟨_, Nat.add_sub_cancel' hl⟩
      obtain ⟨σ1', g1, e1, A1⟩ := hm.ok_at hB hA h1 hc1 (by omega)
      obtain ⟨l', g2, e2⟩ := (hf a σ' σ1' hB (hA.ne_nil (by omega)) g1 (by omega)).err_at (Nat.le_refl _) A1 h2 hd2 (by omega)
      exact ⟨l', by rw [bind_eq_of_ok g1]; exact g2, by omega⟩

instance Loc2.bind {α β} {B'} {m m' : P α} {f f' : α → P β} [hm : Loc2 B' m m'] [hf : ∀ a, Loc2 B' (f a) (f' a)] :
    Loc2 B' (m >>= f) (m' >>= f') :=
  hm.bind_of (fun a _ _ hB _ _ hle => (hf a).anti (Nat.le_trans hle hB)) (fun a _ _ _ => (hf a).le) (fun a _ _ _ _ => (hf a).errLe)

theorem Loc2.bind_strict {α β} {B'} {m m' : P α} {f f' : α → P β} (hm : Loc2 B' m m') [sm' : Strict m']
    (hf : ∀ B'', B'' < B' → ∀ a, Loc2 B'' (f a) (f' a)) [mf : ∀ a, Mono (f a)] [ef : ∀ a, ErrLe (f a)] :
    Loc2 B' (m >>= f) (m' >>= f') :=
  hm.bind_of (fun a _ _ hB _ g _ => hf _ (Nat.lt_of_lt_of_le (sm'.lt _ _ _ g) hB) a) (fun a => (mf a).le) (fun a => (ef a).le)

instance {B'} : Loc2 B' advance advance := by
  refine ⟨?_, fun _ _ _ _ _ _ _ _ h => by cases h⟩
  intro σ σ' j a σ1 _ hA h
  simp at h; subst h
  intro c
  refine ⟨adv_len_le σ, fun hc hj => ?_⟩
  obtain ⟨A1, e1, e2⟩ := hA.adv (by omega)
  obtain rfl : c = 1 := by omega
  exact ⟨σ'.adv, rfl, e2, A1⟩

/-- the same after a bare `advance`, which consumes whenever a token is left -/
theorem Loc2.bind_advance {β} {B'} {f f' : Unit → P β}
    (hf : ∀ B'', B'' < B' → Loc2 B'' (f ()) (f' ())) [mf : Mono (f ())] [ef : ErrLe (f ())] :
    Loc2 B' (advance >>= f) (advance >>= f') :=
  (inferInstance : Loc2 B' advance advance).bind_of (fun _ σ' _ hB hne g _ => by
      simp only [advance_run, Except.ok.injEq, Prod.mk.injEq] at g
      obtain ⟨_, rfl⟩ := g
      refine hf _ (Nat.lt_of_lt_of_le ?_ hB)
      cases ht : σ'.toks with
      | nil => exact absurd ht hne
      | cons t r => simp [PState.adv, ht])
    (fun _ => mf.le) (fun _ => ef.le)

instance {α} {B'} {c : Prop} [Decidable c] {a b a' b' : P α} [Loc2 B' a a'] [Loc2 B' b b'] :
    Loc2 B' (if c then a else b) (if c then a' else b') := by
  split <;> infer_instance

theorem Loc2.of_read {α} {B'} {m : P α} (r : PState → α) (hm : ∀ σ, m σ = .ok (r σ, σ))
    (hr : ∀ j σ σ', 1 ≤ j → Agree j σ σ' → r σ = r σ') : Loc2 B' m m := by
  refine ⟨?_, fun σ σ' j pos b l _ _ h => (by rw [hm] at h; cases h)⟩
  intro σ σ' j a σ1 _ hA h
  rw [hm] at h
  cases h
  intro c
  refine ⟨Nat.le_refl _, fun hc hj => ?_⟩
  obtain rfl : c = 0 := by omega
  exact ⟨σ', by rw [hm, hr j σ σ' (by omega) hA], rfl, hA⟩

instance {α} {B'} (a : α) : Loc2 B' (pure a : P α) (pure a) := .of_read (fun _ => a) (fun _ => rfl) (fun _ _ _ _ _ => rfl)
instance {B'} : Loc2 B' cur cur := .of_read PState.cur cur_run (fun _ _ _ hj hA => hA.cur hj)
instance {B'} (k : TokenKind) : Loc2 B' (peek k) (peek k) :=
  .of_read (fun σ => decide (σ.cur.kind = k)) (peek_run k) (fun _ _ _ hj hA => by rw [hA.cur hj])
instance {B'} (s : Nat) : Loc2 B' (loc s) (loc s) :=
  .of_read (fun σ => ⟨s, σ.prevEnd⟩) (loc_run s) (fun _ _ _ _ hA => by rw [hA.pe])

instance {B'} : Loc2 B' flagBad flagBad := by
  refine ⟨?_, fun _ _ _ _ _ _ _ _ h => by cases h⟩
  intro σ σ' j a σ1 _ hA h
  simp at h; subst h
  intro c
  refine ⟨Nat.le_refl _, fun hc hj => ?_⟩
  obtain rfl : c = 0 := by simp at hc; omega
  exact ⟨{ σ' with bad := true }, rfl, rfl, ⟨hA.pe, rfl, hA.le, hA.le', hA.tk⟩⟩

instance {α} {B'} : Loc2 B' (outOfFuel : P α) outOfFuel :=
  ⟨fun σ σ' j a σ1 _ _ h _ => by simp at h, fun σ σ' j pos b l _ _ h _ => by simp at h⟩

instance {α} {B'} (a : Bool) (p : Nat) : Loc2 B' (failAt a p : P α) (failAt a p) := by
  refine ⟨fun _ _ _ _ _ _ _ h => (by cases h), ?_⟩
  intro σ σ' j pos b l _ hA h
  simp at h; obtain ⟨rfl, rfl, rfl⟩ := h
  intro d
  refine ⟨by cases a <;> simp, fun hd hj => ?_⟩
  have := hA.le; have := hA.le'
  refine ⟨if a then σ'.toks.length - 1 else σ'.toks.length, by simp [hA.bad], ?_⟩
  cases a <;> simp at hd ⊢ <;> omega

instance {α} {B'} (p : Nat) : Loc2 B' (fail p : P α) (fail p) := (inferInstance : Loc2 B' (failAt false p : P α) (failAt false p))
instance {α} {B'} : Loc2 B' (unexpected : P α) unexpected :=
  (inferInstance : Loc2 B' (cur >>= fun t => (failAt false t.start : P α)) (cur >>= fun t => failAt false t.start))

instance {B'} (k : TokenKind) : Loc2 B' (skip k) (skip k) := by rw [skip_eq]; infer_instance
instance {B'} (k : TokenKind) : Loc2 B' (expect k) (expect k) := by rw [expect_eq]; infer_instance
instance {B'} (s : String) : Loc2 B' (expectKeyword s) (expectKeyword s) := by rw [expectKeyword_eq]; infer_instance

instance {B'} : Loc2 B' skipEOF skipEOF := by
  refine ⟨?_, fun σ σ' j pos b l _ _ h => by unfold skipEOF at h; split at h <;> simp at h⟩
  intro σ σ' j a σ1 _ hA h
  intro c
  refine ⟨Mono.le _ _ _ h, fun hc hj => ?_⟩
  obtain ⟨t, r, r', hs, hs', _⟩ := hA.cons (by omega)
  unfold skipEOF at h ⊢
  rw [hs] at h; simp at h; obtain ⟨rfl, rfl⟩ := h
  obtain rfl : c = 0 := by omega
  exact ⟨σ', by rw [hs'], rfl, hA⟩

theorem Loc2.of_outOfFuel {α} {B'} {m' : P α} : Loc2 B' outOfFuel m' :=
  ⟨fun _ _ _ _ _ _ _ h => (by cases h), fun _ _ _ _ _ _ _ _ h => by cases h⟩

/-- fuel taken from the state: each side gets more fuel than it has tokens -/
theorem Loc2.bind_loopFuel {β} {B'} {g g' : Nat → P β}
    (h : ∀ k k' B'', B'' < k' → B'' ≤ B' → Loc2 B'' (g k) (g' k')) : Loc2 B' (loopFuel >>= g) (loopFuel >>= g') := by
  have e : ∀ (g : Nat → P β) σ, (loopFuel >>= g) σ = g (σ.toks.length + 1) σ := fun g σ => bind_eq_of_ok (loopFuel_run σ)
  constructor
  · intro σ σ' j a σ1 hB hA hr
    rw [e] at hr ⊢
    exact (h _ (σ'.toks.length + 1) σ'.toks.length (Nat.lt_succ_self _) hB).ok σ σ' j a σ1 (Nat.le_refl _) hA hr
  · intro σ σ' j pos b l hB hA hr
    rw [e] at hr ⊢
    exact (h _ (σ'.toks.length + 1) σ'.toks.length (Nat.lt_succ_self _) hB).err σ σ' j pos b l (Nat.le_refl _) hA hr

/-- a fuelled loop started with more fuel than `σ'` has tokens -/
class LoopLoc2 {α} (B' : Nat) (loop loop' : Nat → P α) : Prop where
  loc : ∀ k k' B'', B'' < k' → B'' ≤ B' → Loc2 B'' (loop k) (loop' k')

instance loop_loc2 {α β} {B'} {loop loop' : Nat → P α} {f f' : α → P β} [hl : LoopLoc2 B' loop loop']
    [hf : ∀ x, Loc2 B' (f x) (f' x)] :
    Loc2 B' (loopFuel >>= fun k => loop k >>= f) (loopFuel >>= fun k => loop' k >>= f') :=
  Loc2.bind_loopFuel fun k k' B'' hk hB =>
    @Loc2.bind _ _ _ _ _ _ _ (hl.loc k k' B'' hk hB) (fun x => (hf x).anti hB)

instance loop_loc2' {α} {B'} {loop loop' : Nat → P α} [hl : LoopLoc2 B' loop loop'] :
    Loc2 B' (loopFuel >>= fun k => loop k) (loopFuel >>= fun k => loop' k) :=
  Loc2.bind_loopFuel hl.loc

theorem many_loc2 {α} {close : TokenKind} {item item' : P α} [Strict item'] [ErrAt item] :
    ∀ (k k' B' : Nat), B' < k' → (∀ B'', B'' ≤ B' → Loc2 B'' item item') →
      Loc2 B' (many close item k) (many close item' k') := by
  intro k
  induction k with
  | zero => intro k' B' _ _; exact .of_outOfFuel
  | succ k ih =>
    intro k' B' hk hi
    obtain ⟨k'', rfl⟩ : ∃ k'', k' = k'' + 1 := ⟨k' - 1, by omega⟩
    simp only [many]
    refine Loc2.bind (hf := fun b => ?_)
    split
    · infer_instance
    · refine Loc2.bind_strict (hi B' (Nat.le_refl _)) (fun B'' hB'' x => ?_)
      haveI := ih k'' B'' (by omega) (fun B3 h3 => hi B3 (by omega))
      infer_instance

instance many_loopLoc2 {α} {B'} {close : TokenKind} {item item' : P α} [Mono item] [Mono item'] [Strict item'] [ErrAt item]
    [hi : ∀ B'', Loc2 B'' item item'] : LoopLoc2 B' (many close item) (many close item') :=
  ⟨fun k k' B'' hk _ => many_loc2 k k' B'' hk (fun B3 _ => hi B3)⟩

/-- `reverse`, the item being needed only on strictly smaller bounds (it runs after the opening token) -/
theorem reverse_loc2 {α} {opn close : TokenKind} {item item' : P α} {z : Bool} [NotEOF opn] [Strict item']
    [ErrAt item] {B' : Nat} (hi : ∀ B'', B'' < B' → Loc2 B'' item item') :
    Loc2 B' (reverse opn item close z) (reverse opn item' close z) := by
  unfold reverse
  refine Loc2.bind_strict (inferInstance : Loc2 B' (expect opn) (expect opn)) (fun B'' hB'' _ => ?_)
  haveI : LoopLoc2 B'' (many close item) (many close item') :=
    ⟨fun k k' B3 hk h3 => many_loc2 k k' B3 hk (fun B4 h4 => hi B4 (by omega))⟩
  infer_instance

theorem sepLoop_loc2 {α} {item : P α} [Strict item] [ErrAt item] [hi : ∀ B', Loc2 B' item item] (sep : TokenKind) :
    ∀ (k k' B' : Nat), B' < k' → Loc2 B' (sepLoop item sep k) (sepLoop item sep k') := by
  intro k
  induction k with
  | zero => intro k' B' _; exact .of_outOfFuel
  | succ k ih =>
    intro k' B' hk
    obtain ⟨m, rfl⟩ : ∃ m, k' = m + 1 := ⟨k' - 1, by omega⟩
    simp only [sepLoop]
    refine Loc2.bind_strict (hi B') (fun B'' hB'' t => ?_)
    haveI := ih m B'' (by omega)
    infer_instance

/-! `Behaved B m`: what holds of an action of M whatever the grammar is; the single properties are read off a `Behaved`
instance. -/

class Behaved {α} (B : Nat) (m : P α) : Prop where
  errAt : ErrAt m
  nf : NFb B m
  loc : Loc2 B m m

theorem Behaved.of {α} {B} {m : P α} [h1 : ErrAt m] [h2 : NFb B m] [h3 : Loc2 B m m] : Behaved B m := ⟨h1, h2, h3⟩

/-- `ErrAt m` has no bound for resolution to match, so it is read off at the bound `0` (any would do: the instances of
`Behaved` hold at every bound) -/
instance (priority := low) Behaved.toErrAt {α} {m : P α} [h : Behaved 0 m] : ErrAt m := h.errAt
instance (priority := low) Behaved.toNFb {α} {B} {m : P α} [h : Behaved B m] : NFb B m := h.nf
instance (priority := low) Behaved.toLoc2 {α} {B} {m : P α} [h : Behaved B m] : Loc2 B m m := h.loc

instance Behaved.bind {α β} {B} {m : P α} {f : α → P β} [hm : Behaved B m] [hf : ∀ a, Behaved B (f a)] :
    Behaved B (m >>= f) :=
  haveI := hm.errAt; haveI := fun a => (hf a).errAt
  ⟨inferInstance, inferInstance, inferInstance⟩

instance {α} {B} {c : Prop} [Decidable c] {a b : P α} [Behaved B a] [Behaved B b] : Behaved B (if c then a else b) := by
  split <;> infer_instance

instance {α} {B} (a : α) : Behaved B (pure a : P α) := .of
instance {B} : Behaved B cur := .of
instance {B} : Behaved B advance := .of
instance {B} (s : Nat) : Behaved B (loc s) := .of
instance {B} (k : TokenKind) : Behaved B (peek k) := .of
instance {B} (k : TokenKind) : Behaved B (skip k) := .of
instance {B} (k : TokenKind) : Behaved B (expect k) := .of
instance {B} (s : String) : Behaved B (expectKeyword s) := .of
instance {α} {B} : Behaved B (unexpected : P α) := .of

instance {α} {B} {opn close : TokenKind} {item : P α} {z : Bool} [NotEOF opn] [Strict item] [hi : ∀ B', Behaved B' item] :
    Behaved B (reverse opn item close z) :=
  haveI := (hi 0).errAt
  ⟨inferInstance, reverse_nf fun B' _ => (hi B').nf, reverse_loc2 fun B' _ => (hi B').loc⟩

instance {α β} {B} {loop : Nat → P α} {f : α → P β} [he : ∀ k, ErrAt (loop k)] [LoopNF B loop] [LoopLoc2 B loop loop]
    [hf : ∀ x, Behaved B (f x)] : Behaved B (loopFuel >>= fun k => loop k >>= f) :=
  haveI := fun x => (hf x).errAt
  ⟨inferInstance, inferInstance, inferInstance⟩

instance {α} {B} {loop : Nat → P α} [he : ∀ k, ErrAt (loop k)] [LoopNF B loop] [LoopLoc2 B loop loop] :
    Behaved B (loopFuel >>= fun k => loop k) :=
  ⟨inferInstance, inferInstance, inferInstance⟩

/-- the entry point of a fuelled recursion `g`, which takes its fuel from the state: the three properties of `g` proved by
induction on the fuel -/
theorem Behaved.of_fuel {α} {B} {g : Nat → P α} (he : ∀ n, ErrAt (g n)) (hn : ∀ n B', B' < n → NFb B' (g n))
    (hl : ∀ n n' B', B' < n' → Loc2 B' (g n) (g n')) : Behaved B (fun σ => g (σ.toks.length + 1) σ) where
  errAt := ⟨fun σ => (he _).ok σ, fun σ => (he _).err σ⟩
  nf := ⟨fun σ _ h => (hn (σ.toks.length + 1) σ.toks.length (Nat.lt_succ_self _)).nf σ (Nat.le_refl _) h⟩
  loc := Loc2.bind_loopFuel (g := g) (g' := g) fun k k' B'' hk _ => hl k k' B'' hk

/-- **prefix determinism**: if `m` rejects `toks` blaming token `k` (`k = |toks| - left < |toks|`), it rejects in the same
way every token list that starts with `toks[0..k]` -/
theorem action_error_local {α} (m : P α) [hm : ∀ B', Loc2 B' m m] {toks : List Token} {eofPos pos : Nat} {b : Bool} {l : Nat}
    (h : m (initState toks eofPos) = .error (.syntax pos b l)) (hl : 0 < l) (rest : List Token) (eofPos' : Nat) :
    ∃ l', m (initState (toks.take (toks.length - l + 1) ++ rest) eofPos') = .error (.syntax pos b l') ∧
      (toks.take (toks.length - l + 1) ++ rest).length - l' = toks.length - l ∧
      l' ≤ (toks.take (toks.length - l + 1) ++ rest).length := by
  have hle : l ≤ toks.length := (hm 0).errLe h
  let k := toks.length - l
  have hk : k + 1 ≤ toks.length := by show toks.length - l + 1 ≤ toks.length; omega
  have hA : Agree (k + 1) (initState toks eofPos) (initState (toks.take (k + 1) ++ rest) eofPos') := by
    refine ⟨rfl, rfl, hk, ?_, ?_⟩
    · simp [initState]; omega
    · simp only [initState]
      rw [List.take_append_of_le_length (by simp; omega), List.take_take]
      simp
  obtain ⟨l', g, e⟩ := (hm (toks.take (k + 1) ++ rest).length).err_at (d := k) (Nat.le_refl _) hA h
    (by show l + (toks.length - l) = toks.length; omega) (Nat.le_refl _)
  have e' : l' + k = (toks.take (k + 1) ++ rest).length := e
  exact ⟨l', g, Nat.sub_eq_of_eq_add (by rw [← e', Nat.add_comm]), e' ▸ Nat.le_add_right _ _⟩

/-- cutting the input right before the blamed token leaves a text that `m` accepts or rejects only at its end -/
theorem action_truncated {α} (m : P α) [hm : ∀ B', Loc2 B' m m] {toks : List Token} {eofPos pos : Nat} {b : Bool} {l : Nat}
    (h : m (initState toks eofPos) = .error (.syntax pos b l)) (eofPos' pos' : Nat) (b' : Bool) (l' : Nat)
    (h' : m (initState (toks.take (toks.length - l)) eofPos') = .error (.syntax pos' b' l')) : l' = 0 := by
  cases l' with
  | zero => rfl
  | succ j =>
    exfalso
    let T := toks.take (toks.length - l)
    have hT : T.length = toks.length - l := by simp [T]
    obtain ⟨l'', g, hidx, hl''⟩ := action_error_local m (toks := T) h' (Nat.succ_pos j) (toks.drop (T.length - (j + 1) + 1)) eofPos
    have hm' : j + 1 ≤ T.length := (hm 0).errLe h'
    have hlist : T.take (T.length - (j + 1) + 1) ++ toks.drop (T.length - (j + 1) + 1) = toks := by
      have hle2 : T.length - (j + 1) + 1 ≤ toks.length - l := by omega
      have : T.take (T.length - (j + 1) + 1) = toks.take (T.length - (j + 1) + 1) := by
        show (toks.take (toks.length - l)).take (T.length - (j + 1) + 1) = _
        rw [List.take_take, Nat.min_eq_left hle2]
      rw [this, List.take_append_drop]
    rw [hlist] at g hidx hl''
    rw [h] at g
    simp only [Except.error.injEq, PErr.syntax.injEq] at g
    omega

end GqlModel.Parser
