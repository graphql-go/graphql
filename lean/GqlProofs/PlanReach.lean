import GqlProofs.PlanCollect
import GqlProofs.PlanInv
import GqlProofs.ExecSelectOp
/-! # Every field plan reachable in a plan stands for the algorithm's groups; shape of `planQuery`'s result -/
namespace GqlModel.Plan
open GqlModel.Exec GqlModel.Coerce

theorem at_fpOK {c : Ctx} {pv : Option Vars} {rank : String → Nat} {rootType : String} {root : List FieldPlan}
    (hac : Acyclic c.frags rank) (hfr : FragsOK c pv)
    (hroot : ∀ fp ∈ root, FpOK c.schema rootType (NodeOK c pv rank) fp) {fid : FpId} {fp : FieldPlan}
    (h : At c.schema c.frags pv rootType root fid fp) : ∃ rt, FpOK c.schema rt (NodeOK c pv rank) fp := by
  induction h with
  | root hm => exact ⟨rootType, hroot _ hm⟩
  | @step fid fp rt fp' _ hm ih =>
    obtain ⟨rt0, hok⟩ := ih
    exact ⟨rt, (planMerged_sim (rt := rt) hac hfr fp.nodes hok.nodes).2 fp' hm⟩

theorem planQuery_ok {s : Schema} {doc : Document} {opName : String} {p : Plan} (hp : planQuery s doc opName = .ok p) :
    ∃ op name varDefs dirs sel loc root, selectOperation doc opName = .ok (.operation op name varDefs dirs sel loc) ∧
      s.rootFor op.toString = some root ∧
      p = Plan.mk s varDefs sel doc.fragments root (op == .mutation) (docDynamic doc) none
        (if docDynamic doc then [] else planSelectionSet s doc.fragments none root sel) := by
  unfold planQuery at hp
  split at hp
  · cases hp
  · rename_i op name varDefs dirs sel loc hsel
    split at hp
    · cases hp
    · rename_i root hroot
      simp only [Except.ok.injEq] at hp
      exact ⟨op, name, varDefs, dirs, sel, loc, root, hsel, hroot, hp.symm⟩
  · cases hp

theorem planQuery_root_nodup {s : Schema} {doc : Document} {opName : String} {p : Plan} (hp : planQuery s doc opName = .ok p) :
    KeysNodup p.root := by
  obtain ⟨op, name, varDefs, dirs, sel, loc, root, _, _, rfl⟩ := planQuery_ok hp
  simp only
  split
  · exact List.nodup_nil
  · exact keysNodup_planSelectionSet _ _ _ _ _

theorem static_of_docDynamic_op {doc : Document} (hd : docDynamic doc = false) {op : OpType} {name : Option Name}
    {vars : List VarDef} {dirs : List Directive} {sel : SelectionSet} {loc : Loc}
    (hm : Definition.operation op name vars dirs sel loc ∈ doc.defs) : setDynamic sel = false := by
  unfold docDynamic at hd
  have := List.any_eq_false.1 hd _ hm
  simpa using this

theorem static_of_docDynamic_frag {doc : Document} (hd : docDynamic doc = false) {n : String} {tc : TypeRef}
    {sel : SelectionSet} (hf : fragOf doc.fragments n = some (tc, sel)) : setDynamic sel = false := by
  unfold fragOf at hf
  cases hl : (doc.fragments.filter (fun p => p.1 == n)).getLast? with
  | none => simp [hl] at hf
  | some e =>
    obtain ⟨k, d⟩ := e
    have hm : (k, d) ∈ doc.fragments := (List.mem_filter.1 (List.mem_of_getLast? hl)).1
    unfold Document.fragments at hm
    obtain ⟨d0, hd0, hmap⟩ := List.mem_filterMap.1 hm
    cases d0 with
    | fragment nm tc0 ds ss l =>
      simp only [Option.some.injEq, Prod.mk.injEq] at hmap
      obtain ⟨_, rfl⟩ := hmap
      simp only [hl, Option.some.injEq, Prod.mk.injEq] at hf
      obtain ⟨_, rfl⟩ := hf
      unfold docDynamic at hd
      have := List.any_eq_false.1 hd _ hd0
      simpa using this
    | _ => simp at hmap

/-- The plan `ExecutePlan` walks for the coerced variables `vars` — `p` itself, or its specialisation when a directive mentions a
variable — is the operation's selection set planned in one of the two regimes of `planSelectionSet_sim`. -/
theorem planQuery_walked {s : Schema} {doc : Document} {opName : String} {p : Plan} (hp : planQuery s doc opName = .ok p)
    (vars : Vars) (w : World) {q : Plan} (hq : q = if p.dynamicDirectives then p.specialise vars else p) :
    q.schema = s ∧ q.frags = doc.fragments ∧ q.rootType = p.rootType ∧ q.isMutation = p.isMutation ∧
      q.root = planSelectionSet s doc.fragments q.planVars q.rootType p.sel ∧ Regime q.planVars vars (setDynamic p.sel) ∧
      FragsOK { schema := s, frags := doc.fragments, vars := vars, world := w } q.planVars := by
  obtain ⟨op, name, varDefs, dirs, sel, loc, root, hsel, -, rfl⟩ := planQuery_ok hp
  subst hq
  cases hd : docDynamic doc with
  | true => exact ⟨rfl, rfl, rfl, rfl, rfl, .inl rfl, fun _ _ _ _ => .inl rfl⟩
  | false =>
    exact ⟨rfl, rfl, rfl, rfl, rfl, .inr ⟨rfl, static_of_docDynamic_op hd (selectOperation_mem hsel)⟩,
      fun _ _ _ hf => .inr ⟨rfl, static_of_docDynamic_frag hd hf⟩⟩

end GqlModel.Plan
