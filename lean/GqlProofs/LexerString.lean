import GqlProofs.LexerIgnored
/-! M = S: the loop of `readString` (lexer.go:218-310) = `Spec.stringBody`, stated with `Agrees`, the relation both string
scanners are proved against. -/
namespace GqlModel.Lexer
open GqlModel.Utf8 GqlModel.Lexer.Spec

@[simp] theorem pre_ok (bs : Bytes) (e : Nat) (v : Bytes) : pre bs (.ok (e, v)) = .ok (e, bs ++ v) := rfl
@[simp] theorem pre_error (bs : Bytes) (e : LexErr) : pre bs (.error e) = .error e := rfl
@[simp] theorem adv_ok (k : Nat) (bs : Bytes) (len : Nat) (v : Bytes) : adv k bs (.ok (len, v)) = .ok (len + k, bs ++ v) := rfl
@[simp] theorem adv_error (k : Nat) (bs : Bytes) (o : Nat) (e : ErrKind) : adv k bs (.error (o, e)) = .error (o + k, e) := rfl

theorem adv_adv (k1 k2 : Nat) (b1 b2 : Bytes) (x : Scan) : adv k1 b1 (adv k2 b2 x) = adv (k2 + k1) (b1 ++ b2) x := by
  match x with
  | .ok (len, v) => simp [Nat.add_assoc]
  | .error (o, e) => simp [Nat.add_assoc]

theorem adv_eq_ok {k : Nat} {bs : Bytes} {x : Scan} {len : Nat} {v : Bytes} (h : adv k bs x = .ok (len, v)) :
    ∃ len' v', x = .ok (len', v') ∧ len = len' + k ∧ v = bs ++ v' := by
  match x with
  | .ok (len', v') =>
    simp only [adv_ok, Except.ok.injEq, Prod.mk.injEq] at h
    exact ⟨len', v', rfl, h.1.symm, h.2.symm⟩
  | .error (o, e) => simp at h

/-- a scan result whose lexeme has between `lo` and `n` bytes, or an error that is not "out of fuel" -/
def ScanOk (x : Scan) (lo n : Nat) : Prop :=
  match x with
  | .ok (len, _) => lo ≤ len ∧ len ≤ n
  | .error (_, k) => k ≠ .fuel

theorem ScanOk_adv {x : Scan} {lo n : Nat} (k : Nat) (bs : Bytes) (lo' n' : Nat) (h : ScanOk x lo n) (hlo : lo' ≤ lo + k)
    (hn : n + k ≤ n') : ScanOk (adv k bs x) lo' n' := by
  match x with
  | .ok (len, v) => simp only [ScanOk, adv_ok] at h ⊢; omega
  | .error (o, e) => simpa [ScanOk] using h

theorem stringBody_cons (c : UInt8) (r : Bytes) : stringBody (c :: r) =
    if c = 34 then .ok (1, [])
    else if c = 10 ∨ c = 13 then .error (0, .unterminated)
    else if c.toNat < 32 ∧ c ≠ 9 then .error (0, .invalidCharInString)
    else if c = 92 then
      match r with
      | [] => .error (1, .badEscape)
      | e :: r1 =>
        match escapedCharacter e with
        | some b => adv 2 [b] (stringBody r1)
        | none =>
          if e = 117 then
            match r1 with
            | h1 :: h2 :: h3 :: h4 :: r2 =>
              match escapedUnicode h1 h2 h3 h4 with
              | some bs => adv 6 bs (stringBody r2)
              | none => .error (1, .badUnicodeEscape)
            | _ => .error (1, .badUnicodeEscape)
          else .error (1, .badEscape)
    else adv 1 [c] (stringBody r) := by
  rw [stringBody.eq_def]; rfl

/-- the model's scan `m` of `rest`, begun at byte `p` and rune `rp`, against the grammar's scan: same length and value; on
failure the same error site, and the same offset as long as no byte ≥ 0x80 precedes the offending byte -/
def Agrees (rest : Bytes) (p rp : Nat) (m : Except LexErr (Nat × Bytes)) : Scan → Prop
  | .ok (len, v) => m = .ok (p + len, v)
  | .error (o, k) => ∃ q, m = .error ⟨q, k⟩ ∧ (hasHigh (rest.take o) = false → q = rp + o)

theorem Agrees.ok {rest : Bytes} {p rp : Nat} {m : Except LexErr (Nat × Bytes)} {s : Scan} {len : Nat} {v : Bytes}
    (h : Agrees rest p rp m s) (hs : s = .ok (len, v)) : m = .ok (p + len, v) := by subst hs; exact h

theorem Agrees.error {rest : Bytes} {p rp : Nat} {m : Except LexErr (Nat × Bytes)} {s : Scan} {o : Nat} {k : ErrKind}
    (h : Agrees rest p rp m s) (hs : s = .error (o, k)) :
    ∃ q, m = .error ⟨q, k⟩ ∧ (hasHigh (rest.take o) = false → q = rp + o) := by subst hs; exact h

/-- one step of a scan: the `k` bytes `hd` are consumed as `j` runes and contribute `bs` to the value -/
theorem Agrees.step {rest hd tail bs : Bytes} {p rp k j : Nat} {m : Except LexErr (Nat × Bytes)} {s : Scan}
    (hrest : rest = hd ++ tail) (hk : hd.length = k) (hj : hasHigh hd = false → j = k)
    (h : Agrees tail (p + k) (rp + j) m s) : Agrees rest p rp (pre bs m) (adv k bs s) := by
  subst hrest hk
  match s, h with
  | .ok (len, v), h =>
    show pre bs m = .ok (p + (len + hd.length), bs ++ v)
    rw [h, pre_ok, Nat.add_assoc, Nat.add_comm len]
  | .error (o, e), ⟨q, hq, hpos⟩ =>
    refine ⟨q, by rw [hq, pre_error], fun hh => ?_⟩
    rw [Nat.add_comm, List.take_length_add_append, hasHigh_append, Bool.or_eq_false_iff] at hh
    rw [hpos hh.2, hj hh.1, Nat.add_assoc, Nat.add_comm o]

theorem scan_high {body : Bytes → Scan} (hb : ∀ c r, 128 ≤ c.toNat → body (c :: r) = adv 1 [c] (body r)) :
    ∀ (hi tail : Bytes), (∀ b ∈ hi, 128 ≤ b.toNat) → body (hi ++ tail) = adv hi.length hi (body tail) := by
  intro hi
  induction hi with
  | nil => intro tail _; match body tail with
    | .ok (len, v) => rfl
    | .error (o, e) => rfl
  | cons c hi ih =>
    intro tail hall
    rw [List.cons_append, hb c _ (hall c List.mem_cons_self), ih tail (fun b hb => hall b (List.mem_cons_of_mem _ hb)), adv_adv]
    rfl

/-- the last branch of both string loops copies one rune: an ASCII byte, or some bytes ≥ 0x80, which the grammar's
scan copies one by one -/
theorem Agrees.rune {body : Bytes → Scan} (hb : ∀ c r, 128 ≤ c.toNat → body (c :: r) = adv 1 [c] (body r))
    {loop : Bytes → Nat → Nat → Except LexErr (Nat × Bytes)} (c : UInt8) (r : Bytes) (p rp : Nat)
    (ih : ∀ (tail : Bytes) (p' rp' : Nat), tail.length ≤ r.length → Agrees tail p' rp' (loop tail p' rp') (body tail)) :
    Agrees (c :: r) p rp
      (pre ((c :: r).take (runeAt (c :: r)).2)
        (loop ((c :: r).drop (runeAt (c :: r)).2) (p + (runeAt (c :: r)).2) (rp + 1)))
      (adv 1 [c] (body r)) := by
  rcases runeAt_spec c r with ⟨hasc, hr⟩ | ⟨hge, code, n, hr, -, hn1, hn2, hall, -, -⟩
  · rw [hr]
    exact Agrees.step (hd := [c]) rfl rfl (fun _ => rfl) (ih r _ _ (Nat.le_refl _))
  · have hsplit := (List.take_append_drop n (c :: r)).symm
    have hlen : ((c :: r).take n).length = n := by rw [List.length_take]; exact Nat.min_eq_left hn2
    have hS : body (c :: r) = adv n ((c :: r).take n) (body ((c :: r).drop n)) := by
      conv => lhs; rw [hsplit]
      rw [scan_high hb _ _ hall, hlen]
    rw [hr, ← hb c r hge, hS]
    refine Agrees.step hsplit hlen (fun hh => ?_) (ih _ _ _ ?_)
    · rw [hasHigh_take_head hge hn1] at hh; cases hh
    · rw [List.length_drop, List.length_cons]; omega

theorem stringBody_high_cons (c : UInt8) (r : Bytes) (h : 128 ≤ c.toNat) : stringBody (c :: r) = adv 1 [c] (stringBody r) := by
  rw [stringBody_cons]
  have h1 : ¬ c = 34 := by bnorm; omega
  have h2 : ¬ (c = 10 ∨ c = 13) := by bnorm; omega
  have h3 : ¬ (c.toNat < 32 ∧ c ≠ 9) := by omega
  have h4 : ¬ c = 92 := by bnorm; omega
  rw [if_neg h1, if_neg h2, if_neg h3, if_neg h4]

theorem ite_swap {α : Sort _} {p q : Prop} [Decidable p] [Decidable q] (h : p → ¬ q) (a b c : α) :
    (if p then a else if q then b else c) = (if q then b else if p then a else c) := by
  by_cases hp : p
  · rw [if_pos hp, if_neg (h hp), if_pos hp]
  · rw [if_neg hp, if_neg hp]

/-- the same chain of tests, `/` and `\` in the other order -/
theorem simpleEscape_eq (e : UInt8) (r1 : Bytes) : simpleEscape (runeAt (e :: r1)).1 = escapedCharacter e := by
  unfold simpleEscape escapedCharacter
  simp only [code_eq_byte, Nat.reduceLT]
  rw [ite_swap (p := e = 47) (q := e = 92) (fun h h' => absurd (h.symm.trans h') (by decide))]

theorem escapedCharacter_ascii {e b : UInt8} (h : escapedCharacter e = some b) : e.toNat < 128 := by
  unfold escapedCharacter at h
  by_cases h1 : e = 34; · subst h1; decide
  by_cases h2 : e = 47; · subst h2; decide
  by_cases h3 : e = 92; · subst h3; decide
  by_cases h4 : e = 98; · subst h4; decide
  by_cases h5 : e = 102; · subst h5; decide
  by_cases h6 : e = 110; · subst h6; decide
  by_cases h7 : e = 114; · subst h7; decide
  by_cases h8 : e = 116; · subst h8; decide
  simp [h1, h2, h3, h4, h5, h6, h7, h8] at h

theorem char2hex_eq (a : UInt8) : char2hex a = hexValue a := rfl

theorem escapedUnicode_eq (a b c d : UInt8) : escapedUnicode a b c d = (uniCharCode a b c d).map encodeRune := by
  unfold escapedUnicode uniCharCode
  simp only [char2hex_eq]
  cases hexValue a <;> cases hexValue b <;> cases hexValue c <;> cases hexValue d <;> simp
  congr 1; omega

theorem readStringLoop_agrees : ∀ (f : Nat) (rest : Bytes) (p rp : Nat), rest.length < f →
    Agrees rest p rp (readStringLoop f rest p rp) (stringBody rest) := by
  intro f
  induction f with
  | zero => intro rest p rp h; exact absurd h (Nat.not_lt_zero _)
  | succ f ih =>
    intro rest p rp hlen
    match rest with
    | [] => exact ⟨rp, rfl, fun _ => rfl⟩
    | c :: r =>
      have hlen : r.length < f := Nat.lt_of_succ_lt_succ hlen
      rw [stringBody_cons]
      simp only [readStringLoop, ne_eq, reduceCtorEq, not_false_eq_true, true_and]
      simp only [code_eq_byte, code_lt_byte, Nat.reduceLT]
      by_cases h34 : c = 34
      · rw [if_pos h34, if_neg (fun h => h.2.2 h34), if_neg (not_not_intro h34)]; rfl
      by_cases hlt : c = 10 ∨ c = 13
      · rw [if_neg h34, if_pos hlt, if_neg (fun h => hlt.elim h.1 h.2.1), if_pos h34]
        exact ⟨rp, rfl, fun _ => rfl⟩
      rw [if_neg h34, if_neg hlt, if_pos ⟨fun h => hlt (Or.inl h), fun h => hlt (Or.inr h), h34⟩]
      by_cases hctl : c.toNat < 32 ∧ ¬ c = 9
      · rw [if_pos hctl, if_pos hctl]; exact ⟨rp, rfl, fun _ => rfl⟩
      rw [if_neg hctl, if_neg hctl]
      by_cases hbs : c = 92
      · subst hbs
        rw [if_pos rfl, if_pos rfl, width_ascii 92 r (by decide)]
        simp only [List.drop_succ_cons, List.drop_zero]
        match r with
        | [] => exact ⟨rp + 1, rfl, fun _ => rfl⟩
        | e :: r1 =>
          simp only [simpleEscape_eq]
          cases hesc : escapedCharacter e with
          | some b =>
            simp only
            rw [width_ascii e r1 (escapedCharacter_ascii hesc)]
            exact Agrees.step (hd := [92, e]) rfl rfl (fun _ => rfl) (ih r1 _ _ (by simp at hlen; omega))
          | none =>
            simp only
            simp only [code_eq_byte, Nat.reduceLT]
            by_cases hu : e = 117
            · subst hu
              rw [if_pos rfl, if_pos rfl, width_ascii 117 r1 (by decide)]
              match r1 with
              | h1 :: h2 :: h3 :: h4 :: r2 =>
                simp only [escapedUnicode_eq]
                cases uniCharCode h1 h2 h3 h4 with
                | none => exact ⟨rp + 1, rfl, fun _ => rfl⟩
                | some cp =>
                  exact Agrees.step (hd := [92, 117, h1, h2, h3, h4]) rfl rfl (fun _ => rfl)
                    (ih r2 _ _ (by simp at hlen; omega))
              | [] | [_] | [_, _] | [_, _, _] => exact ⟨rp + 1, rfl, fun _ => rfl⟩
            · rw [if_neg hu, if_neg hu]; exact ⟨rp + 1, rfl, fun _ => rfl⟩
      · rw [if_neg hbs, if_neg hbs]
        exact Agrees.rune stringBody_high_cons (loop := readStringLoop f) c r p rp
          (fun tail p' rp' ht => ih tail p' rp' (by omega))

theorem readStringLoop_spec : ∀ (f : Nat) (rest : Bytes) (p rp : Nat), rest.length < f →
    match stringBody rest with
    | .ok (len, v) => readStringLoop f rest p rp = .ok (p + len, v)
    | .error (o, k) => ∃ q, readStringLoop f rest p rp = .error ⟨q, k⟩ ∧ (hasHigh (rest.take o) = false → q = rp + o) :=
  readStringLoop_agrees

end GqlModel.Lexer
