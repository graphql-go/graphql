import GqlProofs.LexerString
import GqlModel.LexerGrammar
/-! `Spec.stringBody` (the executable reading) is sound and complete for the derivation relation `StrChars`; the
other facts about an accepted string body follow from that. -/
namespace GqlModel.Lexer
open GqlModel.Lexer.Spec

theorem stringBody_quote (r : Bytes) : stringBody (34 :: r) = .ok (1, []) := by
  rw [stringBody_cons, if_pos rfl]

theorem stringBody_strChar {l v : Bytes} (h : StrChar l v) (tail : Bytes) :
    stringBody (l ++ tail) = adv l.length v (stringBody tail) := by
  cases h with
  | plain c h1 h2 h3 h4 h5 =>
    simp only [List.singleton_append, List.length_singleton]
    have g2 : ¬ (c = 10 ∨ c = 13) := by intro h; rcases h with h | h <;> contradiction
    have g3 : ¬ (c.toNat < 32 ∧ c ≠ 9) := by
      intro h; rcases h5 with h5 | h5
      · omega
      · exact h.2 h5
    rw [stringBody_cons, if_neg h1, if_neg g2, if_neg g3, if_neg h2]
  | esc e b he =>
    simp only [List.cons_append, List.nil_append, List.length_cons, List.length_nil]
    rw [stringBody_cons]
    simp (decide := true) only [if_false, if_true, he]
  | uni h1 h2 h3 h4 u hu =>
    simp only [List.cons_append, List.nil_append, List.length_cons, List.length_nil]
    rw [stringBody_cons]
    have e : escapedCharacter 117 = none := by decide
    simp (decide := true) only [if_false, if_true, e, hu]

theorem Spec.StrChar.length_pos {l v : Bytes} (h : StrChar l v) : 0 < l.length := by
  cases h <;> exact Nat.succ_pos _

/-- how the scan of a string body starts: at the closing quote, with an error, or with one StringCharacter -/
theorem stringBody_cases (bs : Bytes) :
    (∃ r, bs = 34 :: r) ∨ (∃ o k, stringBody bs = .error (o, k) ∧ k ≠ .fuel) ∨
    (∃ l v tail, bs = l ++ tail ∧ StrChar l v) := by
  match bs with
  | [] => exact .inr (.inl ⟨0, .unterminated, rfl, nofun⟩)
  | c :: r =>
    by_cases h34 : c = 34
    · exact .inl ⟨r, by rw [h34]⟩
    refine .inr ?_
    rw [stringBody_cons, if_neg h34]
    by_cases hlt : c = 10 ∨ c = 13
    · rw [if_pos hlt]; exact .inl ⟨0, .unterminated, rfl, nofun⟩
    by_cases hctl : c.toNat < 32 ∧ c ≠ 9
    · rw [if_neg hlt, if_pos hctl]; exact .inl ⟨0, .invalidCharInString, rfl, nofun⟩
    rw [if_neg hlt, if_neg hctl]
    by_cases hbs : c = 92
    · subst hbs
      rw [if_pos rfl]
      match r with
      | [] => exact .inl ⟨1, .badEscape, rfl, nofun⟩
      | e :: r1 =>
        simp only
        cases hesc : escapedCharacter e with
        | some b => exact .inr ⟨[92, e], [b], r1, rfl, .esc e b hesc⟩
        | none =>
          simp only
          by_cases hu : e = 117
          · subst hu
            rw [if_pos rfl]
            match r1 with
            | h1 :: h2 :: h3 :: h4 :: r2 =>
              simp only
              cases huc : escapedUnicode h1 h2 h3 h4 with
              | some u => exact .inr ⟨[92, 117, h1, h2, h3, h4], u, r2, rfl, .uni h1 h2 h3 h4 u huc⟩
              | none => exact .inl ⟨1, .badUnicodeEscape, rfl, nofun⟩
            | [] | [_] | [_, _] | [_, _, _] => exact .inl ⟨1, .badUnicodeEscape, rfl, nofun⟩
          · rw [if_neg hu]; exact .inl ⟨1, .badEscape, rfl, nofun⟩
    · refine .inr ⟨[c], [c], r, rfl, .plain c h34 hbs (fun h => hlt (.inl h)) (fun h => hlt (.inr h)) ?_⟩
      by_cases h9 : c = 9
      · exact .inr h9
      · exact .inl (Nat.le_of_not_lt fun h => hctl ⟨h, h9⟩)

theorem stringBody_bound (bs : Bytes) : ScanOk (stringBody bs) 1 bs.length := by
  induction hn : bs.length using Nat.strongRecOn generalizing bs with
  | _ n ih =>
    subst hn
    rcases stringBody_cases bs with ⟨r, rfl⟩ | ⟨o, k, he, hk⟩ | ⟨l, w, tail, rfl, hc⟩
    · rw [stringBody_quote]; exact ⟨Nat.le_refl 1, Nat.le_add_left 1 _⟩
    · rw [he]; exact hk
    · have hpos := hc.length_pos
      rw [List.length_append] at ih ⊢
      rw [stringBody_strChar hc]
      exact ScanOk_adv _ _ 1 _ (ih _ (by omega) tail rfl) (by omega) (by omega)

theorem stringBody_complete {body v : Bytes} (h : StrChars body v) (rest : Bytes) :
    stringBody (body ++ 34 :: rest) = .ok (body.length + 1, v) := by
  induction h with
  | nil => exact stringBody_quote rest
  | cons hc _ ih =>
    rw [List.append_assoc, stringBody_strChar hc, ih]
    simp only [adv_ok, List.length_append]
    congr 2; omega

theorem stringBody_sound : ∀ (n : Nat) (bs : Bytes), bs.length ≤ n → ∀ len v, stringBody bs = .ok (len, v) →
    ∃ body rest, bs = body ++ 34 :: rest ∧ len = body.length + 1 ∧ StrChars body v := by
  intro n
  induction n with
  | zero => intro bs h len v hs; match bs with
    | [] => cases hs
  | succ n ih =>
    intro bs hl len v hs
    rcases stringBody_cases bs with ⟨r, rfl⟩ | ⟨o, k, he, -⟩ | ⟨l, w, tail, rfl, hc⟩
    · rw [stringBody_quote] at hs
      cases hs
      exact ⟨[], r, rfl, rfl, .nil⟩
    · rw [he] at hs; cases hs
    · rw [stringBody_strChar hc] at hs
      obtain ⟨len', v', hx, rfl, rfl⟩ := adv_eq_ok hs
      have hpos := hc.length_pos
      rw [List.length_append] at hl
      obtain ⟨body, rest, rfl, rfl, hd⟩ := ih tail (by omega) len' v' hx
      exact ⟨l ++ body, rest, (List.append_assoc ..).symm, by rw [List.length_append]; omega, .cons hc hd⟩

end GqlModel.Lexer
