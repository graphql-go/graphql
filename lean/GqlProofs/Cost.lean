import GqlModel.Cost
import GqlProofs.ListSum
/-! # Lemmas about the planning cost model (C19 / C09)

* `potential_visit`: visiting a fragment that is in the table lowers the weighted count of unvisited fragment
  definitions by at least the weight of the definition found.
* `StepInv` / `collectSel_inv`…: a mutual induction over the syntax of a selection set, parametrised by a
  relation `P input output budget` between states whose budget adds up along the syntax; used here for
  - `Bounded`  (collect counter + potential never grows by more than the inline-fragment count),
  - `FuelRel`  (fuel: the number of unvisited fragment definitions bounds the nesting of fragment entries),
  - `EntRel`   (each fragment body is entered at most once per visited set).
  The depth bound (CostDepth) and the counting argument (CostWeight) have budgets of another shape and run their own
  inductions, over the same case lemmas (`collectSel_field/inline/spread`).
* exec-level invariants of the memo log. -/
namespace GqlModel.Cost

theorem potential_cons_frag (w) (g) (gs : List (String × String × SelectionSet)) (v : List String) :
    potential w (g :: gs) v = (if g.1 ∈ v then 0 else w g) + potential w gs v := by
  unfold potential
  by_cases h : g.1 ∈ v
  · simp [h]
  · simp [h]

theorem potential_anti (w) (frags : List (String × String × SelectionSet)) {v v' : List String}
    (h : ∀ x ∈ v, x ∈ v') : potential w frags v' ≤ potential w frags v := by
  induction frags with
  | nil => exact Nat.le_refl _
  | cons g gs ih =>
    rw [potential_cons_frag, potential_cons_frag]
    by_cases h1 : g.1 ∈ v
    · rw [if_pos h1, if_pos (h _ h1)]; exact Nat.add_le_add_left ih _
    · rw [if_neg h1]; split <;> omega

theorem potential_le_total (w) (frags : List (String × String × SelectionSet)) (v : List String) :
    potential w frags v ≤ potential w frags [] :=
  potential_anti w frags fun _ h => nomatch h

theorem potential_visit (w) (frags : List (String × String × SelectionSet)) (v : List String) (n : String)
    (f : String × String × SelectionSet)
    (hf : frags.find? (fun f => f.1 == n) = some f) (hn : n ∉ v) :
    potential w frags (n :: v) + w f ≤ potential w frags v := by
  induction frags with
  | nil => cases hf
  | cons g gs ih =>
    rw [potential_cons_frag, potential_cons_frag]
    rw [List.find?_cons] at hf
    by_cases hg : (g.1 == n) = true
    · rw [hg] at hf
      have hfg : g = f := Option.some.inj hf
      subst hfg
      have hgn : g.1 = n := eq_of_beq hg
      have := potential_anti w gs (v := v) (v' := n :: v) fun x hx => List.mem_cons_of_mem _ hx
      rw [if_pos (hgn ▸ List.mem_cons_self), if_neg (hgn ▸ hn)]; omega
    · rw [Bool.not_eq_true] at hg
      rw [hg] at hf
      have := ih hf
      by_cases h1 : g.1 ∈ v
      · rw [if_pos h1, if_pos (List.mem_cons_of_mem _ h1)]; omega
      · rw [if_neg h1, if_neg fun h => (List.mem_cons.1 h).elim (ne_of_beq_false hg) h1]; omega

theorem potential_nil_eq (w) (frags : List (String × String × SelectionSet)) :
    potential w frags [] = (frags.map w).sum := by
  unfold potential
  congr 2
  exact List.filter_eq_self.2 fun _ _ => rfl

/-! ## an induction over the syntax for state relations with an additive budget -/

/-! What one selection does to the state, case by case; every induction over the syntax below goes through these. -/

section
variable (c : Ctx) (rec : Chain → SelectionSet → St → St) (chain : Chain) (dirs : List Directive) (loc : Loc) (st : St)

theorem collectSel_field (alias : Option Name) (name : Name) (args : List Argument) (sub : Option SelectionSet) :
    collectSel c rec chain (.field alias name args dirs sub loc) st = st ∨
    collectSel c rec chain (.field alias name args dirs sub loc) st =
      { st with fields := addField c (responseKey alias name) name.value (sub.map (·, chain)) st.fields } := by
  by_cases hs : c.skip dirs = true
  · exact Or.inl (if_pos hs)
  · exact Or.inr (if_neg hs)

theorem collectSel_inline (tc : Option TypeRef) (ss : SelectionSet) :
    collectSel c rec chain (.inline tc dirs ss loc) st = st ∨
    collectSel c rec chain (.inline tc dirs ss loc) st = collectSet c rec chain ss st := by
  by_cases hs : c.skip dirs = true
  · exact Or.inl (if_pos hs)
  by_cases ha : (!c.applies (tc.map TypeRef.namedName)) = true
  · exact Or.inl ((if_neg hs).trans (if_pos ha))
  · exact Or.inr ((if_neg hs).trans (if_neg ha))

/-- a spread does nothing, or it marks a fragment of the table as visited and, if the type condition applies, enters
the body -/
theorem collectSel_spread (name : Name) :
    collectSel c rec chain (.spread name dirs loc) st = st ∨
    ∃ f, name.value ∉ st.visited ∧ name.value ∉ chain ∧ c.lookup name.value = some f ∧
      ((c.applies (some f.2.1) = false ∧
          collectSel c rec chain (.spread name dirs loc) st = { st with visited := name.value :: st.visited }) ∨
       (c.applies (some f.2.1) = true ∧
          collectSel c rec chain (.spread name dirs loc) st =
            rec (name.value :: chain) f.2.2
              { st with visited := name.value :: st.visited, entered := name.value :: st.entered })) := by
  by_cases hs : c.skip dirs = true
  · exact Or.inl (if_pos hs)
  by_cases hv : (st.visited.contains name.value || chain.contains name.value) = true
  · exact Or.inl ((if_neg hs).trans (if_pos hv))
  rw [show collectSel c rec chain (.spread name dirs loc) st = _ from (if_neg hs).trans (if_neg hv)]
  cases hl : c.lookup name.value with
  | none => exact Or.inl rfl
  | some f =>
    simp only [Bool.or_eq_true, List.contains_eq_mem, decide_eq_true_eq, not_or] at hv
    refine Or.inr ⟨f, hv.1, hv.2, rfl, ?_⟩
    cases ha : c.applies (some f.2.1) with
    | false => exact Or.inl ⟨rfl, by simp only [ha]; rfl⟩
    | true => exact Or.inr ⟨rfl, by simp only [ha]; rfl⟩

theorem addField_nil (key name : String) (sub : Option (SelectionSet × Chain)) :
    addField c key name sub [] =
      [{ key := key, name := name, fdef := c.fieldDef name, subs := sub.toList, nAsts := 1 }] :=
  rfl

theorem addField_cons (key name : String) (sub : Option (SelectionSet × Chain)) (fp : FieldPlan) (rest : List FieldPlan) :
    addField c key name sub (fp :: rest) =
      if fp.key == key then { fp with subs := fp.subs ++ sub.toList, nAsts := fp.nAsts + 1 } :: rest
      else fp :: addField c key name sub rest :=
  rfl

theorem collectSet_mk (sels : List Selection) :
    collectSet c rec chain (.mk sels loc) st = collectSels c rec chain sels { st with collect := st.collect + 1 } :=
  rfl

theorem collectSels_cons (s : Selection) (rest : List Selection) :
    collectSels c rec chain (s :: rest) st = collectSels c rec chain rest (collectSel c rec chain s st) :=
  rfl

end

/-- a relation `P before after budget` that every step of one collection respects, with budgets that add up. The case
`spread` asks for every `chain` and leaves out the fact `n ∉ chain` that `collectSel_spread` provides: the additive
counts do not depend on the chain (the depth bound does: CostDepth). -/
structure StepInv (c : Ctx) (rec : Chain → SelectionSet → St → St) (P : St → St → Nat → Prop) : Prop where
  refl : ∀ st, P st st 0
  trans : ∀ {a b d m n}, P a b m → P b d n → P a d (m + n)
  mono : ∀ {a b m n}, P a b m → m ≤ n → P a b n
  field : ∀ (st : St) fs, P st { st with fields := fs } 0
  enter : ∀ (st : St), P st { st with collect := st.collect + 1 } 1
  spread : ∀ (st : St) n f (chain : Chain), n ∉ st.visited → c.lookup n = some f →
    (c.applies (some f.2.1) = false → P st { st with visited := n :: st.visited } 0) ∧
    (c.applies (some f.2.1) = true →
      P st (rec (n :: chain) f.2.2 { st with visited := n :: st.visited, entered := n :: st.entered }) 0)

mutual
theorem collectSel_inv {c : Ctx} {rec} {P} (h : StepInv c rec P) (chain : Chain) :
    ∀ (sel : Selection) (st : St), P st (collectSel c rec chain sel st) (inlSel sel)
  | .field alias name args dirs sub loc, st => by
    rcases collectSel_field c rec chain dirs loc st alias name args sub with e | e
    · rw [e]; exact h.refl st
    · rw [e]; exact h.field st _
  | .inline tc dirs ss loc, st => by
    rcases collectSel_inline c rec chain dirs loc st tc ss with e | e
    · rw [e]; exact h.mono (h.refl st) (Nat.zero_le _)
    · rw [e]; exact collectSet_inv h chain ss st
  | .spread name dirs loc, st => by
    rcases collectSel_spread c rec chain dirs loc st name with e | ⟨f, hv, _, hl, ⟨ha, e⟩ | ⟨ha, e⟩⟩
    · rw [e]; exact h.refl st
    · rw [e]; exact (h.spread st name.value f chain hv hl).1 ha
    · rw [e]; exact (h.spread st name.value f chain hv hl).2 ha
theorem collectSet_inv {c : Ctx} {rec} {P} (h : StepInv c rec P) (chain : Chain) :
    ∀ (ss : SelectionSet) (st : St), P st (collectSet c rec chain ss st) (1 + inlSet ss)
  | .mk sels loc, st => by
    rw [collectSet_mk]
    exact h.trans (h.enter st) (collectSels_inv h chain sels _)
theorem collectSels_inv {c : Ctx} {rec} {P} (h : StepInv c rec P) (chain : Chain) :
    ∀ (sels : List Selection) (st : St), P st (collectSels c rec chain sels st) (inlSels sels)
  | [], st => h.refl st
  | s :: rest, st => by
    rw [collectSels_cons]
    exact h.trans (collectSel_inv h chain s st) (collectSels_inv h chain rest _)
end

/-! ## the collect counter is bounded by the inline-fragment count plus the potential consumed -/

def Bounded (c : Ctx) (a b : St) (budget : Nat) : Prop :=
  b.collect + potential fragWeight c.frags b.visited ≤ a.collect + potential fragWeight c.frags a.visited + budget

theorem Bounded.trans {c : Ctx} {a b d : St} {x y : Nat} (h1 : Bounded c a b x) (h2 : Bounded c b d y) :
    Bounded c a d (x + y) :=
  Nat.le_trans h2 (Nat.add_assoc _ _ _ ▸ Nat.add_le_add_right h1 _)

theorem bounded_stepInv (c : Ctx) (rec : Chain → SelectionSet → St → St)
    (hrec : ∀ chain body st, Bounded c st (rec chain body st) (1 + inlSet body)) : StepInv c rec (Bounded c) where
  refl := fun _ => Nat.le_refl _
  trans := Bounded.trans
  mono := fun h1 h2 => Nat.le_trans h1 (Nat.add_le_add_left h2 _)
  field := fun _ _ => Nat.le_refl _
  enter := fun _ => Nat.le_of_eq (Nat.add_right_comm _ _ _)
  spread := fun st n f chain hv hl => by
    have hp := potential_visit fragWeight c.frags st.visited n f hl hv
    refine ⟨fun _ => Nat.add_le_add_left (Nat.le_trans (Nat.le_add_right _ _) hp) st.collect, fun _ =>
      Nat.le_trans (hrec (n :: chain) f.2.2 { st with visited := n :: st.visited, entered := n :: st.entered }) ?_⟩
    show st.collect + potential fragWeight c.frags (n :: st.visited) + fragWeight f ≤ _
    rw [Nat.add_assoc]
    exact Nat.add_le_add_left hp _

theorem collectFuel_bounded (c : Ctx) : ∀ (n : Nat) (chain : Chain) (body : SelectionSet) (st : St),
    Bounded c st (collectFuel c n chain body st) (1 + inlSet body)
  | 0, _, _, _ => Nat.le_add_right _ _
  | n + 1, chain, body, st => collectSet_inv (bounded_stepInv c _ (collectFuel_bounded c n)) chain body st

theorem planMerged_bounded (c : Ctx) : ∀ (subs : List (SelectionSet × Chain)) (st : St),
    Bounded c st (planMerged c subs st) ((subs.map (fun ss => 1 + inlSet ss.1)).sum)
  | [], _ => Nat.le_refl _
  | (ss, chain) :: rest, st =>
    Bounded.trans (collectFuel_bounded c (fuelFor c) chain ss st) (planMerged_bounded c rest (collectTop c chain ss st))

theorem collectTop_collect_le (c : Ctx) (chain : Chain) (ss : SelectionSet) :
    (collectTop c chain ss {}).collect ≤ 1 + inlSet ss + fragsSize c.frags := by
  have h : (collectTop c chain ss {}).collect + _ ≤ 0 + fragsSize c.frags + _ :=
    collectFuel_bounded c (fuelFor c) chain ss {}
  omega

theorem rootPlan_collect_le (e : Env) (root : String) (ss : SelectionSet) :
    (rootPlan e root ss).collect ≤ 1 + inlSet ss + fragsSize e.frags :=
  collectTop_collect_le (e.ctx root) [] ss

theorem planMerged_collect_le (c : Ctx) (subs : List (SelectionSet × Chain)) :
    (planMerged c subs {}).collect ≤ levelSize c subs := by
  have h : (planMerged c subs {}).collect + _ ≤ 0 + fragsSize c.frags + _ := planMerged_bounded c subs {}
  unfold levelSize
  omega

/-! ## the fuel suffices: the unvisited fragment definitions bound the nesting of fragment entries -/

def mu (c : Ctx) (st : St) : Nat := potential (fun _ => 1) c.frags st.visited

def FuelRel (c : Ctx) (k : Nat) (a b : St) (_ : Nat) : Prop :=
  mu c b ≤ mu c a ∧ (mu c a ≤ k → b.oof = a.oof)

theorem fuel_stepInv (c : Ctx) (rec : Chain → SelectionSet → St → St) (k : Nat)
    (hrec : ∀ chain body st, mu c (rec chain body st) ≤ mu c st ∧ (mu c st + 1 ≤ k → (rec chain body st).oof = st.oof)) :
    StepInv c rec (FuelRel c k) where
  refl := fun _ => ⟨Nat.le_refl _, fun _ => rfl⟩
  trans := fun h1 h2 => ⟨Nat.le_trans h2.1 h1.1, fun hk => (h2.2 (Nat.le_trans h1.1 hk)).trans (h1.2 hk)⟩
  mono := fun h1 _ => h1
  field := fun _ _ => ⟨Nat.le_refl _, fun _ => rfl⟩
  enter := fun _ => ⟨Nat.le_refl _, fun _ => rfl⟩
  spread := fun st n f chain hv hl => by
    have hp : mu c { st with visited := n :: st.visited } + 1 ≤ mu c st :=
      potential_visit (fun _ => 1) c.frags st.visited n f hl hv
    refine ⟨fun _ => ⟨Nat.le_of_succ_le hp, fun _ => rfl⟩, fun _ => ?_⟩
    have h := hrec (n :: chain) f.2.2 { st with visited := n :: st.visited, entered := n :: st.entered }
    exact ⟨Nat.le_trans h.1 (Nat.le_of_succ_le hp), fun hk => h.2 (Nat.le_trans hp hk)⟩

theorem collectFuel_fuel (c : Ctx) : ∀ (n : Nat) (chain : Chain) (body : SelectionSet) (st : St),
    mu c (collectFuel c n chain body st) ≤ mu c st ∧ (mu c st + 1 ≤ n → (collectFuel c n chain body st).oof = st.oof)
  | 0, _, _, _ => ⟨Nat.le_refl _, fun hk => nomatch hk⟩
  | n + 1, chain, body, st =>
    have h : FuelRel c n st (collectSet c (collectFuel c n) chain body st) _ :=
      collectSet_inv (fuel_stepInv c _ n (collectFuel_fuel c n)) chain body st
    ⟨h.1, fun hk => h.2 (Nat.le_of_succ_le_succ hk)⟩

/-- with `fuelFor c` = number of fragment definitions + 1 the model never runs out of fuel, whatever the
fragment table looks like (cyclic, duplicated names, unknown names) and whatever was visited before -/
theorem collectFuel_oof (c : Ctx) (chain : Chain) (ss : SelectionSet) (st : St) :
    (collectTop c chain ss st).oof = st.oof := by
  have h := (collectFuel_fuel c (fuelFor c) chain ss st).2
  apply h
  have := potential_le_total (fun _ => 1) c.frags st.visited
  rw [potential_nil_eq, sum_map_const, Nat.mul_one] at this
  simp only [mu, fuelFor]
  omega

theorem planMerged_oof (c : Ctx) : ∀ (subs : List (SelectionSet × Chain)) (st : St), (planMerged c subs st).oof = st.oof
  | [], _ => rfl
  | (ss, chain) :: rest, st => (planMerged_oof c rest _).trans (collectFuel_oof c chain ss st)

/-! ## each fragment body is entered at most once per visited set -/

def EntOK (st : St) : Prop := st.entered.Nodup ∧ ∀ x ∈ st.entered, x ∈ st.visited

def EntRel (a b : St) (_ : Nat) : Prop := EntOK a → EntOK b

theorem ent_stepInv (c : Ctx) (rec : Chain → SelectionSet → St → St)
    (hrec : ∀ chain body st, EntOK st → EntOK (rec chain body st)) : StepInv c rec EntRel where
  refl := fun st h => h
  trans := fun h1 h2 h => h2 (h1 h)
  mono := fun h1 _ => h1
  field := fun st fs h => h
  enter := fun st h => h
  spread := fun st n f chain hv hl => by
    have hnv : n ∉ st.visited := hv
    constructor
    · intro _ h
      exact ⟨h.1, fun x hx => List.mem_cons_of_mem _ (h.2 x hx)⟩
    · intro _ h
      apply hrec
      refine ⟨?_, ?_⟩
      · apply List.nodup_cons.2
        exact ⟨fun hm => hnv (h.2 n hm), h.1⟩
      · intro x hx
        rcases List.mem_cons.1 hx with rfl | hx
        · exact List.mem_cons_self ..
        · exact List.mem_cons_of_mem _ (h.2 x hx)

theorem collectFuel_ent (c : Ctx) : ∀ (n : Nat) (chain : Chain) (body : SelectionSet) (st : St),
    EntOK st → EntOK (collectFuel c n chain body st)
  | 0, _, _, _ => fun h => h
  | n + 1, chain, body, st => collectSet_inv (ent_stepInv c _ (collectFuel_ent c n)) chain body st

theorem planMerged_ent (c : Ctx) : ∀ (subs : List (SelectionSet × Chain)) (st : St), EntOK st → EntOK (planMerged c subs st)
  | [], _ => fun h => h
  | (ss, chain) :: rest, st => fun h => planMerged_ent c rest _ (collectFuel_ent c _ chain ss st h)

/-! ## execution-time planning: invariants of the memo log -/

def EntryOK (frags : List (String × String × SelectionSet)) (en : Entry) : Prop :=
  en.cost ≤ (en.subs.map (fun ss => 1 + inlSet ss.1)).sum + fragsSize frags ∧ en.oof = false

def LogOK (frags : List (String × String × SelectionSet)) (st : ESt) : Prop :=
  (st.log.map (·.id)).Nodup ∧ (∀ en ∈ st.log, EntryOK frags en) ∧ st.oof = false

theorem has_false_iff (st : ESt) (id : Path) : st.has id = false ↔ id ∉ st.log.map (·.id) := by
  simp [ESt.has]

/-- the field plan through which completing a value of runtime type `rt` under response key `k` reaches
`abstractAlternative`, if there is one -/
def plannedAt (e : Env) (fields : List FieldPlan) (k rt : String) : Option FieldPlan :=
  match fields.find? (fun fp => fp.key == k) with
  | none => none
  | some fp =>
    match fp.fdef with
    | none => none
    | some fd => if !admissible e.schema fd.type rt then none else some fp

theorem plannedAt_mem {e : Env} {fields : List FieldPlan} {k rt : String} {fp : FieldPlan}
    (h : plannedAt e fields k rt = some fp) : fp ∈ fields := by
  unfold plannedAt at h
  split at h
  · cases h
  · rename_i fp' hf
    split at h
    · cases h
    · split at h
      · cases h
      · cases h
        exact List.mem_of_find?_eq_some hf

section
variable (e : Env) (fields : List FieldPlan) (path : Path) (k rt : String) (child : World) (rest : Comps)

theorem execCs_cons (st : ESt) :
    execCs e fields path (.cons k rt child rest) st =
      execCs e fields path rest
        (match plannedAt e fields k rt with
         | none => st
         | some fp =>
           execW e (planMerged (e.ctx rt) fp.subs {}).fields (path ++ [(k, rt)]) child
             (if st.has (path ++ [(k, rt)]) then st
              else { log := ⟨path ++ [(k, rt)], fp.subs, (planMerged (e.ctx rt) fp.subs {}).collect,
                              (planMerged (e.ctx rt) fp.subs {}).oof⟩ :: st.log,
                     oof := st.oof || (planMerged (e.ctx rt) fp.subs {}).oof })) := by
  rw [execCs, plannedAt]
  cases fields.find? (fun fp => fp.key == k) with
  | none => rfl
  | some fp =>
    dsimp only
    cases fp.fdef with
    | none => rfl
    | some fd =>
      dsimp only
      cases admissible e.schema fd.type rt <;> rfl

theorem completedCs_cons :
    completedCs e fields path (.cons k rt child rest) =
      (match plannedAt e fields k rt with
       | none => []
       | some fp =>
         (path ++ [(k, rt)]) :: completedW e (planMerged (e.ctx rt) fp.subs {}).fields (path ++ [(k, rt)]) child)
      ++ completedCs e fields path rest := by
  rw [completedCs, plannedAt]
  cases fields.find? (fun fp => fp.key == k) with
  | none => rfl
  | some fp =>
    dsimp only
    cases fp.fdef with
    | none => rfl
    | some fd =>
      dsimp only
      cases admissible e.schema fd.type rt <;> rfl

end

mutual
theorem execW_ok (e : Env) : ∀ (w : World) (fields : List FieldPlan) (path : Path) (st : ESt),
    LogOK e.frags st → LogOK e.frags (execW e fields path w st)
  | .node cs, fields, path, st => by
    exact execCs_ok e cs fields path st
theorem execCs_ok (e : Env) : ∀ (cs : Comps) (fields : List FieldPlan) (path : Path) (st : ESt),
    LogOK e.frags st → LogOK e.frags (execCs e fields path cs st)
  | .nil, fields, path, st => id
  | .cons k rt child rest, fields, path, st => by
    intro h
    rw [execCs_cons]
    apply execCs_ok e rest
    cases plannedAt e fields k rt with
    | none => exact h
    | some fp =>
      apply execW_ok e child
      by_cases hhas : st.has (path ++ [(k, rt)]) = true
      · rw [if_pos hhas]; exact h
      · rw [if_neg hhas]
        have hnot := (has_false_iff st _).1 (Bool.not_eq_true _ ▸ hhas)
        have hoof : (planMerged (e.ctx rt) fp.subs {}).oof = false := planMerged_oof _ _ _
        refine ⟨List.nodup_cons.2 ⟨hnot, h.1⟩, fun en hen => ?_, ?_⟩
        · rcases List.mem_cons.1 hen with rfl | hen
          · exact ⟨planMerged_collect_le (e.ctx rt) fp.subs, hoof⟩
          · exact h.2.1 en hen
        · show (st.oof || _) = false
          rw [h.2.2, hoof]; rfl
end

mutual
theorem execW_mem (e : Env) : ∀ (w : World) (fields : List FieldPlan) (path : Path) (st : ESt) (en : Entry),
    en ∈ (execW e fields path w st).log → en ∈ st.log ∨ en.id ∈ completedW e fields path w
  | .node cs, fields, path, st, en => execCs_mem e cs fields path st en
theorem execCs_mem (e : Env) : ∀ (cs : Comps) (fields : List FieldPlan) (path : Path) (st : ESt) (en : Entry),
    en ∈ (execCs e fields path cs st).log → en ∈ st.log ∨ en.id ∈ completedCs e fields path cs
  | .nil, fields, path, st, en => Or.inl
  | .cons k rt child rest, fields, path, st, en => by
    intro h
    rw [execCs_cons] at h
    rw [completedCs_cons, List.mem_append]
    rcases execCs_mem e rest fields path _ en h with h1 | h1
    · -- entry produced by the head completion (or older)
      cases hp : plannedAt e fields k rt with
      | none => rw [hp] at h1; exact Or.inl h1
      | some fp =>
        rw [hp] at h1
        rcases execW_mem e child _ _ _ en h1 with h2 | h2
        · by_cases hhas : st.has (path ++ [(k, rt)]) = true
          · rw [if_pos hhas] at h2; exact Or.inl h2
          · rw [if_neg hhas] at h2
            rcases List.mem_cons.1 h2 with rfl | h2
            · exact Or.inr (Or.inl List.mem_cons_self)
            · exact Or.inl h2
        · exact Or.inr (Or.inl (List.mem_cons_of_mem _ h2))
    · exact Or.inr (Or.inr h1)
end

theorem execW_log_completed (e : Env) (fields : List FieldPlan) (path : Path) (w : World) :
    ∀ en ∈ (execW e fields path w {}).log, en.id ∈ completedW e fields path w :=
  fun en hen => (execW_mem e w fields path {} en hen).resolve_left fun h => nomatch h

mutual
theorem completedW_length (e : Env) : ∀ (w : World) (fields : List FieldPlan) (path : Path),
    (completedW e fields path w).length ≤ w.size
  | .node cs, fields, path => completedCs_length e cs fields path
theorem completedCs_length (e : Env) : ∀ (cs : Comps) (fields : List FieldPlan) (path : Path),
    (completedCs e fields path cs).length ≤ cs.size
  | .nil, fields, path => Nat.zero_le _
  | .cons k rt child rest, fields, path => by
    rw [completedCs_cons, List.length_append]
    show _ ≤ 1 + child.size + rest.size
    refine Nat.add_le_add ?_ (completedCs_length e rest fields path)
    cases plannedAt e fields k rt with
    | none => exact Nat.zero_le _
    | some fp =>
      rw [List.length_cons, Nat.add_comm]
      exact Nat.add_le_add_left (completedW_length e child _ _) 1
end

theorem execW_fresh (e : Env) (fields : List FieldPlan) (world : World) :
    LogOK e.frags (execW e fields [] world {}) ∧ (execW e fields [] world {}).log.length ≤ world.size := by
  have hok := execW_ok e world fields [] {} ⟨List.nodup_nil, nofun, rfl⟩
  have h1 := List.Nodup.length_le_of_subset hok.1 fun id hid => by
    obtain ⟨en, hen, rfl⟩ := List.mem_map.1 hid
    exact execW_log_completed e fields [] world en hen
  rw [List.length_map] at h1
  exact ⟨hok, Nat.le_trans h1 (completedW_length e world fields [])⟩

/-! ## adding object types (implementers, union-free) does not change what a parent type sees -/

def extend (s : Schema) (extra : List TypeDef) : Schema := { s with types := s.types ++ extra }

def isObjectDef : TypeDef → Bool
  | .object .. => true
  | _ => false

theorem find_extend (s : Schema) (extra : List TypeDef) (n : String) :
    (extend s extra).find? n = (s.find? n).or (extra.find? (fun t => t.name == n)) := by
  simp [extend, Schema.find?, List.find?_append]

theorem isAbstract_extend (s : Schema) (extra : List TypeDef) (hobj : ∀ t ∈ extra, isObjectDef t = true) (c : String) :
    (extend s extra).isAbstract c = s.isAbstract c := by
  simp only [Schema.isAbstract, Schema.isInterface, Schema.isUnion, find_extend]
  cases s.find? c with
  | some t => rfl
  | none =>
    cases h2 : extra.find? (fun t => t.name == c) with
    | none => rfl
    | some t =>
      have ht := hobj t (List.mem_of_find?_eq_some h2)
      cases t with
      | object => rfl
      | _ => cases ht

theorem not_mem_filterMap_extra (F : TypeDef → Option String) (hF : ∀ t n, F t = some n → t.name = n)
    (extra : List TypeDef) (r : String) (hr : ∀ t ∈ extra, t.name ≠ r) : r ∉ extra.filterMap F := by
  intro hm
  obtain ⟨t, ht, heq⟩ := List.mem_filterMap.1 hm
  exact hr t ht (hF t r heq)

theorem isPossibleType_extend (s : Schema) (extra : List TypeDef) (hobj : ∀ t ∈ extra, isObjectDef t = true)
    (r : String) (hr : ∀ t ∈ extra, t.name ≠ r) (c : String) :
    (extend s extra).isPossibleType c r = s.isPossibleType c r := by
  simp only [Schema.isPossibleType, Schema.possibleTypes, find_extend]
  cases s.find? c with
  | none =>
    cases h2 : extra.find? (fun t => t.name == c) with
    | none => rfl
    | some t =>
      have ht := hobj t (List.mem_of_find?_eq_some h2)
      cases t with
      | object => rfl
      | _ => cases ht
  | some t =>
    cases t with
    | interface n fs b d =>
      simp only [Option.some_or, extend, List.filterMap_append, List.contains_append]
      suffices h : ∀ F : TypeDef → Option String, (∀ t n, F t = some n → t.name = n) →
          ((s.types.filterMap F).contains r || (extra.filterMap F).contains r) = (s.types.filterMap F).contains r from
        h _ (by
          intro t n h
          cases t <;> simp only [reduceCtorEq] at h
          split at h
          · simpa [TypeDef.name] using h
          · simp at h)
      intro F hF
      have h2 : (extra.filterMap F).contains r = false := by
        simpa using not_mem_filterMap_extra F hF extra r hr
      rw [h2, Bool.or_false]
    | _ => rfl

theorem applies_extend (s : Schema) (extra : List TypeDef) (hobj : ∀ t ∈ extra, isObjectDef t = true)
    (r : String) (hr : ∀ t ∈ extra, t.name ≠ r) (cond : Option String) :
    (extend s extra).typeConditionApplies cond r = s.typeConditionApplies cond r := by
  cases cond with
  | none => rfl
  | some c =>
    simp only [Schema.typeConditionApplies, isAbstract_extend s extra hobj, isPossibleType_extend s extra hobj r hr]

theorem objectFields_extend (s : Schema) (extra : List TypeDef) (r : String) (hr : ∀ t ∈ extra, t.name ≠ r) :
    (extend s extra).objectFields r = s.objectFields r := by
  simp only [Schema.objectFields, find_extend]
  cases h : s.find? r with
  | some t => simp
  | none =>
    simp only [Option.none_or]
    cases h2 : extra.find? (fun t => t.name == r) with
    | none => rfl
    | some t =>
      have hm := List.mem_of_find?_eq_some h2
      have hn := List.find?_some h2
      exact absurd (by simpa using hn) (hr t hm)

theorem ctx_extend (s : Schema) (extra : List TypeDef) (hobj : ∀ t ∈ extra, isObjectDef t = true)
    (r : String) (hr : ∀ t ∈ extra, t.name ≠ r) (frags) (pv) :
    (Env.ctx ⟨extend s extra, frags, pv⟩ r) = (Env.ctx ⟨s, frags, pv⟩ r) := by
  simp only [Env.ctx]
  congr 1
  · funext cond; exact applies_extend s extra hobj r hr cond
  · funext fname
    simp only [getFieldDef, objectFields_extend s extra r hr]
    rfl

theorem selectOp_extend (s : Schema) (extra : List TypeDef) (doc : Document) (opName : String) :
    selectOp (extend s extra) doc opName = selectOp s doc opName := by
  simp only [selectOp]
  rfl

end GqlModel.Cost
