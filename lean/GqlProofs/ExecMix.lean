import GqlProofs.ExecPair
import GqlProofs.ExecConforms
/-! C04 two-world theorem, second invariant and the paired induction: where the null sits. If, along the way to `p`, one response holds
`null` at a position, the other holds no `null` at any strictly longer prefix of `p` (`MaxOK`); if one call fails and
the other succeeds, the successful value holds no `null` anywhere along the way to `p` (`NNA`). Hence the position `q`
of `sibling_unaffected_two_worlds` is the LONGEST prefix of `p` that holds `null` in either response (or `p`). -/
namespace GqlModel.Exec
open GqlModel.Coerce

section nulls

/-- No Null Along `rel` -/
def NNA (rel : Path) (j : JVal) : Prop := ∀ r, r <+: rel → j.getAt r ≠ some .null

/-- the longest prefix of `rel` holding `null` in either value (the MAXimal one) is the only one -/
def MaxOK (rel : Path) (j1 j2 : JVal) : Prop :=
  ∀ r' r'', r' <+: r'' → r'' <+: rel → r' ≠ r'' →
    (j1.getAt r' = some .null → j2.getAt r'' ≠ some .null) ∧ (j2.getAt r' = some .null → j1.getAt r'' ≠ some .null)

structure Mix (rel : Path) (r1 r2 : Res JVal) : Prop where
  okok : ∀ j1 j2, r1 = .ok j1 → r2 = .ok j2 → MaxOK rel j1 j2
  failok : ∀ j2, r1 = .fail → r2 = .ok j2 → NNA rel j2
  okfail : ∀ j1, r1 = .ok j1 → r2 = .fail → NNA rel j1

structure MixP (c : Ctx) (w2 : World) (id0 : Nat) (f0 : String) (fuel : Nat) : Prop where
  groups : ∀ dfr rt src path groups rel r1 d1 r2 d2, groups.keys.Nodup →
    execGroups c fuel dfr rt src path groups [] St.empty = (r1, d1) →
    execGroups (c.withWorld w2) fuel dfr rt src path groups [] St.empty = (r2, d2) →
    TouchAt id0 f0 (path ++ rel) d1.log → Mix rel (r1.mapOk .obj) (r2.mapOk .obj)
  field : ∀ dfr rt src pf fd nodes rel r1 d1 r2 d2,
    execField c fuel dfr rt src pf fd nodes St.empty = (r1, d1) →
    execField (c.withWorld w2) fuel dfr rt src pf fd nodes St.empty = (r2, d2) →
    TouchAt id0 f0 (pf ++ rel) d1.log → Mix rel r1 r2
  complete : ∀ dfr t rt fname nodes pos v rel r1 d1 r2 d2,
    complete c fuel dfr t rt fname nodes pos v St.empty = (r1, d1) →
    complete (c.withWorld w2) fuel dfr t rt fname nodes pos v St.empty = (r2, d2) →
    TouchAt id0 f0 (pos ++ rel) d1.log → Mix rel r1 r2
  items : ∀ dfr item rt fname nodes pl xs i rel r1 d1 r2 d2,
    completeItems c fuel dfr item rt fname nodes pl xs i [] St.empty = (r1, d1) →
    completeItems (c.withWorld w2) fuel dfr item rt fname nodes pl xs i [] St.empty = (r2, d2) →
    TouchAt id0 f0 (pl ++ rel) d1.log → ∀ pre : List JVal, pre.length = i →
      Mix rel (r1.mapOk (fun js => .list (pre ++ js))) (r2.mapOk (fun js => .list (pre ++ js)))

variable {rel rel' : Path} {r1 r2 : Res JVal}

theorem MaxOK.symm {j1 j2 : JVal} (h : MaxOK rel j1 j2) : MaxOK rel j2 j1 :=
  fun r' r'' h1 h2 hne => (h r' r'' h1 h2 hne).symm

theorem MaxOK.same (rel : Path) (j : JVal) : MaxOK rel j j := by
  intro r' r'' h1 _ hne
  constructor <;> intro h <;> rw [getAt_below_null h1 hne h] <;> simp

theorem MaxOK.null_left {b : JVal} (h : NNA rel b) : MaxOK rel .null b :=
  fun r' r'' h1 h2 _ => ⟨fun _ => h r'' h2, fun hb => absurd hb (h r' (h1.trans h2))⟩

theorem NNA.of_maxOK_null_left {b : JVal} (h : MaxOK rel .null b) (hb : b ≠ .null) : NNA rel b := by
  intro r hr
  cases r with
  | nil => exact getAt_nil_ne_null hb
  | cons s t => exact (h [] (s :: t) List.nil_prefix hr (by simp)).1 rfl

theorem Mix.symm (h : Mix rel r1 r2) : Mix rel r2 r1 :=
  ⟨fun j1 j2 e1 e2 => (h.okok j2 j1 e2 e1).symm, fun j e1 e2 => h.okfail j e2 e1, fun j e1 e2 => h.failok j e2 e1⟩

theorem Mix.fuelOut_left {r : Res JVal} : Mix rel .fuelOut r := ⟨nofun, nofun, nofun⟩
theorem Mix.fuelOut_right {r : Res JVal} : Mix rel r .fuelOut := Mix.fuelOut_left.symm
theorem Mix.ok_ok {j1 j2 : JVal} (h : MaxOK rel j1 j2) : Mix rel (.ok j1) (.ok j2) :=
  ⟨fun _ _ h1 h2 => (by cases h1; cases h2; exact h), nofun, nofun⟩
theorem Mix.fail_ok {j2 : JVal} (h : NNA rel j2) : Mix rel .fail (.ok j2) :=
  ⟨nofun, fun _ _ h2 => (by cases h2; exact h), nofun⟩
theorem Mix.ok_fail {j1 : JVal} (h : NNA rel j1) : Mix rel (.ok j1) .fail := (Mix.fail_ok h).symm

theorem Mix.same {r : Res JVal} : Mix rel r r := by
  cases r with
  | ok j => exact Mix.ok_ok (MaxOK.same _ _)
  | _ => exact ⟨nofun, nofun, nofun⟩

theorem Mix.absorb (h : Mix rel r1 r2) (t : GType) : Mix rel (Exec.absorb t r1) (Exec.absorb t r2) := by
  rcases absorb_fail_cases t with ⟨-, hfail⟩ | ⟨-, hfail⟩
  · have hid : ∀ r, Exec.absorb t r = r := by
      intro r
      cases r with
      | fail => exact hfail
      | _ => rfl
    rw [hid, hid]
    exact h
  · cases r1 with
    | fuelOut => exact Mix.fuelOut_left
    | ok a =>
      cases r2 with
      | fuelOut => exact Mix.fuelOut_right
      | ok b => exact h
      | fail => rw [hfail]; exact Mix.ok_ok (MaxOK.null_left (h.okfail a rfl rfl)).symm
    | fail =>
      rw [hfail]
      cases r2 with
      | fuelOut => exact Mix.fuelOut_right
      | ok b => exact Mix.ok_ok (MaxOK.null_left (h.failok b rfl rfl))
      | fail => rw [hfail]; exact Mix.same

theorem Mix.nonNull (h : Mix rel r1 r2) : Mix rel (Res.nonNull r1) (Res.nonNull r2) := by
  -- a `null` that becomes a failure beside a result that stays
  have key : ∀ {r : Res JVal}, Mix rel (.ok .null) r → r ≠ .ok .null → Mix rel .fail r := by
    intro r hm hr
    cases r with
    | fuelOut => exact Mix.fuelOut_right
    | fail => exact Mix.same
    | ok b => exact Mix.fail_ok (NNA.of_maxOK_null_left (hm.okok _ _ rfl rfl) fun e => hr (by rw [e]))
  by_cases h1 : r1 = .ok .null
  · subst h1
    by_cases h2 : r2 = .ok .null
    · subst h2; exact Mix.same
    · rw [Res.nonNull_of_ne h2]; exact key h h2
  · rw [Res.nonNull_of_ne h1]
    by_cases h2 : r2 = .ok .null
    · subst h2; exact (key h.symm h1).symm
    · rw [Res.nonNull_of_ne h2]; exact h

theorem prefix_cons_cases {s : PathSeg} {r : Path} (h : r <+: s :: rel') :
    r = [] ∨ ∃ r1, r = s :: r1 ∧ r1 <+: rel' := by
  cases r with
  | nil => exact Or.inl rfl
  | cons t r1 =>
    obtain ⟨rfl, h'⟩ := List.cons_prefix_cons.mp h
    exact Or.inr ⟨r1, rfl, h'⟩

section
variable {s : PathSeg} {J J' J1 J2 J1' J2' j j1 j2 : JVal}

theorem NNA.child (hJ : J ≠ .null) (hc : ∀ r, J.getAt (s :: r) = j.getAt r) (h : NNA rel' j) : NNA (s :: rel') J := by
  intro r hr
  rcases prefix_cons_cases hr with rfl | ⟨r1, rfl, hr1⟩
  · exact getAt_nil_ne_null hJ
  · rw [hc]; exact h r1 hr1

theorem MaxOK.child (h1 : J1 ≠ .null) (h2 : J2 ≠ .null) (hc1 : ∀ r, J1.getAt (s :: r) = j1.getAt r)
    (hc2 : ∀ r, J2.getAt (s :: r) = j2.getAt r) (h : MaxOK rel' j1 j2) : MaxOK (s :: rel') J1 J2 := by
  intro r' r'' hp hr hne
  rcases prefix_cons_cases hr with rfl | ⟨b, rfl, hb⟩
  · exact absurd (List.prefix_nil.mp hp) hne
  · rcases prefix_cons_cases (hp.trans hr) with rfl | ⟨a, rfl, -⟩
    · constructor
      · intro e; exact absurd e (getAt_nil_ne_null h1)
      · intro e; exact absurd e (getAt_nil_ne_null h2)
    · rw [hc1, hc2, hc1, hc2]
      exact h a b (List.cons_prefix_cons.mp hp).2 hb fun e => hne (by rw [e])

theorem NNA.congr_head (hJ' : J' ≠ .null) (hc : ∀ r, J'.getAt (s :: r) = J.getAt (s :: r)) (h : NNA (s :: rel') J) :
    NNA (s :: rel') J' := by
  intro r hr
  rcases prefix_cons_cases hr with rfl | ⟨r1, rfl, -⟩
  · exact getAt_nil_ne_null hJ'
  · rw [hc]; exact h _ hr

theorem MaxOK.congr_head (h1 : J1' ≠ .null) (h2 : J2' ≠ .null) (hc1 : ∀ r, J1'.getAt (s :: r) = J1.getAt (s :: r))
    (hc2 : ∀ r, J2'.getAt (s :: r) = J2.getAt (s :: r)) (h : MaxOK (s :: rel') J1 J2) : MaxOK (s :: rel') J1' J2' := by
  intro r' r'' hp hr hne
  rcases prefix_cons_cases hr with rfl | ⟨b, rfl, -⟩
  · exact absurd (List.prefix_nil.mp hp) hne
  · rcases prefix_cons_cases (hp.trans hr) with rfl | ⟨a, rfl, -⟩
    · constructor
      · intro e; exact absurd e (getAt_nil_ne_null h1)
      · intro e; exact absurd e (getAt_nil_ne_null h2)
    · rw [hc1, hc2, hc1, hc2]
      exact h _ _ hp hr hne
end

/-- prepending the same entry under a key other than the one on the way to `p` -/
theorem Mix.obj_cons_beside {k0 k : String} {v : JVal} {rr1 rr2 : Res (List (String × JVal))}
    (h : Mix (.key k0 :: rel') (rr1.mapOk .obj) (rr2.mapOk .obj)) (hk : k ≠ k0) :
    Mix (.key k0 :: rel') (rr1.mapOk fun m => .obj ((k, v) :: m)) (rr2.mapOk fun m => .obj ((k, v) :: m)) := by
  cases rr1 with
  | fuelOut => exact Mix.fuelOut_left
  | fail =>
    cases rr2 with
    | fuelOut => exact Mix.fuelOut_right
    | fail => exact Mix.same
    | ok m2 => exact Mix.fail_ok (NNA.congr_head nofun (getAt_obj_cons_other hk v m2) (h.failok _ rfl rfl))
  | ok m1 =>
    cases rr2 with
    | fuelOut => exact Mix.fuelOut_right
    | fail => exact Mix.ok_fail (NNA.congr_head nofun (getAt_obj_cons_other hk v m1) (h.okfail _ rfl rfl))
    | ok m2 =>
      exact Mix.ok_ok (MaxOK.congr_head nofun nofun (getAt_obj_cons_other hk v m1) (getAt_obj_cons_other hk v m2)
        (h.okok _ _ rfl rfl))

/-- the head on the way to `p`: the remainder gives the same in both worlds whenever the first world executes it -/
theorem Mix.on_way {α : Type} {seg : PathSeg} {mk : JVal → α → JVal} {s1 s2 : Res JVal} {rrA rrB : Res α}
    (hne : ∀ y m, mk y m ≠ .null) (hget : ∀ y m r, (mk y m).getAt (seg :: r) = y.getAt r)
    (h : Mix rel' s1 s2) (hrest : ∀ y1, s1 = .ok y1 → rrB = rrA) :
    Mix (seg :: rel') (Res.andThen mk s1 rrA) (Res.andThen mk s2 rrB) := by
  cases s1 with
  | fuelOut => exact Mix.fuelOut_left
  | fail =>
    cases s2 with
    | fuelOut => exact Mix.fuelOut_right
    | fail => exact Mix.same
    | ok y2 =>
      cases rrB with
      | fuelOut => exact Mix.fuelOut_right
      | fail => exact Mix.same
      | ok m2 => exact Mix.fail_ok (NNA.child (hne _ _) (hget y2 m2) (h.failok y2 rfl rfl))
  | ok y1 =>
    cases hrest y1 rfl
    cases s2 with
    | fuelOut => exact Mix.fuelOut_right
    | fail =>
      cases rrA with
      | fuelOut => exact Mix.fuelOut_left
      | fail => exact Mix.same
      | ok m => exact Mix.ok_fail (NNA.child (hne _ _) (hget y1 m) (h.okfail y1 rfl rfl))
    | ok y2 =>
      cases rrA with
      | fuelOut => exact Mix.same
      | fail => exact Mix.same
      | ok m => exact Mix.ok_ok (MaxOK.child (hne _ _) (hne _ _) (hget y1 m) (hget y2 m) (h.okok y1 y2 rfl rfl))

end nulls

/-- two runs of one call in the two worlds, the differing resolver invoked (if at all) at `pos ++ rel`: the values and deltas agree
outside a position on the way to it, and the nulls on that way are placed consistently -/
def Sim2 (pos rel : Path) (x y : Run JVal) : Prop :=
  (∀ j1 j2, x.1 = .ok j1 → y.1 = .ok j2 → Good pos rel j1 j2 x.2 y.2) ∧ Mix rel x.1 y.1

section rules
variable {pos rel rel' : Path} {x y : Run JVal}

theorem Sim2.same : Sim2 pos rel x x :=
  ⟨fun _ _ e1 e2 => by cases e1.symm.trans e2; exact Good.same, Mix.same⟩

theorem Sim2.of_eq (h : x = y) : Sim2 pos rel x y := h ▸ Sim2.same

theorem Sim2.on_way {α : Type} {seg : PathSeg} {mk : JVal → α → α} {g : α → JVal} {F1 F2 : Run JVal} {G1 G2 : Run α}
    (hne : ∀ y m, g (mk y m) ≠ .null) (hget : ∀ y m r, (g (mk y m)).getAt (seg :: r) = y.getAt r)
    (hdiv : ∀ y1 y2 m d1 d2, Good (pos ++ [seg]) rel' y1 y2 d1 d2 → Good pos (seg :: rel') (g (mk y1 m)) (g (mk y2 m)) d1 d2)
    (h : Sim2 (pos ++ [seg]) rel' F1 F2) (hrest : ∀ y, F1.1 = .ok y → G2 = G1) :
    Sim2 pos (seg :: rel') ((Run.andThen mk F1 G1).mapOk g) ((Run.andThen mk F2 G2).mapOk g) := by
  constructor
  · intro j1 j2 h1 h2
    obtain ⟨s1, ds1⟩ := F1; obtain ⟨s2, ds2⟩ := F2; obtain ⟨r1, dr1⟩ := G1
    cases s1 with
    | ok y1 =>
      cases hrest y1 rfl
      cases s2 with
      | ok y2 =>
        cases r1 with
        | ok m => cases h1; cases h2; exact (hdiv _ _ _ _ _ (h.1 y1 y2 rfl rfl)).before dr1
        | fail => cases h1
        | fuelOut => cases h1
      | fail => cases h2
      | fuelOut => cases h2
    | fail => cases h1
    | fuelOut => cases h1
  · show Mix _ ((Run.andThen mk F1 G1).1.mapOk g) ((Run.andThen mk F2 G2).1.mapOk g)
    rw [Run.andThen_mapOk, Run.andThen_mapOk]
    exact Mix.on_way hne hget h.2 fun y hy => congrArg Prod.fst (hrest y hy)

theorem Sim2.beside {α : Type} {mk : JVal → α → α} {g : α → JVal} {F : Run JVal} {G1 G2 : Run α}
    (h : ∀ y, F.1 = .ok y → Sim2 pos rel (G1.mapOk fun m => g (mk y m)) (G2.mapOk fun m => g (mk y m))) :
    Sim2 pos rel ((Run.andThen mk F G1).mapOk g) ((Run.andThen mk F G2).mapOk g) := by
  obtain ⟨rf, df⟩ := F
  cases rf with
  | ok v =>
    obtain ⟨hG, hM⟩ := h v rfl
    refine ⟨fun j1 j2 h1 h2 => ?_, by simpa only [Run.andThen, Run.mapOk, mapOk_mapOk] using hM⟩
    have := hG j1 j2 (by simpa only [Run.andThen, Run.mapOk, mapOk_mapOk] using h1)
      (by simpa only [Run.andThen, Run.mapOk, mapOk_mapOk] using h2)
    exact this.after df
  | fail => exact Sim2.same
  | fuelOut => exact Sim2.same

theorem Sim2.obj_cons_beside {k0 k : String} {v : JVal} {G1 G2 : Run (List (String × JVal))}
    (h : Sim2 pos (.key k0 :: rel') (G1.mapOk .obj) (G2.mapOk .obj)) (hk : k ≠ k0) :
    Sim2 pos (.key k0 :: rel') (G1.mapOk fun m => .obj ((k, v) :: m)) (G2.mapOk fun m => .obj ((k, v) :: m)) := by
  refine ⟨fun j1 j2 h1 h2 => ?_, Mix.obj_cons_beside h.2 hk⟩
  obtain ⟨m1, e1, rfl⟩ := Res.mapOk_ok_cases h1
  obtain ⟨m2, e2, rfl⟩ := Res.mapOk_ok_cases h2
  exact Good.obj_cons_beside (h.1 _ _ (congrArg (Res.mapOk _) e1) (congrArg (Res.mapOk _) e2)) hk

/-- the recover point of a list item or a field: a failure absorbed on one side leaves `null`, and everything recorded
lies at or below the position -/
theorem Sim2.absorb {t : GType} (h : Sim2 pos rel x y)
    (he1 : ∀ j, Exec.absorb t x.1 = .ok j → ∀ e, e ∈ x.2.errs → pos <+: e.1)
    (he2 : ∀ j, Exec.absorb t y.1 = .ok j → ∀ e, e ∈ y.2.errs → pos <+: e.1)
    (hl1 : ∀ e, e ∈ x.2.log → pos <+: e.path) (hl2 : ∀ e, e ∈ y.2.log → pos <+: e.path) :
    Sim2 pos rel (x.absorb t) (y.absorb t) := by
  refine ⟨fun j1 j2 e1 e2 => ?_, h.2.absorb t⟩
  have habs : j1 = .null ∨ j2 = .null → Good pos rel j1 j2 x.2 y.2 := fun hj =>
    Good.absorb (he1 j1 e1) (he2 j2 e2) hl1 hl2 (Or.inr hj)
  rcases absorb_ok_cases e1 with e1' | ⟨-, rfl⟩
  · rcases absorb_ok_cases e2 with e2' | ⟨-, rfl⟩
    · exact h.1 j1 j2 e1' e2'
    · exact habs (Or.inr rfl)
  · exact habs (Or.inl rfl)

theorem Sim2.after (h : Sim2 pos rel x y) (d : St) : Sim2 pos rel (x.after d) (y.after d) :=
  ⟨fun j1 j2 e1 e2 => (h.1 j1 j2 e1 e2).after d, h.2⟩

theorem Sim2.markFail {t : GType} {p : Path} (h : Sim2 pos rel x y) : Sim2 pos rel (x.markFail t p) (y.markFail t p) := by
  refine ⟨fun j1 j2 e1 e2 => ?_, by rw [Run.markFail_fst, Run.markFail_fst]; exact h.2⟩
  rw [Run.markFail_fst] at e1 e2
  rw [Run.markFail_ok e1, Run.markFail_ok e2]
  exact h.1 j1 j2 e1 e2

theorem Sim2.nonNull {p : Path} {dfr : Bool} (h : Sim2 pos rel x y) : Sim2 pos rel (x.nonNull p dfr) (y.nonNull p dfr) := by
  refine ⟨fun j1 j2 e1 e2 => ?_, by rw [Run.nonNull_fst, Run.nonNull_fst]; exact h.2.nonNull⟩
  obtain ⟨e1', hd1⟩ := Run.nonNull_ok e1
  obtain ⟨e2', hd2⟩ := Run.nonNull_ok e2
  exact hd1 ▸ hd2 ▸ h.1 j1 j2 e1' e2'

theorem Sim2.at {id0 : Nat} {f0 : String} {p : Path} {r1 r2 : Res JVal} {d1 d2 : St} (h1 : x = (r1, d1)) (h2 : y = (r2, d2))
    (h : TouchAt id0 f0 p x.2.log → Sim2 pos rel x y) (ht : TouchAt id0 f0 p d1.log) : Sim2 pos rel (r1, d1) (r2, d2) := by
  subst h1 h2; exact h ht

end rules

section paired

variable {c : Ctx} {w2 : World} {id0 : Nat} {f0 : String}

theorem execField_ok_ne_null {fuel : Nat} {dfr : Bool} {rt : String} {src : GoVal} {p : Path} {fd : FieldDefS}
    {nodes : List FieldNode} {st st' : St} {j : JVal}
    (h : execField c fuel dfr rt src p fd nodes st = (.ok j, st')) (hnn : fd.type.isNonNull = true) : j ≠ .null := by
  rcases (confP c fuel).field _ _ _ _ _ _ _ _ _ h with ⟨-, hv⟩ | ⟨-, hc⟩
  · rw [hv]; nofun
  · cases ht : fd.type with
    | nonNull t => rw [ht] at hc; cases hc with | nonNull hv _ => exact hv
    | _ => rw [ht] at hnn; simp [GType.isNonNull] at hnn

theorem maxOK_nil (j1 j2 : JVal) : MaxOK [] j1 j2 := by
  intro r' r'' hp hr hne
  cases List.prefix_nil.mp hr
  exact absurd (List.prefix_nil.mp hp) hne

theorem nna_nil {j : JVal} (h : j ≠ .null) : NNA [] j := by
  intro r hr
  cases List.prefix_nil.mp hr
  exact getAt_nil_ne_null h

theorem exists_touch_of_not_untouched {id0 : Nat} {f0 : String} {l : List LogEntry} (h : ¬ ∀ e, e ∈ l → ¬ Touches id0 f0 e) :
    ∃ e, e ∈ l ∧ Touches id0 f0 e :=
  Classical.byContradiction fun hn => h fun e he ht => hn ⟨e, he, ht⟩

theorem Path.seg_eq_of_prefix_cons {path rel' q : Path} {s s' : PathSeg} (hq : q = path ++ s :: rel')
    (hp : (path ++ [s']) <+: q) : s' = s :=
  Path.seg_eq_of_prefix hp (hq ▸ ⟨rel', List.append_assoc path [s] rel'⟩)

structure Sim2P (c : Ctx) (w2 : World) (id0 : Nat) (f0 : String) (fuel : Nat) : Prop where
  groups : ∀ dfr rt src path groups rel, groups.keys.Nodup →
    TouchAt id0 f0 (path ++ rel) (runGroups c fuel dfr rt src path groups).2.log →
    Sim2 path rel ((runGroups c fuel dfr rt src path groups).mapOk .obj)
      ((runGroups (c.withWorld w2) fuel dfr rt src path groups).mapOk .obj)
  field : ∀ dfr rt src pf fd nodes rel, TouchAt id0 f0 (pf ++ rel) (runField c fuel dfr rt src pf fd nodes).2.log →
    Sim2 pf rel (runField c fuel dfr rt src pf fd nodes) (runField (c.withWorld w2) fuel dfr rt src pf fd nodes)
  complete : ∀ dfr t rt fname nodes pos v rel,
    TouchAt id0 f0 (pos ++ rel) (runComplete c fuel dfr t rt fname nodes pos v).2.log →
    Sim2 pos rel (runComplete c fuel dfr t rt fname nodes pos v) (runComplete (c.withWorld w2) fuel dfr t rt fname nodes pos v)
  items : ∀ dfr item rt fname nodes pl xs i rel,
    TouchAt id0 f0 (pl ++ rel) (runItems c fuel dfr item rt fname nodes pl xs i).2.log → ∀ pre : List JVal, pre.length = i →
    Sim2 pl rel ((runItems c fuel dfr item rt fname nodes pl xs i).mapOk fun js => .list (pre ++ js))
      ((runItems (c.withWorld w2) fuel dfr item rt fname nodes pl xs i).mapOk fun js => .list (pre ++ js))

/-! Both runs rewrite with the same equation, since the worlds answer the type questions alike. Where the differing resolver is not invoked, the second world runs alike (`wRun`). Otherwise the
invocation lies under one head (a response key, a list index): the calls beside the way to `p` run alike in both worlds,
the call on the way is covered by induction, and `Sim2.on_way` (head on the way) or `Sim2.beside` (head beside it) puts
the two together. -/

variable (ha : AgreeExcept c.world w2 id0 f0) {fuel : Nat} (ih : Sim2P c w2 id0 f0 fuel)
include ha ih

theorem sim2P_succ : Sim2P c w2 id0 f0 (fuel + 1) where
  groups := by
    intro dfr rt src path groups rel hn ht
    have hpre := runGroups_log_prefix c (fuel + 1) dfr rt src path groups
    cases groups with
    | nil => rw [runGroups_nil, runGroups_nil]; exact Sim2.same
    | cons g rest =>
      obtain ⟨k, nodes⟩ := g
      obtain ⟨hk_rest, hn'⟩ := List.nodup_cons.mp hn
      rcases fieldOf_cases c.schema rt nodes with hno | ⟨node, fd, hh, hfd⟩
      · rw [runGroups_skip hno] at ht ⊢
        rw [runGroups_skip (c := c.withWorld w2) hno]
        exact ih.groups _ _ _ _ _ rel hn' ht
      · rw [runGroups_cons hh hfd] at ht hpre ⊢
        rw [runGroups_cons (c := c.withWorld w2) hh hfd]
        have hFlog := runField_log_prefix c fuel dfr rt src (path ++ [.key k]) fd nodes
        have hGlog := runGroups_log_prefix c fuel dfr rt src path rest
        -- callees that do not invoke the differing resolver run alike in the second world
        have hFsame := (wRun ha fuel).field dfr rt src (path ++ [.key k]) fd nodes nodes rfl
        have hGsame := (wRun ha fuel).groups dfr rt src path rest rest rfl
        have ihF' := ih.field dfr rt src (path ++ [.key k]) fd nodes
        have ihG' := ih.groups dfr rt src path rest
        -- from here on the four runs are opaque: all that is used of them is in the hypotheses above
        generalize runField c fuel dfr rt src (path ++ [.key k]) fd nodes = F1 at *
        generalize runGroups c fuel dfr rt src path rest = G1 at *
        generalize runField (c.withWorld w2) fuel dfr rt src (path ++ [.key k]) fd nodes = F2 at *
        generalize runGroups (c.withWorld w2) fuel dfr rt src path rest = G2 at *
        by_cases hu : NoTouch id0 f0 (Run.andThen (fun y m => (k, y) :: m) F1 G1).2.log
        · rw [Run.andThen_congr (hFsame (hu.mono (Run.log_head_subset ..)))
            fun y hy => hGsame (hu.mono (Run.log_rest_subset _ hy _))]
          exact Sim2.same
        · obtain ⟨e0, he0, ht0⟩ := exists_touch_of_not_untouched hu
          obtain ⟨k0, -, hp0⟩ := hpre e0 he0
          obtain ⟨rel', rfl⟩ := rel_cons_of_prefix (ht e0 he0 ht0) hp0
          by_cases hk : k = k0
          · -- the head is the field on the way to `p`; the other groups have other keys: untouched
            subst hk
            refine Sim2.on_way (fun _ _ => nofun) (fun y m => getAt_obj_cons_self k y m) (fun _ _ _ _ _ => Good.obj_cons_on_way)
              (ihF' rel' fun e he h => (ht e (Run.log_head_subset _ _ _ he) h).trans (List.append_cons ..))
              fun y hy => hGsame fun e he h => ?_
            obtain ⟨k'', hk'', hp⟩ := hGlog e he
            cases Path.seg_eq_of_prefix_cons (ht e (Run.log_rest_subset _ hy _ he) h) hp
            exact hk_rest hk''
          · -- the head is not on the way to `p`: untouched
            cases hFsame fun e he h =>
              hk (PathSeg.key.inj (Path.seg_eq_of_prefix_cons (ht e (Run.log_head_subset _ _ _ he) h) (hFlog e he)))
            exact Sim2.beside fun y hy =>
              (ihG' _ hn' (ht.mono (Run.log_rest_subset _ hy _))).obj_cons_beside hk
  items := by
    intro dfr item rt fname nodes pl xs i rel ht pre hpre'
    have hpre := runItems_log_prefix c (fuel + 1) dfr item rt fname nodes pl xs i
    cases xs with
    | nil => rw [runItems_nil, runItems_nil]; exact Sim2.same
    | cons x xs =>
      rw [runItems_cons] at ht hpre ⊢
      rw [runItems_cons]
      have hClog := runComplete_log_below c fuel dfr item rt fname nodes (pl ++ [.idx i]) x
      have hClog2 := runComplete_log_below (c.withWorld w2) fuel dfr item rt fname nodes (pl ++ [.idx i]) x
      have hIlog := runItems_log_prefix c fuel dfr item rt fname nodes pl xs (i + 1)
      have hCerr1 := fun j => runComplete_errs_prefix (c := c) (fuel := fuel) (dfr := dfr) (t := item) (rt := rt)
        (fname := fname) (nodes := nodes) (pos := pl ++ [.idx i]) (v := x) (j := j)
      have hCerr2 := fun j => runComplete_errs_prefix (c := c.withWorld w2) (fuel := fuel) (dfr := dfr) (t := item) (rt := rt)
        (fname := fname) (nodes := nodes) (pos := pl ++ [.idx i]) (v := x) (j := j)
      have hCsame := (wRun ha fuel).complete dfr item rt fname nodes nodes (pl ++ [.idx i]) x rfl
      have hIsame := (wRun ha fuel).items dfr item rt fname nodes nodes pl xs (i + 1) rfl
      have ihC' := ih.complete dfr item rt fname nodes (pl ++ [.idx i]) x
      have ihI' := ih.items dfr item rt fname nodes pl xs (i + 1)
      generalize runComplete c fuel dfr item rt fname nodes (pl ++ [.idx i]) x = C1 at *
      generalize runItems c fuel dfr item rt fname nodes pl xs (i + 1) = I1 at *
      generalize runComplete (c.withWorld w2) fuel dfr item rt fname nodes (pl ++ [.idx i]) x = C2 at *
      generalize runItems (c.withWorld w2) fuel dfr item rt fname nodes pl xs (i + 1) = I2 at *
      by_cases hu : NoTouch id0 f0 (Run.andThen (fun y js => y :: js) (C1.absorb item) I1).2.log
      · rw [Run.andThen_congr (congrArg (Run.absorb item) (hCsame (hu.mono (Run.log_head_subset _ (C1.absorb item) _))))
          fun y hy => hIsame (hu.mono (Run.log_rest_subset _ hy _))]
        exact Sim2.same
      · obtain ⟨e0, he0, ht0⟩ := exists_touch_of_not_untouched hu
        obtain ⟨i0, -, hp0⟩ := hpre e0 he0
        obtain ⟨rel', rfl⟩ := rel_cons_of_prefix (ht e0 he0 ht0) hp0
        by_cases hi : i = i0
        · -- the head is the item on the way to `p`; the other items have larger indices: untouched
          subst hi
          refine Sim2.on_way (fun _ _ => nofun) (fun y m r => hpre' ▸ getAt_list_pre_self pre y m r)
            (fun _ _ _ _ _ h => Good.list_on_way h hpre')
            ((ihC' rel' fun e he h => (ht e (Run.log_head_subset _ (C1.absorb item) _ he) h).trans (List.append_cons ..)).absorb
              hCerr1 hCerr2 (fun e he => (hClog e he).prefix) fun e he => (hClog2 e he).prefix)
            fun y hy => hIsame fun e he h => ?_
          obtain ⟨j, hj, hp⟩ := hIlog e he
          cases Path.seg_eq_of_prefix_cons (ht e (Run.log_rest_subset _ hy _ he) h) hp
          exact Nat.not_succ_le_self i hj
        · -- the head is not on the way to `p`: untouched
          cases hCsame fun e he h => hi (PathSeg.idx.inj (Path.seg_eq_of_prefix_cons
            (ht e (Run.log_head_subset _ (C1.absorb item) _ he) h) (hClog e he).prefix))
          refine Sim2.beside fun y hy => ?_
          have := ihI' _ (ht.mono (Run.log_rest_subset _ hy _)) (pre ++ [y]) (by rw [List.length_append, hpre']; rfl)
          simpa only [List.append_assoc, List.singleton_append] using this
  field := by
    intro dfr rt src pf fd nodes rel ht
    by_cases hrel : rel = []
    · -- at the position of the differing resolver itself: a field that fails is of non-null type
      subst hrel
      refine ⟨fun j1 j2 e1 e2 => Good.absorb (runField_errs_prefix e1) (runField_errs_prefix e2)
        (runField_log_prefix _ _ _ _ _ _ _ _) (runField_log_prefix _ _ _ _ _ _ _ _) (Or.inl rfl),
        fun _ _ _ _ => maxOK_nil _ _, ?_, ?_⟩
      · intro j2 e1 e2
        exact nna_nil (execField_ok_ne_null (Prod.ext e2 rfl) (execField_fail_nonNull _ _ _ _ _ _ _ _ _ _ (Prod.ext e1 rfl)))
      · intro j1 e1 e2
        exact nna_nil (execField_ok_ne_null (Prod.ext e1 rfl)
          (execField_fail_nonNull (c.withWorld w2) _ _ _ _ _ _ _ _ _ (Prod.ext e2 rfl)))
    · cases hn : fd.name == "__typename" with
      | true => rw [runField_typename hn, runField_typename hn]; exact Sim2.same
      | false =>
        -- the invocation at `pf` is logged, and it is not the differing one: same outcome in both worlds
        have hout : callEntry c dfr rt src pf fd nodes ∈ (runField c (fuel + 1) dfr rt src pf fd nodes).2.log →
            w2.outcome src fd.name = c.world.outcome src fd.name := fun hmem =>
          (ha.outcome src fd.name fun ⟨e1, e2⟩ => hrel (List.append_right_eq_self.mp (ht _ hmem ⟨e1, e2⟩).symm)).symm
        cases ho : c.world.outcome src fd.name with
        | fail =>
          rw [runField_fails hn ho] at hout ⊢
          rw [runField_fails (c := c.withWorld w2) hn ((hout List.mem_cons_self).trans ho)]
          exact Sim2.same
        | value v =>
          rw [runField_value hn ho] at ht hout ⊢
          rw [runField_value (c := c.withWorld w2) hn ((hout (List.mem_append_right _ List.mem_cons_self)).trans ho)]
          exact ((ih.complete dfr fd.type rt fd.name nodes pf v rel (ht.mono (List.subset_append_left _ _))).absorb
            (fun _ h => runComplete_errs_prefix h) (fun _ h => runComplete_errs_prefix h)
            (fun e he => (runComplete_log_below _ _ _ _ _ _ _ _ _ e he).prefix)
            fun e he => (runComplete_log_below _ _ _ _ _ _ _ _ _ e he).prefix).after _
  complete := by
    intro dfr t rt fname nodes pos v rel ht
    cases hf : v.isFunc with
    | true =>
      cases v with
      | thunk r =>
        cases r with
        | err => rw [runComplete_thunkErr, runComplete_thunkErr]; exact Sim2.same
        | ok v' =>
          rw [runComplete_thunk] at ht ⊢
          rw [runComplete_thunk]
          rw [Run.markFail_log] at ht
          exact (ih.complete true t rt fname nodes pos v' rel ht).markFail
      | badFunc => rw [runComplete_badFunc, runComplete_badFunc]; exact Sim2.same
      | _ => cases hf
    | false =>
      -- both worlds answer the type questions alike
      rw [runComplete_succ hf] at ht ⊢
      rw [runComplete_succ hf, shape_congr (c := c) (c.withWorld_schema w2) (fun n => runtimeTypeOf_world c w2 ha n v)
        fun n => (ha.isTypeOf n v).symm]
      cases hsh : shape c t v with
      | nonNull inner =>
        rw [hsh] at ht
        exact (ih.complete dfr inner rt fname nodes pos v rel (by rwa [Run.nonNull_log] at ht)).nonNull
      | null => exact Sim2.same
      | leaf j => exact Sim2.same
      | error => exact Sim2.same
      | items item xs =>
        rw [hsh] at ht
        exact ih.items dfr item rt fname nodes pos xs 0 rel ht [] rfl
      | object ot =>
        rw [hsh] at ht
        show Sim2 pos rel _ ((runGroups (c.withWorld w2) fuel dfr ot v pos (collectMerged (c.withWorld w2) ot nodes)).mapOk .obj)
        rw [collectMerged_world]
        exact ih.groups dfr ot v pos _ rel (collectMerged_keys_nodup c ot nodes) ht

omit ih in
theorem sim2P : ∀ fuel, Sim2P c w2 id0 f0 fuel
  | 0 => by
    constructor <;> intros
    · exact .of_eq (congrArg (Run.mapOk _) (execGroups_zero.trans execGroups_zero.symm))
    · exact .of_eq (execField_zero.trans execField_zero.symm)
    · exact .of_eq (complete_zero.trans complete_zero.symm)
    · exact .of_eq (congrArg (Run.mapOk _) (completeItems_zero.trans completeItems_zero.symm))
  | fuel + 1 => sim2P_succ ha (sim2P fuel)

/-! `runGroups c fuel …` is by definition `execGroups c fuel … [] St.empty`, the call of which `PairP` and `MixP` speak; likewise
the other three. -/

omit ih in
theorem pairP (fuel : Nat) : PairP c w2 id0 f0 fuel where
  groups := fun dfr rt src path groups rel _ _ _ _ hn h1 h2 ht _ _ e1 e2 =>
    (Sim2.at (congrArg (Run.mapOk _) h1) (congrArg (Run.mapOk _) h2) ((sim2P ha fuel).groups dfr rt src path groups rel hn) ht).1
      _ _ (congrArg (Res.mapOk _) e1) (congrArg (Res.mapOk _) e2)
  field := fun dfr rt src pf fd nodes rel _ _ _ _ h1 h2 ht => (Sim2.at h1 h2 ((sim2P ha fuel).field dfr rt src pf fd nodes rel) ht).1
  complete := fun dfr t rt fname nodes pos v rel _ _ _ _ h1 h2 ht =>
    (Sim2.at h1 h2 ((sim2P ha fuel).complete dfr t rt fname nodes pos v rel) ht).1
  items := fun dfr item rt fname nodes pl xs i rel _ _ _ _ h1 h2 ht _ _ e1 e2 pre hp =>
    (Sim2.at (congrArg (Run.mapOk _) h1) (congrArg (Run.mapOk _) h2)
      (fun ht => (sim2P ha fuel).items dfr item rt fname nodes pl xs i rel ht pre hp) ht).1
      _ _ (congrArg (Res.mapOk _) e1) (congrArg (Res.mapOk _) e2)

omit ih in
theorem mixP (fuel : Nat) : MixP c w2 id0 f0 fuel where
  groups := fun dfr rt src path groups rel _ _ _ _ hn h1 h2 ht =>
    (Sim2.at (congrArg (Run.mapOk _) h1) (congrArg (Run.mapOk _) h2) ((sim2P ha fuel).groups dfr rt src path groups rel hn) ht).2
  field := fun dfr rt src pf fd nodes rel _ _ _ _ h1 h2 ht => (Sim2.at h1 h2 ((sim2P ha fuel).field dfr rt src pf fd nodes rel) ht).2
  complete := fun dfr t rt fname nodes pos v rel _ _ _ _ h1 h2 ht =>
    (Sim2.at h1 h2 ((sim2P ha fuel).complete dfr t rt fname nodes pos v rel) ht).2
  items := fun dfr item rt fname nodes pl xs i rel _ _ _ _ h1 h2 ht pre hp =>
    (Sim2.at (congrArg (Run.mapOk _) h1) (congrArg (Run.mapOk _) h2)
      (fun ht => (sim2P ha fuel).items dfr item rt fname nodes pl xs i rel ht pre hp) ht).2

end paired

/-! Along the way to `p` at most ONE position holds `null` in either response; the two responses agree outside that
position (outside `p` if there is none). -/

section ancestor

def NullIn (D1 D2 : JVal) (r : Path) : Prop := D1.getAt r = some .null ∨ D2.getAt r = some .null

theorem nullIn_unique {D1 D2 : JVal} {p : Path} (hm : MaxOK p D1 D2) {r1 r2 : Path}
    (h1 : r1 <+: p) (h2 : r2 <+: p) (n1 : NullIn D1 D2 r1) (n2 : NullIn D1 D2 r2) : r1 = r2 := by
  -- w.l.o.g. r1 is a prefix of r2
  have key : ∀ {a b : Path}, a <+: b → b <+: p → NullIn D1 D2 a → NullIn D1 D2 b → a = b := by
    intro a b hab hb na nb
    refine Classical.byContradiction fun hne => ?_
    have hm' := hm a b hab hb hne
    rcases na with na | na
    · rcases nb with nb | nb
      · rw [getAt_below_null hab hne na] at nb; cases nb
      · exact hm'.1 na nb
    · rcases nb with nb | nb
      · exact hm'.2 na nb
      · rw [getAt_below_null hab hne na] at nb; cases nb
  rcases List.prefix_or_prefix_of_prefix h1 h2 with h | h
  · exact key h h2 n1 n2
  · exact (key h h1 n2 n1).symm

theorem filter_outside_of_prefix {α : Type} (f : α → Path) {q qm : Path} (h : q <+: qm) (l : List α) :
    l.filter (fun e => !(q.isPrefixOf (f e))) =
      (l.filter (fun e => !(qm.isPrefixOf (f e)))).filter (fun e => !(q.isPrefixOf (f e))) := by
  rw [List.filter_filter]
  apply List.filter_congr
  intro e _
  cases hq : q.isPrefixOf (f e) with
  | true => rfl
  | false =>
    cases hqm : qm.isPrefixOf (f e) with
    | false => rfl
    | true =>
      rw [List.isPrefixOf_iff_prefix.mpr (h.trans (List.isPrefixOf_iff_prefix.mp hqm))] at hq
      cases hq

/-- from SOME position `qm` on the way to `p` outside which the two responses agree (as `Good` gives one) to THE nulled
ancestor `q`: the one prefix of `p` that holds `null` in either response, or `p` -/
theorem nulled_ancestor_of_agree_outside {D1 D2 : JVal} {p qm : Path} {e1 e2 : List (Path × Bool)} {l1 l2 : List LogEntry}
    (hm : MaxOK p D1 D2) (hqm : qm <+: p) (hnull : qm = p ∨ NullIn D1 D2 qm)
    (hval : ∀ r, ¬ qm <+: r → ¬ r <+: qm → D1.getAt r = D2.getAt r)
    (herr : errsOutside qm e1 = errsOutside qm e2) (hlog : logOutside qm l1 = logOutside qm l2) :
    ∃ q, q <+: p ∧ (∀ r, r <+: p → NullIn D1 D2 r → r = q) ∧ (q = p ∨ NullIn D1 D2 q) ∧
      (∀ r, ¬ q <+: r → ¬ r <+: q → D1.getAt r = D2.getAt r) ∧
      errsOutside q e1 = errsOutside q e2 ∧ logOutside q l1 = logOutside q l2 := by
  -- the nulled ancestor, and the fact that it is a prefix of `qm`
  have hex : ∃ q, q <+: p ∧ (∀ r, r <+: p → NullIn D1 D2 r → r = q) ∧ (q = p ∨ NullIn D1 D2 q) ∧ q <+: qm := by
    by_cases hN : ∃ r, r <+: p ∧ NullIn D1 D2 r
    · obtain ⟨r0, hr0, hn0⟩ := hN
      refine ⟨r0, hr0, fun r hr hn => nullIn_unique hm hr hr0 hn hn0, Or.inr hn0, ?_⟩
      rcases hnull with rfl | hn
      · exact hr0
      · rw [nullIn_unique hm hr0 hqm hn0 hn]; exact List.prefix_refl _
    · refine ⟨p, List.prefix_refl _, fun r hr hn => absurd ⟨r, hr, hn⟩ hN, Or.inl rfl, ?_⟩
      rcases hnull with rfl | hn
      · exact List.prefix_refl _
      · exact absurd ⟨qm, hqm, hn⟩ hN
  obtain ⟨q, hq, huniq, hqn, hqqm⟩ := hex
  refine ⟨q, hq, huniq, hqn, ?_, ?_, ?_⟩
  · intro r h1 h2
    apply hval r
    · intro h; exact h1 (hqqm.trans h)
    · intro h
      rcases List.prefix_or_prefix_of_prefix h hqqm with h' | h'
      · exact h2 h'
      · exact h1 h'
  · exact (filter_outside_of_prefix _ hqqm e1).trans
      ((congrArg _ herr).trans (filter_outside_of_prefix _ hqqm e2).symm)
  · exact (filter_outside_of_prefix _ hqqm l1).trans
      ((congrArg _ hlog).trans (filter_outside_of_prefix _ hqqm l2).symm)

/-- `Sim2` read at the root, for two runs that hold a value: THE nulled ancestor, errors and log in response order -/
theorem Sim2.nulled_ancestor {p : Path} {x y : Run JVal} {D1 D2 : JVal} (h : Sim2 [] p x y) (h1 : x.1 = .ok D1)
    (h2 : y.1 = .ok D2) :
    ∃ q, q <+: p ∧ (∀ r, r <+: p → NullIn D1 D2 r → r = q) ∧ (q = p ∨ NullIn D1 D2 q) ∧
      (∀ r, ¬ q <+: r → ¬ r <+: q → D1.getAt r = D2.getAt r) ∧
      errsOutside q x.2.errs.reverse = errsOutside q y.2.errs.reverse ∧
      logOutside q x.2.log.reverse = logOutside q y.2.log.reverse := by
  obtain ⟨qm, hqm, hval, hnull, herr, hlog⟩ := h.1 D1 D2 h1 h2
  rw [List.nil_append] at herr hlog
  refine nulled_ancestor_of_agree_outside (h.2.okok D1 D2 h1 h2) hqm hnull (fun r h3 h4 => hval r fun hc => hc.elim h3 h4)
    ?_ ?_
  · rw [errsOutside_reverse, errsOutside_reverse, herr]
  · rw [logOutside_reverse, logOutside_reverse, hlog]

end ancestor

/-! In the proof of `execute_two_worlds_sim2` the fact `ht` about the log reads `TouchAt id0 f0 ([] ++ p) _` because that is,
literally, the premise of `Sim2P.groups` at `path := []`. -/

section request

theorem execute_result_two_worlds {s : Schema} {doc : Document} {opName : String} {inputs : Vars} {w1 w2 : World}
    {fuel : Nat} {data1 data2 : Option (List (String × JVal))} {e1 e2 : List (Path × Bool)} {log1 log2 : List LogEntry}
    {kf1 kf2 : List Path} (h1 : execute s doc opName inputs w1 fuel = .result data1 e1 log1 kf1)
    (h2 : execute s doc opName inputs w2 fuel = .result data2 e2 log2 kf2) :
    ∃ c root sel r1 st1 r2 st2, c.world = w1 ∧ (rootGroups c root sel).keys.Nodup ∧
      execGroups c fuel false root .nil [] (rootGroups c root sel) [] St.empty = (r1, st1) ∧
      execGroups (c.withWorld w2) fuel false root .nil [] (rootGroups c root sel) [] St.empty = (r2, st2) ∧
      e1 = st1.errs.reverse ∧ log1 = st1.log.reverse ∧ e2 = st2.errs.reverse ∧ log2 = st2.log.reverse ∧
      ((∃ fs, r1 = .ok fs ∧ data1 = some fs) ∨ (r1 = .fail ∧ data1 = none)) ∧
      ((∃ fs, r2 = .ok fs ∧ data2 = some fs) ∨ (r2 = .fail ∧ data2 = none)) := by
  obtain ⟨c, root, sel, r1, st1, hc1, hr1, herr1, hlog1, -, hd1⟩ := execute_result h1
  obtain ⟨c2, root2, sel2, r2, st2, hc2, hr2, herr2, hlog2, -, hd2⟩ := execute_result h2
  obtain ⟨hc2', hw⟩ := requestCtx_world hc1 w2
  cases hc2'.symm.trans hc2
  rw [rootGroups_world] at hr2
  exact ⟨c, root, sel, r1, st1, r2, st2, hw, rootGroups_keys_nodup c root sel, hr1, hr2,
    herr1, hlog1, herr2, hlog2, hd1, hd2⟩

/-- The two responses as a pair of runs at the root. An absent `data` is the failure of the root selection set absorbed
at a nullable position (`dataTree`), so `Sim2` holds of the two responses as of any other absorbed pair of runs. -/
theorem execute_two_worlds_sim2 {s : Schema} {doc : Document} {opName : String} {inputs : Vars} {w1 w2 : World}
    {fuel : Nat} {data1 data2 : Option (List (String × JVal))} {e1 e2 : List (Path × Bool)} {log1 log2 : List LogEntry}
    {kf1 kf2 : List Path} {id0 : Nat} {f0 : String} {p : Path} (ha : AgreeExcept w1 w2 id0 f0)
    (h1 : execute s doc opName inputs w1 fuel = .result data1 e1 log1 kf1)
    (h2 : execute s doc opName inputs w2 fuel = .result data2 e2 log2 kf2)
    (hp : ∀ e, e ∈ log1 → Touches id0 f0 e → e.path = p) :
    ∃ x y : Run JVal, Sim2 [] p x y ∧ x.1 = .ok (dataTree data1) ∧ y.1 = .ok (dataTree data2) ∧
      e1 = x.2.errs.reverse ∧ log1 = x.2.log.reverse ∧ e2 = y.2.errs.reverse ∧ log2 = y.2.log.reverse := by
  obtain ⟨c, root, sel, r1, st1, r2, st2, rfl, hnd, hr1, hr2, he1, hl1, he2, hl2, hd1, hd2⟩ :=
    execute_result_two_worlds h1 h2
  have ht : TouchAt id0 f0 ([] ++ p) st1.log := fun e he h => hp e (by rw [hl1]; exact List.mem_reverse.mpr he) h
  have hs : Sim2 [] p (r1.mapOk .obj, st1) (r2.mapOk .obj, st2) :=
    Sim2.at (congrArg (Run.mapOk _) hr1) (congrArg (Run.mapOk _) hr2) ((sim2P ha fuel).groups false root .nil [] _ p hnd) ht
  -- `.named ""` stands for any nullable type; every path lies at or below the root
  refine ⟨_, _, hs.absorb (t := .named "") (fun _ _ _ _ => List.nil_prefix) (fun _ _ _ _ => List.nil_prefix)
    (fun _ _ => List.nil_prefix) (fun _ _ => List.nil_prefix), ?_, ?_, he1, hl1, he2, hl2⟩
  · rcases hd1 with ⟨fs, rfl, rfl⟩ | ⟨rfl, rfl⟩ <;> rfl
  · rcases hd2 with ⟨fs, rfl, rfl⟩ | ⟨rfl, rfl⟩ <;> rfl

theorem execute_result_two_worlds_some {s : Schema} {doc : Document} {opName : String} {inputs : Vars} {w1 w2 : World}
    {fuel : Nat} {d1 d2 : List (String × JVal)} {e1 e2 : List (Path × Bool)} {log1 log2 : List LogEntry}
    {kf1 kf2 : List Path} (h1 : execute s doc opName inputs w1 fuel = .result (some d1) e1 log1 kf1)
    (h2 : execute s doc opName inputs w2 fuel = .result (some d2) e2 log2 kf2) :
    ∃ c root sel st1 st2, c.world = w1 ∧ (rootGroups c root sel).keys.Nodup ∧
      execGroups c fuel false root .nil [] (rootGroups c root sel) [] St.empty = (.ok d1, st1) ∧
      execGroups (c.withWorld w2) fuel false root .nil [] (rootGroups c root sel) [] St.empty = (.ok d2, st2) ∧
      e1 = st1.errs.reverse ∧ log1 = st1.log.reverse ∧ e2 = st2.errs.reverse ∧ log2 = st2.log.reverse := by
  obtain ⟨c, root, sel, r1, st1, r2, st2, hw, hnd, hr1, hr2, he1, hl1, he2, hl2, hd1, hd2⟩ :=
    execute_result_two_worlds h1 h2
  obtain ⟨fs1, rfl, hfs1⟩ | ⟨-, hnone⟩ := hd1
  · obtain ⟨fs2, rfl, hfs2⟩ | ⟨-, hnone⟩ := hd2
    · cases hfs1; cases hfs2
      exact ⟨c, root, sel, st1, st2, hw, hnd, hr1, hr2, he1, hl1, he2, hl2⟩
    · cases hnone
  · cases hnone

end request

end GqlModel.Exec
