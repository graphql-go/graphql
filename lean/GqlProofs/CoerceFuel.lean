import GqlProofs.CoerceBasic
/-! C05: fuel bounds. Each step function consults `self` only on strictly shallower values (object-nesting
depth), hence every fuel above the depth gives the same result (`iter_stable`). -/
namespace GqlModel.Coerce
open Spec

theorem mapE_congr {α β : Type} (f g : α → Except Err β) (xs : List α) (h : ∀ x ∈ xs, f x = g x) :
    mapE f xs = mapE g xs := by
  induction xs with
  | nil => rfl
  | cons x xs ih =>
    simp only [mapE, h x (by simp), ih (fun y hy => h y (by simp [hy]))]

theorem odepth_elem_lt {x : JVal} {xs : List JVal} (h : x ∈ xs) {v' : JVal} (hv : odepth v' < odepth x) :
    odepth v' < odepth (.list xs) := by
  simp only [odepth]; exact Nat.lt_of_lt_of_le hv (odepth_mem_list h)

theorem odepth_field_lt (kv : List (String × JVal)) (k : String) : odepth (lookupD kv k) < odepth (.obj kv) := by
  simp only [odepth]; exact Nat.lt_succ_of_le (odepth_lookupD kv k)

theorem coerceStep_local (s : Schema) (f g : GType → JVal → JVal) :
    ∀ t v, (∀ t' v', odepth v' < odepth v → f t' v' = g t' v') → coerceStep s f t v = coerceStep s g t v := by
  intro t
  induction t with
  | nonNull t ih => intro v h; simp only [coerceStep, ih v h]
  | list t ih =>
    intro v h
    cases v with
    | list xs =>
      simp only [coerceStep, List.map_congr_left fun x hx => ih x fun t' v' hv => h t' v' (odepth_elem_lt hx hv)]
    | _ => simp only [coerceStep, ih _ h]
  | named n =>
    intro v h
    cases v with
    | obj kv => simp only [coerceStep, h _ _ (odepth_field_lt kv _)]
    | _ => rfl

theorem validStep_local (s : Schema) (f g : GType → JVal → Bool) :
    ∀ t v, (∀ t' v', odepth v' < odepth v → f t' v' = g t' v') → validStep s f t v = validStep s g t v := by
  intro t
  induction t with
  | nonNull t ih => intro v h; simp only [validStep, ih v h]
  | list t ih =>
    intro v h
    cases v with
    | list xs =>
      simp only [validStep, all_congr' _ _ xs fun x hx => ih x fun t' v' hv => h t' v' (odepth_elem_lt hx hv)]
    | _ => simp only [validStep, ih _ h]
  | named n =>
    intro v h
    cases v with
    | obj kv => simp only [validStep, h _ _ (odepth_field_lt kv _)]
    | _ => rfl

theorem strictStep_local (s : Schema) (f g : GType → JVal → Bool) :
    ∀ t v, (∀ t' v', odepth v' < odepth v → f t' v' = g t' v') → strictStep s f t v = strictStep s g t v := by
  intro t
  induction t with
  | nonNull t ih => intro v h; simp only [strictStep, ih v h]
  | list t ih =>
    intro v h
    cases v with
    | list xs =>
      simp only [strictStep, all_congr' _ _ xs fun x hx => ih x fun t' v' hv => h t' v' (odepth_elem_lt hx hv)]
    | _ => simp only [strictStep, ih _ h]
  | named n =>
    intro v h
    cases v with
    | obj kv => simp only [strictStep, h _ _ (odepth_field_lt kv _)]
    | _ => rfl

theorem varStep_local (s : Schema) (f g : GType → JVal → Except Err JVal) :
    ∀ t v, (∀ t' v', odepth v' < odepth v → f t' v' = g t' v') → varStep s f t v = varStep s g t v := by
  intro t
  induction t with
  | nonNull t ih => intro v h; simp only [varStep, ih v h]
  | list t ih =>
    intro v h
    cases v with
    | list xs =>
      simp only [varStep, mapE_congr _ _ xs fun x hx => ih x fun t' v' hv => h t' v' (odepth_elem_lt hx hv)]
    | _ => simp only [varStep, ih _ h]
  | named n =>
    intro v h
    cases v with
    | obj kv => simp only [varStep, h _ _ (odepth_field_lt kv _)]
    | _ => rfl

theorem litDepth_elem_lt {x : Value} {ls : List Value} {loc : Loc} (h : x ∈ ls) {l' : Option Value}
    (hv : optLitDepth l' < optLitDepth (some x)) : optLitDepth l' < optLitDepth (some (.list ls loc)) := by
  simp only [optLitDepth, litDepth] at hv ⊢; exact Nat.lt_of_lt_of_le hv (litDepth_mem_list h)

theorem litDepth_field_lt (fs : List ObjField) (loc : Loc) (k : String) :
    optLitDepth (litLookup fs k) < optLitDepth (some (.obj fs loc)) := by
  simp only [optLitDepth, litDepth]; exact Nat.lt_succ_of_le (optLitDepth_litLookup fs k)

theorem validLitStep_local (s : Schema) (f g : GType → Option Value → Bool) :
    ∀ t l, (∀ t' l', optLitDepth l' < optLitDepth l → f t' l' = g t' l') →
      validLitStep s f t l = validLitStep s g t l := by
  intro t
  induction t with
  | nonNull t ih =>
    intro l h
    cases l with
    | none => rfl
    | some l => simp only [validLitStep, ih _ h]
  | list t ih =>
    intro l h
    cases l with
    | none => rfl
    | some l =>
      cases l with
      | list ls loc =>
        simp only [validLitStep, all_congr' _ _ ls fun x hx => ih (some x) fun t' l' hv => h t' l' (litDepth_elem_lt hx hv)]
      | var x loc => rfl
      | _ => simp only [validLitStep, ih _ h]
  | named n =>
    intro l h
    cases l with
    | none => rfl
    | some l =>
      cases l with
      | obj fs loc => simp only [validLitStep, h _ _ (litDepth_field_lt fs loc _)]
      | _ => rfl

theorem varsProvidedStep_local (s : Schema) (vars : Vars) (f g : GType → Option Value → Bool) :
    ∀ t l, (∀ t' l', optLitDepth l' < optLitDepth l → f t' l' = g t' l') →
      varsProvidedStep s vars f t l = varsProvidedStep s vars g t l := by
  intro t
  induction t with
  | nonNull t ih =>
    intro l h
    cases l with
    | none => rfl
    | some l =>
      cases l with
      | var x loc => rfl
      | _ => simp only [varsProvidedStep, ih _ h]
  | list t ih =>
    intro l h
    cases l with
    | none => rfl
    | some l =>
      cases l with
      | list ls loc =>
        simp only [varsProvidedStep, all_congr' _ _ ls fun x hx => ih (some x) fun t' l' hv => h t' l' (litDepth_elem_lt hx hv)]
      | var x loc => rfl
      | _ => simp only [varsProvidedStep, ih _ h]
  | named n =>
    intro l h
    cases l with
    | none => rfl
    | some l =>
      cases l with
      | obj fs loc => simp only [varsProvidedStep, h _ _ (litDepth_field_lt fs loc _)]
      | _ => rfl

/-- `fromASTStep` consults the variable map only at the variables of the literal and `self` only at looked-up fields:
`P` is any class of literals closed under list elements that contains the literal, `Q` what its looked-up fields
satisfy -/
theorem fromASTStep_congr (s : Schema) (vars1 vars2 : Vars) (P Q : Option Value → Prop)
    (hvar : ∀ x loc, P (some (.var x loc)) → lookupD vars1 x = lookupD vars2 x)
    (hlist : ∀ ls loc, P (some (.list ls loc)) → ∀ v ∈ ls, P (some v))
    (hobj : ∀ fs loc, P (some (.obj fs loc)) → ∀ k, Q (litLookup fs k))
    (f g : GType → Option Value → JVal) (ih : ∀ t l, Q l → f t l = g t l) :
    ∀ t l, P l → fromASTStep s vars1 f t l = fromASTStep s vars2 g t l := by
  intro t
  induction t with
  | nonNull t iht =>
    intro l h
    cases l with
    | none => rfl
    | some l =>
      cases l with
      | var x loc => exact hvar x loc h
      | _ => simp only [fromASTStep]; exact iht _ h
  | list t iht =>
    intro l h
    cases l with
    | none => rfl
    | some l =>
      cases l with
      | var x loc => exact hvar x loc h
      | list ls loc =>
        simp only [fromASTStep]
        rw [List.map_congr_left fun v hv => iht (some v) (hlist ls loc h v hv)]
      | _ => simp only [fromASTStep]; rw [iht _ h]
  | named n =>
    intro l h
    cases l with
    | none => rfl
    | some l =>
      cases l with
      | var x loc => exact hvar x loc h
      | obj fs loc =>
        simp only [fromASTStep]
        have : ∀ fields : List InputFieldS,
            fields.filterMap (fun fl => fieldEntry fl (f fl.type (litLookup fs fl.name))) =
            fields.filterMap (fun fl => fieldEntry fl (g fl.type (litLookup fs fl.name))) := fun fields =>
          filterMap_congr' _ _ fields (fun fl _ => by rw [ih _ _ (hobj fs loc h fl.name)])
        simp only [this]
      | _ => rfl

theorem fromASTStep_local (s : Schema) (vars : Vars) (f g : GType → Option Value → JVal) :
    ∀ t l, (∀ t' l', optLitDepth l' < optLitDepth l → f t' l' = g t' l') →
      fromASTStep s vars f t l = fromASTStep s vars g t l := fun t l h =>
  fromASTStep_congr s vars vars (optLitDepth · ≤ optLitDepth l) (optLitDepth · < optLitDepth l) (fun _ _ _ => rfl)
    (fun ls loc hl v hv => Nat.le_trans (by simp only [optLitDepth, litDepth]; exact litDepth_mem_list hv) hl)
    (fun fs loc hl k => Nat.lt_of_lt_of_le (litDepth_field_lt fs loc k) hl) f g h t l (Nat.le_refl _)

theorem litStep_local (s : Schema) (vars : Vars) (f g : GType → Option Value → Except Err JVal) :
    ∀ t l, (∀ t' l', optLitDepth l' < optLitDepth l → f t' l' = g t' l') →
      litStep s vars f t l = litStep s vars g t l := by
  intro t
  induction t with
  | nonNull t ih =>
    intro l h
    cases l with
    | none => rfl
    | some l =>
      cases l with
      | var x loc => rfl
      | _ => simp only [litStep, ih _ h]
  | list t ih =>
    intro l h
    cases l with
    | none => rfl
    | some l =>
      cases l with
      | list ls loc =>
        simp only [litStep, mapE_congr _ _ ls fun x hx => ih (some x) fun t' l' hv => h t' l' (litDepth_elem_lt hx hv)]
      | var x loc => rfl
      | _ => simp only [litStep, ih _ h]
  | named n =>
    intro l h
    cases l with
    | none => rfl
    | some l =>
      cases l with
      | obj fs loc => simp only [litStep, h _ _ (litDepth_field_lt fs loc _)]
      | _ => rfl

theorem coerceValueF_stable (s : Schema) (n : Nat) (t : GType) (v : JVal) (h : odepth v < n) :
    coerceValueF s n t v = coerceValue s t v :=
  iter_stable odepth _ _ (coerceStep_local s) n _ t v h (Nat.lt_succ_self _)

theorem isValidInputValueF_stable (s : Schema) (n : Nat) (t : GType) (v : JVal) (h : odepth v < n) :
    isValidInputValueF s n t v = isValidInputValue s t v :=
  iter_stable odepth _ _ (validStep_local s) n _ t v h (Nat.lt_succ_self _)

theorem valueFromASTF_stable (s : Schema) (vars : Vars) (n : Nat) (t : GType) (l : Option Value)
    (h : optLitDepth l < n) : valueFromASTF s vars n t l = valueFromAST s t l vars :=
  iter_stable optLitDepth _ _ (fromASTStep_local s vars) n _ t l h (Nat.lt_succ_self _)

theorem coerceVariable_no_fuel_error (s : Schema) (t : GType) (v : JVal) (n : Nat) (h : odepth v < n) :
    coerceVariableF s n t v = coerceVariable s t (some v) :=
  iter_stable odepth _ _ (varStep_local s) n _ t v h (Nat.lt_succ_self _)

end GqlModel.Coerce
