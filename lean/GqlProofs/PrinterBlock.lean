import GqlModel.PrinterBlock
import GqlProofs.LexerBlockValue
/-! Soundness of the block-string form of descriptions (repair of D-08b): for a block-safe description `d`, at every
indentation `k`, `BlockStringValue()` of the printed text between the triple quotes is `d` again
(`blockStringValue_blockRaw`).  That the lexer's block-string scan ends exactly at the printed closing quotes is
`PrinterBlockScan.lean`. -/
namespace GqlModel.Printer.Block
open GqlModel.Lexer GqlModel.Lexer.Spec

def Clean (l : Bytes) : Prop := ∀ c ∈ l, c ≠ 10 ∧ c ≠ 13

theorem clean_nil : Clean [] := by intro c h; simp at h
theorem clean_cons {c : UInt8} {l : Bytes} (h : Clean (c :: l)) : c ≠ 10 ∧ c ≠ 13 ∧ Clean l :=
  have ⟨hc, hl⟩ := List.forall_mem_cons.1 h; ⟨hc.1, hc.2, hl⟩
theorem clean_spaces (k : Nat) : Clean (spaces k) := List.forall_mem_replicate.2 (.inr (by decide))
theorem clean_append {a b : Bytes} (ha : Clean a) (hb : Clean b) : Clean (a ++ b) := List.forall_mem_append.2 ⟨ha, hb⟩

theorem lines_lf (r : Bytes) : Spec.lines (10 :: r) = [] :: Spec.lines r := by
  rw [lines_cons, if_pos rfl]

theorem lines_clean : ∀ l : Bytes, Clean l → Spec.lines l = [l]
  | [], _ => rfl
  | c :: r, h => by
    obtain ⟨h10, h13, hr⟩ := clean_cons h
    rw [lines_cons, if_neg h10, if_neg h13, lines_clean r hr]

theorem lines_clean_lf : ∀ (l r : Bytes), Clean l → Spec.lines (l ++ 10 :: r) = l :: Spec.lines r
  | [], r, _ => lines_lf r
  | c :: l, r, h => by
    obtain ⟨h10, h13, hl⟩ := clean_cons h
    rw [List.cons_append, lines_cons, if_neg h10, if_neg h13, lines_clean_lf l r hl]

/-- the lines of the text between the quotes (after the leading empty line) -/
def rawLines (k : Nat) (ls : List Bytes) : List Bytes := ls.map (fun l => spaces k ++ l) ++ [spaces k]

theorem indentedLines_head (k : Nat) (ls : List Bytes) (z : Bytes) :
    ∃ y, indentedLines k ls ++ 10 :: z = 10 :: y := by
  cases ls with
  | nil => exact ⟨z, rfl⟩
  | cons l ls => simp only [indentedLines, List.cons_append, List.append_assoc]; exact ⟨_, rfl⟩

theorem lines_indented (k : Nat) : ∀ ls : List Bytes, (∀ l ∈ ls, Clean l) →
    Spec.lines (indentedLines k ls ++ 10 :: spaces k) = [] :: rawLines k ls
  | [], _ => by simp [indentedLines, rawLines, lines_lf, lines_clean _ (clean_spaces k)]
  | l :: ls, h => by
    have ih := lines_indented k ls (fun x hx => h x (by simp [hx]))
    obtain ⟨y, hy⟩ := indentedLines_head k ls (spaces k)
    rw [hy, lines_lf] at ih
    have ih' : Spec.lines y = rawLines k ls := by simpa using ih
    have hcl : Clean (spaces k ++ l) := clean_append (clean_spaces k) (h l (by simp))
    simp only [indentedLines, List.cons_append, List.append_assoc]
    rw [lines_lf, hy, ← List.append_assoc, lines_clean_lf _ _ hcl, ih']
    simp [rawLines]

theorem indentOf_spaces_append (k : Nat) (l : Bytes) : indentOf (spaces k ++ l) = k + indentOf l := by
  have h : ∀ a ∈ spaces k, Spec.isWhiteSpace a = true := fun a ha => by rw [(List.mem_replicate.1 ha).2]; rfl
  rw [indentOf, indentOf, spanLen_eq_takeWhile, spanLen_eq_takeWhile, List.takeWhile_append_of_pos h, List.length_append, spaces,
    List.length_replicate]

theorem indentOf_spaces (k : Nat) : indentOf (spaces k) = k := by
  have := indentOf_spaces_append k []
  simpa [indentOf, spanLen] using this

theorem commonIndent_rawLines (k : Nat) : ∀ ls : List Bytes,
    commonIndent (rawLines k ls) = (commonIndent ls).map (fun m => m + k)
  | [] => by
    simp only [rawLines, List.map_nil, List.nil_append, commonIndent, indentOf_spaces]
    simp [spaces]
  | l :: ls => by
    have ih := commonIndent_rawLines k ls
    simp only [rawLines, List.map_cons, List.cons_append] at ih ⊢
    simp only [commonIndent]
    rw [ih, indentOf_spaces_append]
    simp only [List.length_append, spaces, List.length_replicate]
    by_cases hlt : indentOf l < l.length
    · have : k + indentOf l < k + l.length := by omega
      simp only [hlt, this, if_true]
      cases commonIndent ls with
      | none => simp; omega
      | some m => simp; omega
    · have : ¬ (k + indentOf l < k + l.length) := by omega
      simp [hlt, this]

theorem commonIndent_zero : ∀ ls : List Bytes, (∃ l ∈ ls, indentOf l < l.length ∧ indentOf l = 0) →
    commonIndent ls = some 0
  | [], h => by obtain ⟨l, hl, _⟩ := h; simp at hl
  | x :: xs, h => by
    obtain ⟨l, hl, hlt, h0⟩ := h
    simp only [List.mem_cons] at hl
    simp only [commonIndent]
    rcases hl with rfl | hl
    · rw [if_pos hlt, h0]
      cases commonIndent xs <;> simp
    · have ih := commonIndent_zero xs ⟨l, hl, hlt, h0⟩
      rw [ih]
      by_cases hx : indentOf x < x.length <;> simp [hx]

theorem drop_rawLines (k : Nat) (ls : List Bytes) : (rawLines k ls).map (fun l => l.drop k) = ls ++ [[]] := by
  have h1 : ∀ l : Bytes, (spaces k ++ l).drop k = l := by
    intro l; simp [spaces]
  simp only [rawLines, List.map_append, List.map_map, List.map_cons, List.map_nil]
  congr 1
  · induction ls with
    | nil => rfl
    | cons l ls ih => simp [h1, ih]
  · simpa using h1 []

theorem stripTrailingBlank_append_blank (b : Bytes) (hb : isBlank b = true) : ∀ xs : List Bytes,
    stripTrailingBlank (xs ++ [b]) = stripTrailingBlank xs
  | [] => by simp [stripTrailingBlank, hb]
  | x :: xs => by
    simp only [List.cons_append, stripTrailingBlank, stripTrailingBlank_append_blank b hb xs]

theorem stripTrailingBlank_last_nonblank : ∀ xs : List Bytes, xs ≠ [] → isBlank (xs.getLast?.getD []) = false →
    stripTrailingBlank xs = xs
  | [], h, _ => absurd rfl h
  | [x], _, hl => by simpa [stripTrailingBlank] using hl
  | x :: y :: ys, _, hl => by
    have ih := stripTrailingBlank_last_nonblank (y :: ys) (by simp) (by simpa using hl)
    simp only [stripTrailingBlank] at ih ⊢
    rw [ih]

theorem splitLF_eq_splitOn (d : Bytes) : splitLF d = d.splitOn 10 := by
  induction d with
  | nil => rfl
  | cons c r ih =>
    rw [splitLF, List.splitOn_cons_eq_if_modifyHead, ih]
    cases h : r.splitOn 10 with
    | nil => exact absurd h (List.splitOn_ne_nil 10 r)
    | cons l ls => simp

theorem joinLines_eq_intercalate : ∀ ls : List Bytes, joinLines ls = [10].intercalate ls
  | [] => rfl
  | [_] => by simp [joinLines]
  | l :: m :: ls => by simp [joinLines, joinLines_eq_intercalate (m :: ls)]

theorem splitLF_ne_nil (d : Bytes) : splitLF d ≠ [] := splitLF_eq_splitOn d ▸ List.splitOn_ne_nil 10 d

theorem joinLines_splitLF (d : Bytes) : joinLines (splitLF d) = d := by
  rw [joinLines_eq_intercalate, splitLF_eq_splitOn, List.intercalate_splitOn]

theorem splitLF_cons10 (r : Bytes) : splitLF (10 :: r) = [] :: splitLF r := by simp [splitLF]

theorem splitLF_cons_ne {b : UInt8} (hb : b ≠ 10) {r l : Bytes} {ls : List Bytes} (h : splitLF r = l :: ls) :
    splitLF (b :: r) = (b :: l) :: ls := by simp [splitLF, hb, h]

theorem mem_splitLF : ∀ (d : Bytes) (l : Bytes) (c : UInt8), l ∈ splitLF d → c ∈ l → c ∈ d ∧ c ≠ 10
  | [], l, c, hl, hc => by simp [splitLF] at hl; subst hl; simp at hc
  | x :: r, l, c, hl, hc => by
    have up {l} (hl : l ∈ splitLF r) (hc : c ∈ l) := (mem_splitLF r l c hl hc).imp_left (List.mem_cons_of_mem x)
    obtain ⟨m, ms, hs⟩ := List.exists_cons_of_ne_nil (splitLF_ne_nil r)
    by_cases hx : x = 10
    · subst hx
      rw [splitLF_cons10, List.mem_cons] at hl
      rcases hl with rfl | hl
      · cases hc
      · exact up hl hc
    · rw [splitLF_cons_ne hx hs, List.mem_cons] at hl
      rw [hs] at up
      rcases hl with rfl | hl
      · rcases List.mem_cons.1 hc with rfl | hc
        · exact ⟨List.mem_cons_self, hx⟩
        · exact up List.mem_cons_self hc
      · exact up (List.mem_cons_of_mem _ hl) hc

theorem isWs_eq : isWs = Spec.isWhiteSpace := rfl

theorem indent_zero_of_col0 {l : Bytes} (hc : startsInColumn0 l = true) :
    indentOf l < l.length ∧ indentOf l = 0 := by
  cases l with
  | nil => simp [startsInColumn0] at hc
  | cons c r =>
    simp only [startsInColumn0, Bool.not_eq_true'] at hc
    have : Spec.isWhiteSpace c = false := by rw [← isWs_eq]; exact hc
    simp [indentOf, spanLen, this]

structure SafeFacts (d : Bytes) : Prop where
  noTriple : hasTripleQuote d = false
  bytesOK : ∀ c ∈ d, 32 ≤ c.toNat ∨ c = 9 ∨ c = 10
  shape : (∃ l, splitLF d = [l] ∧ l.all isWs = false ∧ l.getLast? ≠ some 34 ∧ l.getLast? ≠ some 92) ∨
          (∃ first second rest, splitLF d = first :: second :: rest ∧ first.all isWs = false ∧
            ((second :: rest).getLast?.getD []).all isWs = false ∧
            ∃ l ∈ first :: second :: rest, l.all isWs = false ∧ startsInColumn0 l = true)

theorem safeFacts_of_blockSafeB {d : Bytes} (h : blockSafeB d = true) : SafeFacts d := by
  simp only [blockSafeB, Bool.and_eq_true, Bool.not_eq_true', List.all_eq_true, Bool.or_eq_true, decide_eq_true_eq,
    beq_iff_eq] at h
  obtain ⟨⟨⟨_, h2⟩, h3⟩, h4⟩ := h
  refine ⟨h2, fun c hc => by rcases h3 c hc with (h | h) | h <;> simp [h], ?_⟩
  cases hs : splitLF d with
  | nil => exact absurd hs (splitLF_ne_nil d)
  | cons first rest =>
    rw [hs] at h4
    cases rest with
    | nil =>
      left
      simp only [Bool.and_eq_true, Bool.not_eq_true', Bool.or_eq_false_iff, beq_eq_false_iff_ne, ne_eq] at h4
      exact ⟨first, rfl, h4.1, h4.2.1, h4.2.2⟩
    | cons second rest =>
      right
      simp only [Bool.and_eq_true, Bool.not_eq_true', List.any_eq_true] at h4
      obtain ⟨⟨ha, hb⟩, l, hl, hc⟩ := h4
      exact ⟨first, second, rest, rfl, ha, hb, l, hl, hc.1, hc.2⟩

theorem clean_lines {d : Bytes} (hf : SafeFacts d) : ∀ l ∈ splitLF d, Clean l := by
  intro l hl c hc
  obtain ⟨hcd, hne⟩ := mem_splitLF d l c hl hc
  refine ⟨hne, ?_⟩
  rcases hf.bytesOK c hcd with h | h | h
  · intro e; subst e; simp at h
  · intro e; subst e; simp at h
  · exact absurd h hne

theorem contains_lf_iff (d : Bytes) : d.contains 10 = true ↔ ∃ a b r, splitLF d = a :: b :: r := by
  rw [splitLF_eq_splitOn, List.contains_iff_mem]
  constructor
  · intro h
    obtain ⟨as, bs, rfl, hn⟩ := List.eq_append_cons_of_mem h
    obtain ⟨b, r, hb⟩ := List.exists_cons_of_ne_nil (List.splitOn_ne_nil 10 bs)
    exact ⟨as, b, r, by rw [List.splitOn_append_cons_self_of_not_mem hn, hb]⟩
  · rintro ⟨a, b, r, e⟩
    refine Decidable.by_contra fun hn => ?_
    rw [List.splitOn_eq_singleton hn] at e
    cases e

/-- **the value**: `BlockStringValue()` of the printed text between the quotes is the description itself, at every
indentation -/
theorem blockStringValue_blockRaw (k : Nat) (d : Bytes) (h : blockSafeB d = true) :
    Spec.blockStringValue (blockRaw k d) = d := by
  have hf := safeFacts_of_blockSafeB h
  have hcl := clean_lines hf
  have hjoin := joinLines_splitLF d
  rcases hf.shape with ⟨l, hs, hb, _, _⟩ | ⟨first, second, rest, hs, hb1, hb2, l, hl, _, hlc⟩
  · -- one line
    have hnc : d.contains 10 = false := by
      cases hc : d.contains 10 with
      | false => rfl
      | true =>
        obtain ⟨a, b, r, e⟩ := (contains_lf_iff d).mp hc
        rw [hs] at e; simp at e
    rw [hs] at hjoin hcl
    simp only [joinLines] at hjoin
    subst hjoin
    have hclean : Clean l := hcl l (by simp)
    have hblank : Spec.isBlank l = false := hb
    simp only [blockRaw, hnc, Bool.false_eq_true, if_false, Spec.blockStringValue, lines_clean l hclean, commonIndent,
      stripLeadingBlank, hblank, stripTrailingBlank, joinLines]
  · -- several lines
    have hc : d.contains 10 = true := (contains_lf_iff d).mpr ⟨first, second, rest, hs⟩
    have hlines := lines_indented k (splitLF d) hcl
    obtain ⟨hlt, h0⟩ := indent_zero_of_col0 hlc
    have hci : commonIndent (rawLines k (splitLF d)) = some k := by
      rw [commonIndent_rawLines, commonIndent_zero _ ⟨l, by rw [hs]; exact hl, hlt, h0⟩]; simp
    have hfirst : Spec.isBlank first = false := hb1
    have hlast : Spec.isBlank ((first :: second :: rest).getLast?.getD []) = false := by
      have e : (first :: second :: rest).getLast? = (second :: rest).getLast? := by simp
      rw [e]; exact hb2
    simp only [blockRaw, hc, if_true, Spec.blockStringValue, hlines, hci, drop_rawLines]
    rw [hs] at hjoin ⊢
    have e1 : stripLeadingBlank ([] :: ((first :: second :: rest) ++ [[]])) = (first :: second :: rest) ++ [[]] := by
      have hnil : Spec.isBlank [] = true := rfl
      simp only [stripLeadingBlank, List.cons_append, hnil, hfirst, if_true, Bool.false_eq_true, if_false]
    rw [e1, stripTrailingBlank_append_blank [] rfl,
      stripTrailingBlank_last_nonblank _ (by simp) hlast, hjoin]

end GqlModel.Printer.Block
