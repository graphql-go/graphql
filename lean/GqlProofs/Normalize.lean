import GqlProofs.NormalizeKey
/-! C06 (normaliser): the invariants of the walk (`NamesOK`, `EntriesOK`, `Realises`) and its equations; `tryExtract` /
`normArgs` keep every argument value, synthetic names are fresh and pairwise distinct, the walk only replaces argument
values (shape preserved), entries only grow. -/
namespace GqlModel.Normalize
open GqlModel.Coerce

theorem synthName_inj {a b : Nat} (h : synthName a = synthName b) : a = b := by
  unfold synthName at h
  have := List.append_cancel_left (String.ofList_injective h)
  rw [← Nat.ofDigitChars_ten_toDigits (n := a), this, Nat.ofDigitChars_ten_toDigits]

theorem nextNameAux_spec : ∀ (fuel : Nat) (tk : List String) (c : Nat), tk.length ≤ fuel →
    (nextNameAux fuel tk c).1 ∉ tk ∧ c < (nextNameAux fuel tk c).2 ∧
    ∃ c', c ≤ c' ∧ c' < (nextNameAux fuel tk c).2 ∧ (nextNameAux fuel tk c).1 = synthName c' := by
  intro fuel
  induction fuel with
  | zero =>
    intro tk c h
    have : tk = [] := List.eq_nil_of_length_eq_zero (Nat.le_zero.mp h)
    subst this
    exact ⟨by simp, by simp [nextNameAux], c, Nat.le_refl _, by simp [nextNameAux], rfl⟩
  | succ fuel ih =>
    intro tk c h
    simp only [nextNameAux]
    by_cases hc : tk.contains (synthName c) = true
    · simp only [hc, if_true]
      have hmem : synthName c ∈ tk := by simpa using hc
      have hlen : (tk.erase (synthName c)).length ≤ fuel := by
        rw [List.length_erase_of_mem hmem]; omega
      obtain ⟨h1, h2, c', h3, h4, h5⟩ := ih (tk.erase (synthName c)) (c + 1) hlen
      refine ⟨?_, by omega, c', by omega, h4, h5⟩
      intro hin
      apply h1
      rw [h5] at hin ⊢
      have hne : synthName c' ≠ synthName c := fun e => by have := synthName_inj e; omega
      exact (List.mem_erase_of_ne hne).mpr hin
    · simp only [hc, Bool.false_eq_true, if_false]
      exact ⟨by simpa using hc, by omega, c, Nat.le_refl _, by omega, rfl⟩

/-- `nextName` returns a name that is not in `taken`, built from a counter value ≥ the current one -/
theorem nextName_spec (taken : List String) (c : Nat) :
    (nextName taken c).1 ∉ taken ∧ ∃ c', c ≤ c' ∧ c' < (nextName taken c).2 ∧ (nextName taken c).1 = synthName c' := by
  obtain ⟨h1, _, h3⟩ := nextNameAux_spec taken.length taken c (Nat.le_refl _)
  exact ⟨h1, h3⟩

/-- invariant of the walk: every entry's name is `synthName c'` for some `c' < counter`, is not in `taken` (the
operation's variable names and every variable name occurring in the document, `initState`), and names are pairwise distinct -/
def NamesOK (st : NState) : Prop :=
  (∀ e ∈ st.entries, e.name ∉ st.taken ∧ ∃ c', c' < st.counter ∧ e.name = synthName c') ∧
  (st.entries.map (·.name)).Nodup

/-! ## what is recorded is valid; what the final environment must provide -/

def EntriesOK (s : Schema) (es : List Entry) : Prop :=
  ∀ e ∈ es, hasVars e.lit = false ∧ canonInts e.lit = true ∧ isValidLiteralValue s e.type (some e.lit) = true ∧
    isInputType s e.type = true ∧ Reader.WFValue e.lit ∧ Reader.WFType (typeRefOf e.type)

theorem EntriesOK.agree {s : Schema} {es : List Entry} (h : EntriesOK s es) (hcc : customLti s) {e : Entry} (he : e ∈ es)
    (vars : Vars) : isValidInputValue s e.type (lti e.lit) = true ∧
      coerceValue s e.type (lti e.lit) = valueFromAST s e.type (some e.lit) vars := by
  obtain ⟨hnovars, hints, hvalid, _⟩ := h e he
  exact lti_agree s hcc e.type e.lit vars hnovars hints hvalid

theorem EntriesOK.isInput {s : Schema} {es : List Entry} (h : EntriesOK s es) {e : Entry} (he : e ∈ es) :
    isInputType s e.type = true := (h e he).2.2.2.1

/-- the variable map of the normalised request gives every synthetic variable the coerced client form of its literal -/
def Realises (s : Schema) (vars' : Vars) (es : List Entry) : Prop :=
  ∀ e ∈ es, lookupD vars' e.name = coerceValue s e.type (lti e.lit)

theorem valueFromAST_var (s : Schema) (t : GType) (x : String) (loc : Loc) (vars : Vars) :
    valueFromAST s t (some (.var x loc)) vars = lookupD vars x := by
  unfold valueFromAST valueFromASTF
  simp only [optLitDepth, litDepth, iter]
  exact fromASTStep_var s vars _ t x loc

-- `s` is not used: the premise is stated per schema like its neighbours `ArgsOK`, `UserOK`
set_option linter.unusedVariables false in
/-- premise on an argument literal about to be normalised: it is a well-formed value (names are GraphQL names, number
tokens have the lexer's shape — what the parser produces) at a position whose type is well-formed. (Validity for the
type is NOT a premise: `tryExtract` checks it before extracting, /repo 4210b3d.) -/
def LitOK (s : Schema) (t : GType) (v : Value) : Prop :=
  Reader.WFValue v ∧ Reader.WFType (typeRefOf t)

/-- leave the value alone, reuse the entry with the same key, or record a new entry under a fresh name. The model's fourth
test, that the literal does not evaluate to null, is not recorded: nothing below uses it. -/
theorem tryExtract_cases (s : Schema) (st : NState) (v : Value) (t : GType) :
    tryExtract s st v t = (v, st) ∨
    (hasVars v = false ∧ dupFields v = false ∧ isValidLiteralValue s t (some v) = true ∧
      ((∃ e, st.entries.find? (fun e => litKey e.type e.lit == litKey t v) = some e ∧
          tryExtract s st v t = (.var e.name Loc.none, st)) ∨
       (st.entries.find? (fun e => litKey e.type e.lit == litKey t v) = none ∧
          tryExtract s st v t = (.var (nextName st.taken st.counter).1 Loc.none,
            { st with counter := (nextName st.taken st.counter).2,
                      entries := st.entries ++ [⟨(nextName st.taken st.counter).1, t, v⟩] })))) := by
  unfold tryExtract
  cases hv : hasVars v with
  | true => exact Or.inl rfl
  | false =>
    cases hd : dupFields v with
    | true => exact Or.inl rfl
    | false =>
      cases hval : isValidLiteralValue s t (some v) with
      | false => exact Or.inl rfl
      | true =>
        cases hn : (valueFromAST s t (some v) []).isNull with
        | true => exact Or.inl rfl
        | false =>
          refine Or.inr ⟨rfl, rfl, rfl, ?_⟩
          cases hf : st.entries.find? (fun e => litKey e.type e.lit == litKey t v) with
          | some e => exact Or.inl ⟨e, rfl, rfl⟩
          | none => exact Or.inr ⟨rfl, rfl⟩

/-! ## the equations of the walk -/

theorem normSel_field (s : Schema) (keep : List String) (P : String) (al : Option Name) (nm : Name) (args : List Argument)
    (dirs : List Directive) (sel : Option SelectionSet) (loc : Loc) (st : NState) :
    (fieldDefN s P nm.value = none ∧
      normSel s keep P (.field al nm args dirs sel loc) st = (.field al nm args dirs sel loc, st)) ∨
    ∃ fd, fieldDefN s P nm.value = some fd ∧
      ((s.isObject fd.type.namedName = true ∧ normSel s keep P (.field al nm args dirs sel loc) st =
          (.field al nm (normArgs s (argDefsFor keep (respKey al nm) fd) args st).1 dirs
            (normOpt s keep fd.type.namedName sel (normArgs s (argDefsFor keep (respKey al nm) fd) args st).2).1 loc,
           (normOpt s keep fd.type.namedName sel (normArgs s (argDefsFor keep (respKey al nm) fd) args st).2).2)) ∨
       (s.isObject fd.type.namedName = false ∧ normSel s keep P (.field al nm args dirs sel loc) st =
          (.field al nm (normArgs s (argDefsFor keep (respKey al nm) fd) args st).1 dirs sel loc,
           (normArgs s (argDefsFor keep (respKey al nm) fd) args st).2))) := by
  cases hfd : fieldDefN s P nm.value with
  | none => exact Or.inl ⟨rfl, by simp only [normSel, hfd]⟩
  | some fd =>
    refine Or.inr ⟨fd, rfl, ?_⟩
    cases ho : s.isObject fd.type.namedName with
    | true => exact Or.inl ⟨rfl, by simp only [normSel, hfd, ho, if_true]⟩
    | false => exact Or.inr ⟨rfl, by simp only [normSel, hfd, ho, Bool.false_eq_true, if_false]⟩

theorem normSel_inline (s : Schema) (keep : List String) (P : String) (tc : Option TypeRef) (dirs : List Directive)
    (ss : SelectionSet) (loc : Loc) (st : NState) :
    normSel s keep P (.inline tc dirs ss loc) st =
      (.inline tc dirs (normSet s keep (inlineParent s P tc) ss st).1 loc, (normSet s keep (inlineParent s P tc) ss st).2) := by
  simp only [normSel]

theorem normSel_spread (s : Schema) (keep : List String) (P : String) (n : Name) (d : List Directive) (l : Loc) (st : NState) :
    normSel s keep P (.spread n d l) st = (.spread n d l, st) := by simp only [normSel]

theorem normOpt_none (s : Schema) (keep : List String) (P : String) (st : NState) : normOpt s keep P none st = (none, st) := by
  simp only [normOpt]

theorem normOpt_some (s : Schema) (keep : List String) (P : String) (ss : SelectionSet) (st : NState) :
    normOpt s keep P (some ss) st = (some (normSet s keep P ss st).1, (normSet s keep P ss st).2) := by simp only [normOpt]

theorem normSet_mk (s : Schema) (keep : List String) (P : String) (sels : List Selection) (loc : Loc) (st : NState) :
    normSet s keep P (.mk sels loc) st = (.mk (normList s keep P sels st).1 loc, (normList s keep P sels st).2) := by
  simp only [normSet]

theorem normList_nil (s : Schema) (keep : List String) (P : String) (st : NState) : normList s keep P [] st = ([], st) := by
  simp only [normList]

theorem normList_cons (s : Schema) (keep : List String) (P : String) (x : Selection) (xs : List Selection) (st : NState) :
    normList s keep P (x :: xs) st =
      ((normSel s keep P x st).1 :: (normList s keep P xs (normSel s keep P x st).2).1,
       (normList s keep P xs (normSel s keep P x st).2).2) := by simp only [normList]

theorem tryExtract_entries (s : Schema) (st : NState) (v : Value) (t : GType) :
    (∃ es, (tryExtract s st v t).2.entries = st.entries ++ es) ∧ (tryExtract s st v t).2.taken = st.taken := by
  rcases tryExtract_cases s st v t with h | ⟨_, _, _, ⟨e, _, h⟩ | ⟨_, h⟩⟩ <;> rw [h]
  · exact ⟨⟨[], (List.append_nil _).symm⟩, rfl⟩
  · exact ⟨⟨[], (List.append_nil _).symm⟩, rfl⟩
  · exact ⟨⟨_, rfl⟩, rfl⟩

theorem tryExtract_entriesOK (s : Schema) (st : NState) (v : Value) (t : GType)
    (h : EntriesOK s st.entries) (hl : LitOK s t v) (hit : isInputType s t = true) :
    EntriesOK s (tryExtract s st v t).2.entries := by
  rcases tryExtract_cases s st v t with h' | ⟨hv, _, hval, ⟨e, _, h'⟩ | ⟨_, h'⟩⟩ <;> rw [h']
  · exact h
  · exact h
  · intro e he
    rcases List.mem_append.mp he with he | he
    · exact h e he
    · cases List.mem_singleton.mp he
      exact ⟨hv, canonInts_of_wf v hl.1, hval, hit, hl.1, hl.2⟩

theorem tryExtract_namesOK (s : Schema) (st : NState) (v : Value) (t : GType) (h : NamesOK st) :
    NamesOK (tryExtract s st v t).2 := by
  rcases tryExtract_cases s st v t with h' | ⟨_, _, _, ⟨e, _, h'⟩ | ⟨_, h'⟩⟩ <;> rw [h']
  · exact h
  · exact h
  · obtain ⟨hfresh, c', hc1, hc2, hc3⟩ := nextName_spec st.taken st.counter
    refine ⟨?_, ?_⟩
    · intro e he
      rcases List.mem_append.mp he with he | he
      · obtain ⟨h1, c0, h2, h3⟩ := h.1 e he
        exact ⟨h1, c0, Nat.lt_trans h2 (Nat.lt_of_le_of_lt hc1 hc2), h3⟩
      · cases List.mem_singleton.mp he
        exact ⟨hfresh, c', hc2, hc3⟩
    · simp only [List.map_append, List.map_cons, List.map_nil]
      refine List.nodup_append.mpr ⟨h.2, (by simp), ?_⟩
      intro a ha b hb
      cases List.mem_singleton.mp hb
      obtain ⟨e, he, rfl⟩ := List.mem_map.mp ha
      obtain ⟨_, c0, h2, h3⟩ := h.1 e he
      rw [h3, hc3]
      intro e'
      have := synthName_inj e'
      omega

/-- **one extraction is transparent**: under the final variable map the (possibly replaced) value evaluates to what
the original literal evaluates to under the request's own variables -/
theorem tryExtract_transparent (s : Schema) (hcc : customLti s)
    (st : NState) (v : Value) (t : GType) (vars vars' : Vars)
    (hes : EntriesOK s st.entries) (hl : LitOK s t v)
    (hre : Realises s vars' (tryExtract s st v t).2.entries)
    (huser : hasVars v = true → valueFromAST s t (some v) vars' = valueFromAST s t (some v) vars) :
    valueFromAST s t (some (tryExtract s st v t).1) vars' = valueFromAST s t (some v) vars := by
  rcases tryExtract_cases s st v t with h | ⟨hv, _, hval, ⟨e, hfind, h⟩ | ⟨_, h⟩⟩ <;> rw [h] at hre ⊢
  · cases hv : hasVars v with
    | true => exact huser hv
    | false => exact valueFromAST_novars s t (some v) vars' vars hv
  · have hmem := List.mem_of_find?_eq_some hfind
    have hkey : litKey e.type e.lit = litKey t v := by simpa using List.find?_some hfind
    obtain ⟨_, _, _, _, hwfLit, hwfType⟩ := hes e hmem
    obtain ⟨ht, hval⟩ := litKey_sound s e.type t e.lit v hwfType hl.2 hwfLit hl.1 hkey
    rw [valueFromAST_var, hre e hmem, (hes.agree hcc hmem vars).2, hval vars]
  · rw [valueFromAST_var, hre ⟨_, t, v⟩ (List.mem_append_right _ List.mem_cons_self)]
    exact (lti_agree s hcc t v vars hv (canonInts_of_wf v hl.1) hval).2

/-- premises on the argument list of a field with argument definitions `defs`: well-formed values; the argument's
declared type is a (well-formed) input type (schema construction guarantees it, C11) -/
def ArgsOK (s : Schema) (defs : List ArgDef) (as : List Argument) : Prop :=
  ∀ a ∈ as, ∀ d, defs.find? (fun d => d.name == a.name.value) = some d →
    LitOK s d.type a.value ∧ isInputType s d.type = true

/-- adding the synthetic variables does not disturb what the user's own variables evaluate to -/
def UserOK (s : Schema) (vars vars' : Vars) (as : List Argument) : Prop :=
  ∀ a ∈ as, hasVars a.value = true → ∀ t, valueFromAST s t (some a.value) vars' = valueFromAST s t (some a.value) vars

theorem normArgs_entries (s : Schema) (defs : List ArgDef) : ∀ (as : List Argument) (st : NState),
    (∃ es, (normArgs s defs as st).2.entries = st.entries ++ es) ∧ (normArgs s defs as st).2.taken = st.taken ∧
    (normArgs s defs as st).1.map (·.name) = as.map (·.name) := by
  intro as
  induction as with
  | nil => intro st; exact ⟨⟨[], by simp [normArgs]⟩, rfl, rfl⟩
  | cons a as ih =>
    intro st
    simp only [normArgs]
    split
    · obtain ⟨⟨es, h1⟩, h2, h3⟩ := ih st
      exact ⟨⟨es, h1⟩, h2, by simp [h3]⟩
    · rename_i d _
      obtain ⟨⟨es0, h0⟩, ht0⟩ := tryExtract_entries s st a.value d.type
      obtain ⟨⟨es, h1⟩, h2, h3⟩ := ih (tryExtract s st a.value d.type).2
      exact ⟨⟨es0 ++ es, by rw [h1, h0, List.append_assoc]⟩, by rw [h2, ht0], by simp [h3]⟩

theorem normArgs_entriesOK (s : Schema) (defs : List ArgDef) : ∀ (as : List Argument) (st : NState),
    EntriesOK s st.entries → ArgsOK s defs as → EntriesOK s (normArgs s defs as st).2.entries := by
  intro as
  induction as with
  | nil => intro st h _; exact h
  | cons a as ih =>
    intro st h ha
    have ha' : ArgsOK s defs as := fun b hb => ha b (List.mem_cons_of_mem _ hb)
    simp only [normArgs]
    split
    · exact ih st h ha'
    · rename_i d hd
      exact ih _ (tryExtract_entriesOK s st a.value d.type h (ha a List.mem_cons_self d hd).1
        (ha a List.mem_cons_self d hd).2) ha'

theorem normArgs_namesOK (s : Schema) (defs : List ArgDef) : ∀ (as : List Argument) (st : NState),
    NamesOK st → NamesOK (normArgs s defs as st).2 := by
  intro as
  induction as with
  | nil => intro st h; exact h
  | cons a as ih =>
    intro st h
    simp only [normArgs]
    split
    · exact ih st h
    · exact ih _ (tryExtract_namesOK s st _ _ h)

theorem realises_prefix {s : Schema} {vars' : Vars} {es es' : List Entry} (h : Realises s vars' (es ++ es')) :
    Realises s vars' es := fun e he => h e (List.mem_append_left _ he)

theorem argLookup_isSome_of_names {as bs : List Argument} (h : as.map (·.name) = bs.map (·.name)) (k : String) :
    (argLookup as k).isSome = (argLookup bs k).isSome := by
  have key : ∀ cs : List Argument, (argLookup cs k).isSome = ((cs.map (·.name)).reverse.find? (·.value == k)).isSome := fun cs => by
    rw [argLookup_eq_find?, Option.isSome_map, ← List.map_reverse, List.find?_map, Option.isSome_map]; rfl
  rw [key, key, h]

/-- per argument name that has a definition: the normalised argument evaluates, under the final variable map, to
what the original argument evaluates to under the request's variables -/
theorem normArgs_lookup (s : Schema) (hcc : customLti s) (defs : List ArgDef) (vars vars' : Vars) :
    ∀ (as : List Argument) (st : NState), EntriesOK s st.entries → ArgsOK s defs as → UserOK s vars vars' as →
      Realises s vars' (normArgs s defs as st).2.entries →
      ∀ k d, defs.find? (fun d => d.name == k) = some d →
        valueFromAST s d.type (argLookup (normArgs s defs as st).1 k) vars' =
        valueFromAST s d.type (argLookup as k) vars := by
  intro as
  induction as with
  | nil =>
    intro st _ _ _ _ k d _
    simp only [normArgs, argLookup]
    exact valueFromAST_novars s d.type none vars' vars rfl
  | cons a as ih =>
    intro st hes ha hu hre k d hd
    -- the head after the walk and the state the tail is walked from
    obtain ⟨v', st', hstep, hes1, hhead⟩ : ∃ v' st',
        normArgs s defs (a :: as) st = ({ a with value := v' } :: (normArgs s defs as st').1, (normArgs s defs as st').2) ∧
        EntriesOK s st'.entries ∧
        (a.name.value = k → Realises s vars' st'.entries →
          valueFromAST s d.type (some v') vars' = valueFromAST s d.type (some a.value) vars) := by
      cases hfd : defs.find? (fun d => d.name == a.name.value) with
      | none =>
        refine ⟨a.value, st, by simp only [normArgs, hfd], hes, fun hk _ => ?_⟩
        rw [hk, hd] at hfd; cases hfd
      | some da =>
        have hl := ha a List.mem_cons_self da hfd
        refine ⟨(tryExtract s st a.value da.type).1, (tryExtract s st a.value da.type).2, by simp only [normArgs, hfd],
          tryExtract_entriesOK s st a.value da.type hes hl.1 hl.2, fun hk hre1 => ?_⟩
        rw [hk, hd] at hfd
        cases Option.some.inj hfd
        exact tryExtract_transparent s hcc st a.value d.type vars vars' hes hl.1 hre1
          (fun hv => hu a List.mem_cons_self hv d.type)
    rw [hstep] at hre ⊢
    have hih := ih st' hes1 (fun b hb => ha b (List.mem_cons_of_mem _ hb)) (fun b hb => hu b (List.mem_cons_of_mem _ hb))
      hre k d hd
    have hsome := argLookup_isSome_of_names (normArgs_entries s defs as st').2.2 k
    simp only [argLookup]
    cases h1 : argLookup (normArgs s defs as st').1 k with
    | some w =>
      cases h2 : argLookup as k with
      | some w' => rw [h1, h2] at hih; exact hih
      | none => rw [h1, h2] at hsome; cases hsome
    | none =>
      cases h2 : argLookup as k with
      | some w' => rw [h1, h2] at hsome; cases hsome
      | none =>
        by_cases hk : (a.name.value == k) = true
        · simp only [hk, if_true]
          obtain ⟨es, hes2⟩ := (normArgs_entries s defs as st').1
          exact hhead (beq_iff_eq.mp hk) (realises_prefix (hes2 ▸ hre))
        · simp only [hk, Bool.false_eq_true, if_false]
          exact valueFromAST_novars s d.type none vars' vars rfl

/-! ## shape: the walk only replaces argument values -/

mutual
/-- a selection with every argument VALUE erased -/
def eraseSel : Selection → Selection
  | .field alias name args dirs sel loc =>
    .field alias name (args.map (fun a => { a with value := .bool false Loc.none })) dirs (eraseOpt sel) loc
  | .inline tc dirs ss loc => .inline tc dirs (eraseSet ss) loc
  | .spread n d l => .spread n d l
def eraseOpt : Option SelectionSet → Option SelectionSet
  | none => none
  | some ss => some (eraseSet ss)
def eraseSet : SelectionSet → SelectionSet
  | .mk sels loc => .mk (eraseList sels) loc
def eraseList : List Selection → List Selection
  | [] => []
  | x :: xs => eraseSel x :: eraseList xs
end

-- the response keys whose fields keep their arguments (`fragKeys doc`)
variable {keep : List String}

theorem normArgs_erase (s : Schema) (defs : List ArgDef) : ∀ (as : List Argument) (st : NState),
    (normArgs s defs as st).1.map (fun a => ({ a with value := .bool false Loc.none } : Argument)) =
    as.map (fun a => ({ a with value := .bool false Loc.none } : Argument)) := by
  intro as
  induction as with
  | nil => intro st; rfl
  | cons a as ih =>
    intro st
    simp only [normArgs]
    split <;> simp [ih]

mutual
theorem normSel_shape (s : Schema) : ∀ (x : Selection) (parent : String) (st : NState),
    eraseSel (normSel s keep parent x st).1 = eraseSel x
  | .field alias name args dirs sel loc, parent, st => by
    rcases normSel_field s keep parent alias name args dirs sel loc st with ⟨_, e⟩ | ⟨fd, _, ⟨_, e⟩ | ⟨_, e⟩⟩ <;> rw [e]
    · simp only [eraseSel, normArgs_erase, normOpt_shape s sel]
    · simp only [eraseSel, normArgs_erase]
  | .inline tc dirs ss loc, parent, st => by
    simp only [normSel_inline, eraseSel, normSet_shape s ss]
  | .spread n d l, parent, st => by rw [normSel_spread]
theorem normOpt_shape (s : Schema) : ∀ (x : Option SelectionSet) (parent : String) (st : NState),
    eraseOpt (normOpt s keep parent x st).1 = eraseOpt x
  | none, parent, st => by rw [normOpt_none]
  | some ss, parent, st => by simp only [normOpt_some, eraseOpt, normSet_shape s ss]
theorem normSet_shape (s : Schema) : ∀ (x : SelectionSet) (parent : String) (st : NState),
    eraseSet (normSet s keep parent x st).1 = eraseSet x
  | .mk sels loc, parent, st => by simp only [normSet_mk, eraseSet, normList_shape s sels]
theorem normList_shape (s : Schema) : ∀ (xs : List Selection) (parent : String) (st : NState),
    eraseList (normList s keep parent xs st).1 = eraseList xs
  | [], parent, st => by rw [normList_nil]
  | x :: xs, parent, st => by
    simp only [normList_cons, eraseList, normSel_shape s x, normList_shape s xs]
end

/-! ## `normArgs` without definitions; names stay fresh and distinct along the walk -/

theorem normArgs_nil (s : Schema) : ∀ (as : List Argument) (st : NState), normArgs s [] as st = (as, st) := by
  intro as
  induction as with
  | nil => intro st; rfl
  | cons a as ih => intro st; simp only [normArgs, List.find?_nil, ih]

theorem argDefsFor_cases (keep : List String) (k : String) (fd : FieldDefS) :
    (keep.contains k = true ∧ argDefsFor keep k fd = []) ∨ (keep.contains k = false ∧ argDefsFor keep k fd = fd.args) := by
  unfold argDefsFor
  cases h : keep.contains k
  · exact Or.inr ⟨rfl, by simp⟩
  · exact Or.inl ⟨rfl, by simp⟩

theorem mem_argDefsFor {keep : List String} {k : String} {fd : FieldDefS} {d : ArgDef} (h : d ∈ argDefsFor keep k fd) :
    d ∈ fd.args := by
  rcases argDefsFor_cases keep k fd with ⟨_, h'⟩ | ⟨_, h'⟩
  · rw [h'] at h; cases h
  · rw [h'] at h; exact h

mutual
theorem normSel_namesOK (s : Schema) : ∀ (x : Selection) (parent : String) (st : NState),
    NamesOK st → NamesOK (normSel s keep parent x st).2 ∧ (normSel s keep parent x st).2.taken = st.taken
  | .field alias name args dirs sel loc, parent, st, h => by
    rcases normSel_field s keep parent alias name args dirs sel loc st with ⟨_, e⟩ | ⟨fd, _, ⟨_, e⟩ | ⟨_, e⟩⟩ <;> rw [e]
    · exact ⟨h, rfl⟩
    all_goals
      have ha := normArgs_namesOK s (argDefsFor keep (respKey alias name) fd) args st h
      have ht := (normArgs_entries s (argDefsFor keep (respKey alias name) fd) args st).2.1
    · obtain ⟨h1, h2⟩ := normOpt_namesOK s sel fd.type.namedName _ ha
      exact ⟨h1, by rw [h2, ht]⟩
    · exact ⟨ha, ht⟩
  | .inline tc dirs ss loc, parent, st, h => by
    rw [normSel_inline]
    exact normSet_namesOK s ss _ st h
  | .spread n d l, parent, st, h => ⟨h, rfl⟩
theorem normOpt_namesOK (s : Schema) : ∀ (x : Option SelectionSet) (parent : String) (st : NState),
    NamesOK st → NamesOK (normOpt s keep parent x st).2 ∧ (normOpt s keep parent x st).2.taken = st.taken
  | none, parent, st, h => ⟨h, rfl⟩
  | some ss, parent, st, h => by rw [normOpt_some]; exact normSet_namesOK s ss parent st h
theorem normSet_namesOK (s : Schema) : ∀ (x : SelectionSet) (parent : String) (st : NState),
    NamesOK st → NamesOK (normSet s keep parent x st).2 ∧ (normSet s keep parent x st).2.taken = st.taken
  | .mk sels loc, parent, st, h => by rw [normSet_mk]; exact normList_namesOK s sels parent st h
theorem normList_namesOK (s : Schema) : ∀ (xs : List Selection) (parent : String) (st : NState),
    NamesOK st → NamesOK (normList s keep parent xs st).2 ∧ (normList s keep parent xs st).2.taken = st.taken
  | [], parent, st, h => ⟨h, rfl⟩
  | x :: xs, parent, st, h => by
    rw [normList_cons]
    obtain ⟨h1, h2⟩ := normSel_namesOK s x parent st h
    obtain ⟨h3, h4⟩ := normList_namesOK s xs parent _ h1
    exact ⟨h3, by rw [h4, h2]⟩
end

/-- `UserOK` holds as soon as the two variable maps agree on the variables the argument list mentions -/
theorem userOK_of_agree (s : Schema) (vars vars' : Vars) (as : List Argument)
    (h : ∀ x ∈ argsVars as, lookupD vars' x = lookupD vars x) : UserOK s vars vars' as := by
  intro a ha _ t
  apply valueFromAST_congr
  intro x hx
  apply h
  simp only [argsVars, List.mem_flatMap]
  exact ⟨a, ha, hx⟩

/-! ## entries only grow along the walk; per-field transparency; the normalised document -/

mutual
theorem normSel_entries_ext (s : Schema) : ∀ (x : Selection) (P : String) (st : NState),
    ∃ es, (normSel s keep P x st).2.entries = st.entries ++ es
  | .field al nm args dirs sel loc, P, st => by
    rcases normSel_field s keep P al nm args dirs sel loc st with ⟨_, e⟩ | ⟨fd, _, ⟨_, e⟩ | ⟨_, e⟩⟩ <;> rw [e]
    · exact ⟨[], (List.append_nil _).symm⟩
    all_goals obtain ⟨⟨esA, hA⟩, _, _⟩ := normArgs_entries s (argDefsFor keep (respKey al nm) fd) args st
    · obtain ⟨esO, hO⟩ := normOpt_entries_ext s sel fd.type.namedName (normArgs s (argDefsFor keep (respKey al nm) fd) args st).2
      exact ⟨esA ++ esO, by rw [hO, hA, List.append_assoc]⟩
    · exact ⟨esA, hA⟩
  | .inline tc dirs ss loc, P, st => by
    rw [normSel_inline]; exact normSet_entries_ext s ss _ st
  | .spread n d l, P, st => ⟨[], by rw [normSel_spread, List.append_nil]⟩
theorem normOpt_entries_ext (s : Schema) : ∀ (x : Option SelectionSet) (P : String) (st : NState),
    ∃ es, (normOpt s keep P x st).2.entries = st.entries ++ es
  | none, P, st => ⟨[], by rw [normOpt_none, List.append_nil]⟩
  | some ss, P, st => by rw [normOpt_some]; exact normSet_entries_ext s ss P st
theorem normSet_entries_ext (s : Schema) : ∀ (x : SelectionSet) (P : String) (st : NState),
    ∃ es, (normSet s keep P x st).2.entries = st.entries ++ es
  | .mk sels loc, P, st => by rw [normSet_mk]; exact normList_entries_ext s sels P st
theorem normList_entries_ext (s : Schema) : ∀ (xs : List Selection) (P : String) (st : NState),
    ∃ es, (normList s keep P xs st).2.entries = st.entries ++ es
  | [], P, st => ⟨[], by rw [normList_nil, List.append_nil]⟩
  | x :: xs, P, st => by
    rw [normList_cons]
    obtain ⟨e1, h1⟩ := normSel_entries_ext s x P st
    obtain ⟨e2, h2⟩ := normList_entries_ext s xs P (normSel s keep P x st).2
    exact ⟨e1 ++ e2, by rw [h2, h1, List.append_assoc]⟩
end

/-- per field: the normalised argument list under `vars'` gives the resolver the argument map the original gives under `vars` -/
theorem normalize_args_transparent_core (s : Schema) (hcc : customLti s)
    (defs : List ArgDef) (hnd : (defs.map (·.name)).Nodup) (as : List Argument) (st : NState) (vars vars' : Vars)
    (hes : EntriesOK s st.entries) (ha : ArgsOK s defs as) (hu : UserOK s vars vars' as)
    (hre : Realises s vars' (normArgs s defs as st).2.entries) :
    getArgumentValues s defs (normArgs s defs as st).1 vars' = getArgumentValues s defs as vars := by
  unfold getArgumentValues
  congr 1
  apply filterMap_congr'
  intro d hd
  simp only [argEntry]
  rw [normArgs_lookup s hcc defs vars vars' as st hes ha hu hre d.name d (find_of_nodup_key (·.name) defs d hnd hd)]

theorem replaceAt_eq_set {α : Type} : ∀ (xs : List α) (i : Nat) (y : α), replaceAt xs i y = xs.set i y
  | [], _, _ => rfl
  | _ :: _, 0, _ => rfl
  | x :: xs, i + 1, y => congrArg (x :: ·) (replaceAt_eq_set xs i y)

/-- a successful `normalizeDocument` returns the document unchanged (nothing was extracted), or with the selected
operation replaced by its normalised form -/
theorem normalizeDocument_ok {s : Schema} {doc doc' : Document} {opName : String} {synth : List (String × JVal)}
    (h : normalizeDocument s doc opName = .ok doc' synth) :
    (doc' = doc ∧ synth = []) ∨
    ∃ i op name vars dirs sel loc root, doc.defs[i]? = some (.operation op name vars dirs sel loc) ∧
      s.rootFor op.toString = some root ∧
      doc' = ⟨replaceAt doc.defs i
        (normalizeOperation s (fragKeys doc) root (docVarNames doc) (.operation op name vars dirs sel loc)).1, doc.loc⟩ ∧
      synth = (normalizeOperation s (fragKeys doc) root (docVarNames doc) (.operation op name vars dirs sel loc)).2 := by
  unfold normalizeDocument at h
  split at h
  · cases h
  · rename_i i n _
    split at h
    · cases h
    · split at h
      · cases h
      · rename_i opDef hget
        split at h
        · cases h
        · rename_i root hroot
          dsimp only at h
          split at h
          · cases h; exact Or.inl ⟨rfl, rfl⟩
          · rename_i hne
            cases h
            cases opDef with
            | operation op name vars dirs sel loc =>
              exact Or.inr ⟨i, op, name, vars, dirs, sel, loc, root, hget, hroot, rfl, rfl⟩
            | _ => exact absurd rfl hne

end GqlModel.Normalize
