import GqlProofs.ParserCorrect
/-! Top-level helpers for Props/C03Parser.lean: splitting at EOF, the D-03b witness token lists, a sample document. -/
namespace GqlModel.Parser
open GqlModel.Grammar

theorem splitEOF_eq_takeWhile (all : List Token) : splitEOF all =
    (all.dropWhile (·.kind != .eof)).head?.map (fun e => (all.takeWhile (·.kind != .eof), e)) := by
  induction all with
  | nil => rfl
  | cons t r ih =>
    rw [splitEOF, ih]
    by_cases h : t.kind = .eof <;> simp [h, Function.comp_def]

theorem splitEOF_append {toks : List Token} {e : Token} (hk : e.kind = .eof) (hn : ∀ t ∈ toks, t.kind ≠ .eof) :
    splitEOF (toks ++ [e]) = some (toks, e) := by
  have hn' : ∀ t ∈ toks, (t.kind != .eof) = true := fun t ht => bne_iff_ne.mpr (hn t ht)
  simp [splitEOF_eq_takeWhile, List.takeWhile_append_of_pos hn', List.dropWhile_append_of_pos hn', hk]

theorem splitEOF_some {all toks : List Token} {e : Token} (h : splitEOF all = some (toks, e)) :
    e.kind = .eof ∧ (∀ t ∈ toks, t.kind ≠ .eof) ∧ ∃ rest, all = toks ++ e :: rest := by
  rw [splitEOF_eq_takeWhile] at h
  obtain ⟨e', he, heq⟩ := Option.map_eq_some_iff.mp h
  cases heq
  obtain ⟨rest, hr⟩ := List.head?_eq_some_iff.mp he
  have hp := List.head?_dropWhile_not (·.kind != .eof) all
  rw [he] at hp
  exact ⟨by simpa using hp, fun t ht => bne_iff_ne.mp (List.all_eq_true.mp List.all_takeWhile t ht), rest,
    by rw [← hr, List.takeWhile_append_dropWhile]⟩

/-- `query($a: [Int}) {f}` -/
def d03b_closing : List Token :=
  [⟨.name, 0, 5, "query"⟩, ⟨.parenL, 5, 6, ""⟩, ⟨.dollar, 6, 7, ""⟩, ⟨.name, 7, 8, "a"⟩, ⟨.colon, 8, 9, ""⟩,
   ⟨.bracketL, 10, 11, ""⟩, ⟨.name, 11, 14, "Int"⟩, ⟨.braceR, 14, 15, ""⟩, ⟨.parenR, 15, 16, ""⟩, ⟨.braceL, 17, 18, ""⟩,
   ⟨.name, 18, 19, "f"⟩, ⟨.braceR, 19, 20, ""⟩]
/-- `query($a: ]) {f}` -/
def d03b_leading : List Token :=
  [⟨.name, 0, 5, "query"⟩, ⟨.parenL, 5, 6, ""⟩, ⟨.dollar, 6, 7, ""⟩, ⟨.name, 7, 8, "a"⟩, ⟨.colon, 8, 9, ""⟩,
   ⟨.bracketR, 10, 11, ""⟩, ⟨.parenR, 11, 12, ""⟩, ⟨.braceL, 13, 14, ""⟩, ⟨.name, 14, 15, "f"⟩, ⟨.braceR, 15, 16, ""⟩]
/-- `query($a: ) {f}` -/
def d03b_missing : List Token :=
  [⟨.name, 0, 5, "query"⟩, ⟨.parenL, 5, 6, ""⟩, ⟨.dollar, 6, 7, ""⟩, ⟨.name, 7, 8, "a"⟩, ⟨.colon, 8, 9, ""⟩,
   ⟨.parenR, 10, 11, ""⟩, ⟨.braceL, 12, 13, ""⟩, ⟨.name, 13, 14, "f"⟩, ⟨.braceR, 14, 15, ""⟩]

theorem not_derivable_of_flag {toks : List Token} {eofPos : Nat} (h : verdict toks eofPos = some true) :
    ¬ ∃ d, DerivesDoc toks eofPos d := by
  rintro ⟨d, hd⟩
  have := parseToks_complete hd
  simp [verdict, this] at h

/-- `query Q($a: [Int!] = [1]) @d { x: f(a: $a) ... on T { g } }  type T implements I & J { "d" f(x: Int = 1): [T]! }` -/
def sampleDoc : List Token :=
  [⟨.name, 0, 5, "query"⟩, ⟨.name, 6, 7, "Q"⟩, ⟨.parenL, 7, 8, ""⟩, ⟨.dollar, 8, 9, ""⟩, ⟨.name, 9, 10, "a"⟩, ⟨.colon, 10, 11, ""⟩,
   ⟨.bracketL, 12, 13, ""⟩, ⟨.name, 13, 16, "Int"⟩, ⟨.bang, 16, 17, ""⟩, ⟨.bracketR, 17, 18, ""⟩, ⟨.equals, 19, 20, ""⟩,
   ⟨.bracketL, 21, 22, ""⟩, ⟨.int, 22, 23, "1"⟩, ⟨.bracketR, 23, 24, ""⟩, ⟨.parenR, 24, 25, ""⟩, ⟨.at, 26, 27, ""⟩, ⟨.name, 27, 28, "d"⟩,
   ⟨.braceL, 29, 30, ""⟩, ⟨.name, 31, 32, "x"⟩, ⟨.colon, 32, 33, ""⟩, ⟨.name, 34, 35, "f"⟩, ⟨.parenL, 35, 36, ""⟩, ⟨.name, 36, 37, "a"⟩,
   ⟨.colon, 37, 38, ""⟩, ⟨.dollar, 39, 40, ""⟩, ⟨.name, 40, 41, "a"⟩, ⟨.parenR, 41, 42, ""⟩, ⟨.spread, 43, 46, ""⟩, ⟨.name, 47, 49, "on"⟩,
   ⟨.name, 50, 51, "T"⟩, ⟨.braceL, 52, 53, ""⟩, ⟨.name, 54, 55, "g"⟩, ⟨.braceR, 56, 57, ""⟩, ⟨.braceR, 58, 59, ""⟩,
   ⟨.name, 61, 65, "type"⟩, ⟨.name, 66, 67, "T"⟩, ⟨.name, 68, 78, "implements"⟩, ⟨.name, 79, 80, "I"⟩, ⟨.amp, 81, 82, ""⟩,
   ⟨.name, 83, 84, "J"⟩, ⟨.braceL, 85, 86, ""⟩, ⟨.string, 87, 90, "d"⟩, ⟨.name, 91, 92, "f"⟩, ⟨.parenL, 92, 93, ""⟩, ⟨.name, 93, 94, "x"⟩,
   ⟨.colon, 94, 95, ""⟩, ⟨.name, 96, 99, "Int"⟩, ⟨.equals, 100, 101, ""⟩, ⟨.int, 102, 103, "1"⟩, ⟨.parenR, 103, 104, ""⟩,
   ⟨.colon, 104, 105, ""⟩, ⟨.bracketL, 106, 107, ""⟩, ⟨.name, 107, 108, "T"⟩, ⟨.bracketR, 108, 109, ""⟩, ⟨.bang, 109, 110, ""⟩,
   ⟨.braceR, 111, 112, ""⟩]

theorem sampleDoc_verdict : verdict sampleDoc 112 = some false := by decide

end GqlModel.Parser
