import GqlProofs.ParserBasics
/-! Error positions (C18, syntax clause): every syntax error M reports is at the start offset of one of the tokens
still ahead (or at the EOF offset), and actions only ever drop tokens from the front.  Composed by type-class
resolution over the `do` blocks. -/
namespace GqlModel.Parser

def posAt (σ : PState) (k : Nat) : Nat :=
  match σ.toks.drop k with
  | t :: _ => t.start
  | [] => σ.eofPos

def AtToken (σ : PState) (pos : Nat) : Prop := ∃ k, k ≤ σ.toks.length ∧ pos = posAt σ k

def Drops (σ σ' : PState) : Prop := ∃ pre, σ.toks = pre ++ σ'.toks ∧ σ'.eofPos = σ.eofPos

/-- what a syntax error raised from `σ` satisfies: `left` counts the tokens from the blamed one on, and the reported
offset is the start of exactly that token (the EOF offset when `left = 0`) -/
def ErrOK (σ : PState) (pos left : Nat) : Prop := left ≤ σ.toks.length ∧ pos = posAt σ (σ.toks.length - left)

class ErrAt {α} (m : P α) : Prop where
  ok : ∀ σ a σ', m σ = .ok (a, σ') → Drops σ σ'
  err : ∀ σ pos b l, m σ = .error (.syntax pos b l) → ErrOK σ pos l

theorem Drops.refl (σ : PState) : Drops σ σ := ⟨[], rfl, rfl⟩

theorem Drops.trans {a b c : PState} (h1 : Drops a b) (h2 : Drops b c) : Drops a c := by
  obtain ⟨p1, e1, f1⟩ := h1
  obtain ⟨p2, e2, f2⟩ := h2
  exact ⟨p1 ++ p2, by rw [e1, e2, List.append_assoc], by rw [f2, f1]⟩

theorem ErrOK.atToken {σ : PState} {pos l : Nat} (h : ErrOK σ pos l) : AtToken σ pos :=
  ⟨σ.toks.length - l, Nat.sub_le _ _, h.2⟩

theorem ErrOK.of_drops {a b : PState} {pos l : Nat} (h : Drops a b) (hp : ErrOK b pos l) : ErrOK a pos l := by
  obtain ⟨pre, e1, f1⟩ := h
  obtain ⟨hl, hpos⟩ := hp
  refine ⟨by rw [e1]; simp; omega, ?_⟩
  rw [hpos]
  unfold posAt
  rw [e1, f1]
  have : (pre ++ b.toks).length - l = pre.length + (b.toks.length - l) := by simp; omega
  rw [this]
  have : (pre ++ b.toks).drop (pre.length + (b.toks.length - l)) = b.toks.drop (b.toks.length - l) := by
    rw [← List.drop_drop]; simp
  rw [this]

theorem AtToken.of_drops {a b : PState} {pos : Nat} (h : Drops a b) (hp : AtToken b pos) : AtToken a pos := by
  obtain ⟨k, hk, rfl⟩ := hp
  exact (ErrOK.of_drops h (l := b.toks.length - k) ⟨Nat.sub_le _ _, by rw [Nat.sub_sub_self hk]⟩).atToken

theorem ErrOK.real {σ : PState} {pos l : Nat} (h : ErrOK σ pos l) (hl : 0 < l) :
    ∃ t, σ.toks[σ.toks.length - l]? = some t ∧ pos = t.start := by
  have hlt : σ.toks.length - l < σ.toks.length := by have := h.1; omega
  refine ⟨σ.toks[σ.toks.length - l], List.getElem?_eq_getElem hlt, ?_⟩
  rw [h.2, posAt, List.drop_eq_getElem_cons hlt]

theorem errOK_cur (σ : PState) : ErrOK σ σ.cur.start σ.toks.length := by
  refine ⟨Nat.le_refl _, ?_⟩
  unfold posAt PState.cur
  cases σ.toks <;> simp [eofToken]

theorem errOK_next (σ : PState) (h : σ.toks ≠ []) : ErrOK σ σ.adv.cur.start (σ.toks.length - 1) := by
  refine ⟨Nat.sub_le _ _, ?_⟩
  unfold posAt
  cases ht : σ.toks with
  | nil => exact absurd ht h
  | cons t r =>
    have : (t :: r).length - ((t :: r).length - 1) = 1 := by simp
    rw [this]
    simp only [PState.adv, ht, PState.cur, List.drop_succ_cons, List.drop_zero]
    cases r <;> simp [eofToken]

theorem atToken_cur (σ : PState) : AtToken σ σ.cur.start := (errOK_cur σ).atToken

theorem atToken_next (σ : PState) (h : σ.toks ≠ []) : AtToken σ σ.adv.cur.start := (errOK_next σ h).atToken

theorem drops_adv (σ : PState) : Drops σ σ.adv := by
  cases ht : σ.toks with
  | nil => exact ⟨[], by simp [PState.adv, ht], by simp [PState.adv, ht]⟩
  | cons t r => exact ⟨[t], by simp [PState.adv, ht], by simp [PState.adv, ht]⟩

instance {α} (a : α) : ErrAt (pure a : P α) :=
  ⟨fun σ b σ' h => by obtain ⟨_, rfl⟩ := pure_ok.mp h; exact .refl _, fun _ _ _ _ h => by cases h⟩

instance ErrAt.bind {α β} {m : P α} {f : α → P β} [hm : ErrAt m] [hf : ∀ a, ErrAt (f a)] : ErrAt (m >>= f) :=
  ⟨fun σ b σ' h => by
      obtain ⟨a, σ1, h1, h2⟩ := bind_ok.mp h
      exact (hm.ok _ _ _ h1).trans ((hf a).ok _ _ _ h2),
   fun σ pos b l h => by
      rcases bind_error.mp h with h1 | ⟨a, σ1, h1, h2⟩
      · exact hm.err _ _ _ _ h1
      · exact .of_drops (hm.ok _ _ _ h1) ((hf a).err _ _ _ _ h2)⟩

instance {α} {c : Prop} [Decidable c] {a b : P α} [ErrAt a] [ErrAt b] : ErrAt (if c then a else b) := by
  split <;> infer_instance

instance : ErrAt cur := ⟨fun σ a σ' h => by simp at h; rw [← h.2]; exact .refl _, fun _ _ _ _ h => by cases h⟩
instance : ErrAt advance := ⟨fun σ a σ' h => by simp at h; rw [← h]; exact drops_adv σ, fun _ _ _ _ h => by cases h⟩
instance : ErrAt flagBad :=
  ⟨fun σ a σ' h => by simp at h; rw [← h]; exact ⟨[], rfl, rfl⟩, fun _ _ _ _ h => by cases h⟩
instance (s : Nat) : ErrAt (loc s) := ⟨fun σ a σ' h => by simp at h; rw [← h.2]; exact .refl _, fun _ _ _ _ h => by cases h⟩
instance : ErrAt loopFuel := ⟨fun σ a σ' h => by simp at h; rw [← h.2]; exact .refl _, fun _ _ _ _ h => by cases h⟩
instance : ErrAt lookahead := ⟨fun σ a σ' h => by simp at h; rw [← h.2]; exact .refl _, fun σ pos b l h => by simp at h⟩
instance (k : TokenKind) : ErrAt (peek k) :=
  ⟨fun σ a σ' h => by simp at h; rw [← h.2]; exact .refl _, fun _ _ _ _ h => by cases h⟩
instance {α} : ErrAt (outOfFuel : P α) := ⟨fun _ _ _ h => (by cases h), fun _ _ _ _ h => by cases h⟩
instance {α} : ErrAt (unexpected : P α) :=
  ⟨fun _ _ _ h => (by cases h), fun σ pos b l h => by simp at h; rw [← h.1, ← h.2.2]; exact errOK_cur σ⟩

/-- what `left` is recorded for a blame of the current (`ahead = false`) or the next token -/
def leftOf (ahead : Bool) (σ : PState) : Nat := if ahead then σ.toks.length - 1 else σ.toks.length

/-- what `ErrAt` says about the run from one state.  `fail p` and `failAt a p` are right only when `p` is the start of the
current or the next token of the state they run on, so they have no `ErrAt` instance: a branch that ends in one is
proved on the state (`ErrAtOn.ite`, `failAt_errAtOn`) and handed back to the class by `ErrAt.of_cur`. -/
def ErrAtOn {α} (σ : PState) (m : P α) : Prop :=
  (∀ a σ', m σ = .ok (a, σ') → Drops σ σ') ∧ (∀ pos b l, m σ = .error (.syntax pos b l) → ErrOK σ pos l)

theorem ErrAtOn.of_errAt {α} {m : P α} [h : ErrAt m] {σ : PState} : ErrAtOn σ m := ⟨h.ok σ, h.err σ⟩

theorem ErrAtOn.ite {α} {σ : PState} {c : Prop} [Decidable c] {a b : P α} (ha : ErrAtOn σ a) (hb : ErrAtOn σ b) :
    ErrAtOn σ (if c then a else b) := by
  split
  · exact ha
  · exact hb

theorem failAt_errAtOn {α} (ahead : Bool) (σ : PState) (p : Nat) (hp : ErrOK σ p (leftOf ahead σ)) :
    ErrAtOn σ (failAt ahead p : P α) :=
  ⟨fun a σ' h => by simp at h, fun pos b l h => by simp at h; rw [← h.1, ← h.2.2]; exact hp⟩

/-- after `cur` it is enough to look at each state with its own current token -/
theorem ErrAt.of_cur {α} {f : Token → P α} (h : ∀ σ, ErrAtOn σ (f σ.cur)) : ErrAt (cur >>= f) :=
  ⟨fun σ => (h σ).1, fun σ => (h σ).2⟩

instance (k : TokenKind) : ErrAt (skip k) := by rw [skip_eq]; infer_instance
instance (k : TokenKind) : ErrAt (expect k) := by
  rw [expect_eq]; exact .of_cur fun σ => .ite .of_errAt (failAt_errAtOn false σ _ (errOK_cur σ))
instance (s : String) : ErrAt (expectKeyword s) := by
  rw [expectKeyword_eq]; exact .of_cur fun σ => .ite .of_errAt (failAt_errAtOn false σ _ (errOK_cur σ))

instance : ErrAt skipEOF :=
  ⟨fun σ a σ' h => by
      unfold skipEOF at h
      split at h <;> simp at h <;> rw [← h.2]
      · exact drops_adv σ
      · exact .refl _,
   fun σ pos b l h => by unfold skipEOF at h; split at h <;> simp at h⟩

instance many_errAt {α} {close : TokenKind} {item : P α} [ErrAt item] (k : Nat) : ErrAt (many close item k) := by
  induction k with
  | zero => unfold many; infer_instance
  | succ k ih => unfold many; infer_instance

theorem close_of_many_nil {α} {close : TokenKind} {item : P α} {k : Nat} {σ σ' : PState}
    (h : many close item k σ = .ok ([], σ')) : σ.cur.kind = close := by
  cases k with
  | zero => cases h
  | succ k =>
    simp only [many] at h
    obtain ⟨b, σ1, hs, h⟩ := bind_ok.mp h
    cases b
    · simp only [Bool.false_eq_true, if_false, bind_ok, pure_ok] at h
      obtain ⟨x, σ2, _, xs, σ3, _, hc, _⟩ := h
      cases hc
    · exact cur_kind_of_skip hs

instance reverse_errAt {α} {opn close : TokenKind} {item : P α} [hi : ErrAt item] {z : Bool} :
    ErrAt (reverse opn item close z) := by
  constructor
  · intro σ a σ' h
    simp only [reverse, bind_ok, cur_run, Except.ok.injEq, Prod.mk.injEq] at h
    obtain ⟨o, σ1, h1, _, _, ⟨rfl, rfl⟩, h⟩ := h
    split at h
    · cases h
    · simp only [bind_ok, loopFuel_run, Except.ok.injEq, Prod.mk.injEq] at h
      obtain ⟨k, _, ⟨rfl, rfl⟩, nodes, σ2, hm, h⟩ := h
      split at h
      · cases h
      · obtain ⟨rfl, rfl⟩ := pure_ok.mp h
        exact ((inferInstance : ErrAt (expect opn)).ok _ _ _ h1).trans ((many_errAt _).ok _ _ _ hm)
  · intro σ pos b l h
    simp only [reverse] at h
    rcases bind_error.mp h with h1 | ⟨o, σ1, h1, h2⟩
    · exact (inferInstance : ErrAt (expect opn)).err _ _ _ _ h1
    · have hd := (inferInstance : ErrAt (expect opn)).ok _ _ _ h1
      refine .of_drops hd ?_
      simp only [bind_error, cur_run, Except.ok.injEq, Prod.mk.injEq, reduceCtorEq, false_or] at h2
      obtain ⟨_, _, ⟨rfl, rfl⟩, h2⟩ := h2
      split at h2
      · simp only [fail_run, Except.error.injEq, PErr.syntax.injEq] at h2
        rw [← h2.1, ← h2.2.2]; exact errOK_cur σ1
      · simp only [bind_error, loopFuel_run, Except.ok.injEq, Prod.mk.injEq, reduceCtorEq, false_or] at h2
        obtain ⟨k, _, ⟨rfl, rfl⟩, h2⟩ := h2
        rcases h2 with h3 | ⟨nodes, σ2, _, h4⟩
        · exact (many_errAt _).err _ _ _ _ h3
        · split at h4
          · simp only [fail_run, Except.error.injEq, PErr.syntax.injEq] at h4
            -- unreachable: an empty list means the first `skip close` succeeded, which the early check excludes
            rename_i hnc hm hz
            exfalso
            have hemp : nodes = [] := by
              cases nodes with
              | nil => rfl
              | cons _ _ => simp at hz
            subst hemp
            have hz' : z = true := by cases z <;> simp_all
            exact hnc ⟨hz', close_of_many_nil hm⟩
          · cases h4

instance {α} {item : P α} [ErrAt item] (sep : TokenKind) (k : Nat) : ErrAt (sepLoop item sep k) := by
  induction k with
  | zero => unfold sepLoop; infer_instance
  | succ k ih => unfold sepLoop; infer_instance

/-- a type reference never reports a syntax error itself (D-03b: `parseType` has no failing path) -/
theorem parseTypeFuel_no_syntax_error : ∀ (n : Nat) (σ : PState) (pos : Nat) (b : Bool) (l : Nat),
    parseTypeFuel n σ ≠ .error (.syntax pos b l) := by
  intro n
  induction n with
  | zero => intro σ pos b l h; cases h
  | succ n ih =>
    intro σ pos b l h
    simp only [parseTypeFuel] at h
    rcases bind_error.mp h with h1 | ⟨tok, σ0, h1, h2⟩
    · cases h1
    · simp only [cur_run, Except.ok.injEq, Prod.mk.injEq] at h1
      obtain ⟨rfl, rfl⟩ := h1
      rcases bind_error.mp h2 with h3 | ⟨base, σ1, _, h4⟩
      · by_cases hk : σ.cur.kind = .bracketL
        · rw [parseTypeBaseWith_bracketL hk, bind_eq_of_ok (advance_run σ)] at h3
          rcases bind_error.mp h3 with h7 | ⟨inner, σ2, _, h8⟩
          · exact ih _ _ _ _ h7
          · rw [bind_eq_of_ok (cur_run σ2)] at h8
            split at h8 <;> cases h8
        by_cases hR : σ.cur.kind = .bracketR
        · rw [parseTypeBaseWith_bracketR hR] at h3
          cases h3
        by_cases hN : σ.cur.kind = .name
        · rw [parseTypeBaseWith_name hN] at h3
          have h1 : parseName σ = .ok (⟨σ.cur.value, ⟨σ.cur.start, σ.adv.prevEnd⟩⟩, σ.adv) :=
            (bind_eq_of_ok (expect_of_kind hN)).trans rfl
          have h2 : parseNamed σ = .ok (.named σ.cur.value ⟨σ.cur.start, σ.adv.prevEnd⟩, σ.adv) :=
            (bind_eq_of_ok (cur_run σ)).trans ((bind_eq_of_ok h1).trans rfl)
          rw [bind_eq_of_ok h2] at h3
          cases h3
        · rw [parseTypeBaseWith_other hk hR hN] at h3
          cases h3
      · rcases bind_error.mp h4 with h5 | ⟨sk, σ2, _, h6⟩
        · exact skip_ne_error h5
        · split at h6 <;> simp [bind_error] at h6

end GqlModel.Parser
