import GqlModel.DefaultWorld
import GqlProofs.ListCount
/-! The equations of `scan`, `Spec.structProperty` and `lookup` on a non-empty list, and what follows from them:
the loop is `find?`, a map lookup is membership, and where `defaultResolve` can panic. -/
namespace GqlModel.DefaultResolve

theorem equalFold_iff {a b : String} :
    equalFold a b = true ↔ a.toList.map lowerAscii = b.toList.map lowerAscii := beq_iff_eq

theorem scan_cons (f : SField) (fs : List SField) (name : String) :
    scan (f :: fs) name = if fieldMatches f name then fieldValue f else scan fs name := by
  rw [scan, fieldMatches, Bool.or_assoc]
  cases equalFold f.name name <;> rfl

theorem structProperty_cons (f : SField) (fs : List SField) (name : String) :
    Spec.structProperty (f :: fs) name =
      if fieldMatches f name then fieldValue f else Spec.structProperty fs name := by
  rw [Spec.structProperty, List.find?_cons]
  cases fieldMatches f name <;> rfl

theorem scan_eq_structProperty (fs : List SField) (name : String) :
    scan fs name = Spec.structProperty fs name := by
  induction fs with
  | nil => rfl
  | cons f fs ih => rw [scan_cons, structProperty_cons, ih]

theorem structProperty_of_find {fs : List SField} {name : String} {f : SField}
    (h : fs.find? (fieldMatches · name) = some f) : Spec.structProperty fs name = fieldValue f := by
  rw [Spec.structProperty, h]

theorem lookup_eq_find? (es : List (String × PVal)) (name : String) :
    lookup es name = (es.find? (·.1 == name)).map (·.2) := by
  induction es with
  | nil => rfl
  | cons e es ih =>
    obtain ⟨k, v⟩ := e
    rw [lookup, List.find?_cons]
    cases k == name
    · exact ih
    · rfl

theorem lookup_some_mem (es : List (String × PVal)) (k : String) (v : PVal)
    (h : lookup es k = some v) : (k, v) ∈ es := by
  rw [lookup_eq_find?] at h
  obtain ⟨e, he, rfl⟩ := Option.map_eq_some_iff.mp h
  have hk : e.1 = k := eq_of_beq (List.find?_some (p := fun x : String × PVal => x.1 == k) he)
  exact hk ▸ List.mem_of_find?_eq_some he

theorem lookup_none_of_not_mem (es : List (String × PVal)) (k : String)
    (h : k ∉ es.map (·.1)) : lookup es k = none := by
  rw [lookup_eq_find?, List.find?_eq_none.mpr fun e he hk => h (List.mem_map.mpr ⟨e, he, eq_of_beq hk⟩)]
  rfl

theorem lookup_of_mem_nodup (es : List (String × PVal)) (k : String) (v : PVal)
    (hnd : (es.map (·.1)).Nodup) (hm : (k, v) ∈ es) : lookup es k = some v := by
  rw [lookup_eq_find?, find_of_nodup_key (·.1) es (k, v) hnd hm]
  rfl

theorem defaultResolve_mapIface (es : List (String × PVal)) (name : String) :
    defaultResolve (.mapIface es) name = ifaceProperty (lookup es name) := rfl

theorem defaultResolve_mapRefl (keyExact : Bool) (elem : ElemKind) (es : List (String × PVal)) (name : String) :
    defaultResolve (.mapRefl keyExact elem es) name =
      if keyExact then reflProperty elem (lookup es name) else .panic := rfl

theorem lookup_congr {es es' : List (String × PVal)} (hnd : (es.map (·.1)).Nodup)
    (hnd' : (es'.map (·.1)).Nodup) (hsame : ∀ e, e ∈ es ↔ e ∈ es') (name : String) :
    lookup es name = lookup es' name := by
  cases h : lookup es name with
  | some v => exact (lookup_of_mem_nodup es' name v hnd' ((hsame _).mp (lookup_some_mem es name v h))).symm
  | none =>
    cases h' : lookup es' name with
    | none => rfl
    | some v =>
      rw [lookup_of_mem_nodup es name v hnd ((hsame _).mpr (lookup_some_mem es' name v h'))] at h
      cases h

theorem ifaceProperty_of_not_func0 {v : PVal} (h : ∀ id, v ≠ .func0 id) :
    ifaceProperty (some v) = .value v := by
  cases v with
  | func0 id => exact absurd rfl (h id)
  | _ => rfl

theorem fieldValue_of_exported {f : SField} (h : f.exported = true) : fieldValue f = .value f.val := by
  rw [fieldValue, if_pos h]

theorem structProperty_ne_panic {fs : List SField} (h : ∀ f ∈ fs, f.exported = true) (name : String) :
    Spec.structProperty fs name ≠ .panic := by
  cases hf : fs.find? (fieldMatches · name) with
  | none =>
    rw [Spec.structProperty, hf]
    exact Res.noConfusion
  | some f =>
    rw [structProperty_of_find hf, fieldValue_of_exported (h f (List.mem_of_find?_eq_some hf))]
    exact Res.noConfusion

theorem ifaceProperty_ne_panic (o : Option PVal) : ifaceProperty o ≠ .panic := by
  rcases o with _ | _ | _ | _ | _ <;> exact Res.noConfusion

/-- the one panic of the reflected-map path: a nil `func() interface{}` entry is called -/
theorem reflProperty_eq_panic {el : ElemKind} {o : Option PVal} (h : reflProperty el o = .panic) :
    el = .func0 ∧ o = some .nil := by
  unfold reflProperty at h
  split at h
  · cases h
  · split at h
    · cases h
    · exact ⟨rfl, rfl⟩
    · cases h

theorem objOf_congr (I : Interp) (names : List String) (typeName : String) {src src' : Source}
    (h : ∀ n ∈ names, defaultResolve src n = defaultResolve src' n) :
    objOf I names typeName src = objOf I names typeName src' := by
  rw [objOf, objOf, List.map_congr_left fun n hn => by rw [h n hn]]

theorem defaultWorld_map_congr {α : Type} (I : Interp) (names : List String) (base : Exec.World) (l : List α)
    (id : α → Nat) (ty : α → String) {src src' : α → Source}
    (h : ∀ a ∈ l, ∀ n ∈ names, defaultResolve (src a) n = defaultResolve (src' a) n) :
    defaultWorld I names (l.map fun a => (id a, ty a, src a)) base =
    defaultWorld I names (l.map fun a => (id a, ty a, src' a)) base := by
  unfold defaultWorld
  rw [List.map_map, List.map_map]
  exact congrArg (fun os => { base with objects := os })
    (List.map_congr_left fun a ha => congrArg (Prod.mk (id a)) (objOf_congr I names (ty a) (h a ha)))

end GqlModel.DefaultResolve
