import GqlProofs.ExecProgram
/-! One level of each of the four mutually recursive executor functions, as a relation between the arguments and the
result: one rule per way through the function body, in terms of what the calls with one unit of fuel less return.
`*Step.of_eq` says the function obeys the rules (read off the equations of `ExecProgram`).

Some rules end in `absorb t r` or `r.mapOk f`, which `cases` cannot match against a given `.ok j`: for a call known to
return `.ok j`, first `generalize hr : Res.ok j = r at h`, invert, and settle `hr` in each case. -/
namespace GqlModel.Exec

inductive GroupsStep (c : Ctx) (fuel : Nat) (dfr : Bool) (rt : String) (src : GoVal) (path : Path) :
    Groups → List (String × JVal) → St → Res (List (String × JVal)) × St → Prop
  | nil {acc st} : GroupsStep c fuel dfr rt src path [] acc st (.ok acc, st)
  /-- no occurrence, or a field the type does not have: the key is skipped -/
  | skip {key nodes rest acc st out} : (∀ node fd, nodes.head? = some node → fieldDef? c.schema rt node.name ≠ some fd) →
      execGroups c fuel dfr rt src path rest acc st = out →
      GroupsStep c fuel dfr rt src path ((key, nodes) :: rest) acc st out
  | ok {key nodes rest acc st out node fd v st1} : nodes.head? = some node → fieldDef? c.schema rt node.name = some fd →
      execField c fuel dfr rt src (path ++ [.key key]) fd nodes st = (.ok v, st1) →
      execGroups c fuel dfr rt src path rest (acc ++ [(key, v)]) st1 = out →
      GroupsStep c fuel dfr rt src path ((key, nodes) :: rest) acc st out
  | fail {key nodes rest acc st node fd st1} : nodes.head? = some node → fieldDef? c.schema rt node.name = some fd →
      execField c fuel dfr rt src (path ++ [.key key]) fd nodes st = (.fail, st1) →
      GroupsStep c fuel dfr rt src path ((key, nodes) :: rest) acc st (.fail, st1)
  | fuelOut {key nodes rest acc st node fd st1} : nodes.head? = some node → fieldDef? c.schema rt node.name = some fd →
      execField c fuel dfr rt src (path ++ [.key key]) fd nodes st = (.fuelOut, st1) →
      GroupsStep c fuel dfr rt src path ((key, nodes) :: rest) acc st (.fuelOut, st1)

section
variable {c : Ctx} {fuel : Nat} {dfr : Bool} {rt : String} {src : GoVal} {path : Path} {groups : Groups}
  {acc : List (String × JVal)} {st : St} {out : Res (List (String × JVal)) × St}

theorem GroupsStep.of_eq (h : execGroups c (fuel + 1) dfr rt src path groups acc st = out) :
    GroupsStep c fuel dfr rt src path groups acc st out := by
  subst h
  cases groups with
  | nil => rw [execGroups_nil]; exact .nil
  | cons g rest =>
    obtain ⟨key, nodes⟩ := g
    rcases fieldOf_cases c.schema rt nodes with hno | ⟨node, fd, hh, hfd⟩
    · exact .skip hno (execGroups_skip hno).symm
    · rw [execGroups_field hh hfd]
      generalize hf : execField c fuel dfr rt src (path ++ [.key key]) fd nodes st = o
      obtain ⟨r1, st1⟩ := o
      cases r1 with
      | ok v => exact .ok hh hfd hf rfl
      | fail => exact .fail hh hfd hf
      | fuelOut => exact .fuelOut hh hfd hf

end

inductive FieldStep (c : Ctx) (fuel : Nat) (dfr : Bool) (rt : String) (src : GoVal) (p : Path) (fd : FieldDefS)
    (nodes : List FieldNode) : St → Res JVal × St → Prop
  | typename {st} : (fd.name == "__typename") = true → FieldStep c fuel dfr rt src p fd nodes st (.ok (.str rt), st)
  | resolverFails {st} : (fd.name == "__typename") = false → c.world.outcome src fd.name = .fail →
      FieldStep c fuel dfr rt src p fd nodes st
        (absorb fd.type .fail, addErr (logCall (callEntry c dfr rt src p fd nodes) st) p dfr)
  | value {st v r1 st1} : (fd.name == "__typename") = false → c.world.outcome src fd.name = .value v →
      complete c fuel dfr fd.type rt fd.name nodes p v (logCall (callEntry c dfr rt src p fd nodes) st) = (r1, st1) →
      FieldStep c fuel dfr rt src p fd nodes st (absorb fd.type r1, st1)

section
variable {c : Ctx} {fuel : Nat} {dfr : Bool} {rt : String} {src : GoVal} {p : Path} {fd : FieldDefS}
  {nodes : List FieldNode} {st : St} {out : Res JVal × St}

theorem FieldStep.of_eq (h : execField c (fuel + 1) dfr rt src p fd nodes st = out) :
    FieldStep c fuel dfr rt src p fd nodes st out := by
  subst h
  cases hn : fd.name == "__typename" with
  | true => rw [execField_typename hn]; exact .typename hn
  | false =>
    cases ho : c.world.outcome src fd.name with
    | fail => rw [execField_fails hn ho]; exact .resolverFails hn ho
    | value v => rw [execField_value hn ho]; exact .value hn ho (Prod.eta _).symm

end

inductive ItemsStep (c : Ctx) (fuel : Nat) (dfr : Bool) (item : GType) (rt fname : String) (nodes : List FieldNode)
    (p : Path) : List GoVal → Nat → List JVal → St → Res (List JVal) × St → Prop
  | nil {i acc st} : ItemsStep c fuel dfr item rt fname nodes p [] i acc st (.ok acc, st)
  | ok {x xs i acc st out j st1} : complete c fuel dfr item rt fname nodes (p ++ [.idx i]) x st = (.ok j, st1) →
      completeItems c fuel dfr item rt fname nodes p xs (i + 1) (acc ++ [j]) st1 = out →
      ItemsStep c fuel dfr item rt fname nodes p (x :: xs) i acc st out
  | absorbed {x xs i acc st out st1} : complete c fuel dfr item rt fname nodes (p ++ [.idx i]) x st = (.fail, st1) →
      item.isNonNull = false →
      completeItems c fuel dfr item rt fname nodes p xs (i + 1) (acc ++ [.null]) st1 = out →
      ItemsStep c fuel dfr item rt fname nodes p (x :: xs) i acc st out
  | fail {x xs i acc st st1} : complete c fuel dfr item rt fname nodes (p ++ [.idx i]) x st = (.fail, st1) →
      item.isNonNull = true → ItemsStep c fuel dfr item rt fname nodes p (x :: xs) i acc st (.fail, st1)
  | fuelOut {x xs i acc st st1} : complete c fuel dfr item rt fname nodes (p ++ [.idx i]) x st = (.fuelOut, st1) →
      ItemsStep c fuel dfr item rt fname nodes p (x :: xs) i acc st (.fuelOut, st1)

section
variable {c : Ctx} {fuel : Nat} {dfr : Bool} {item : GType} {rt fname : String} {nodes : List FieldNode} {p : Path}
  {xs : List GoVal} {i : Nat} {acc : List JVal} {st : St} {out : Res (List JVal) × St}

theorem ItemsStep.of_eq (h : completeItems c (fuel + 1) dfr item rt fname nodes p xs i acc st = out) :
    ItemsStep c fuel dfr item rt fname nodes p xs i acc st out := by
  subst h
  cases xs with
  | nil => rw [completeItems_nil]; exact .nil
  | cons x xs =>
    rw [completeItems_cons, recover_absorbAt]
    generalize hc : complete c fuel dfr item rt fname nodes (p ++ [.idx i]) x st = o
    obtain ⟨r1, st1⟩ := o
    cases r1 with
    | ok j => exact .ok hc rfl
    | fuelOut => exact .fuelOut hc
    | fail =>
      rcases absorb_fail_cases item with ⟨hnn, ha⟩ | ⟨hnn, ha⟩
      · simp only [ha]; exact .fail hc hnn
      · simp only [ha]; exact .absorbed hc hnn rfl

end

inductive CompleteStep (c : Ctx) (fuel : Nat) (dfr : Bool) (rt fname : String) (nodes : List FieldNode) (p : Path) :
    GType → GoVal → St → Res JVal × St → Prop
  | thunkErr {t st} :
      CompleteStep c fuel dfr rt fname nodes p t (.thunk .err) st (.fail, kfMark t p (addErr st p true))
  | badFunc {t st} : CompleteStep c fuel dfr rt fname nodes p t .badFunc st (.fail, kfMark t p (addErr st p true))
  | thunkFail {t v st st1} : complete c fuel true t rt fname nodes p v st = (.fail, st1) →
      CompleteStep c fuel dfr rt fname nodes p t (.thunk (.ok v)) st (.fail, kfMark t p st1)
  | thunkPass {t v st r1 st1} : complete c fuel true t rt fname nodes p v st = (r1, st1) → r1 ≠ .fail →
      CompleteStep c fuel dfr rt fname nodes p t (.thunk (.ok v)) st (r1, st1)
  /-- "Cannot return null for non-nullable field" -/
  | nonNullNull {t v st st1} : v.isFunc = false → complete c fuel dfr t rt fname nodes p v st = (.ok .null, st1) →
      CompleteStep c fuel dfr rt fname nodes p (.nonNull t) v st (.fail, addErr st1 p dfr)
  | nonNullPass {t v st r1 st1} : v.isFunc = false → complete c fuel dfr t rt fname nodes p v st = (r1, st1) →
      r1 ≠ .ok .null → CompleteStep c fuel dfr rt fname nodes p (.nonNull t) v st (r1, st1)
  | immediate {t v st j} : v.isFunc = false → LeafValue c v t j → CompleteStep c fuel dfr rt fname nodes p t v st (.ok j, st)
  | rejected {t v st} : v.isFunc = false → Rejected c v t →
      CompleteStep c fuel dfr rt fname nodes p t v st (.fail, addErr st p dfr)
  | items {t xs st r1 st1} : completeItems c fuel dfr t rt fname nodes p xs 0 [] st = (r1, st1) →
      CompleteStep c fuel dfr rt fname nodes p (.list t) (.list xs) st (r1.mapOk .list, st1)
  | object {n v st ot r1 st1} : v.isFunc = false → v.nullish = false → RuntimeObject c v n ot →
      execGroups c fuel dfr ot v p (collectMerged c ot nodes) [] st = (r1, st1) →
      CompleteStep c fuel dfr rt fname nodes p (.named n) v st (r1.mapOk .obj, st1)

section
variable {c : Ctx} {fuel : Nat} {dfr : Bool} {t : GType} {rt fname : String} {nodes : List FieldNode} {p : Path}
  {v : GoVal} {st : St} {out : Res JVal × St}

theorem CompleteStep.of_eq (h : complete c (fuel + 1) dfr t rt fname nodes p v st = out) :
    CompleteStep c fuel dfr rt fname nodes p t v st out := by
  subst h
  cases hf : v.isFunc with
  | true =>
    cases v with
    | thunk r =>
      cases r with
      | err => rw [complete_thunkErr]; exact .thunkErr
      | ok v' =>
        rw [complete_thunk]
        generalize hc : complete c fuel true t rt fname nodes p v' st = o
        obtain ⟨r1, st1⟩ := o
        cases r1 with
        | fail => exact .thunkFail hc
        | ok j => exact .thunkPass hc nofun
        | fuelOut => exact .thunkPass hc nofun
    | badFunc => rw [complete_badFunc]; exact .badFunc
    | _ => cases hf
  | false =>
    rw [complete_succ (funcOf_eq_none_iff.mpr hf)]
    have hs := shape_spec c t v
    cases hsh : shape c t v with
    | nonNull inner =>
      rw [hsh] at hs; subst hs
      simp only
      generalize hc : complete c fuel dfr inner rt fname nodes p v st = o
      obtain ⟨r1, st1⟩ := o
      cases r1 with
      | ok j =>
        cases j with
        | null => exact .nonNullNull hf hc
        | _ => exact .nonNullPass hf hc nofun
      | fail => exact .nonNullPass hf hc nofun
      | fuelOut => exact .nonNullPass hf hc nofun
    | null => rw [hsh] at hs; exact .immediate hf hs
    | leaf j => rw [hsh] at hs; exact .immediate hf hs
    | error => rw [hsh] at hs; exact .rejected hf hs
    | items item xs =>
      rw [hsh] at hs; obtain ⟨rfl, rfl⟩ := hs
      simp only
      generalize hi : completeItems c fuel dfr item rt fname nodes p xs 0 [] st = o
      obtain ⟨r1, st1⟩ := o
      have := CompleteStep.items (rt := rt) (fname := fname) hi
      cases r1 <;> exact this
    | object ot =>
      rw [hsh] at hs; obtain ⟨n, rfl, hnull, ho⟩ := hs
      simp only
      generalize hg : execGroups c fuel dfr ot v p (collectMerged c ot nodes) [] st = o
      obtain ⟨r1, st1⟩ := o
      have := CompleteStep.object (rt := rt) (fname := fname) hf hnull ho hg
      cases r1 <;> exact this

end

end GqlModel.Exec
