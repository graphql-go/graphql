import GqlProofs.ExecLog
/-! C04: errors and nulls. Every call of the four mutually recursive functions only PREPENDS to the error list (errors
recorded earlier are kept); when a call fails, at least one new error lies at or below its position; when it succeeds,
every new error addresses a position of the produced value (or one of its ancestors inside that value) that holds
`null`. -/
namespace GqlModel.Exec

/-- `ValAt v rel y`: following the relative path `rel` inside `v` reaches `y`, through ANY binding of a key. The
two-world statements use the function `JVal.getAt` (first binding) instead; response objects have distinct keys
(`execGroups_ok_keys_nodup`), where the two agree. -/
inductive ValAt : JVal → Path → JVal → Prop
  | here (v : JVal) : ValAt v [] v
  | key {fs : List (String × JVal)} {k : String} {x y : JVal} {rest : Path} :
      (k, x) ∈ fs → ValAt x rest y → ValAt (.obj fs) (.key k :: rest) y
  | idx {xs : List JVal} {i : Nat} {x y : JVal} {rest : Path} :
      xs[i]? = some x → ValAt x rest y → ValAt (.list xs) (.idx i :: rest) y

/-- the error path `q` addresses a null inside `v`, which sits at `p`: some prefix `p ++ rel` of `q` holds `null` -/
def NullOn (p : Path) (v : JVal) (q : Path) : Prop := ∃ rel, (p ++ rel) <+: q ∧ ValAt v rel .null

theorem NullOn.prefix {p q : Path} {v : JVal} (h : NullOn p v q) : p <+: q := by
  obtain ⟨rel, hp, -⟩ := h
  exact List.IsPrefix.trans (List.prefix_append _ _) hp

theorem nullOn_null {p q : Path} (h : p <+: q) : NullOn p .null q := ⟨[], by simpa using h, .here _⟩

structure ErrP (c : Ctx) (fuel : Nat) : Prop where
  groups : ∀ dfr rt src path groups acc st r st',
    execGroups c fuel dfr rt src path groups acc st = (r, st') →
    ∃ new, st'.errs = new ++ st.errs ∧
      (r = .fail → new ≠ [] ∧ ∀ e, e ∈ new → path <+: e.1) ∧
      (∀ fs, r = .ok fs → (∃ more, fs = acc ++ more) ∧
        ∀ e, e ∈ new → ∃ k x, (k, x) ∈ fs ∧ NullOn (path ++ [.key k]) x e.1)
  field : ∀ dfr rt src p fd nodes st r st',
    execField c fuel dfr rt src p fd nodes st = (r, st') →
    ∃ new, st'.errs = new ++ st.errs ∧
      (r = .fail → new ≠ [] ∧ ∀ e, e ∈ new → p <+: e.1) ∧
      (∀ j, r = .ok j → ∀ e, e ∈ new → NullOn p j e.1)
  complete : ∀ dfr t rt fname nodes p v st r st',
    complete c fuel dfr t rt fname nodes p v st = (r, st') →
    ∃ new, st'.errs = new ++ st.errs ∧
      (r = .fail → new ≠ [] ∧ ∀ e, e ∈ new → p <+: e.1) ∧
      (∀ j, r = .ok j → ∀ e, e ∈ new → NullOn p j e.1)
  /-- `i` is the index of the next element; the model calls with `i = acc.length`, and only then do indices into `js`
  and path indices coincide -/
  items : ∀ dfr item rt fname nodes p xs i acc st r st',
    completeItems c fuel dfr item rt fname nodes p xs i acc st = (r, st') →
    ∃ new, st'.errs = new ++ st.errs ∧
      (r = .fail → new ≠ [] ∧ ∀ e, e ∈ new → p <+: e.1) ∧
      (∀ js, r = .ok js → (∃ more, js = acc ++ more) ∧
        (i = acc.length → ∀ e, e ∈ new → ∃ j x, js[j]? = some x ∧ NullOn (p ++ [.idx j]) x e.1))

theorem errP_succ {c : Ctx} {fuel : Nat} (ih : ErrP c fuel) : ErrP c (fuel + 1) where
  groups := by
    intro dfr rt src path groups acc st r st' h
    cases GroupsStep.of_eq h with
    | nil =>
      exact ⟨[], rfl, nofun,
        fun fs hfs => by cases hfs; exact ⟨⟨[], (List.append_nil _).symm⟩, List.forall_mem_nil _⟩⟩
    | skip _ h => exact ih.groups _ _ _ _ _ _ _ _ _ h
    | @ok key _ _ _ _ _ _ _ v _ _ _ hf h =>
      obtain ⟨new1, hl1, -, hok1⟩ := ih.field _ _ _ _ _ _ _ _ _ hf
      obtain ⟨new2, hl2, hfail2, hok2⟩ := ih.groups _ _ _ _ _ _ _ _ _ h
      refine ⟨new2 ++ new1, by rw [hl2, hl1, List.append_assoc], fun hr => ?_, fun fs hr => ?_⟩
      · exact ⟨List.append_ne_nil_of_left_ne_nil (hfail2 hr).1 _, List.forall_mem_append.mpr
          ⟨(hfail2 hr).2, fun e he => Path.prefix_of_prefix_snoc (hok1 v rfl e he).prefix⟩⟩
      · obtain ⟨⟨more, hmore⟩, hall⟩ := hok2 fs hr
        refine ⟨⟨(key, v) :: more, by rw [hmore, List.append_assoc]; rfl⟩,
          List.forall_mem_append.mpr ⟨hall, fun e he => ⟨key, v, ?_, hok1 v rfl e he⟩⟩⟩
        rw [hmore]
        exact List.mem_append_left _ (List.mem_append_right _ List.mem_cons_self)
    | fail _ _ hf =>
      obtain ⟨new1, hl1, hfail1, -⟩ := ih.field _ _ _ _ _ _ _ _ _ hf
      exact ⟨new1, hl1,
        fun _ => ⟨(hfail1 rfl).1, fun e he => Path.prefix_of_prefix_snoc ((hfail1 rfl).2 e he)⟩, nofun⟩
    | fuelOut _ _ hf =>
      obtain ⟨new1, hl1, -⟩ := ih.field _ _ _ _ _ _ _ _ _ hf
      exact ⟨new1, hl1, nofun, nofun⟩
  field := by
    intro dfr rt src p fd nodes st r st' h
    -- absorbing a failure whose new errors all lie at or below `p`
    have habsorb : ∀ {new} {st1 : St}, st1.errs = new ++ st.errs → new ≠ [] →
        (∀ e, e ∈ new → p <+: e.1) →
        ∃ new, st1.errs = new ++ st.errs ∧
          (absorb fd.type .fail = .fail → new ≠ [] ∧ ∀ e, e ∈ new → p <+: e.1) ∧
          (∀ j, absorb fd.type .fail = .ok j → ∀ e, e ∈ new → NullOn p j e.1) := by
      intro new st1 hl hne hall
      rw [absorb_fail]
      split
      · exact ⟨new, hl, fun _ => ⟨hne, hall⟩, nofun⟩
      · exact ⟨new, hl, nofun, fun j hj e he => by cases hj; exact nullOn_null (hall e he)⟩
    cases FieldStep.of_eq h with
    | typename => exact ⟨[], rfl, nofun, fun _ _ => List.forall_mem_nil _⟩
    | resolverFails =>
      exact habsorb (new := [(p, dfr)]) rfl (List.cons_ne_nil _ _) (List.forall_mem_singleton.mpr (List.prefix_refl _))
    | @value _ r1 _ _ _ hc =>
      obtain ⟨new, hl, hfail, hok⟩ := ih.complete _ _ _ _ _ _ _ _ _ _ hc
      cases r1 with
      | fail => exact habsorb hl (hfail rfl).1 (hfail rfl).2
      | _ => exact ⟨new, hl, hfail, hok⟩
  complete := by
    intro dfr t rt fname nodes p v st r st' h
    cases CompleteStep.of_eq h with
    | thunkErr | badFunc | rejected =>
      exact ⟨[_], rfl,
        fun _ => ⟨List.cons_ne_nil _ _, List.forall_mem_singleton.mpr (List.prefix_refl _)⟩, nofun⟩
    | thunkFail hc => rw [kfMark_errs]; exact ih.complete _ _ _ _ _ _ _ _ _ _ hc
    | thunkPass hc | nonNullPass _ hc => exact ih.complete _ _ _ _ _ _ _ _ _ _ hc
    | nonNullNull _ hc =>
      -- the new error at `p` itself, on top of those of the inner value
      obtain ⟨new, hl, -, hok⟩ := ih.complete _ _ _ _ _ _ _ _ _ _ hc
      exact ⟨(p, dfr) :: new, congrArg (List.cons (p, dfr)) hl, fun _ => ⟨List.cons_ne_nil _ _,
        List.forall_mem_cons.mpr ⟨List.prefix_refl _, fun e he => (hok _ rfl e he).prefix⟩⟩, nofun⟩
    | immediate => exact ⟨[], rfl, nofun, fun _ _ => List.forall_mem_nil _⟩
    | items hi =>
      obtain ⟨new, hl, hfail, hok⟩ := ih.items _ _ _ _ _ _ _ _ _ _ _ _ hi
      -- the list is only wrapped: a failure carries over, the nulls are those of the items
      refine ⟨new, hl, fun hr => hfail (Res.mapOk_eq_fail hr), fun j hj e he => ?_⟩
      obtain ⟨js, hjs, rfl⟩ := Res.mapOk_ok_cases hj
      obtain ⟨j, x, hjx, rel, hp, hv⟩ := (hok js hjs).2 rfl e he
      exact ⟨.idx j :: rel, by rw [List.append_assoc] at hp; exact hp, .idx hjx hv⟩
    | object _ _ _ hg =>
      obtain ⟨new, hl, hfail, hok⟩ := ih.groups _ _ _ _ _ _ _ _ _ hg
      refine ⟨new, hl, fun hr => hfail (Res.mapOk_eq_fail hr), fun j hj e he => ?_⟩
      obtain ⟨fs, hfs, rfl⟩ := Res.mapOk_ok_cases hj
      obtain ⟨k, x, hkx, rel, hp, hv⟩ := (hok fs hfs).2 e he
      exact ⟨.key k :: rel, by rw [List.append_assoc] at hp; exact hp, .key hkx hv⟩
  items := by
    intro dfr item rt fname nodes p xs i acc st r st' h
    -- continuing with the value `y` stored for this item, whose new errors all address nulls on `y`
    have hgo : ∀ {xs st1 new1} (y : JVal),
        completeItems c fuel dfr item rt fname nodes p xs (i + 1) (acc ++ [y]) st1 = (r, st') →
        st1.errs = new1 ++ st.errs → (∀ e, e ∈ new1 → NullOn (p ++ [.idx i]) y e.1) →
        ∃ new, st'.errs = new ++ st.errs ∧
          (r = .fail → new ≠ [] ∧ ∀ e, e ∈ new → p <+: e.1) ∧
          (∀ js, r = .ok js → (∃ more, js = acc ++ more) ∧
            (i = acc.length → ∀ e, e ∈ new → ∃ j x, js[j]? = some x ∧ NullOn (p ++ [.idx j]) x e.1)) := by
      intro xs st1 new1 y h hl1 hy
      obtain ⟨new2, hl2, hfail2, hok2⟩ := ih.items _ _ _ _ _ _ _ _ _ _ _ _ h
      refine ⟨new2 ++ new1, by rw [hl2, hl1, List.append_assoc], fun hr => ?_, fun js hr => ?_⟩
      · exact ⟨List.append_ne_nil_of_left_ne_nil (hfail2 hr).1 _, List.forall_mem_append.mpr
          ⟨(hfail2 hr).2, fun e he => Path.prefix_of_prefix_snoc (hy e he).prefix⟩⟩
      · obtain ⟨⟨more, hmore⟩, hall⟩ := hok2 js hr
        refine ⟨⟨y :: more, by rw [hmore, List.append_assoc]; rfl⟩, fun hi => List.forall_mem_append.mpr
          ⟨hall (by rw [List.length_append, hi]; rfl), fun e he => ⟨i, y, ?_, hy e he⟩⟩⟩
        rw [hmore, hi]
        simp
    cases ItemsStep.of_eq h with
    | nil =>
      exact ⟨[], rfl, nofun,
        fun js hjs => by cases hjs; exact ⟨⟨[], (List.append_nil _).symm⟩, fun _ => List.forall_mem_nil _⟩⟩
    | @ok _ _ _ _ _ _ j _ hc h =>
      obtain ⟨new1, hl1, -, hok1⟩ := ih.complete _ _ _ _ _ _ _ _ _ _ hc
      exact hgo j h hl1 (hok1 j rfl)
    | absorbed hc _ h =>
      obtain ⟨new1, hl1, hfail1, -⟩ := ih.complete _ _ _ _ _ _ _ _ _ _ hc
      exact hgo .null h hl1 fun e he => nullOn_null ((hfail1 rfl).2 e he)
    | fail hc =>
      obtain ⟨new1, hl1, hfail1, -⟩ := ih.complete _ _ _ _ _ _ _ _ _ _ hc
      exact ⟨new1, hl1,
        fun _ => ⟨(hfail1 rfl).1, fun e he => Path.prefix_of_prefix_snoc ((hfail1 rfl).2 e he)⟩, nofun⟩
    | fuelOut hc =>
      obtain ⟨new1, hl1, -⟩ := ih.complete _ _ _ _ _ _ _ _ _ _ hc
      exact ⟨new1, hl1, nofun, nofun⟩

theorem errP (c : Ctx) : ∀ fuel, ErrP c fuel
  | 0 =>
    ⟨fun _ _ _ _ _ _ _ => of_zero execGroups_zero ⟨[], rfl, nofun, nofun⟩,
     fun _ _ _ _ _ _ _ => of_zero execField_zero ⟨[], rfl, nofun, nofun⟩,
     fun _ _ _ _ _ _ _ _ => of_zero complete_zero ⟨[], rfl, nofun, nofun⟩,
     fun _ _ _ _ _ _ _ _ _ _ => of_zero completeItems_zero ⟨[], rfl, nofun, nofun⟩⟩
  | fuel + 1 => errP_succ (errP c fuel)

section
variable {c : Ctx} {fuel : Nat} {dfr : Bool} {t : GType} {rt fname : String} {src v : GoVal} {fd : FieldDefS}
  {nodes : List FieldNode} {pos : Path} {j : JVal}

theorem runField_errs_prefix (h : (runField c fuel dfr rt src pos fd nodes).1 = .ok j) :
    ∀ e, e ∈ (runField c fuel dfr rt src pos fd nodes).2.errs → pos <+: e.1 := by
  obtain ⟨new, hl, -, hok⟩ :=
    (errP c fuel).field _ _ _ _ _ _ _ _ _ (Prod.eta (runField c fuel dfr rt src pos fd nodes)).symm
  rw [hl.trans (List.append_nil new)]
  exact fun e he => (hok j h e he).prefix

/-- also when the failure of the completion is absorbed -/
theorem runComplete_errs_prefix (hj : absorb t (runComplete c fuel dfr t rt fname nodes pos v).1 = .ok j) :
    ∀ e, e ∈ (runComplete c fuel dfr t rt fname nodes pos v).2.errs → pos <+: e.1 := by
  obtain ⟨new, hl, hfail, hok⟩ :=
    (errP c fuel).complete _ _ _ _ _ _ _ _ _ _ (Prod.eta (runComplete c fuel dfr t rt fname nodes pos v)).symm
  rw [hl.trans (List.append_nil new)]
  rcases absorb_ok_cases hj with h | ⟨h, -⟩
  · exact fun e he => (hok j h e he).prefix
  · exact (hfail h).2
end

end GqlModel.Exec
