import GqlProofs.SchemaErrors
/-! C11: the reducer computes closures. A run of `runSteps`, `reduce` (`typeMapReducer`) or `reduceRoots` from `tm` ends
in the closure of its targets (`StepsSpec`, `Spec`, `RootsSpec`), or — given enough fuel and no nil pointer among the
targets — in an ordinary error, and then no safe universe above `tm` holds the targets. One statement per function
(`Outcome`), proved by one walk of its body; what a successful run establishes, that no run crashes, and that every run
inside a safe universe succeeds and stays inside it are its three readings. -/
namespace GqlModel.SchemaBuild

variable {cfg : Config}

/-! fuel: the number of type objects not yet registered bounds the recursion depth -/

def unregistered (cfg : Config) (tm : TM) : Nat := (List.range cfg.size).countP (fun i => decide (i ∉ tm))

theorem unregistered_le (tm : TM) : unregistered cfg tm ≤ cfg.size := by
  unfold unregistered
  have := List.countP_le_length (p := fun i => decide (i ∉ tm)) (l := List.range cfg.size)
  simpa using this

theorem unregistered_mono {tm tm' : TM} (h : ∀ x ∈ tm, x ∈ tm') : unregistered cfg tm' ≤ unregistered cfg tm := by
  unfold unregistered
  apply List.countP_mono_left
  intro x _ hx
  simp only [decide_eq_true_eq] at hx ⊢
  exact fun hm => hx (h x hm)

theorem unregistered_lt {tm : TM} {i : Nat} (hi : i < cfg.size) (hni : i ∉ tm) : unregistered cfg (tm ++ [i]) < unregistered cfg tm := by
  unfold unregistered
  apply countP_lt
  · intro x _ hx
    simp only [decide_eq_true_eq, List.mem_append, not_or] at hx ⊢
    exact hx.1
  · refine ⟨i, by simpa using hi, ?_, ?_⟩
    · simpa using hni
    · simp

def Outcome (cfg : Config) (tm : TM) (t : TRef) : Except Err TM → Prop
  | .ok tm' => Spec cfg tm t tm'
  | .error e => e.isCrash = false ∧ ∀ U, Safe (cfg := cfg) U → Sub tm U → ¬ Visited cfg U t

def StepsOutcome (cfg : Config) (tm : TM) (steps : List Step) : Except Err TM → Prop
  | .ok tm' => StepsSpec cfg tm steps tm'
  | .error e => e.isCrash = false ∧ ∀ U, Safe (cfg := cfg) U → Sub tm U → ¬ StepsVisited cfg U steps

theorem runSteps_outcome (fuel : Nat) (rec : TM → TRef → Except Err TM)
    (hrec : ∀ tm t, unregistered cfg tm < fuel → Inv cfg tm → (∀ k, t.strip ≠ .nilPtr k) → Outcome cfg tm t (rec tm t)) :
    ∀ steps tm, (∀ s ∈ steps, StepOk s) → unregistered cfg tm < fuel → Inv cfg tm →
      StepsOutcome cfg tm steps (runSteps rec tm steps) := by
  intro steps
  induction steps with
  | nil => exact fun tm _ _ hinv => StepsSpec.nil hinv
  | cons s rest ih =>
    intro tm hs hf hinv
    obtain ⟨hs1, hsr⟩ := List.forall_mem_cons.mp hs
    cases s with
    | fail e =>
      exact ⟨hs1, fun U _ _ h => by obtain ⟨_, ht, _⟩ := h _ (List.mem_cons_self ..); cases ht⟩
    | visit t =>
      obtain ⟨j, hj⟩ := hs1
      have o1 := hrec tm t hf hinv fun k hk => by rw [hj] at hk; cases hk
      simp only [runSteps]
      have split : ∀ {U : TM}, StepsVisited cfg U (.visit t :: rest) → Visited cfg U t ∧ StepsVisited cfg U rest := fun h =>
        let ⟨⟨_, ht, hv⟩, hr⟩ := List.forall_mem_cons.mp h
        ⟨Step.visit.inj ht ▸ hv, hr⟩
      cases hr : rec tm t with
      | error e =>
        rw [hr] at o1
        exact ⟨o1.1, fun U hU hsub h => o1.2 U hU hsub (split h).1⟩
      | ok tm1 =>
        rw [hr] at o1
        have s1 : Spec cfg tm t tm1 := o1
        have o2 := ih tm1 hsr (Nat.lt_of_le_of_lt (unregistered_mono s1.sub) hf) s1.inv
        simp only
        cases hr2 : runSteps rec tm1 rest with
        | ok tm' => rw [hr2] at o2; exact StepsSpec.cons s1 o2
        | error e =>
          rw [hr2] at o2
          exact ⟨o2.1, fun U hU hsub h => o2.2 U hU (s1.within hU hsub (split h).1) (split h).2⟩

theorem reduce_outcome : ∀ fuel tm t, unregistered cfg tm < fuel → Inv cfg tm → (∀ k, t.strip ≠ .nilPtr k) →
    Outcome cfg tm t (reduce cfg fuel tm t) := by
  intro fuel
  induction fuel with
  | zero => exact fun tm t hf => absurd hf (Nat.not_lt_zero _)
  | succ fuel ih =>
    intro tm t hf hinv hnp
    have bad : ∀ e : Err, e.isCrash = false → (∀ i, t.strip ≠ .named i) → t.strip ≠ .nil →
        Outcome cfg tm t (.error e) :=
      fun e he h1 h2 => ⟨he, fun U _ _ hv => hv.elim h2 fun ⟨j, hj, _⟩ => h1 j hj⟩
    simp only [reduce]
    cases hs : t.strip with
    | nil => exact Spec.same hinv (Or.inl hs)
    | nilPtr k => exact absurd hs (hnp k)
    | badList => exact bad .badList rfl (by simp [hs]) (by simp [hs])
    | badNonNull => exact bad .badNonNull rfl (by simp [hs]) (by simp [hs])
    | named i =>
      simp only
      cases hce : ctorErr cfg i with
      | some e =>
        -- each error is refuted in a safe universe `U` by the fact that shows the case cannot arise inside `U`
        exact ⟨ctorErr_noCrash hce, fun U hU _ hv => by
          have := hU.inv.1 i (visited_named hv hs); rw [hce] at this; cases this⟩
      | none =>
        have hn : nameOf cfg i ≠ "" := ctorErr_none_name hce
        simp only [show (nameOf cfg i == "") = false by simpa using hn, Bool.false_eq_true, if_false]
        cases hl : TM.lookup cfg tm (nameOf cfg i) with
        | some x =>
          obtain ⟨hxm, hxn⟩ := lookup_some hl
          by_cases hx : x = i
          · subst hx
            simp only [beq_self_eq_true, if_true]
            exact Spec.same hinv (Or.inr ⟨x, hs, hn, hxm⟩)
          · simp only [show (x == i) = false by simpa using hx, Bool.false_eq_true, if_false]
            exact ⟨rfl, fun U hU hsub hv =>
              hx (inv_name_inj hU.inv (hsub x hxm) (visited_named hv hs) hxn)⟩
        | none =>
          have hfresh := lookup_none hl
          have hinv1 : Inv cfg (tm ++ [i]) := inv_append_one hinv hce hfresh
          have hf1 : unregistered cfg (tm ++ [i]) < fuel := by
            have := unregistered_lt (nameOf_lt hn) (fun hm => hfresh i hm rfl); omega
          have o := runSteps_outcome fuel (reduce cfg fuel) ih (stepsOf cfg i) (tm ++ [i]) (stepsOf_stepOk i) hf1 hinv1
          simp only
          cases hr : runSteps (reduce cfg fuel) (tm ++ [i]) (stepsOf cfg i) with
          | ok tm' =>
            rw [hr] at o
            have sp : StepsSpec cfg (tm ++ [i]) (stepsOf cfg i) tm' := o
            obtain ⟨l, hl'⟩ := sp.ext
            have hi_mem : i ∈ tm' := by rw [hl']; simp
            refine ⟨⟨i :: l, by rw [hl']; simp⟩, sp.inv, fun e he hne => ?_, Or.inr ⟨i, hs, hn, hi_mem⟩,
              fun e he hne => ?_⟩
            · by_cases h1 : e ∈ tm ++ [i]
              · cases mem_append_one h1 hne; exact sp.visited
              · exact sp.closed e he h1
            · by_cases h1 : e ∈ tm ++ [i]
              · cases mem_append_one h1 hne; exact ⟨i, hs, Reach.refl _⟩
              · obtain ⟨t', r, ht', hr', hre⟩ := sp.reach e he h1
                exact ⟨i, hs, Reach.head ⟨t', ht', hr'⟩ hre⟩
          | error e =>
            rw [hr] at o
            refine ⟨o.1, fun U hU hsub hv => ?_⟩
            have hiU := visited_named hv hs
            exact o.2 U hU (fun e he => (List.mem_append.mp he).elim (hsub e) fun h => List.mem_singleton.mp h ▸ hiU)
              (hU.closed i hiU)

/-! the loop over `initialTypes`: the same closure, with the parked error of each root looked at first -/

structure RootsSpec (tm : TM) (roots : List TRef) (tm' : TM) : Prop where
  ext : ∃ l, tm' = tm ++ l
  inv : Inv cfg tm'
  closed : ∀ i ∈ tm', ClosedE cfg tm' i
  visited : ∀ t ∈ roots, Visited cfg tm' t
  reach : ∀ e ∈ tm', e ∉ tm → ∃ t ∈ roots, ∃ r, t.strip = .named r ∧ Reach cfg r e
  topOk : ∀ t ∈ roots, t = .nil ∨ topErr cfg t = none

theorem RootsSpec.steps {tm tm' : TM} {roots : List TRef} (sp : RootsSpec (cfg := cfg) tm roots tm') :
    StepsSpec cfg tm (roots.map .visit) tm' := by
  refine ⟨sp.ext, sp.inv, fun e he _ => sp.closed e he, fun s hs => ?_, fun e he hne => ?_⟩
  · obtain ⟨t, ht, rfl⟩ := List.mem_map.mp hs
    exact ⟨t, rfl, sp.visited t ht⟩
  · obtain ⟨t, ht, r, hr⟩ := sp.reach e he hne
    exact ⟨t, r, List.mem_map_of_mem ht, hr⟩

theorem RootsSpec.of_steps {tm tm' : TM} {roots : List TRef} (sp : StepsSpec cfg tm (roots.map .visit) tm')
    (hcl : ∀ i ∈ tm', ClosedE cfg tm' i) (htop : ∀ t ∈ roots, t = .nil ∨ topErr cfg t = none) :
    RootsSpec (cfg := cfg) tm roots tm' := by
  refine ⟨sp.ext, sp.inv, hcl, fun t ht => ?_, fun e he hne => ?_, htop⟩
  · obtain ⟨_, h, hv⟩ := sp.visited _ (List.mem_map_of_mem ht)
    cases h; exact hv
  · obtain ⟨t, r, ht, hr⟩ := sp.reach e he hne
    obtain ⟨t', ht', h⟩ := List.mem_map.mp ht
    cases h; exact ⟨t, ht', r, hr⟩

theorem RootsSpec.cons {tm tm1 tm' : TM} {t : TRef} {rest : List TRef} (s1 : Spec cfg tm t tm1)
    (htop : t = .nil ∨ topErr cfg t = none) (sp : RootsSpec (cfg := cfg) tm1 rest tm') :
    RootsSpec (cfg := cfg) tm (t :: rest) tm' :=
  .of_steps (s1.steps.append sp.steps) sp.closed (List.forall_mem_cons.mpr ⟨htop, sp.topOk⟩)

/-- a root of `initialTypes` / an argument of `AppendType` that a successful run has dealt with -/
def RootOk (cfg : Config) (U : TM) (t : TRef) : Prop := t = .nil ∨ (topErr cfg t = none ∧ Visited cfg U t)

theorem RootOk.visited {U : TM} {t : TRef} (h : RootOk cfg U t) : Visited cfg U t :=
  h.elim (fun h => h ▸ Or.inl rfl) (·.2)

theorem RootOk.mono {U U' : TM} {t : TRef} (h : RootOk cfg U t) (hs : Sub U U') : RootOk cfg U' t :=
  h.imp_right fun h => ⟨h.1, h.2.mono hs⟩

theorem RootsSpec.rootOk {tm tm' : TM} {roots : List TRef} (sp : RootsSpec (cfg := cfg) tm roots tm') :
    ∀ t ∈ roots, RootOk cfg tm' t :=
  fun t ht => (sp.topOk t ht).imp_right fun h => ⟨h, sp.visited t ht⟩

theorem RootsSpec.within {tm tm' U : TM} {roots : List TRef} (sp : RootsSpec (cfg := cfg) tm roots tm')
    (hU : Safe (cfg := cfg) U) (hsub : Sub tm U) (hv : ∀ t ∈ roots, RootOk cfg U t) : Sub tm' U :=
  sp.steps.within hU hsub fun s hs => by
    obtain ⟨t, ht, rfl⟩ := List.mem_map.mp hs
    exact ⟨t, rfl, (hv t ht).visited⟩

def RootsOutcome (cfg : Config) (tm : TM) (roots : List TRef) : Except Err TM → Prop
  | .ok tm' => RootsSpec (cfg := cfg) tm roots tm'
  | .error e => e.isCrash = false ∧ ∀ U, Safe (cfg := cfg) U → Sub tm U → ¬ ∀ t ∈ roots, RootOk cfg U t

theorem RootsOutcome.fail {tm : TM} {t : TRef} {rest : List TRef} {e : Err} (hc : e.isCrash = false)
    (hno : ∀ U, Safe (cfg := cfg) U → Sub tm U → ¬ RootOk cfg U t) : RootsOutcome cfg tm (t :: rest) (.error e) :=
  ⟨hc, fun U hU hsub hr => hno U hU hsub (hr t (List.mem_cons_self ..))⟩

theorem RootsOutcome.cons {tm tm1 : TM} {t : TRef} {rest : List TRef} {r : Except Err TM} (s1 : Spec cfg tm t tm1)
    (htop : t = .nil ∨ topErr cfg t = none) (o : RootsOutcome cfg tm1 rest r) : RootsOutcome cfg tm (t :: rest) r := by
  cases r with
  | ok tm' => exact RootsSpec.cons s1 htop o
  | error e =>
    refine ⟨o.1, fun U hU hsub hr => ?_⟩
    obtain ⟨h1, hrest⟩ := List.forall_mem_cons.mp hr
    exact o.2 U hU (s1.within hU hsub h1.visited) hrest

theorem reduceRoots_outcome : ∀ roots tm, (∀ t ∈ roots, ∃ x : TRef, t = x.build) → Inv cfg tm →
    (∀ i ∈ tm, ClosedE cfg tm i) → RootsOutcome cfg tm roots (reduceRoots cfg tm roots) := by
  intro roots
  induction roots with
  | nil => exact fun tm _ hinv hcl => .of_steps (StepsSpec.nil hinv) hcl fun _ h => nomatch h
  | cons t rest ih =>
    intro tm hb hinv hcl
    obtain ⟨⟨x, hx⟩, hbr⟩ := List.forall_mem_cons.mp hb
    simp only [reduceRoots]
    by_cases hnil : t = .nil
    · subst hnil
      exact RootsOutcome.cons (Spec.same hinv (Or.inl rfl)) (Or.inl rfl) (ih tm hbr hinv hcl)
    · simp only [show (t == TRef.nil) = false by simpa using hnil, Bool.false_eq_true, if_false]
      cases hte : topErr cfg t with
      | some e =>
        exact RootsOutcome.fail (topErr_build_noCrash (hx ▸ hte)) fun U _ _ h =>
          h.elim hnil fun h => by rw [hte] at h; cases h.1
      | none =>
        have o := reduce_outcome (cfg.size + 1) tm t (Nat.lt_succ_of_le (unregistered_le tm)) hinv
          (hx ▸ build_strip_ne_nilPtr x)
        simp only
        cases hr : reduce cfg (cfg.size + 1) tm t with
        | ok tm1 =>
          rw [hr] at o
          exact RootsOutcome.cons o (Or.inr hte) (ih tm1 hbr (Spec.inv o) (Spec.closed_all o hcl))
        | error e =>
          rw [hr] at o
          exact RootsOutcome.fail o.1 fun U hU hsub h => h.elim hnil fun h => o.2 U hU hsub h.2

end GqlModel.SchemaBuild
