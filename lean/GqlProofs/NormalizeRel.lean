import GqlProofs.NormalizeVars
import GqlProofs.SelRel
import GqlProofs.ExecProgram
/-! C06 (normaliser): the normaliser's walk establishes the relation of `SelRel` between a selection and its normalised
form (threading lexer-shaped literals, agreement on mentioned variables and realisation of the synthetic variables
through `normSel`/`normOpt`/`normSet`/`normList`). -/
-- the four members of the walk's induction share one signature, so `hcc`, `hsch` are premises of all of them
set_option linter.unusedSectionVars false
namespace GqlModel.Normalize
open GqlModel.Coerce

mutual
/-- every field-argument value is well-formed (`Reader.WFValue`: names are GraphQL names, number tokens have the
lexer's shape — what the parser produces, C03) -/
def LexSel : Selection → Prop
  | .field _ _ args _ sel _ => (∀ a ∈ args, Reader.WFValue a.value) ∧ LexOpt sel
  | .inline _ _ ss _ => LexSet ss
  | .spread _ _ _ => True
def LexOpt : Option SelectionSet → Prop
  | none => True
  | some ss => LexSet ss
def LexSet : SelectionSet → Prop
  | .mk sels _ => LexList sels
def LexList : List Selection → Prop
  | [] => True
  | x :: xs => LexSel x ∧ LexList xs
end

/-- what schema construction guarantees (C11) and the normaliser relies on: argument names of a field are distinct,
argument types are input types whose names are GraphQL names (and `!` is never doubled), and no user field shadows
the introspection entry points -/
def SchemaOK (s : Schema) : Prop :=
  (∀ P nm fd, fieldDefN s P nm = some fd → (fd.args.map (·.name)).Nodup ∧
    ∀ d ∈ fd.args, isInputType s d.type = true ∧ Reader.WFType (typeRefOf d.type)) ∧
  (∀ P nm fd, Exec.fieldDef? s P nm = some fd → fieldDefN s P nm = some fd)

section Walk
variable (s : Schema) (hcc : customLti s) (hsch : SchemaOK s) (vars vars' : Vars) {keep : List String}
include hcc hsch

omit hcc hsch in
theorem argsOK_of_lex (defs : List ArgDef)
    (hdefs : ∀ d ∈ defs, isInputType s d.type = true ∧ Reader.WFType (typeRefOf d.type)) (as : List Argument)
    (hl : ∀ a ∈ as, Reader.WFValue a.value) : ArgsOK s defs as := by
  intro a ha d hd
  have := hdefs d (List.mem_of_find?_eq_some hd)
  exact ⟨⟨hl a ha, this.2⟩, this.1⟩

-- `P` is not used: the four statements name the type they are about
set_option linter.unusedVariables false in
/-- the statement proved for each of the four walk functions. The variable map `vars'` is that of the FINISHED walk, so
`Realises` can only be assumed of the final entry list; each step is therefore stated against a list `final` that extends its
own output (entries only grow), and hands the same `final` to its callees. -/
def WalkGoal (P : String) (st st' : NState) (rel : Prop) : Prop :=
  rel ∧ EntriesOK s st'.entries ∧ ∃ es, st'.entries = st.entries ++ es

mutual
theorem normSel_rel : ∀ (x : Selection) (P : String) (st : NState) (final : List Entry),
    EntriesOK s st.entries → LexSel x → (∀ v ∈ selVars x, Ag vars vars' v) →
    (∃ es, final = (normSel s keep P x st).2.entries ++ es) → Realises s vars' final →
    WalkGoal s P st (normSel s keep P x st).2 (RSel s vars vars' P x (normSel s keep P x st).1)
  | .field al nm args dirs sel loc, P, st, final, hes, hlex, hag, hfin, hre => by
    simp only [selVars, List.mem_append] at hag
    simp only [LexSel] at hlex
    have hdirs : Exec.included s vars' dirs = Exec.included s vars dirs :=
      included_congr s vars' vars dirs (fun v hv => hag v (Or.inl (Or.inr hv)))
    rcases normSel_field s keep P al nm args dirs sel loc st with ⟨hfd, e⟩ | ⟨fd, hfd, hcase⟩
    · rw [e]
      simp only [WalkGoal, RSel]
      refine ⟨⟨al, nm, args, dirs, sel, loc, rfl, rfl, rfl, hdirs, fun fd hfd' => ?_⟩, hes, [], by simp⟩
      rw [hsch.2 P nm.value fd hfd'] at hfd; cases hfd
    · obtain ⟨hnd, hin⟩ := hsch.1 P nm.value fd hfd
      -- the argument part, for both kinds of field (arguments kept because the response key occurs in a fragment
      -- definition / arguments extracted against the field's definitions)
      have hargs : ∃ esA, (normArgs s (argDefsFor keep (respKey al nm) fd) args st).2.entries = st.entries ++ esA ∧
          EntriesOK s (normArgs s (argDefsFor keep (respKey al nm) fd) args st).2.entries ∧
          (Realises s vars' (normArgs s (argDefsFor keep (respKey al nm) fd) args st).2.entries →
            getArgumentValues s fd.args (normArgs s (argDefsFor keep (respKey al nm) fd) args st).1 vars' =
              getArgumentValues s fd.args args vars) := by
        rcases argDefsFor_cases keep (respKey al nm) fd with ⟨_, hD⟩ | ⟨_, hD⟩
        · rw [hD, normArgs_nil]
          exact ⟨[], by simp, hes, fun _ =>
            getArgumentValues_congr s fd.args args vars' vars (fun v hv => hag v (Or.inl (Or.inl hv)))⟩
        · rw [hD]
          have haok := argsOK_of_lex s fd.args hin args hlex.1
          obtain ⟨⟨esA, hesA⟩, _, _⟩ := normArgs_entries s fd.args args st
          exact ⟨esA, hesA, normArgs_entriesOK s fd.args args st hes haok, fun hreA =>
            normalize_args_transparent_core s hcc fd.args hnd args st vars vars' hes haok
              (userOK_of_agree s vars vars' args fun v hv => hag v (Or.inl (Or.inl hv))) hreA⟩
      obtain ⟨esA, hesA, hesOK1, hargsT⟩ := hargs
      -- the sub-selection: walked below an object-typed field, left alone otherwise
      obtain ⟨sel', st2, hstep, ⟨esO, hesO⟩, hesOK2, hrel⟩ : ∃ sel' st2,
          normSel s keep P (.field al nm args dirs sel loc) st =
            (.field al nm (normArgs s (argDefsFor keep (respKey al nm) fd) args st).1 dirs sel' loc, st2) ∧
          (∃ esO, st2.entries = (normArgs s (argDefsFor keep (respKey al nm) fd) args st).2.entries ++ esO) ∧
          EntriesOK s st2.entries ∧
          ∀ T, (s.isObject fd.type.namedName = true → T = fd.type.namedName) → ROpt s vars vars' T sel sel' := by
        rcases hcase with ⟨ho, e⟩ | ⟨_, e⟩
        · rw [e] at hfin
          obtain ⟨hrel, hesOK2, hext⟩ := normOpt_rel sel fd.type.namedName
            (normArgs s (argDefsFor keep (respKey al nm) fd) args st).2 final hesOK1 hlex.2 (fun v hv => hag v (Or.inr hv)) hfin hre
          exact ⟨_, _, e, hext, hesOK2, fun T hT => hT ho ▸ hrel⟩
        · exact ⟨sel, _, e, ⟨[], (List.append_nil _).symm⟩, hesOK1,
            fun T _ => ROpt_refl s vars vars' sel T (fun v hv => hag v (Or.inr hv))⟩
      rw [hstep] at hfin ⊢
      obtain ⟨esF, hesF⟩ := hfin
      have hreA : Realises s vars' (normArgs s (argDefsFor keep (respKey al nm) fd) args st).2.entries := by
        rw [hesF, hesO, List.append_assoc] at hre; exact realises_prefix hre
      simp only [WalkGoal, RSel]
      refine ⟨⟨al, nm, _, dirs, _, loc, rfl, rfl, rfl, hdirs, fun fd' hfd' => ?_⟩, hesOK2, esA ++ esO,
        by rw [hesO, hesA, List.append_assoc]⟩
      have : fd' = fd := by
        have := hsch.2 P nm.value fd' hfd'; rw [hfd] at this; exact (Option.some.inj this).symm
      subst this
      exact ⟨hargsT hreA, hrel⟩
  | .inline tc dirs ss loc, P, st, final, hes, hlex, hag, hfin, hre => by
    simp only [selVars, List.mem_append] at hag
    simp only [LexSel] at hlex
    rw [normSel_inline] at hfin ⊢
    simp only [WalkGoal, RSel]
    obtain ⟨hrel, hesOK, es, hes'⟩ := normSet_rel ss (inlineParent s P tc) st final hes hlex
      (fun v hv => hag v (Or.inr hv)) hfin hre
    refine ⟨⟨tc, dirs, _, loc, rfl, fun _ => rfl,
      included_congr s vars' vars dirs (fun v hv => hag v (Or.inl hv)), fun hc => ?_⟩, hesOK, es, hes'⟩
    -- when the condition applies at P, the walk's parent is P
    have : inlineParent s P tc = P := by
      cases tc with
      | none => rfl
      | some t =>
        simp only [inlineParent]
        by_cases ho : s.isObject t.namedName = true
        · simp only [ho, if_true]
          simp only [Exec.condApplies, Bool.and_eq_true, Bool.or_eq_true, beq_iff_eq] at hc
          rcases hc.2 with h | h
          · exact h
          · rw [Exec.isAbstract_not_object h.1] at ho; cases ho
        · simp [ho]
    rw [this] at hrel ⊢
    exact hrel
  | .spread n d l, P, st, final, hes, hlex, hag, hfin, hre => by
    simp only [selVars] at hag
    rw [normSel_spread]
    simp only [WalkGoal, RSel]
    exact ⟨⟨n, d, l, rfl, rfl, included_congr s vars' vars d hag⟩, hes, [], by simp⟩
theorem normOpt_rel : ∀ (x : Option SelectionSet) (P : String) (st : NState) (final : List Entry),
    EntriesOK s st.entries → LexOpt x → (∀ v ∈ optSetVars x, Ag vars vars' v) →
    (∃ es, final = (normOpt s keep P x st).2.entries ++ es) → Realises s vars' final →
    WalkGoal s P st (normOpt s keep P x st).2 (ROpt s vars vars' P x (normOpt s keep P x st).1)
  | none, P, st, final, hes, _, _, _, _ => by
    rw [normOpt_none]
    exact ⟨by simp [ROpt], hes, [], by simp⟩
  | some ss, P, st, final, hes, hlex, hag, hfin, hre => by
    simp only [optSetVars] at hag
    simp only [LexOpt] at hlex
    rw [normOpt_some] at hfin ⊢
    simp only [WalkGoal, ROpt]
    obtain ⟨hrel, hesOK, es, hes'⟩ := normSet_rel ss P st final hes hlex hag hfin hre
    exact ⟨⟨_, rfl, hrel⟩, hesOK, es, hes'⟩
theorem normSet_rel : ∀ (x : SelectionSet) (P : String) (st : NState) (final : List Entry),
    EntriesOK s st.entries → LexSet x → (∀ v ∈ setVars x, Ag vars vars' v) →
    (∃ es, final = (normSet s keep P x st).2.entries ++ es) → Realises s vars' final →
    WalkGoal s P st (normSet s keep P x st).2 (RSet s vars vars' P x (normSet s keep P x st).1)
  | .mk sels loc, P, st, final, hes, hlex, hag, hfin, hre => by
    simp only [setVars] at hag
    simp only [LexSet] at hlex
    rw [normSet_mk] at hfin ⊢
    simp only [WalkGoal, RSet]
    obtain ⟨hrel, hesOK, es, hes'⟩ := normList_rel sels P st final hes hlex hag hfin hre
    exact ⟨⟨_, loc, rfl, hrel⟩, hesOK, es, hes'⟩
theorem normList_rel : ∀ (xs : List Selection) (P : String) (st : NState) (final : List Entry),
    EntriesOK s st.entries → LexList xs → (∀ v ∈ selsVars xs, Ag vars vars' v) →
    (∃ es, final = (normList s keep P xs st).2.entries ++ es) → Realises s vars' final →
    WalkGoal s P st (normList s keep P xs st).2 (RList s vars vars' P xs (normList s keep P xs st).1)
  | [], P, st, final, hes, _, _, _, _ => by
    rw [normList_nil]
    exact ⟨by simp [RList], hes, [], by simp⟩
  | x :: xs, P, st, final, hes, hlex, hag, hfin, hre => by
    simp only [selsVars, List.mem_append] at hag
    simp only [LexList] at hlex
    rw [normList_cons] at hfin ⊢
    simp only [WalkGoal, RList]
    obtain ⟨esF, hesF⟩ := hfin
    -- the tail first (it knows the final list), then the head
    obtain ⟨esT, hesT⟩ := normList_entries_ext (keep := keep) s xs P (normSel s keep P x st).2
    have hX := normSel_rel x P st final hes hlex.1 (fun v hv => hag v (Or.inl hv))
      ⟨esT ++ esF, by rw [hesF, hesT, List.append_assoc]⟩ hre
    obtain ⟨hrelX, hesOKX, esX, hesX⟩ := hX
    have hT := normList_rel xs P (normSel s keep P x st).2 final hesOKX hlex.2 (fun v hv => hag v (Or.inr hv))
      ⟨esF, hesF⟩ hre
    obtain ⟨hrelT, hesOKT, esT', hesT'⟩ := hT
    exact ⟨⟨_, _, rfl, hrelX, hrelT⟩, hesOKT, esX ++ esT', by rw [hesT', hesX, List.append_assoc]⟩
end

end Walk

end GqlModel.Normalize
