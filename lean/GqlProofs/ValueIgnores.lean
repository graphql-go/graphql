import GqlModel.Normalize
import GqlModel.StripLoc
import GqlProofs.CoerceArgs
/-! What the evaluation of a literal does not look at: source locations (`valueFromAST_strip`) and the variables the
literal does not mention (`valueFromAST_congr`). -/
namespace GqlModel.Normalize
open GqlModel.Coerce

theorem fromASTStep_named_some (s : Schema) (vars : Vars) (self : GType → Option Value → JVal) (n : String) {l : Value}
    (hv : isVarLit l = false) :
    fromASTStep s vars self (.named n) (some l) =
      match s.find? n with
      | some (.inputObject _ fields _) =>
        (match (motive := Value → JVal) l with
        | .obj fs _ => .obj (mkObj (fields.filterMap (fun f => fieldEntry f (self f.type (litLookup fs f.name)))))
        | _ => .null)
      | some (.scalar _ k _) => parseLiteral k l
      | some (.enum _ vals _) => enumParseLiteral vals l
      | _ => .null := by
  cases l <;> first | rfl | exact Bool.noConfusion hv

theorem stripLocList_eq_map (vs : List Value) : Value.stripLocList vs = vs.map Value.stripLoc := by
  induction vs with
  | nil => rfl
  | cons v vs ih => simp [Value.stripLocList, ih]

theorem stripLocFields_eq_map (fs : List ObjField) : ObjField.stripLocList fs = fs.map ObjField.stripLoc := by
  induction fs with
  | nil => rfl
  | cons f fs ih => simp [ObjField.stripLocList, ih]

theorem litLookup_strip (fs : List ObjField) (k : String) :
    litLookup (ObjField.stripLocList fs) k = (litLookup fs k).map Value.stripLoc := by
  have h1 : ∀ f : ObjField, f.stripLoc.value = f.value.stripLoc := fun f => by cases f; rfl
  have h2 : ∀ f : ObjField, f.stripLoc.name.value = f.name.value := fun f => by cases f; rfl
  simp only [litLookup_eq_find?, stripLocFields_eq_map, ← List.map_reverse, List.find?_map, Option.map_map, Function.comp_def, h1, h2]

theorem litWire_strip (l : Value) : litWire l.stripLoc = litWire l := by
  cases l <;> rfl

theorem parseLiteral_strip (k : ScalarKind) (l : Value) : parseLiteral k l.stripLoc = parseLiteral k l := by
  cases k with
  | custom sv pv pl => simp only [parseLiteral, litWire_strip]
  | _ => cases l <;> rfl

theorem enumParseLiteral_strip (vals : List EnumValueS) (l : Value) :
    enumParseLiteral vals l.stripLoc = enumParseLiteral vals l := by
  cases l <;> rfl

mutual
theorem litDepth_strip : ∀ v : Value, litDepth v.stripLoc = litDepth v
  | .var _ _ => rfl
  | .int _ _ => rfl
  | .float _ _ => rfl
  | .str _ _ => rfl
  | .bool _ _ => rfl
  | .enum _ _ => rfl
  | .list vs _ => by simp only [Value.stripLoc, litDepth, litDepthList_strip vs]
  | .obj fs _ => by simp only [Value.stripLoc, litDepth, litDepthFields_strip fs]
theorem litDepthList_strip : ∀ vs : List Value, litDepthList (Value.stripLocList vs) = litDepthList vs
  | [] => rfl
  | v :: vs => by simp only [Value.stripLocList, litDepthList, litDepth_strip v, litDepthList_strip vs]
theorem litDepthFields_strip : ∀ fs : List ObjField, litDepthFields (ObjField.stripLocList fs) = litDepthFields fs
  | [] => rfl
  | (.mk n v l) :: fs => by
    simp only [ObjField.stripLocList, ObjField.stripLoc, litDepthFields, litDepth_strip v, litDepthFields_strip fs]
end

theorem isVarLit_strip (l : Value) : isVarLit l.stripLoc = isVarLit l := by cases l <;> rfl
theorem isListLit_strip (l : Value) : isListLit l.stripLoc = isListLit l := by cases l <;> rfl

theorem fromASTStep_var (s : Schema) (vars : Vars) (self : GType → Option Value → JVal) (t : GType) (x : String) (loc : Loc) :
    fromASTStep s vars self t (some (.var x loc)) = lookupD vars x := by
  cases t <;> rfl

theorem fromASTStep_strip (s : Schema) (vars : Vars) (f g : GType → Option Value → JVal)
    (ih : ∀ t l, f t (l.map Value.stripLoc) = g t l) :
    ∀ t l, fromASTStep s vars f t (l.map Value.stripLoc) = fromASTStep s vars g t l := by
  -- no literal and a variable are the same at every type; what is left is a literal that is not a variable
  have key : ∀ t, (∀ l : Value, isVarLit l = false → isVarLit l.stripLoc = false →
      fromASTStep s vars f t (some l.stripLoc) = fromASTStep s vars g t (some l)) →
      ∀ l : Option Value, fromASTStep s vars f t (l.map Value.stripLoc) = fromASTStep s vars g t l := by
    intro t h l
    cases l with
    | none => rw [Option.map_none, fromASTStep_none, fromASTStep_none]
    | some l =>
      cases hv : isVarLit l with
      | true =>
        cases l with
        | var x loc => rw [Option.map_some, Value.stripLoc, fromASTStep_var, fromASTStep_var]
        | _ => cases hv
      | false => exact h l hv (by rw [isVarLit_strip, hv])
  intro t
  induction t with
  | nonNull t iht =>
    refine key _ fun l hv hv' => ?_
    rw [fromASTStep_nonNull_some _ _ _ _ _ hv, fromASTStep_nonNull_some _ _ _ _ _ hv']
    exact iht (some l)
  | list t iht =>
    refine key _ fun l hv hv' => ?_
    cases hl : isListLit l with
    | true =>
      cases l with
      | list ls loc =>
        simp only [Value.stripLoc, fromASTStep, stripLocList_eq_map, List.map_map]
        exact congrArg JVal.list (List.map_congr_left fun x _ => iht (some x))
      | _ => cases hl
    | false =>
      rw [fromASTStep_list_one _ _ _ _ _ hv hl, fromASTStep_list_one _ _ _ _ _ hv' (by rw [isListLit_strip, hl])]
      exact congrArg (fun x => JVal.list [x]) (iht (some l))
  | named n =>
    refine key _ fun l hv hv' => ?_
    rw [fromASTStep_named_some _ _ _ _ hv, fromASTStep_named_some _ _ _ _ hv']
    simp only [parseLiteral_strip, enumParseLiteral_strip]
    cases l with
    | obj fs loc => simp only [Value.stripLoc, litLookup_strip, ih]
    | _ => rfl
theorem valueFromASTF_strip (s : Schema) (vars : Vars) : ∀ (n : Nat) (t : GType) (l : Option Value),
    valueFromASTF s vars n t (l.map Value.stripLoc) = valueFromASTF s vars n t l := by
  intro n
  induction n with
  | zero => intro t l; rfl
  | succ n ih => intro t l; exact fromASTStep_strip s vars _ _ ih t l

theorem valueFromAST_strip (s : Schema) (t : GType) (v : Value) (vars : Vars) :
    valueFromAST s t (some v.stripLoc) vars = valueFromAST s t (some v) vars := by
  unfold valueFromAST
  have hd : optLitDepth (some v.stripLoc) = optLitDepth (some v) := by simp [optLitDepth, litDepth_strip]
  rw [hd]
  exact valueFromASTF_strip s vars _ t (some v)

theorem valueFromAST_of_same_shape (s : Schema) (t : GType) (v w : Value) (vars : Vars) (h : v.stripLoc = w.stripLoc) :
    valueFromAST s t (some v) vars = valueFromAST s t (some w) vars := by
  rw [← valueFromAST_strip s t v, ← valueFromAST_strip s t w, h]

def optVars : Option Value → List String
  | none => []
  | some l => valueVars l

theorem valuesVars_eq_flatMap (ls : List Value) : valuesVars ls = ls.flatMap valueVars := by
  induction ls with
  | nil => rfl
  | cons v vs ih => simp [valuesVars, ih]

theorem fieldsVars_eq_flatMap (fs : List ObjField) : fieldsVars fs = fs.flatMap (fun f => valueVars f.value) := by
  induction fs with
  | nil => rfl
  | cons f fs ih => cases f; simp [fieldsVars, ih, ObjField.value]

theorem valueFromAST_congr (s : Schema) (t : GType) (l : Option Value) (vars1 vars2 : Vars)
    (h : ∀ x ∈ optVars l, lookupD vars1 x = lookupD vars2 x) : valueFromAST s t l vars1 = valueFromAST s t l vars2 :=
  valueFromAST_rel s vars1 vars2 (fun l => ∀ x ∈ optVars l, lookupD vars1 x = lookupD vars2 x)
    (fun x _ h => h x (by simp [optVars, valueVars]))
    (fun ls _ h _ hv x hx => h x (by rw [optVars, valueVars, valuesVars_eq_flatMap]; exact List.mem_flatMap.mpr ⟨_, hv, hx⟩))
    (fun fs _ h k x hx => by
      cases hl : litLookup fs k with
      | none => rw [hl] at hx; cases hx
      | some v =>
        obtain ⟨f, hf, rfl⟩ := litLookup_mem hl
        rw [hl] at hx
        exact h x (by rw [optVars, valueVars, fieldsVars_eq_flatMap]; exact List.mem_flatMap.mpr ⟨f, hf, hx⟩)) t l h

end GqlModel.Normalize
