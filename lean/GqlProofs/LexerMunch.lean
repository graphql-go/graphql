import GqlProofs.LexerNumber
import GqlModel.LexerGrammar
/-! Maximal munch, once. A scanner of the lexical grammar `Spec` accepts `n` bytes of its input exactly when the first
`n` bytes are a lexeme of its production and the byte after them cannot continue it. `Munch R G` says this of the
acceptance relation `R`. That a scan does not look beyond its lexeme, what follows a lexeme, that a lexeme belongs to the
grammar and that the grammar's lexemes are accepted are its projections. -/
namespace GqlModel.Lexer
open GqlModel.Lexer.Spec

def HeadLe (r' r : Bytes) : Prop := ∀ d, r'.head? = some d → r.head? = some d

theorem HeadLe.nil (r : Bytes) : HeadLe [] r := nofun

theorem HeadLe.append (a : Bytes) {r' r : Bytes} (h : HeadLe r' r) : HeadLe (a ++ r') (a ++ r) := by
  cases a with
  | nil => exact h
  | cons c a => exact fun _ hd => hd

def NextNot (P : UInt8 → Prop) (rest : Bytes) : Prop := ∀ d, rest.head? = some d → ¬ P d

theorem NextNot.mono {P : UInt8 → Prop} {r' r : Bytes} (h : HeadLe r' r) (hr : NextNot P r) : NextNot P r' :=
  fun d hd => hr d (h d hd)

/-- `R bs n`: the scanner accepts `n` bytes at the head of `bs`. `G l rest`: `l` is a lexeme and `rest` may follow it
(`G` looks at no more than the first byte of `rest`). -/
structure Munch (R : Bytes → Nat → Prop) (G : Bytes → Bytes → Prop) : Prop where
  iff : ∀ bs n, R bs n ↔ ∃ l rest, bs = l ++ rest ∧ n = l.length ∧ G l rest
  mono : ∀ l r r', HeadLe r' r → G l r → G l r'

namespace Munch
variable {R R1 : Bytes → Nat → Prop} {G G1 : Bytes → Bytes → Prop}

theorem intro (m : Munch R G) {l rest : Bytes} (h : G l rest) : R (l ++ rest) l.length :=
  (m.iff _ _).2 ⟨l, rest, rfl, rfl, h⟩

theorem elim (m : Munch R G) {bs : Bytes} {n : Nat} (h : R bs n) : n ≤ bs.length ∧ G (bs.take n) (bs.drop n) := by
  obtain ⟨l, rest, rfl, rfl, hg⟩ := (m.iff _ _).1 h
  rw [List.take_left, List.drop_left, List.length_append]
  exact ⟨Nat.le_add_right _ _, hg⟩

/-- a scan does not look beyond its lexeme -/
theorem take (m : Munch R G) {bs : Bytes} {n : Nat} (h : R bs n) : R (bs.take n) n := by
  obtain ⟨l, rest, rfl, rfl, hg⟩ := (m.iff _ _).1 h
  rw [List.take_left]
  have := m.intro (m.mono l rest [] (HeadLe.nil _) hg)
  rwa [List.append_nil] at this

theorem congr (m : Munch R G) (hR : ∀ bs n, R1 bs n ↔ R bs n) (hG : ∀ l r, G1 l r ↔ G l r) : Munch R1 G1 where
  iff bs n := by simp only [hR, hG]; exact m.iff bs n
  mono l r r' h := by simp only [hG]; exact m.mono l r r' h

end Munch


/-- `p*`, as long as possible -/
theorem spanLen_munch (p : UInt8 → Bool) :
    Munch (fun bs n => spanLen p bs = n) (fun l rest => (∀ x ∈ l, p x = true) ∧ NextNot (p · = true) rest) where
  iff bs n := by
    rw [spanLen_eq_takeWhile]
    constructor
    · rintro rfl
      refine ⟨_, _, List.takeWhile_append_dropWhile.symm, rfl, fun x => List.all_eq_true.1 List.all_takeWhile x,
        fun d hd => ?_⟩
      have := List.head?_dropWhile_not p bs
      rw [hd] at this
      simp [this]
    · rintro ⟨l, rest, rfl, rfl, hall, hn⟩
      rw [List.takeWhile_append_of_pos hall]
      cases rest with
      | nil => simp
      | cons d r => rw [List.takeWhile_cons_of_neg (hn d rfl)]; simp
  mono _ _ _ h := fun ⟨hall, hn⟩ => ⟨hall, hn.mono h⟩

theorem digitsLen_munch :
    Munch (fun bs n => digitsLen bs = n) (fun l rest => AllDigits l ∧ NextNot isDigitByte rest) :=
  (spanLen_munch _).congr (fun _ _ => Iff.rfl) (fun l r => by simp only [AllDigits, NextNot, decide_eq_true_eq])

theorem nameLen_munch :
    Munch (fun bs n => nameLen bs = n) (fun l rest => (∀ x ∈ l, isNameContByte x) ∧ NextNot isNameContByte rest) :=
  (spanLen_munch _).congr (fun _ _ => Iff.rfl) (fun l r => by simp only [NextNot, decide_eq_true_eq])

theorem spanLen_take_all (p : UInt8 → Bool) : ∀ (l : Bytes), ∀ x ∈ l.take (spanLen p l), p x = true :=
  fun _ => ((spanLen_munch p).elim rfl).2.1

/-- `Digit+`, and no digit after it -/
def DigitsG (l rest : Bytes) : Prop := (l ≠ [] ∧ AllDigits l) ∧ NextNot isDigitByte rest

theorem digits1_munch : Munch (fun bs n => digits1 bs = .ok n) DigitsG where
  iff bs n := by
    constructor
    · intro h
      obtain ⟨rfl, hp⟩ := digits1_ok h
      obtain ⟨l, rest, rfl, hl, hall, hn⟩ := (digitsLen_munch.iff bs _).1 rfl
      exact ⟨l, rest, rfl, hl, ⟨fun e => by rw [hl, e] at hp; exact Nat.lt_irrefl 0 hp, hall⟩, hn⟩
    · rintro ⟨l, rest, rfl, rfl, ⟨hne, hall⟩, hn⟩
      unfold digits1
      rw [(digitsLen_munch.iff _ _).2 ⟨l, rest, rfl, rfl, hall, hn⟩, if_neg (fun e => hne (List.length_eq_zero_iff.1 e))]
  mono _ _ _ h := fun ⟨hd, hn⟩ => ⟨hd, hn.mono h⟩

/-- `0 | NonZeroDigit Digit*` -/
def IsIntCore (l : Bytes) : Prop := l = [48] ∨ ∃ d ds, l = d :: ds ∧ isDigitByte d ∧ d ≠ 48 ∧ AllDigits ds

/-- the first byte decides: a byte `P` and then a lexeme of `G`, or no such byte and a lexeme of `H` -/
def LeadG (P : UInt8 → Prop) (G H : Bytes → Bytes → Prop) (l rest : Bytes) : Prop :=
  (H l rest ∧ NextNot P (l ++ rest)) ∨ ∃ c l', l = c :: l' ∧ P c ∧ G l' rest

theorem Munch.lead {P : UInt8 → Prop} [DecidablePred P] {f g h : Bytes → Except (Nat × ErrKind) Nat}
    {G H : Bytes → Bytes → Prop} (hnil : f [] = h []) (hcons : ∀ c r, f (c :: r) = if P c then shift 1 (g r) else h (c :: r))
    (mg : Munch (fun bs n => g bs = .ok n) G) (mh : Munch (fun bs n => h bs = .ok n) H) :
    Munch (fun bs n => f bs = .ok n) (LeadG P G H) where
  iff bs n := by
    have other : ¬ (∃ c, bs.head? = some c ∧ P c) →
        (h bs = .ok n ↔ ∃ l rest, bs = l ++ rest ∧ n = l.length ∧ LeadG P G H l rest) := by
      intro hb
      rw [mh.iff]
      constructor
      · rintro ⟨l, rest, rfl, hn, hh⟩; exact ⟨l, rest, rfl, hn, .inl ⟨hh, fun d hd hP => hb ⟨d, hd, hP⟩⟩⟩
      · rintro ⟨l, rest, rfl, hn, ⟨hh, -⟩ | ⟨c, l', rfl, hc, -⟩⟩
        · exact ⟨l, rest, rfl, hn, hh⟩
        · exact absurd ⟨c, rfl, hc⟩ hb
    match bs with
    | [] => rw [hnil]; exact other (fun ⟨_, h, _⟩ => by cases h)
    | c :: r =>
      rw [hcons]
      by_cases hc : P c
      · rw [if_pos hc]
        constructor
        · intro h
          obtain ⟨j, hj, rfl⟩ := shift_eq_ok h
          obtain ⟨l, rest, rfl, rfl, hg⟩ := (mg.iff _ _).1 hj
          exact ⟨c :: l, rest, rfl, Nat.add_comm _ _, .inr ⟨c, l, rfl, hc, hg⟩⟩
        · rintro ⟨l, rest, e, rfl, ⟨-, hn⟩ | ⟨c', l', rfl, -, hg⟩⟩
          · exact absurd hc (hn c (by rw [← e]; rfl))
          · cases e
            show shift 1 (g (l' ++ rest)) = _
            rw [show g (l' ++ rest) = .ok l'.length from mg.intro hg]
            exact congrArg Except.ok (Nat.add_comm _ _)
      · rw [if_neg hc]; exact other (fun ⟨d, hd, hP⟩ => hc (Option.some.inj hd ▸ hP))
  mono l r r' hh := by
    rintro (⟨h1, hn⟩ | ⟨c, l', rfl, hc, hg⟩)
    · exact .inl ⟨mh.mono _ _ _ hh h1, hn.mono (hh.append l)⟩
    · exact .inr ⟨c, l', rfl, hc, mg.mono _ _ _ hh hg⟩

theorem Munch.absent : Munch (fun _ n => (Except.ok 0 : Except (Nat × ErrKind) Nat) = .ok n) (fun l _ => l = []) where
  iff bs n := ⟨fun h => ⟨[], bs, rfl, (Except.ok.inj h).symm, rfl⟩, fun ⟨l, rest, _, hn, hl⟩ => by rw [hn, hl]; rfl⟩
  mono _ _ _ _ := id

def IntCoreG (l rest : Bytes) : Prop := IsIntCore l ∧ NextNot isDigitByte rest

theorem intCore_munch : Munch (fun bs n => intCore bs = .ok n) IntCoreG where
  iff bs n := by
    constructor
    · intro h
      rcases intCore_ok h with ⟨r, rfl, rfl, hr⟩ | ⟨c, r, rfl, h0, hd, rfl⟩
      · exact ⟨[48], r, rfl, rfl, .inl rfl, hr⟩
      · obtain ⟨l, rest, e, hl, hall, hn⟩ := (digitsLen_munch.iff (c :: r) _).1 rfl
        match l, e, hl with
        | [], _, hl => rw [digitsLen_cons, if_pos hd] at hl; cases hl
        | d :: ds, e, hl =>
          cases e
          exact ⟨c :: ds, rest, rfl, hl, .inr ⟨c, ds, rfl, hd, h0, fun x hx => hall x (List.mem_cons_of_mem _ hx)⟩, hn⟩
    · rintro ⟨l, rest, rfl, rfl, (rfl | ⟨d, ds, rfl, hd, h0, hall⟩), hn⟩
      · exact intCore_zero hn
      · rw [List.cons_append, intCore_digits _ h0 hd, ← List.cons_append,
          (digitsLen_munch.iff _ _).2 ⟨d :: ds, rest, rfl, rfl, fun x hx => (List.mem_cons.1 hx).elim (· ▸ hd) (hall x), hn⟩]
  mono _ _ _ h := fun ⟨hd, hn⟩ => ⟨hd, hn.mono h⟩

def IntPartG : Bytes → Bytes → Prop := LeadG (· = 45) IntCoreG IntCoreG
def FracG : Bytes → Bytes → Prop := LeadG (· = 46) DigitsG (fun l _ => l = [])
def SignedDigitsG : Bytes → Bytes → Prop := LeadG (fun s => s = 43 ∨ s = 45) DigitsG DigitsG
def ExpG : Bytes → Bytes → Prop := LeadG (fun c => c = 69 ∨ c = 101) SignedDigitsG (fun l _ => l = [])

theorem integerPart_munch : Munch (fun bs n => integerPart bs = .ok n) IntPartG :=
  Munch.lead (g := intCore) (h := intCore) rfl
    (fun c r => by
      by_cases h : c = 45
      · subst h; rw [if_pos rfl, integerPart_minus]
      · rw [if_neg h, integerPart_noSign r h])
    intCore_munch intCore_munch

theorem signedDigits_munch : Munch (fun bs n => signedDigits bs = .ok n) SignedDigitsG :=
  Munch.lead (g := digits1) (h := digits1) rfl (fun _ _ => rfl) digits1_munch digits1_munch

theorem fractionalPart_munch : Munch (fun bs n => fractionalPart bs = .ok n) FracG :=
  Munch.lead (g := digits1) (h := fun _ => .ok 0) rfl fractionalPart_cons digits1_munch Munch.absent

theorem exponentPart_munch : Munch (fun bs n => exponentPart bs = .ok n) ExpG :=
  Munch.lead (g := signedDigits) (h := fun _ => .ok 0) rfl exponentPart_cons signedDigits_munch Munch.absent

/-- IntegerPart FractionalPart? ExponentPart?, each part followed by what lets it end there; the kind says whether
there is a fraction or an exponent -/
def NumberG (k : TokenKind) (l rest : Bytes) : Prop :=
  ∃ li lf lx, l = li ++ (lf ++ lx) ∧ IntPartG li (lf ++ (lx ++ rest)) ∧ FracG lf (lx ++ rest) ∧ ExpG lx rest ∧
    k = if lf = [] ∧ lx = [] then .int else .float

theorem number_munch (k : TokenKind) : Munch (fun bs n => number bs = .ok (k, n)) (NumberG k) where
  iff bs n := by
    constructor
    · intro h
      obtain ⟨i, fl, x, hi, hf, hx, rfl, rfl⟩ := number_ok h
      obtain ⟨li, r1, rfl, rfl, gi⟩ := (integerPart_munch.iff _ _).1 hi
      rw [List.drop_left] at hf
      obtain ⟨lf, r2, rfl, rfl, gf⟩ := (fractionalPart_munch.iff _ _).1 hf
      rw [← List.append_assoc, ← List.length_append, List.drop_left] at hx
      obtain ⟨lx, rest, rfl, rfl, gx⟩ := (exponentPart_munch.iff _ _).1 hx
      refine ⟨li ++ (lf ++ lx), rest, by simp only [List.append_assoc], by simp only [List.length_append, Nat.add_assoc],
        li, lf, lx, rfl, gi, gf, gx, ?_⟩
      simp only [List.length_eq_zero_iff]
    · rintro ⟨_, rest, rfl, rfl, li, lf, lx, rfl, gi, gf, gx, rfl⟩
      have hi := integerPart_munch.intro gi
      have hf := fractionalPart_munch.intro gf
      have hx := exponentPart_munch.intro gx
      simp only [List.append_assoc] at hi ⊢
      unfold number
      simp only [hi, List.drop_left, hf]
      rw [← List.append_assoc, ← List.length_append, List.drop_left, hx]
      simp only [List.length_eq_zero_iff, List.length_append, Nat.add_assoc]
  mono l r r' h := by
    rintro ⟨li, lf, lx, rfl, gi, gf, gx, hk⟩
    exact ⟨li, lf, lx, rfl, integerPart_munch.mono _ _ _ ((h.append lx).append lf) gi,
      fractionalPart_munch.mono _ _ _ (h.append lx) gf, exponentPart_munch.mono _ _ _ h gx, hk⟩

theorem LeadG.next {P Q : UInt8 → Prop} {G H : Bytes → Bytes → Prop} (hG : ∀ {l r}, G l r → NextNot Q r)
    (hH : ∀ {l r}, H l r → NextNot Q r) {l rest : Bytes} (h : LeadG P G H l rest) : NextNot Q rest := by
  rcases h with ⟨g, -⟩ | ⟨_, _, _, _, g⟩
  · exact hH g
  · exact hG g

theorem number_follow {bs : Bytes} {k : TokenKind} {len : Nat} (h : number bs = .ok (k, len)) (d : UInt8)
    (hd : (bs.drop len).head? = some d) : ¬ isDigitByte d ∧ (k = .int → d ≠ 46 ∧ d ≠ 69 ∧ d ≠ 101) := by
  obtain ⟨-, li, lf, lx, -, gi, gf, gx, hk⟩ := (number_munch k).elim h
  have notInt : ∀ {a b : Bytes}, (a ≠ [] ∨ b ≠ []) → k = (if a = [] ∧ b = [] then .int else .float) → k = .int → False := by
    intro a b hab hk hkk
    rw [hk, if_neg (fun h => hab.elim (· h.1) (· h.2))] at hkk; cases hkk
  rcases gx with ⟨rfl, hx⟩ | ⟨c, l', rfl, -, gs⟩
  · rcases gf with ⟨rfl, hf⟩ | ⟨c, l', rfl, -, gd⟩
    · exact ⟨LeadG.next (Q := isDigitByte) (·.2) (·.2) gi d hd, fun _ => ⟨hf d hd, not_or.1 (hx d hd)⟩⟩
    · exact ⟨gd.2 d hd, fun hkk => (notInt (.inl (List.cons_ne_nil _ _)) hk hkk).elim⟩
  · exact ⟨LeadG.next (Q := isDigitByte) (·.2) (·.2) gs d hd, fun hkk => (notInt (.inr (List.cons_ne_nil _ _)) hk hkk).elim⟩

theorem IntPartG.grammar {l rest : Bytes} (h : IntPartG l rest) : IsIntegerPart l := by
  rcases h with ⟨g, -⟩ | ⟨c, l', rfl, rfl, g⟩
  · exact ⟨[], l, rfl, .inl rfl, g.1⟩
  · exact ⟨[45], l', rfl, .inr rfl, g.1⟩

theorem FracG.grammar {l rest : Bytes} (h : FracG l rest) : l = [] ∨ IsFractionalPart l := by
  rcases h with ⟨rfl, -⟩ | ⟨c, l', rfl, rfl, g⟩
  · exact .inl rfl
  · exact .inr ⟨l', rfl, g.1.1, g.1.2⟩

theorem ExpG.grammar {l rest : Bytes} (h : ExpG l rest) : l = [] ∨ IsExponentPart l := by
  rcases h with ⟨rfl, -⟩ | ⟨c, l', rfl, hc, ⟨g, -⟩ | ⟨s, l'', rfl, hs, g⟩⟩
  · exact .inl rfl
  · exact .inr ⟨c, [], l', rfl, hc, .inl rfl, g.1.1, g.1.2⟩
  · exact .inr ⟨c, [s], l'', rfl, hc, .inr (hs.elim (fun h => .inl (h ▸ rfl)) (fun h => .inr (h ▸ rfl))), g.1.1, g.1.2⟩

theorem number_sound {bs : Bytes} {k : TokenKind} {len : Nat} (h : number bs = .ok (k, len)) :
    (k = .int ∧ IsIntValue (bs.take len)) ∨ (k = .float ∧ IsFloatValue (bs.take len)) := by
  obtain ⟨-, li, lf, lx, e, gi, gf, gx, hk⟩ := (number_munch k).elim h
  rw [e, hk]
  rcases gf.grammar with rfl | hF <;> rcases gx.grammar with rfl | hX
  · exact .inl ⟨if_pos ⟨rfl, rfl⟩, by rw [List.append_nil, List.append_nil]; exact gi.grammar⟩
  · exact .inr ⟨if_neg (fun h => by obtain ⟨e, _, _, h', _⟩ := hX; rw [h.2] at h'; cases h'),
      li, [], lx, by rw [List.append_nil]; rfl, gi.grammar, .inr (.inl ⟨rfl, hX⟩)⟩
  · exact .inr ⟨if_neg (fun h => by obtain ⟨_, h', _⟩ := hF; rw [h.1] at h'; cases h'),
      li, lf, [], (List.append_assoc ..).symm, gi.grammar, .inl ⟨hF, rfl⟩⟩
  · exact .inr ⟨if_neg (fun h => by obtain ⟨_, h', _⟩ := hF; rw [h.1] at h'; cases h'),
      li, lf, lx, (List.append_assoc ..).symm, gi.grammar, .inr (.inr ⟨hF, hX⟩)⟩

end GqlModel.Lexer
