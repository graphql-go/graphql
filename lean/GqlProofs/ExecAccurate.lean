import GqlModel.Invocations
import GqlProofs.ExecStep
/-! C20: every entry of the resolver invocation log is the invocation of a selected field of a legitimate position with
accurate parameters (`Accurate`), by simultaneous induction on the fuel of the four mutually recursive functions. -/
namespace GqlModel.Exec

structure AccP (c : Ctx) (root : String) (rootG : Groups) (fuel : Nat) : Prop where
  groups : ∀ dfr rt src path groups acc st r st' (G : Groups),
    execGroups c fuel dfr rt src path groups acc st = (r, st') →
    Position c root rootG rt src path G → (∀ g, g ∈ groups → g ∈ G) →
    (∀ e, e ∈ st.log → Accurate c root rootG e) → ∀ e, e ∈ st'.log → Accurate c root rootG e
  field : ∀ dfr rt src path (G : Groups) k nodes node fd st r st',
    execField c fuel dfr rt src (path ++ [.key k]) fd nodes st = (r, st') →
    Position c root rootG rt src path G → (k, nodes) ∈ G → nodes.head? = some node →
    fieldDef? c.schema rt node.name = some fd →
    (∀ e, e ∈ st.log → Accurate c root rootG e) → ∀ e, e ∈ st'.log → Accurate c root rootG e
  complete : ∀ dfr t rt fname nodes p v st r st',
    complete c fuel dfr t rt fname nodes p v st = (r, st') →
    (∀ ot o p', ObjAt c t p v ot o p' → Position c root rootG ot o p' (collectMerged c ot nodes)) →
    (∀ e, e ∈ st.log → Accurate c root rootG e) → ∀ e, e ∈ st'.log → Accurate c root rootG e
  items : ∀ dfr item rt fname nodes p xs i acc st r st',
    completeItems c fuel dfr item rt fname nodes p xs i acc st = (r, st') →
    (∀ j x ot o p', xs[j]? = some x → ObjAt c item (p ++ [.idx (i + j)]) x ot o p' →
      Position c root rootG ot o p' (collectMerged c ot nodes)) →
    (∀ e, e ∈ st.log → Accurate c root rootG e) → ∀ e, e ∈ st'.log → Accurate c root rootG e

variable {c : Ctx} {root : String} {rootG : Groups}

theorem accP_succ {fuel : Nat} (ih : AccP c root rootG fuel) : AccP c root rootG (fuel + 1) where
  groups := by
    intro dfr rt src path groups acc st r st' G h hpos hG hst
    cases GroupsStep.of_eq h with
    | nil => exact hst
    | skip _ h => exact ih.groups _ _ _ _ _ _ _ _ _ G h hpos (fun g hg => hG g (List.mem_cons_of_mem _ hg)) hst
    | ok hh hfd hf h =>
      exact ih.groups _ _ _ _ _ _ _ _ _ G h hpos (fun g hg => hG g (List.mem_cons_of_mem _ hg))
        (ih.field _ _ _ _ G _ _ _ _ _ _ _ hf hpos (hG _ List.mem_cons_self) hh hfd hst)
    | fail hh hfd hf | fuelOut hh hfd hf =>
      exact ih.field _ _ _ _ G _ _ _ _ _ _ _ hf hpos (hG _ List.mem_cons_self) hh hfd hst
  field := by
    intro dfr rt src path G k nodes node fd st r st' h hpos hk hnode hfd hst
    have hent : (fd.name == "__typename") = false →
        ∀ e, e ∈ (logCall (callEntry c dfr rt src (path ++ [.key k]) fd nodes) st).log →
        Accurate c root rootG e := by
      intro hn e he
      rcases List.mem_cons.mp he with he | he
      · subst he
        refine ⟨rt, src, path, G, k, nodes, node, fd, hpos, ⟨hk, hnode, hfd, ne_of_beq_false hn⟩,
          rfl, rfl, rfl, ?_, rfl, rfl⟩
        simp only [callEntry, hnode]
      · exact hst e he
    cases FieldStep.of_eq h with
    | typename => exact hst
    | resolverFails hn => exact hent hn
    | value hn hv hc =>
      exact ih.complete _ _ _ _ _ _ _ _ _ _ hc
        (fun ot o p' ho => PosFrom.child hpos ⟨hk, hnode, hfd, ne_of_beq_false hn⟩ hv ho) (hent hn)
  complete := by
    intro dfr t rt fname nodes p v st r st' h hH hst
    cases CompleteStep.of_eq h with
    | thunkErr | badFunc | immediate | rejected => exact hst
    | thunkFail hc | thunkPass hc =>
      -- the state of the conclusion may be `kfMark …` / `addErr …` of the callee's: the same log (`kfMark_log`, `addErr_log`)
      have := ih.complete _ _ _ _ _ _ _ _ _ _ hc (fun ot o p' ho => hH ot o p' (.thunk ho)) hst
      exact this
    | nonNullNull _ hc | nonNullPass _ hc =>
      have := ih.complete _ _ _ _ _ _ _ _ _ _ hc (fun ot o p' ho => hH ot o p' (.nonNull ho)) hst
      exact this
    | items hi =>
      exact ih.items _ _ _ _ _ _ _ _ _ _ _ _ hi
        (fun j x ot o p' hj ho => hH ot o p' (.item hj (Nat.zero_add j ▸ ho))) hst
    | object hf hnull ho hg =>
      -- the runtime object is the one `ObjAt` reaches
      refine ih.groups _ _ _ _ _ _ _ _ _ _ hg (hH _ v p ?_) (fun g hg => hg) hst
      cases ho with
      | abstract _ habs hrt hobj hposs => exact .abstract hf hnull habs hrt hobj hposs
      | object _ _ hobj hito => exact .object hf hnull hobj hito
  items := by
    intro dfr item rt fname nodes p xs i acc st r st' h hH hst
    cases ItemsStep.of_eq h with
    | nil => exact hst
    | ok hc h | absorbed hc _ h =>
      exact ih.items _ _ _ _ _ _ _ _ _ _ _ _ h
        (fun j y ot o p' hj ho => hH (j + 1) y ot o p' hj (Nat.add_right_comm i 1 j ▸ ho))
        (ih.complete _ _ _ _ _ _ _ _ _ _ hc (fun ot o p' ho => hH 0 _ ot o p' rfl ho) hst)
    | fail hc | fuelOut hc =>
      exact ih.complete _ _ _ _ _ _ _ _ _ _ hc (fun ot o p' ho => hH 0 _ ot o p' rfl ho) hst

theorem accP (c : Ctx) (root : String) (rootG : Groups) : ∀ fuel, AccP c root rootG fuel
  | 0 => by
    refine ⟨?_, ?_, ?_, ?_⟩
    · intro dfr rt src path groups acc st r st' G h _ _ hst
      cases execGroups_zero.symm.trans h; exact hst
    · intro dfr rt src path G k nodes node fd st r st' h _ _ _ _ hst
      cases execField_zero.symm.trans h; exact hst
    · intro dfr t rt fname nodes p v st r st' h _ hst
      cases complete_zero.symm.trans h; exact hst
    · intro dfr item rt fname nodes p xs i acc st r st' h _ hst
      cases completeItems_zero.symm.trans h; exact hst
  | fuel + 1 => accP_succ (accP c root rootG fuel)

theorem execGroups_accurate {c : Ctx} {root : String} {rootG : Groups} {fuel : Nat} {dfr : Bool} {rt : String}
    {src : GoVal} {path : Path} {groups G : Groups} {acc : List (String × JVal)} {st st' : St}
    {r : Res (List (String × JVal))} (hrun : execGroups c fuel dfr rt src path groups acc st = (r, st'))
    (hpos : Position c root rootG rt src path G) (hsub : ∀ g, g ∈ groups → g ∈ G)
    (hlog : ∀ e, e ∈ st.log → Accurate c root rootG e) : ∀ e, e ∈ st'.log → Accurate c root rootG e :=
  (accP c root rootG fuel).groups dfr rt src path groups acc st r st' G hrun hpos hsub hlog

end GqlModel.Exec
