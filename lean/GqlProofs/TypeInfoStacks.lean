import GqlModel.TypeInfoStacks
import GqlProofs.Validate
/-! # Lemmas for Props/C14TypeInfo: the TypeInfo stack machine equals the top-down context

* `tiEnter_field … tiEnter_argument`: `Enter` for the node kinds where the Go code and S are worded differently, in S's
  words; from them the local facts about one `Enter` / `Leave`: `regs_enter` (the getters after `Enter` = `ctxStep` of the
  getters before), `leave_enter` (`Leave` undoes `Enter` exactly), `pre_enter` (the invariant goes down to the children);
* `visit_M` / `visitList_M`: the walk driven by the machine returns to the stacks it started with and the wrapped
  visitor ends where the top-down reference walk ends (any stateful, skipping visitor), generalised over the stacks;
* `visitO_mk`: one node of the walk over `VisitorOptions`, through the total visitor `o.total` (also used by the bridge);
* `ref_logger`: the reference walk with the logging visitor = the pure record list `ctxRecs`;
* `ctxRecs_sublist`: skipping only removes records;
* `docTree_wf`, `ctxRecs_docTree`: every document tree is well-formed, and `ctxRecs` of it is `tiRecords`. -/
namespace GqlModel.TypeInfoStacks
open GqlModel.Validate
variable {σ : Type}

theorem foldl_lastArg (name : String) : ∀ (args : List ArgDef) (acc : Option ArgDef), argNamesNodup args →
    args.foldl (fun acc a => if a.name == name then some a else acc) acc = (args.find? (fun a => a.name == name)).or acc
  | [], _, _ => rfl
  | a :: rest, acc, h => by
    obtain ⟨ha, hr⟩ := List.nodup_cons.mp (show (a.name :: rest.map (·.name)).Nodup from h)
    rw [List.foldl_cons, List.find?_cons, foldl_lastArg name rest _ hr]
    cases hn : a.name == name
    · rfl
    · have : rest.find? (fun b => b.name == name) = none :=
        List.find?_eq_none.mpr fun b hb hbn => ha (by rw [eq_of_beq hn, ← eq_of_beq hbn]; exact List.mem_map_of_mem hb)
      rw [this]; rfl

theorem lastArg_eq_find? (name : String) (args : List ArgDef) (h : argNamesNodup args) :
    lastArg args name = args.find? (fun a => a.name == name) :=
  (foldl_lastArg name args none h).trans Option.or_none

/-- `inDir` / `inArg`: whether the position is inside a Directive / an Argument node. Outside, the register is nil
(so that `Leave`'s clearing restores it); the definitions in the registers have distinct argument names. -/
structure Pre (inDir inArg : Bool) (ti : TI) : Prop where
  dir : inDir = false → ti.directive = none ∧ ti.inDirective = false
  arg : inArg = false → ti.argument = none
  dOK : ∀ d, ti.directive = some d → argNamesNodup d.args
  fOK : ∀ fd, ti.fieldDef = some fd → argNamesNodup fd.args

theorem pre_empty : Pre false false TI.empty :=
  ⟨fun _ => ⟨rfl, rfl⟩, fun _ => rfl, fun _ h => by simp [TI.empty] at h, fun _ h => by simp [TI.empty, TI.fieldDef, top] at h⟩

/-! ## `Enter`, node kind by node kind, in the vocabulary of the top-down step (the other kinds unfold by `rfl`) -/

section
variable (s : Schema) (ti : TI)

theorem tiEnter_field (name : String) :
    tiEnter s ti (.field name) =
      { ti with fieldDefStack := ti.parentType.bind (s.fieldDef? · name) :: ti.fieldDefStack,
                typeStack := (ti.parentType.bind (s.fieldDef? · name)).map (·.type) :: ti.typeStack } := by
  rw [tiEnter]
  rcases ti.parentType with _ | p
  · rfl
  · dsimp only [Option.bind]; cases s.fieldDef? p name <;> rfl

theorem tiEnter_inlineFragment_none :
    tiEnter s ti (.inlineFragment none) =
      { ti with typeStack := ti.type.map (fun t => GType.named t.namedName) :: ti.typeStack } := by
  rw [tiEnter]; cases ti.type <;> rfl

/-- the two branches of the Go code as one push of `listItemType` -/
theorem tiEnter_listValue :
    tiEnter s ti .listValue = { ti with inputTypeStack := listItemType ti.inputType :: ti.inputTypeStack } := by
  rw [tiEnter]
  rcases ti.inputType with _ | _ | _ | _ | _ | _ <;> rfl

theorem tiEnter_objectField (name : String) :
    tiEnter s ti (.objectField name) =
      { ti with inputTypeStack := inputFieldType s ti.inputType name :: ti.inputTypeStack } := by
  rw [tiEnter]; cases ti.inputType <;> rfl

section
variable (hd : ∀ d, ti.directive = some d → argNamesNodup d.args) (hf : ∀ fd, ti.fieldDef = some fd → argNamesNodup fd.args)
include hd hf

/-- the argument definition the Go loops find (last match) is the one S looks up (first match): names are distinct -/
theorem tiEnter_argument (name : String) :
    tiEnter s ti (.argument name) =
      { ti with argument := argDefFor ti.directive (if ti.inDirective then none else ti.fieldDef) name,
                inputTypeStack := (argDefFor ti.directive (if ti.inDirective then none else ti.fieldDef) name).map (·.type) ::
                  ti.inputTypeStack } := by
  rw [tiEnter]
  cases hdir : ti.directive with
  | some d => simp only [lastArg_eq_find? name d.args (hd d hdir)]; rfl
  | none =>
    cases ti.inDirective with
    | true => rfl
    | false =>
      cases hfd : ti.fieldDef with
      | some fd => simp only [lastArg_eq_find? name fd.args (hf fd hfd)]; rfl
      | none => rfl

theorem regs_enter (nv : NodeView) :
    regs (tiEnter s ti nv) = ctxStep s (regs ti) nv := by
  cases nv with
  | field name => rw [tiEnter_field]; rfl
  | inlineFragment tc =>
    cases tc with
    | some t => rfl
    | none => rw [tiEnter_inlineFragment_none]; rfl
  | fragmentDefinition tc => cases tc <;> rfl
  | argument name => rw [tiEnter_argument s ti hd hf name]; rfl
  | listValue => rw [tiEnter_listValue]; rfl
  | objectField name => rw [tiEnter_objectField]; rfl
  | _ => rfl

end

variable (nv : NodeView) (inDir inArg : Bool) (h : Pre inDir inArg ti)
include h

/-- `Leave(node)` right after `Enter(node)` gives back the machine exactly — the stacks by push/pop, the registers
because they were nil outside a Directive / an Argument -/
theorem leave_enter
    (hd : (inDir && nv.isDirective) = false) (ha : (inArg && nv.isArgument) = false) :
    tiLeave (tiEnter s ti nv) nv = ti := by
  cases nv with
  | directive name =>
    obtain ⟨h1, h2⟩ := h.dir (by simpa [NodeView.isDirective] using hd)
    cases ti
    cases h1; cases h2; rfl
  | argument name =>
    have h1 := h.arg (by simpa [NodeView.isArgument] using ha)
    cases ti
    cases h1; rfl
  | listValue => rw [tiEnter_listValue]; rfl
  | inlineFragment tc => cases tc <;> rfl
  | fragmentDefinition tc => cases tc <;> rfl
  | _ => rfl

/-- the invariant goes down to the children: only `Enter(Directive)`, `Enter(Argument)` and `Enter(Field)` touch what
`Pre` speaks of, and the definitions they put there come from the schema -/
theorem pre_enter (hU : ArgsUnique s) :
    Pre (inDir || nv.isDirective) (inArg || nv.isArgument) (tiEnter s ti nv) := by
  cases nv <;> simp only [NodeView.isDirective, NodeView.isArgument, Bool.or_false, Bool.or_true]
  case directive name => exact ⟨nofun, h.arg, fun d hd => hU.2 name d hd, h.fOK⟩
  case argument name => exact ⟨h.dir, nofun, h.dOK, h.fOK⟩
  case field name =>
    rw [tiEnter_field]
    refine ⟨h.dir, h.arg, h.dOK, fun fd hfd => ?_⟩
    obtain ⟨p, -, hfd⟩ := Option.bind_eq_some_iff.mp hfd
    exact hU.1 p name fd hfd
  case listValue => rw [tiEnter_listValue]; exact ⟨h.dir, h.arg, h.dOK, h.fOK⟩
  case inlineFragment tc => cases tc <;> exact ⟨h.dir, h.arg, h.dOK, h.fOK⟩
  case fragmentDefinition tc => cases tc <;> exact ⟨h.dir, h.arg, h.dOK, h.fOK⟩
  all_goals exact ⟨h.dir, h.arg, h.dOK, h.fOK⟩

end

mutual
theorem visit_M (s : Schema) (hU : ArgsUnique s) (v : Inner σ) :
    ∀ (n : TNode) (inDir inArg : Bool) (ti : TI) (st : σ), n.wf inDir inArg = true → Pre inDir inArg ti →
      visit (M s) v n ti st = (ti, refVisit s v n (regs ti) st)
  | .mk kind loc nv cs, inDir, inArg, ti, st, hwf, hpre => by
    simp only [TNode.wf, Bool.and_eq_true, Bool.not_eq_true'] at hwf
    have hl := leave_enter s ti nv inDir inArg hpre hwf.1.1 hwf.1.2
    have hr := regs_enter s ti hpre.dOK hpre.fOK nv
    have ih := fun st1 => visitList_M s hU v cs _ _ (tiEnter s ti nv) st1 hwf.2 (pre_enter s ti nv inDir inArg hpre hU)
    simp only [visit, refVisit, M, hr] at ih ⊢
    rcases v.enter st ⟨kind, loc, ctxStep s (regs ti) nv⟩ with ⟨st1, b⟩
    cases b
    · simp only [ih, hl, hr]
    · simp only [if_true, hl]
theorem visitList_M (s : Schema) (hU : ArgsUnique s) (v : Inner σ) :
    ∀ (ns : List TNode) (inDir inArg : Bool) (ti : TI) (st : σ), TNode.wfList inDir inArg ns = true → Pre inDir inArg ti →
      visitList (M s) v ns ti st = (ti, refList s v ns (regs ti) st)
  | [], _, _, ti, st, _, _ => by simp [visitList, refList]
  | n :: ns, inDir, inArg, ti, st, hwf, hpre => by
    simp only [TNode.wfList, Bool.and_eq_true] at hwf
    have h1 := visit_M s hU v n inDir inArg ti st hwf.1 hpre
    have h2 := visitList_M s hU v ns inDir inArg ti (refVisit s v n (regs ti) st) hwf.2 hpre
    simp only [visitList, refList, h1, h2]
end

/-- one node of `visitO`, through the total visitor: it is `visit` with `o.total`, except that a tracker with
`leaveNeedsHandler` omits `Leave` where the leave callback is absent -/
theorem visitO_mk (T : Tracker) (o : Opts σ) (kind : String) (loc : Loc) (nv : NodeView) (cs : List TNode) (ti : TI) (st : σ) :
    visitO T o (.mk kind loc nv cs) ti st =
      match o.total.enter st ⟨kind, loc, regs (T.enter ti nv)⟩ with
      | (st1, true) => (if T.leaveOnSkip then T.leave (T.enter ti nv) nv else T.enter ti nv, st1)
      | (st1, false) =>
        match visitListO T o cs (T.enter ti nv) st1 with
        | (ti2, st2) =>
          (if (getLeaveFn o kind).isNone && T.leaveNeedsHandler then ti2 else T.leave ti2 nv,
            o.total.leave st2 ⟨kind, loc, regs ti2⟩) := by
  rw [visitO]
  simp only [Opts.total]
  cases getEnterFn o kind <;> cases getLeaveFn o kind <;> rfl

mutual
theorem visitO_eq_visit (T : Tracker) (hT : T.leaveNeedsHandler = false) (o : Opts σ) :
    ∀ (n : TNode) (ti : TI) (st : σ), visitO T o n ti st = visit T o.total n ti st
  | .mk kind loc nv cs, ti, st => by
    rw [visitO_mk, visit, hT, Bool.and_false]
    simp only [visitListO_eq_visitList T hT o cs]
    rfl
theorem visitListO_eq_visitList (T : Tracker) (hT : T.leaveNeedsHandler = false) (o : Opts σ) :
    ∀ (ns : List TNode) (ti : TI) (st : σ), visitListO T o ns ti st = visitList T o.total ns ti st
  | [], _, _ => by simp [visitListO, visitList]
  | n :: ns, ti, st => by
    simp only [visitListO, visitList, visitO_eq_visit T hT o n ti st]
    rcases visit T o.total n ti st with ⟨ti1, st1⟩
    exact visitListO_eq_visitList T hT o ns ti1 st1
end

mutual
theorem ref_logger (s : Schema) (pol : TIRec → Bool) :
    ∀ (n : TNode) (c : TIState) (acc : List TIRec), refVisit s (logger pol) n c acc = acc ++ ctxRecs s pol n c
  | .mk kind loc nv cs, c, acc => by
    simp only [refVisit, ctxRecs, logger]
    cases hp : pol ⟨kind, loc, ctxStep s c nv⟩ with
    | true => simp
    | false =>
      have ih := refList_logger s pol cs (ctxStep s c nv) (acc ++ [⟨kind, loc, ctxStep s c nv⟩])
      simp only [logger] at ih
      simp [ih]
theorem refList_logger (s : Schema) (pol : TIRec → Bool) :
    ∀ (ns : List TNode) (c : TIState) (acc : List TIRec), refList s (logger pol) ns c acc = acc ++ ctxRecsList s pol ns c
  | [], _, acc => by simp [refList, ctxRecsList]
  | n :: ns, c, acc => by
    simp only [refList, ctxRecsList]
    rw [ref_logger s pol n c acc, refList_logger s pol ns c]
    simp
end

mutual
theorem ctxRecs_sublist (s : Schema) (pol : TIRec → Bool) :
    ∀ (n : TNode) (c : TIState), (ctxRecs s pol n c).Sublist (ctxRecs s noSkip n c)
  | .mk kind loc nv cs, c => by
    simp only [ctxRecs, noSkip, Bool.false_eq_true, if_false]
    apply List.Sublist.cons_cons
    cases pol ⟨kind, loc, ctxStep s c nv⟩ with
    | true => simp
    | false => simpa using ctxRecsList_sublist s pol cs (ctxStep s c nv)
theorem ctxRecsList_sublist (s : Schema) (pol : TIRec → Bool) :
    ∀ (ns : List TNode) (c : TIState), (ctxRecsList s pol ns c).Sublist (ctxRecsList s noSkip ns c)
  | [], _ => by simp [ctxRecsList]
  | n :: ns, c => by
    simp only [ctxRecsList]
    exact List.Sublist.append (ctxRecs_sublist s pol n c) (ctxRecsList_sublist s pol ns c)
end

theorem ctxRecsList_append (s : Schema) (pol : TIRec → Bool) (c : TIState) :
    ∀ (a b : List TNode), ctxRecsList s pol (a ++ b) c = ctxRecsList s pol a c ++ ctxRecsList s pol b c
  | [], b => by simp [ctxRecsList]
  | n :: a, b => by simp [ctxRecsList, ctxRecsList_append s pol c a b]

theorem ctxRecsList_map {α : Type} (s : Schema) (pol : TIRec → Bool) (c : TIState) (f : α → TNode) :
    ∀ (l : List α), ctxRecsList s pol (l.map f) c = l.flatMap (fun x => ctxRecs s pol (f x) c)
  | [] => by simp [ctxRecsList]
  | x :: l => by simp [ctxRecsList, ctxRecsList_map s pol c f l]

section
attribute [local simp] TNode.wf TNode.wfList NodeView.isDirective NodeView.isArgument
variable (a b : Bool)

@[local simp] theorem wfList_append : ∀ (l r : List TNode),
    TNode.wfList a b (l ++ r) = (TNode.wfList a b l && TNode.wfList a b r)
  | [], r => by simp
  | n :: l, r => by simp [wfList_append l r, Bool.and_assoc]

@[local simp] theorem wfList_map {α : Type} (f : α → TNode) (h : ∀ x, (f x).wf a b = true) :
    ∀ (l : List α), TNode.wfList a b (l.map f) = true
  | [] => by simp
  | x :: l => by simp [h x, wfList_map f h l]

@[local simp] theorem nameTree_wf (n : Name) : (nameTree n).wf a b = true := by simp [nameTree]

@[local simp] theorem optNameTrees_wf : ∀ (o : Option Name), TNode.wfList a b (optNameTrees o) = true
  | none => by simp [optNameTrees]
  | some n => by simp [optNameTrees]

@[local simp] theorem typeTree_wf : ∀ (t : TypeRef), (typeTree t).wf a b = true
  | .named _ lc => by simp [typeTree]
  | .list t lc => by simp [typeTree, typeTree_wf t]
  | .nonNull t lc => by simp [typeTree, typeTree_wf t]

@[local simp] theorem optTypeTrees_wf : ∀ (o : Option TypeRef), TNode.wfList a b (optTypeTrees o) = true
  | none => by simp [optTypeTrees]
  | some t => by simp [optTypeTrees]

mutual
theorem valueTree_wf (inDir inArg : Bool) : ∀ (v : Value), (valueTree v).wf inDir inArg = true
  | .list vs lc => by simp [valueTree, valuesTrees_wf inDir inArg vs]
  | .obj fs lc => by simp [valueTree, objFieldsTrees_wf inDir inArg fs]
  | .var _ lc => by simp [valueTree, variableTree]
  | .int .. | .float .. | .str .. | .bool .. | .enum .. => by simp [valueTree]
theorem valuesTrees_wf (inDir inArg : Bool) : ∀ (vs : List Value), TNode.wfList inDir inArg (valuesTrees vs) = true
  | [] => by simp [valuesTrees]
  | v :: vs => by simp [valuesTrees, valueTree_wf inDir inArg v, valuesTrees_wf inDir inArg vs]
theorem objFieldsTrees_wf (inDir inArg : Bool) : ∀ (fs : List ObjField), TNode.wfList inDir inArg (objFieldsTrees fs) = true
  | [] => by simp [objFieldsTrees]
  | .mk nm v lc :: fs => by simp [objFieldsTrees, valueTree_wf inDir inArg v, objFieldsTrees_wf inDir inArg fs]
end

@[local simp] theorem argTree_wf (inDir : Bool) (a : Argument) : (argTree a).wf inDir false = true := by
  simp [argTree, valueTree_wf]

@[local simp] theorem dirTree_wf (d : Directive) : (dirTree d).wf false false = true := by
  simp [dirTree]

@[local simp] theorem varDefTree_wf (v : VarDef) : (varDefTree v).wf false false = true := by
  cases hd : v.default <;> simp [varDefTree, hd, valueTree_wf]

mutual
theorem selTree_wf : ∀ (x : Selection), (selTree x).wf false false = true
  | .field al nm args dirs sel lc => by simp [selTree, optSetTrees_wf sel]
  | .spread nm dirs lc => by simp [selTree]
  | .inline tc dirs ss lc => by simp [selTree, setTree_wf ss]
theorem setTree_wf : ∀ (ss : SelectionSet), (setTree ss).wf false false = true
  | .mk sels lc => by simp [setTree, selsTrees_wf sels]
theorem optSetTrees_wf : ∀ (o : Option SelectionSet), TNode.wfList false false (optSetTrees o) = true
  | none => by simp [optSetTrees]
  | some ss => by simp [optSetTrees, setTree_wf ss]
theorem selsTrees_wf : ∀ (xs : List Selection), TNode.wfList false false (selsTrees xs) = true
  | [] => by simp [selsTrees]
  | x :: xs => by simp [selsTrees, selTree_wf x, selsTrees_wf xs]
end

@[local simp] theorem defTree_wf (df : Definition) : (defTree df).wf false false = true := by
  cases df <;> simp [defTree, setTree_wf]

theorem docTree_wf (d : Document) : (docTree d).wf false false = true := by
  simp [docTree]

end

theorem obs_nil : obs [] = [] := rfl

section
variable {s : Schema} {kind : String} {loc : Loc} {nv : NodeView} {cs : List TNode} {st : TIState}

theorem obs_node (hk : nameOrTypeKind kind = false) :
    obs (ctxRecs s noSkip (.mk kind loc nv cs) st) =
      ⟨kind, loc, ctxStep s st nv⟩ :: obs (ctxRecsList s noSkip cs (ctxStep s st nv)) := by
  simp [ctxRecs, noSkip, obs, hk]

theorem obs_node_hidden (hk : nameOrTypeKind kind = true) :
    obs (ctxRecs s noSkip (.mk kind loc nv cs) st) = obs (ctxRecsList s noSkip cs (ctxStep s st nv)) := by
  simp [ctxRecs, noSkip, obs, hk]

end

section
attribute [local simp] obs_node obs_node_hidden nameOrTypeKind ctxStep
variable (s : Schema) (st : TIState)

@[local simp] theorem obs_list_nil : obs (ctxRecsList s noSkip [] st) = [] := by
  simp [ctxRecsList, obs]

@[local simp] theorem obs_list_cons (n : TNode) (ns : List TNode) :
    obs (ctxRecsList s noSkip (n :: ns) st) = obs (ctxRecs s noSkip n st) ++ obs (ctxRecsList s noSkip ns st) := by
  simp [ctxRecsList, obs]

@[local simp] theorem obs_list_append (a b : List TNode) :
    obs (ctxRecsList s noSkip (a ++ b) st) = obs (ctxRecsList s noSkip a st) ++ obs (ctxRecsList s noSkip b st) := by
  simp [ctxRecsList_append, obs]

@[local simp] theorem obs_list_map {α : Type} (f : α → TNode) (l : List α) :
    obs (ctxRecsList s noSkip (l.map f) st) = l.flatMap (fun x => obs (ctxRecs s noSkip (f x) st)) := by
  rw [ctxRecsList_map]; exact List.filter_flatMap

@[local simp] theorem obs_name (n : Name) : obs (ctxRecs s noSkip (nameTree n) st) = [] := by
  simp [nameTree]

@[local simp] theorem obs_optName :
    ∀ (o : Option Name), obs (ctxRecsList s noSkip (optNameTrees o) st) = []
  | none => by simp [optNameTrees]
  | some n => by simp [optNameTrees]

@[local simp] theorem obs_type (s : Schema) : ∀ (t : TypeRef) (st : TIState), obs (ctxRecs s noSkip (typeTree t) st) = []
  | .named _ lc, st => by simp [typeTree]
  | .list t lc, st => by simp [typeTree, obs_type s t]
  | .nonNull t lc, st => by simp [typeTree, obs_type s t]

@[local simp] theorem obs_optType :
    ∀ (o : Option TypeRef), obs (ctxRecsList s noSkip (optTypeTrees o) st) = []
  | none => by simp [optTypeTrees]
  | some t => by simp [optTypeTrees]

mutual
theorem ctxRecs_value (s : Schema) : ∀ (v : Value) (st : TIState), obs (ctxRecs s noSkip (valueTree v) st) = valueRecs s st v
  | .list vs lc, st => by simp [valueTree, valueRecs, ctxRecs_values s vs]
  | .obj fs lc, st => by simp [valueTree, valueRecs, ctxRecs_objFields s fs]
  | .var _ lc, st => by simp [valueTree, variableTree, valueRecs, valueKind, Value.loc]
  | .int .., st | .float .., st | .str .., st | .bool .., st | .enum .., st => by
    simp [valueTree, valueRecs, valueKind, Value.loc]
theorem ctxRecs_values (s : Schema) : ∀ (vs : List Value) (st : TIState),
    obs (ctxRecsList s noSkip (valuesTrees vs) st) = valuesRecs s st vs
  | [], _ => by simp [valuesTrees, valuesRecs]
  | v :: vs, st => by simp [valuesTrees, valuesRecs, ctxRecs_value s v, ctxRecs_values s vs]
theorem ctxRecs_objFields (s : Schema) : ∀ (fs : List ObjField) (st : TIState),
    obs (ctxRecsList s noSkip (objFieldsTrees fs) st) = objFieldsRecs s st fs
  | [], _ => by simp [objFieldsTrees, objFieldsRecs]
  | .mk nm v lc :: fs, st => by simp [objFieldsTrees, objFieldsRecs, ctxRecs_value s v, ctxRecs_objFields s fs]
end

@[local simp] theorem ctxRecs_arg (a : Argument) :
    obs (ctxRecs s noSkip (argTree a) st) = argRecs s st a := by
  simp [argTree, argRecs, ctxRecs_value]

@[local simp] theorem ctxRecs_dir (d : Directive) :
    obs (ctxRecs s noSkip (dirTree d) st) = dirRecs s st d := by
  simp [dirTree, dirRecs]

@[local simp] theorem ctxRecs_varDef (v : VarDef) :
    obs (ctxRecs s noSkip (varDefTree v) st) = varDefRecs s st v := by
  cases hd : v.default <;> simp [varDefTree, hd, varDefRecs, ctxRecs_value]

mutual
theorem ctxRecs_sel (s : Schema) : ∀ (x : Selection) (c : TCtx),
    obs (ctxRecs s noSkip (selTree x) (TIState.ofCtx c)) = selRecs s c x
  | .field al nm args dirs sel lc, c => by
    simp [selTree, selRecs, TIState.ofCtx]
    exact ctxRecs_optSet s sel _
  | .spread nm dirs lc, c => by simp [selTree, selRecs]
  | .inline tc dirs ss lc, c => by
    simp [selTree, selRecs, TIState.ofCtx]
    exact ctxRecs_set s ss _
theorem ctxRecs_set (s : Schema) : ∀ (ss : SelectionSet) (c : TCtx),
    obs (ctxRecs s noSkip (setTree ss) (TIState.ofCtx c)) = setRecs s c ss
  | .mk sels lc, c => by
    simp [setTree, setRecs, TIState.ofCtx]
    exact ctxRecs_sels s sels _
theorem ctxRecs_optSet (s : Schema) : ∀ (o : Option SelectionSet) (c : TCtx),
    obs (ctxRecsList s noSkip (optSetTrees o) (TIState.ofCtx c)) = optSetRecs s c o
  | none, _ => by simp [optSetTrees, optSetRecs]
  | some ss, c => by simp [optSetTrees, optSetRecs, ctxRecs_set s ss c]
theorem ctxRecs_sels (s : Schema) : ∀ (xs : List Selection) (c : TCtx),
    obs (ctxRecsList s noSkip (selsTrees xs) (TIState.ofCtx c)) = selsRecs s c xs
  | [], _ => by simp [selsTrees, selsRecs]
  | x :: xs, c => by simp [selsTrees, selsRecs, ctxRecs_sel s x c, ctxRecs_sels s xs c]
end

theorem ctxRecs_def (df : Definition) (h : isExecDef df = true) :
    obs (ctxRecs s noSkip (defTree df) TIState.empty) = defRecs s df := by
  cases df with
  | operation op nm vars dirs sel lc =>
    simp [defTree, defRecs, TIState.empty, TIState.ofCtx, TCtx.enterOp]
    exact ctxRecs_set s sel _
  | fragment nm tc dirs sel lc =>
    simp [defTree, defRecs, TIState.empty, TIState.ofCtx, TCtx.enterFragment]
    exact ctxRecs_set s sel _
  | _ => simp [isExecDef] at h

theorem ctxRecs_docTree (s : Schema) (d : Document) (h : isExecDoc d = true) :
    obs (ctxRecs s noSkip (docTree d) TIState.empty) = ⟨"Document", d.loc, TIState.empty⟩ :: tiRecords s d := by
  rw [docTree, obs_node (by simp), obs_list_map, tiRecords, List.flatMap_def, List.flatMap_def]
  congr 2
  exact List.map_congr_left fun df hm => ctxRecs_def s df (List.all_eq_true.mp h df hm)

end

theorem argsUnique_of_check (s : Schema) (h : argsUniqueB s = true) : ArgsUnique s := by
  simp only [argsUniqueB, Bool.and_eq_true, List.all_eq_true, decide_eq_true_eq] at h
  obtain ⟨⟨hT, hM⟩, hD⟩ := h
  refine ⟨fun p f fd hfd => ?_, fun n d hd => hD d (List.mem_of_find?_eq_some hd)⟩
  rcases fieldDef?_cases hfd with hm | hf
  · exact hM fd hm
  · obtain ⟨td, htd, hfd'⟩ := fieldsOf_mem hf
    exact hT td htd fd hfd'

end GqlModel.TypeInfoStacks
