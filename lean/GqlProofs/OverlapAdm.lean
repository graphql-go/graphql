import GqlProofs.ValidateOverlapComplete
import GqlProofs.RequestSim
/-! # Bridge C02 → C01/C06: what the executor's `CollectFields` collects are fields of the flattened set

`Exec.collect c rt sel` (runtime object type `rt`) only collects field nodes that *represent* (`Rep`) fields of the
flattened field set `Overlap.flat` of `sel` — through inline fragments and named spreads whose type conditions admit
`rt` — and the static parent type of each collected field admits `rt` (`Adm`): if it is an object type it IS `rt`, if
it is an interface, it is `rt` itself or `rt` implements it. `GInv` is the invariant of the collected groups. Second half: the static definition of a collected field against the
runtime field definition (schema covariance, `SchemaCov`; `subParent_adm`). -/
namespace GqlModel.OverlapExec
open GqlModel.Validate GqlModel.Validate.Graph GqlModel.Validate.Overlap

abbrev ENode := GqlModel.Exec.FieldNode

/-- the executor's field node is this field occurrence -/
def Rep (a : FieldOcc) (n : ENode) : Prop :=
  a.node.alias.map (·.value) = n.alias ∧ a.node.name.value = n.name ∧ a.node.args = n.args ∧
  a.node.sel = n.sel ∧ a.node.loc = n.loc

theorem Rep.name {a : FieldOcc} {n : ENode} (h : Rep a n) : a.node.name.value = n.name := h.2.1
theorem Rep.args {a : FieldOcc} {n : ENode} (h : Rep a n) : a.node.args = n.args := h.2.2.1
theorem Rep.sel {a : FieldOcc} {n : ENode} (h : Rep a n) : a.node.sel = n.sel := h.2.2.2.1

theorem Rep.key {a : FieldOcc} {n : ENode} (h : Rep a n) : a.node.key = n.key := by
  rcases h with ⟨h1, h2, _⟩
  unfold Overlap.FieldNode.key Exec.FieldNode.key
  rw [← h1, ← h2]
  cases a.node.alias <;> rfl

/-- the static parent type `m` admits the runtime object type `rt` -/
def Adm (s : Schema) (rt m : String) : Prop :=
  (s.objectT m = true → m = rt) ∧ (s.isInterface m = true → m = rt ∨ s.isPossibleType m rt = true)

def PtAdm (s : Schema) (rt : String) (pt : Option String) : Prop := ∀ m, pt = some m → Adm s rt m

/-- the type map answers for a declared type like the list of declared types, except that it may hide a spec scalar -/
theorem lookup_of_find {s : Schema} {m : String} {td : TypeDef} (h : s.find? m = some td) :
    s.lookup m = some td ∨ (s.lookup m = none ∧ isSpecScalarDef td = true) := by
  unfold Schema.lookup
  rw [h]
  dsimp only
  split
  · rename_i hc
    exact Or.inr ⟨rfl, (Bool.and_eq_true _ _ ▸ hc).1⟩
  · exact Or.inl rfl

theorem isObject_of_objectT {s : Schema} {m : String} (h : s.objectT m = true) (hf : (s.find? m).isSome = true) :
    s.isObject m = true := by
  obtain ⟨td, hfm⟩ := Option.isSome_iff_exists.mp hf
  unfold Schema.objectT at h
  unfold Schema.isObject
  rcases lookup_of_find hfm with hl | ⟨hl, _⟩
  · rw [hfm, ← hl]; exact h
  · rw [hl] at h; cases h

theorem adm_of_cond {s : Schema} {rt : String} {t : TypeRef} {m : String}
    (hn : namedOf s t = some m) (hc : Exec.condApplies s (some t) rt = true) : Adm s rt m := by
  have hm : t.namedName = m := by
    cases t with
    | named n l =>
      simp only [namedOf] at hn
      split at hn
      · simpa [TypeRef.namedName] using hn
      · cases hn
    | list _ _ => simp [namedOf] at hn
    | nonNull _ _ => simp [namedOf] at hn
  simp only [Exec.condApplies, hm, Bool.and_eq_true, Bool.or_eq_true, beq_iff_eq] at hc
  obtain ⟨hfind, hor⟩ := hc
  constructor
  · intro hobj
    have hio := isObject_of_objectT hobj hfind
    rcases hor with h | h
    · exact h
    · rw [Exec.isAbstract_not_object h.1] at hio
      cases hio
  · intro _
    rcases hor with h | h
    · exact .inl h
    · exact .inr h.2

section
variable (s : Schema) (d : Document)

/-- invariant of collected groups: every node sits under its response key, represents a field of the universe `U`,
and its static parent type admits the runtime type -/
def GInv (U : FieldOcc → Prop) (rt : String) (g : Exec.Groups) : Prop :=
  ∀ p, p ∈ g → ∀ n, n ∈ p.2 → n.key = p.1 ∧ ∃ a, Rep a n ∧ U a ∧ PtAdm s rt a.parent

abbrev e : Env := envM s d

/-- the traversal position stays inside the universe -/
def SubSel (U : FieldOcc → Prop) (pt : Option String) (x : Selection) : Prop :=
  (∀ a, a ∈ directSel (e s d) pt x → U a) ∧ (∀ r, r ∈ shallowSel x → ∀ a, FlatFrag (e s d) r a → U a)
def SubSet (U : FieldOcc → Prop) (pt : Option String) (x : SelectionSet) : Prop :=
  (∀ a, a ∈ directSet (e s d) pt x → U a) ∧ (∀ r, r ∈ shallowSet x → ∀ a, FlatFrag (e s d) r a → U a)
def SubSels (U : FieldOcc → Prop) (pt : Option String) (x : List Selection) : Prop :=
  (∀ a, a ∈ directSels (e s d) pt x → U a) ∧ (∀ r, r ∈ shallowSels x → ∀ a, FlatFrag (e s d) r a → U a)

/-- what the expansion of a named spread must preserve -/
def ExpandOK (U : FieldOcc → Prop) (rt : String)
    (expand : String → Exec.Groups × List String → Exec.Groups × List String) : Prop :=
  ∀ r acc, (∀ a, FlatFrag (e s d) r a → U a) → GInv s U rt acc.1 → GInv s U rt (expand r acc).1

mutual
theorem collectSel_inv (c : Exec.Ctx) (hs : c.schema = s) (U : FieldOcc → Prop) (rt : String)
    (expand : String → Exec.Groups × List String → Exec.Groups × List String) (hex : ExpandOK s d U rt expand) :
    ∀ (x : Selection) (pt : Option String) (acc : Exec.Groups × List String), PtAdm s rt pt → SubSel s d U pt x →
      GInv s U rt acc.1 → GInv s U rt (Exec.collectSel c rt expand x acc).1
  | .field al nm args dirs sel loc, pt, acc, hpt, hsub, hg => by
    rw [Exec.collectSel_field]
    split
    · exact Normalize.groups_add_forall hg ⟨⟨pt, ⟨al, nm, args, sel, loc⟩, pt.bind (fun p => (e s d).lk p nm.value)⟩,
        ⟨rfl, rfl, rfl, rfl, rfl⟩, hsub.1 _ (by simp [directSel]), hpt⟩
    · exact hg
  | .inline tc dirs (.mk inner l1) loc, pt, acc, hpt, hsub, hg => by
    rw [Exec.collectSel_inline]
    split
    · rename_i hcond
      simp only [Bool.and_eq_true] at hcond
      -- below the fragment the static parent type is its type condition, which applies to `rt`
      refine collectList_inv c hs U rt expand hex inner _ acc ?_ ⟨fun a ha => hsub.1 a ha, fun r hr => hsub.2 r hr⟩ hg
      cases tc with
      | none => exact hpt
      | some t => exact fun m hm => adm_of_cond hm (hs ▸ hcond.2)
    · exact hg
  | .spread nm dirs loc, pt, acc, hpt, hsub, hg => by
    rw [Exec.collectSel_spread]
    split
    · exact hex nm.value acc (hsub.2 nm.value (by simp [shallowSel])) hg
    · exact hg
theorem collectList_inv (c : Exec.Ctx) (hs : c.schema = s) (U : FieldOcc → Prop) (rt : String)
    (expand : String → Exec.Groups × List String → Exec.Groups × List String) (hex : ExpandOK s d U rt expand) :
    ∀ (x : List Selection) (pt : Option String) (acc : Exec.Groups × List String), PtAdm s rt pt → SubSels s d U pt x →
      GInv s U rt acc.1 → GInv s U rt (Exec.collectList c rt expand x acc).1
  | [], pt, acc, _, _, hg => hg
  | x :: xs, pt, acc, hpt, hsub, hg => by
    rw [Exec.collectList_cons]
    refine collectList_inv c hs U rt expand hex xs pt _ hpt
      ⟨fun a ha => hsub.1 a (by simp [directSels, ha]), fun r hr => hsub.2 r (by simp [shallowSels, hr])⟩ ?_
    exact collectSel_inv c hs U rt expand hex x pt acc hpt
      ⟨fun a ha => hsub.1 a (by simp [directSels, ha]), fun r hr => hsub.2 r (by simp [shallowSels, hr])⟩ hg
end

/-- the executor's fragment map and `ValidationContext.Fragment` agree (unique fragment names) -/
theorem frag_lookup (hnd : (fragNames (fragDefs d)).Nodup) (c : Exec.Ctx) (hf : c.frags = d.fragments) {n : String}
    {tc : TypeRef} {sel : SelectionSet} (h : c.frag? n = some (tc, sel)) :
    ∃ f, lookupFrag (fragDefs d) n = some f ∧ f.typeCond = tc ∧ f.sel = sel := by
  obtain ⟨nm, ds, l, hk, hd⟩ := Normalize.frag_mem_doc hf h
  have hin : (⟨nm, tc, ds, sel, l⟩ : Frag) ∈ fragDefs d := List.mem_filterMap.mpr ⟨_, hd, rfl⟩
  exact ⟨_, hk ▸ lookupFrag_self hnd hin, rfl, rfl⟩

theorem expandSpread_ok (hnd : (fragNames (fragDefs d)).Nodup) (c : Exec.Ctx) (hs : c.schema = s)
    (hf : c.frags = d.fragments) (U : FieldOcc → Prop) (rt : String) :
    ∀ fuel, ExpandOK s d U rt (Exec.expandSpread c rt fuel) := by
  intro fuel
  induction fuel with
  | zero => exact fun r acc _ hg => hg
  | succ fuel ih =>
    intro r acc hU hg
    refine Exec.expandSpread_cases (P := fun b => GInv s U rt b.1) fuel r acc (fun _ => hg) (fun _ _ _ _ _ => hg)
      fun tc body l _ hfr hcond => ?_
    -- the fragment's fields and spreads are in the universe, its type condition applies to `rt`
    rcases frag_lookup d hnd c hf hfr with ⟨f, hl, rfl, hsel⟩
    refine collectList_inv s d c hs U rt _ ih body (namedOf s f.typeCond) _ (fun m hm => adm_of_cond hm (hs ▸ hcond))
      ⟨fun a ha => hU a ⟨r, f, .refl _, hl, ?_⟩, fun g' hg' a ha => hU a (ha.step (shEdge_iff.2 ⟨f, hl, ?_⟩))⟩ hg
    · rw [hsel]; exact ha
    · rw [hsel]; exact hg'

/-- **CollectFields collects fields of the flattened set whose parent types admit the runtime type** -/
theorem collect_inv (hnd : (fragNames (fragDefs d)).Nodup) (c : Exec.Ctx) (hs : c.schema = s)
    (hf : c.frags = d.fragments) (U : FieldOcc → Prop) (rt : String) (sel : SelectionSet) (pt : Option String)
    (acc : Exec.Groups × List String) (hpt : PtAdm s rt pt) (hsub : SubSet s d U pt sel) (hg : GInv s U rt acc.1) :
    GInv s U rt (Exec.collect c rt sel acc).1 := by
  obtain ⟨sels, l⟩ := sel
  exact collectList_inv s d c hs U rt _ (expandSpread_ok s d hnd c hs hf U rt _) sels pt acc hpt hsub hg

end

/-- what schema construction guarantees and the bridge relies on -/
structure SchemaCov (s : Schema) : Prop where
  /-- an implementer has every field of its interface, with the same named type or — for an abstract field type — a
  possible object type of it -/
  impl : ∀ I rt name fdI, s.isInterface I = true → s.isPossibleType I rt = true →
    (s.fieldsOf I).find? (fun f => f.name == name) = some fdI →
    ∃ fd, (s.objectFields rt).find? (fun f => f.name == name) = some fd ∧
      (fd.type.namedName = fdI.type.namedName ∨
        (s.isObject fd.type.namedName = true ∧ s.isPossibleType fdI.type.namedName fd.type.namedName = true))
  /-- object types that fields refer to are declared types -/
  declared : ∀ P name fd, (s.objectFields P).find? (fun f => f.name == name) = some fd →
    s.objectT fd.type.namedName = true → s.isObject fd.type.namedName = true
  /-- no declared field is called `__typename` -/
  noTypename : ∀ P fd, fd ∈ s.fieldsOf P → fd.name ≠ "__typename"
  /-- `String`, the type of the meta field `__typename`, is a leaf -/
  stringLeaf : s.objectT "String" = false ∧ s.isInterface "String" = false

/-- every field of a flattened set carries the definition the rule's lookup assigns under its parent type -/
def FdefOK (s : Schema) (a : FieldOcc) : Prop := a.fdef = a.parent.bind (fun p => lkFields s p a.node.name.value)

mutual
theorem directSel_fdef (s : Schema) (d : Document) : ∀ (pt : Option String) (x : Selection) (a : FieldOcc),
    a ∈ directSel (envM s d) pt x → FdefOK s a
  | pt, .field al nm args ds sel l, a, h => by
    simp only [directSel, List.mem_singleton] at h
    subst h
    rfl
  | pt, .spread .., a, h => by simp [directSel] at h
  | pt, .inline tc ds ss l, a, h => by
    simp only [directSel] at h
    exact directSet_fdef s d _ ss a h
theorem directSet_fdef (s : Schema) (d : Document) : ∀ (pt : Option String) (x : SelectionSet) (a : FieldOcc),
    a ∈ directSet (envM s d) pt x → FdefOK s a
  | pt, .mk sels l, a, h => by
    simp only [directSet] at h
    exact directSels_fdef s d pt sels a h
theorem directSels_fdef (s : Schema) (d : Document) : ∀ (pt : Option String) (x : List Selection) (a : FieldOcc),
    a ∈ directSels (envM s d) pt x → FdefOK s a
  | pt, [], a, h => by simp [directSels] at h
  | pt, x :: xs, a, h => by
    simp only [directSels, List.mem_append] at h
    rcases h with h | h
    · exact directSel_fdef s d pt x a h
    · exact directSels_fdef s d pt xs a h
end

theorem flat_fdef (s : Schema) (d : Document) (pt : Option String) (ss : SelectionSet) (a : FieldOcc)
    (h : a ∈ flat (envM s d) pt ss) : FdefOK s a := by
  rcases flat_cases h with h | ⟨r, _, m, f, _, _, ha⟩
  · exact directSet_fdef s d pt ss a h
  · exact directSet_fdef s d _ f.sel a ha

/-- `fieldsOf` (type map) and `objectFields` (declared types) agree on declared types: a declared type missing from the type
map is a scalar, without fields on either side -/
theorem fieldsOf_eq_objectFields {s : Schema} {m : String} (h : (s.find? m).isSome = true) :
    s.fieldsOf m = s.objectFields m := by
  obtain ⟨td, hfm⟩ := Option.isSome_iff_exists.mp h
  unfold Schema.fieldsOf Schema.objectFields
  rcases lookup_of_find hfm with hl | ⟨hl, hsc⟩
  · rw [hl, hfm]
    cases td <;> rfl
  · rw [hl, hfm]
    cases td <;> first | rfl | exact Bool.noConfusion hsc

theorem fieldsOf_nil {s : Schema} {m : String} (h1 : s.objectT m = false) (h2 : s.isInterface m = false) :
    s.fieldsOf m = [] := by
  unfold Schema.fieldsOf
  unfold Schema.objectT at h1
  cases hl : s.lookup m with
  | none => rfl
  | some td =>
    rw [hl] at h1
    cases td with
    | object => simp at h1
    | interface n fs b dsc =>
      exfalso
      -- an interface in the type map is a declared interface
      unfold Schema.lookup at hl
      cases hfm : s.find? m with
      | none =>
        rw [hfm] at hl
        simp only at hl
        have hmem := List.mem_of_find?_eq_some hl
        simp [introspectionTypes] at hmem
      | some td' =>
        rw [hfm] at hl
        simp only at hl
        split at hl
        · cases hl
        · cases hl
          unfold Schema.isInterface at h2
          rw [hfm] at h2
          simp at h2
    | _ => rfl

theorem not_objectT_of_possible {s : Schema} {N x : String} (h : s.isPossibleType N x = true) : s.objectT N = false := by
  unfold Schema.isPossibleType Schema.possibleTypes at h
  unfold Schema.objectT
  cases hfm : s.find? N with
  | none => rw [hfm] at h; cases h
  | some td =>
    rw [hfm] at h
    rcases lookup_of_find hfm with hl | ⟨hl, _⟩
    · rw [hl]
      cases td <;> first | rfl | exact Bool.noConfusion h
    · rw [hl]

theorem find_isSome_of_objectFields {s : Schema} {m : String} {p : FieldDefS → Bool} {fd : FieldDefS}
    (h : (s.objectFields m).find? p = some fd) : (s.find? m).isSome = true := by
  unfold Schema.objectFields at h
  cases hfm : s.find? m with
  | none => rw [hfm] at h; simp at h
  | some td => rfl

/-- the named type of the static definition of a collected field admits every runtime type the executor can descend
to through that field. By the static parent of the field: an object type is the runtime type itself, so the two
definitions are one; an interface has the runtime type as implementer, and `SchemaCov.impl` relates the two field types;
`__typename` has the leaf type `String` under every parent. -/
theorem subParent_adm {s : Schema} (hcov : SchemaCov s) {rt ot : String} {a : FieldOcc} (hok : FdefOK s a)
    (hp : PtAdm s rt a.parent) {fd : FieldDefS} (hfd : Exec.fieldDef? s rt a.node.name.value = some fd)
    (hot : Normalize.Descends s fd.type.namedName ot) : PtAdm s ot a.subParent := by
  obtain ⟨h1, h2⟩ := hot
  intro N hN
  unfold FieldOcc.subParent at hN
  cases hfa : a.fdef with
  | none => rw [hfa] at hN; cases hN
  | some fdA =>
    rw [hfa] at hN
    simp only [Option.map_some, Option.some.injEq] at hN
    subst hN
    unfold FdefOK at hok
    rw [hfa] at hok
    cases hpar : a.parent with
    | none => rw [hpar] at hok; cases hok
    | some m =>
      rw [hpar] at hok
      simp only [Option.bind_some] at hok
      have hadm := hp m hpar
      -- the admissibility of the runtime field type itself
      have admN0 : Adm s ot fd.type.namedName := by
        constructor
        · intro ho
          rcases Exec.fieldDef?_cases hfd with ⟨_, rfl⟩ | ⟨_, h⟩
          · exact nomatch hcov.stringLeaf.1.symm.trans ho
          · exact (h1 (hcov.declared rt _ fd h ho)).symm
        · intro hi
          have : s.isAbstract fd.type.namedName = true := by simp [Schema.isAbstract, hi]
          exact .inr (h2 this).2
      unfold lkFields at hok
      cases hfind : (s.fieldsOf m).find? (fun dd => dd.name == a.node.name.value) with
      | none =>
        rw [hfind] at hok
        simp only at hok
        split at hok
        · cases hok
          exact ⟨fun ho => (nomatch hcov.stringLeaf.1.symm.trans ho), fun hi => nomatch hcov.stringLeaf.2.symm.trans hi⟩
        · cases hok
      | some dA =>
        rw [hfind] at hok
        simp only [Option.some.injEq] at hok
        subst hok
        have hmem := List.mem_of_find?_eq_some hfind
        have hname : fdA.name = a.node.name.value := by simpa using List.find?_some hfind
        have hfd' : (s.objectFields rt).find? (fun f => f.name == a.node.name.value) = some fd :=
          ((Exec.fieldDef?_cases hfd).resolve_left fun h => hcov.noTypename m fdA hmem (hname.trans h.1)).2
        have hfindrt := find_isSome_of_objectFields hfd'
        have hkind : s.objectT m = true ∨ s.isInterface m = true := by
          cases h1' : s.objectT m with
          | true => exact .inl rfl
          | false =>
            cases h2' : s.isInterface m with
            | true => exact .inr rfl
            | false => rw [fieldsOf_nil h1' h2'] at hmem; cases hmem
        have same : m = rt → fdA.type.namedName = fd.type.namedName := by
          intro hm
          subst hm
          rw [fieldsOf_eq_objectFields hfindrt, hfd'] at hfind
          cases hfind; rfl
        rcases hkind with hobj | hint
        · rw [same (hadm.1 hobj)]; exact admN0
        · rcases hadm.2 hint with hm | hposs
          · rw [same hm]; exact admN0
          · rcases hcov.impl m rt _ fdA hint hposs hfind with ⟨fd', hfd'', hrel⟩
            rw [hfd'] at hfd''
            cases hfd''
            rcases hrel with heq | ⟨hobjN0, hpossN⟩
            · rw [← heq]; exact admN0
            · have hot := h1 hobjN0
              refine ⟨fun ho => ?_, fun _ => .inr (hot ▸ hpossN)⟩
              rw [not_objectT_of_possible hpossN] at ho; cases ho

end GqlModel.OverlapExec
