import GqlModel.Conforms
import GqlProofs.ExecBasic
import GqlProofs.ExecRunSim
/-! Fuel is irrelevant once it suffices: a call of any of the four functions that does not end in `fuelOut` gives the
same result and state with more fuel. Hence a `.result` response does not depend on the fuel. -/
namespace GqlModel.Exec

structure FuelP (c : Ctx) (fuel : Nat) : Prop where
  groups : ∀ dfr rt src path groups acc st r st',
    execGroups c fuel dfr rt src path groups acc st = (r, st') → r ≠ .fuelOut →
    execGroups c (fuel + 1) dfr rt src path groups acc st = (r, st')
  field : ∀ dfr rt src p fd nodes st r st',
    execField c fuel dfr rt src p fd nodes st = (r, st') → r ≠ .fuelOut →
    execField c (fuel + 1) dfr rt src p fd nodes st = (r, st')
  complete : ∀ dfr t rt fname nodes p v st r st',
    complete c fuel dfr t rt fname nodes p v st = (r, st') → r ≠ .fuelOut →
    complete c (fuel + 1) dfr t rt fname nodes p v st = (r, st')
  items : ∀ dfr item rt fname nodes p xs i acc st r st',
    completeItems c fuel dfr item rt fname nodes p xs i acc st = (r, st') → r ≠ .fuelOut →
    completeItems c (fuel + 1) dfr item rt fname nodes p xs i acc st = (r, st')

theorem notOut_inherited : Inherited (fun {_} o => o.1 ≠ .fuelOut) where
  head h e := h (Run.andThen_head_fuelOut _ e)
  rest hy h e := h (Run.andThen_rest_fuelOut hy e)
  absorb h e := h (by show Exec.absorb _ _ = _; rw [e]; rfl)
  after h := h
  nonNull {p dfr o} h e := h (by obtain ⟨r, d⟩ := o; subst e; rfl)
  markFail {t p o} h e := h (by obtain ⟨r, d⟩ := o; subst e; rfl)
  mapOk h := Res.mapOk_ne_fuelOut h

/-- more fuel, same run -/
theorem fuelRuns (c : Ctx) (k : Nat) : ∀ fuel, SimRuns (fun {_} o => o.1 ≠ .fuelOut) ArgRel.eq c c fuel (fuel + k)
  | 0 => ⟨fun _ _ _ _ _ _ _ h => absurd (congrArg Prod.fst runGroups_zero) h,
    fun _ _ _ _ _ _ _ _ h => absurd (congrArg Prod.fst runField_zero) h,
    fun _ _ _ _ _ _ _ _ _ h => absurd (congrArg Prod.fst runComplete_zero) h,
    fun _ _ _ _ _ _ _ _ _ _ h => absurd (congrArg Prod.fst runItems_zero) h⟩
  | fuel + 1 => Nat.add_right_comm fuel 1 k ▸ simRuns_succ notOut_inherited (ArgRel.eq_closed rfl rfl fun _ _ => rfl) rfl
      (fun _ _ => rfl) (fun _ _ => rfl) (fun _ _ _ _ _ _ _ _ => rfl) (fuelRuns c k fuel)

theorem fuelP (c : Ctx) (fuel : Nat) : FuelP c fuel where
  groups _ _ _ _ _ _ _ _ _ h hr := ((fuelRuns c 1 fuel).exec_groups notOut_inherited (by rw [h]; exact hr)).trans h
  field _ _ _ _ _ _ _ _ _ h hr := ((fuelRuns c 1 fuel).exec_field notOut_inherited (by rw [h]; exact hr)).trans h
  complete _ _ _ _ _ _ _ _ _ _ h hr := ((fuelRuns c 1 fuel).exec_complete notOut_inherited (by rw [h]; exact hr)).trans h
  items _ _ _ _ _ _ _ _ _ _ _ _ h hr := ((fuelRuns c 1 fuel).exec_items notOut_inherited (by rw [h]; exact hr)).trans h

theorem execGroups_fuel_add (c : Ctx) (fuel : Nat) (dfr : Bool) (rt : String) (src : GoVal) (path : Path) (groups : Groups)
    (acc : List (String × JVal)) (st : St) (r : Res (List (String × JVal))) (st' : St)
    (h : execGroups c fuel dfr rt src path groups acc st = (r, st')) (hr : r ≠ .fuelOut) :
    ∀ k, execGroups c (fuel + k) dfr rt src path groups acc st = (r, st') :=
  fun k => ((fuelRuns c k fuel).exec_groups notOut_inherited (by rw [h]; exact hr)).trans h

theorem execute_fuel_add (s : Schema) (doc : Document) (opName : String) (inputs : Coerce.Vars) (w : World) (fuel : Nat)
    (r : Response) (h : execute s doc opName inputs w fuel = r) (hr : r ≠ .fuelOut) (k : Nat) :
    execute s doc opName inputs w (fuel + k) = r := by
  rcases execute_cases s doc opName inputs w with ⟨c, root, sel, -, he⟩ | ⟨-, what, hw⟩
  · rw [he] at h ⊢
    rcases hg : execGroups c fuel false root .nil [] (rootGroups c root sel) [] St.empty with ⟨r1, st1⟩
    rw [hg] at h
    have hne : r1 ≠ .fuelOut := by
      intro he; subst he; exact hr h.symm
    rw [execGroups_fuel_add c fuel _ _ _ _ _ _ _ _ _ hg hne k]
    exact h
  · rw [← h, hw, hw]

end GqlModel.Exec
