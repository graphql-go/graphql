import GqlModel.Conforms
/-! # CollectFields: equations, induction on the selection syntax, invariants of groups

The equations of `collectSel` / `collectSet` / `collectList` / `expandSpread` are stated once per branch, about a
variable accumulator; the facts about collection in `ExecCollect`, `ExecWorlds` and below go through them, through
`selections_induct` (induction on the selection syntax, for lists, with the statement about one selection as the motive
`PS`; the statement about one selection is then the one about the list `[s]`) and through `expandSpread_cases`.

Then invariants of collected groups: any property of `Groups` preserved by `Groups.add` holds of everything
`collect` / `collectMerged` build (for every fuel, every fragment table — also cyclic ones). Instances: response keys
pairwise distinct (used by the log and two-world theorems); every group non-empty with all nodes carrying the group's
key (`collect_wf`, `collectMerged_wf`). -/
namespace GqlModel.Exec

theorem frag_mem (c : Ctx) (n : String) (tc : TypeRef) (sel : SelectionSet) (h : c.frag? n = some (tc, sel)) :
    ∃ nm ds l, (n, Definition.fragment nm tc ds sel l) ∈ c.frags := by
  unfold Ctx.frag? at h
  cases hl : (c.frags.filter (fun p => p.1 == n)).getLast? with
  | none => simp [hl] at h
  | some p =>
    obtain ⟨k, d⟩ := p
    rw [hl] at h
    have hm := (List.mem_filter.mp (List.mem_of_getLast? hl))
    have hk : k = n := by simpa using hm.2
    subst hk
    cases d with
    | fragment nm t ds s l =>
      simp only [Option.some.injEq, Prod.mk.injEq] at h
      obtain ⟨rfl, rfl⟩ := h
      exact ⟨nm, ds, l, hm.1⟩
    | _ => simp at h

section equations
variable (c : Ctx) (rt : String) (expand : String → Groups × List String → Groups × List String)

theorem collectSel_field (alias name args dirs sel loc) (a : Groups × List String) :
    collectSel c rt expand (.field alias name args dirs sel loc) a =
      if included c.schema c.vars dirs then
        (a.1.add { alias := alias.map (·.value), name := name.value, args := args, sel := sel, loc := loc }, a.2)
      else a := by
  cases a; rfl

theorem collectSel_inline (tc dirs inner l1 l2) (a : Groups × List String) :
    collectSel c rt expand (.inline tc dirs (.mk inner l1) l2) a =
      if included c.schema c.vars dirs && condApplies c.schema tc rt then collectList c rt expand inner a else a := rfl

theorem collectSel_spread (name dirs l) (a : Groups × List String) :
    collectSel c rt expand (.spread name dirs l) a =
      if included c.schema c.vars dirs then expand name.value a else a := rfl

theorem collectSet_mk (sels l) (a : Groups × List String) :
    collectSet c rt expand (.mk sels l) a = collectList c rt expand sels a := rfl

theorem collectList_cons (s rest) (a : Groups × List String) :
    collectList c rt expand (s :: rest) a = collectList c rt expand rest (collectSel c rt expand s a) := rfl

theorem expandSpread_succ (fuel : Nat) (n : String) (a : Groups × List String) :
    expandSpread c rt (fuel + 1) n a =
      if a.2.contains n then a else
      match c.frag? n with
      | none => a
      | some (tc, sel) =>
        if condApplies c.schema (some tc) rt then collectSet c rt (expandSpread c rt fuel) sel (a.1, n :: a.2)
        else (a.1, n :: a.2) := by
  cases a; rfl

variable {c rt}

theorem expandSpread_visited (fuel : Nat) {n : String} {a : Groups × List String} (h : n ∈ a.2) :
    expandSpread c rt fuel n a = a := by
  cases fuel with
  | zero => rfl
  | succ fuel => rw [expandSpread_succ, if_pos (List.contains_iff_mem.2 h)]

theorem expandSpread_undefined (fuel : Nat) {n : String} (a : Groups × List String) (h : c.frag? n = none) :
    expandSpread c rt fuel n a = a := by
  cases fuel with
  | zero => rfl
  | succ fuel => rw [expandSpread_succ, h, ite_self]

theorem expandSpread_new (fuel : Nat) {n : String} {a : Groups × List String} {tc : TypeRef} {sel : SelectionSet}
    (hn : n ∉ a.2) (hf : c.frag? n = some (tc, sel)) :
    expandSpread c rt (fuel + 1) n a =
      if condApplies c.schema (some tc) rt then collectSet c rt (expandSpread c rt fuel) sel (a.1, n :: a.2)
      else (a.1, n :: a.2) := by
  rw [expandSpread_succ, if_neg (fun h => hn (List.contains_iff_mem.1 h)), hf]

theorem expandSpread_cases {P : Groups × List String → Prop} (fuel : Nat) (n : String) (a : Groups × List String)
    (same : n ∈ a.2 ∨ c.frag? n = none → P a)
    (mark : ∀ tc sel, n ∉ a.2 → c.frag? n = some (tc, sel) → condApplies c.schema (some tc) rt = false →
      P (a.1, n :: a.2))
    (enter : ∀ tc body l, n ∉ a.2 → c.frag? n = some (tc, .mk body l) → condApplies c.schema (some tc) rt = true →
      P (collectList c rt (expandSpread c rt fuel) body (a.1, n :: a.2))) :
    P (expandSpread c rt (fuel + 1) n a) := by
  by_cases hn : n ∈ a.2
  · rw [expandSpread_visited _ hn]
    exact same (.inl hn)
  · rcases hf : c.frag? n with _ | ⟨tc, ⟨body, l⟩⟩
    · rw [expandSpread_undefined _ _ hf]
      exact same (.inr hf)
    · rw [expandSpread_new fuel hn hf]
      cases hc : condApplies c.schema (some tc) rt
      · exact mark tc _ hn hf hc
      · exact enter tc body l hn hf hc

end equations

section structural
variable {PS : Selection → Prop} {PL : List Selection → Prop}
  (field : ∀ alias name args dirs sel loc, PS (.field alias name args dirs sel loc))
  (inline : ∀ tc dirs inner l1 l2, PL inner → PS (.inline tc dirs (.mk inner l1) l2))
  (spread : ∀ name dirs l, PS (.spread name dirs l))
  (nil : PL [])
  (cons : ∀ s rest, PS s → PL rest → PL (s :: rest))
include field inline spread nil cons

-- within this section: the block needs all five cases included; each of its two theorems uses only its own
set_option linter.unusedSectionVars false
mutual
theorem selection_induct : ∀ s, PS s
  | .field .. => field ..
  | .inline _ _ (.mk inner _) _ => inline _ _ _ _ _ (selections_induct inner)
  | .spread .. => spread ..
theorem selections_induct : ∀ l, PL l
  | [] => nil
  | s :: rest => cons s rest (selection_induct s) (selections_induct rest)
end
end structural

section generic
variable (X : Groups → Prop) (hadd : ∀ g f, X g → X (Groups.add g f))
include hadd

theorem collectList_inv (c : Ctx) (rt : String) (expand : String → Groups × List String → Groups × List String)
    (hexp : ∀ n acc, X acc.1 → X (expand n acc).1) :
    ∀ (l : List Selection) (acc : Groups × List String), X acc.1 → X (collectList c rt expand l acc).1 :=
  selections_induct (PS := fun s => ∀ acc, X acc.1 → X (collectSel c rt expand s acc).1)
    (field := fun _ _ _ _ _ _ acc h => by
      rw [collectSel_field]
      split
      · exact hadd _ _ h
      · exact h)
    (inline := fun _ _ _ _ _ ih acc h => by
      rw [collectSel_inline]
      split
      · exact ih acc h
      · exact h)
    (spread := fun _ _ _ acc h => by
      rw [collectSel_spread]
      split
      · exact hexp _ _ h
      · exact h)
    (nil := fun _ h => h)
    (cons := fun _ _ h1 h2 acc h => h2 _ (h1 acc h))

theorem collectSel_inv (c : Ctx) (rt : String) (expand : String → Groups × List String → Groups × List String)
    (hexp : ∀ n acc, X acc.1 → X (expand n acc).1) :
    ∀ (s : Selection) (acc : Groups × List String), X acc.1 → X (collectSel c rt expand s acc).1 :=
  fun s => collectList_inv X hadd c rt expand hexp [s]

variable (c : Ctx) (rt : String)

theorem expandSpread_inv : ∀ (fuel : Nat) (n : String) (acc : Groups × List String),
    X acc.1 → X (expandSpread c rt fuel n acc).1
  | 0, _, _, h => h
  | fuel + 1, n, acc, h =>
    expandSpread_cases (P := fun b => X b.1) fuel n acc (fun _ => h) (fun _ _ _ _ _ => h)
      (fun _ body _ _ _ _ => collectList_inv X hadd c rt _ (expandSpread_inv fuel) body _ h)

theorem collect_inv : ∀ (sel : SelectionSet) (acc : Groups × List String), X acc.1 → X (collect c rt sel acc).1
  | .mk sels _, acc, h => collectList_inv X hadd c rt _ (expandSpread_inv X hadd c rt _) sels acc h

theorem collectMerged_inv (nodes : List FieldNode) (h0 : X []) : X (collectMerged c rt nodes) :=
  List.foldlRecOn (motive := fun b : Groups × List String => X b.1) nodes _ h0 fun acc h n _ => by
    split
    · exact collect_inv X hadd c rt _ acc h
    · exact h

end generic

def Groups.keys (g : Groups) : List String := g.map (·.1)

theorem any_key_iff (g : Groups) (k : String) : g.any (fun p => p.1 == k) = true ↔ k ∈ g.map (·.1) := by
  simp only [List.any_eq_true, beq_iff_eq, List.mem_map]

theorem Groups.add_of_mem {g : Groups} {f : FieldNode} (h : f.key ∈ g.map (·.1)) :
    g.add f = g.map (fun p => if p.1 == f.key then (p.1, p.2 ++ [f]) else p) :=
  if_pos ((any_key_iff g f.key).2 h)

theorem Groups.add_of_not_mem {g : Groups} {f : FieldNode} (h : f.key ∉ g.map (·.1)) :
    g.add f = g ++ [(f.key, [f])] :=
  if_neg (mt (any_key_iff g f.key).1 h)

theorem keys_add (g : Groups) (f : FieldNode) :
    (g.add f).map (·.1) = if f.key ∈ g.map (·.1) then g.map (·.1) else g.map (·.1) ++ [f.key] := by
  by_cases h : f.key ∈ g.map (·.1)
  · rw [Groups.add_of_mem h, if_pos h, List.map_map]
    refine List.map_congr_left (fun p _ => ?_)
    dsimp only [Function.comp]
    split <;> rfl
  · rw [Groups.add_of_not_mem h, if_neg h, List.map_append]
    rfl

theorem mem_add_cases {g : Groups} {f : FieldNode} {p : String × List FieldNode} (hp : p ∈ g.add f) :
    p ∈ g ∨ (∃ q ∈ g, q.1 = f.key ∧ p = (q.1, q.2 ++ [f])) ∨ p = (f.key, [f]) := by
  by_cases h : f.key ∈ g.map (·.1)
  · rw [Groups.add_of_mem h] at hp
    obtain ⟨q, hq, rfl⟩ := List.mem_map.1 hp
    by_cases hk : (q.1 == f.key) = true
    · rw [if_pos hk]
      exact .inr (.inl ⟨q, hq, eq_of_beq hk, rfl⟩)
    · rw [if_neg hk]
      exact .inl hq
  · rw [Groups.add_of_not_mem h] at hp
    rcases List.mem_append.1 hp with hp | hp
    · exact .inl hp
    · exact .inr (.inr (List.mem_singleton.1 hp))

/-- every stored node sits under its own key and satisfies `Q` -/
def AllQ (Q : FieldNode → Prop) (g : Groups) : Prop := ∀ p ∈ g, ∀ f ∈ p.2, p.1 = f.key ∧ Q f

theorem allQ_nil {Q : FieldNode → Prop} : AllQ Q [] := fun _ hp => nomatch hp

theorem allQ_add {Q : FieldNode → Prop} {g : Groups} {f : FieldNode} (hg : AllQ Q g) (hf : Q f) : AllQ Q (g.add f) := by
  intro p hp x hx
  rcases mem_add_cases hp with h | ⟨q, hq, hk, rfl⟩ | rfl
  · exact hg p h x hx
  · rcases List.mem_append.1 hx with hx | hx
    · exact hg q hq x hx
    · rw [List.mem_singleton.1 hx]
      exact ⟨hk, hf⟩
  · rw [List.mem_singleton.1 hx]
    exact ⟨rfl, hf⟩

theorem Groups.keys_nodup_add (g : Groups) (f : FieldNode) (h : g.keys.Nodup) : (Groups.add g f).keys.Nodup := by
  rw [Groups.keys, Exec.keys_add]
  split
  · exact h
  · rename_i hm
    refine List.nodup_append.2 ⟨h, List.pairwise_singleton _ _, fun a ha b hb hab => hm ?_⟩
    rw [← List.mem_singleton.1 hb, ← hab]
    exact ha

theorem collect_keys_nodup (c : Ctx) (rt : String) (sel : SelectionSet) (acc : Groups × List String)
    (h : acc.1.keys.Nodup) : (collect c rt sel acc).1.keys.Nodup :=
  collect_inv (fun g => g.keys.Nodup) Groups.keys_nodup_add c rt sel acc h

theorem rootGroups_keys_nodup (c : Ctx) (root : String) (sel : SelectionSet) : (rootGroups c root sel).keys.Nodup :=
  collect_keys_nodup c root sel ([], []) List.nodup_nil

theorem collectMerged_keys_nodup (c : Ctx) (rt : String) (nodes : List FieldNode) :
    (collectMerged c rt nodes).keys.Nodup :=
  collectMerged_inv (fun g => g.keys.Nodup) Groups.keys_nodup_add c rt nodes List.nodup_nil

/-- every group is non-empty and all its nodes carry the group's key -/
def Groups.WF (g : Groups) : Prop := ∀ k ns, (k, ns) ∈ g → ns ≠ [] ∧ ∀ n, n ∈ ns → n.key = k

theorem Groups.wf_add (g : Groups) (f : FieldNode) (h : g.WF) : (Groups.add g f).WF := by
  intro k ns hm
  rcases mem_add_cases hm with hm | ⟨q, hq, hk, he⟩ | he
  · exact h k ns hm
  · cases he
    refine ⟨List.append_ne_nil_of_right_ne_nil _ (List.cons_ne_nil _ _), fun n hn => ?_⟩
    rcases List.mem_append.1 hn with hn | hn
    · exact (h _ _ hq).2 n hn
    · rw [List.mem_singleton.1 hn, hk]
  · cases he
    exact ⟨List.cons_ne_nil _ _, fun n hn => by rw [List.mem_singleton.1 hn]⟩

theorem Groups.wf_nil : Groups.WF [] := fun _ _ h => nomatch h

theorem collect_wf (c : Ctx) (rt : String) (sel : SelectionSet) (acc : Groups × List String)
    (h : acc.1.WF) : (collect c rt sel acc).1.WF :=
  collect_inv Groups.WF Groups.wf_add c rt sel acc h

theorem collectMerged_wf (c : Ctx) (rt : String) (nodes : List FieldNode) : (collectMerged c rt nodes).WF :=
  collectMerged_inv Groups.WF Groups.wf_add c rt nodes Groups.wf_nil

end GqlModel.Exec
