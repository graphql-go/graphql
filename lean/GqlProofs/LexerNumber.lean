import GqlProofs.LexerIgnored
/-! M = S: `readNumber` (lexer.go:139-216) = `Spec.number`; no scanner of S for a part of a number reports `fuel` (`NoFuel`). -/
namespace GqlModel.Lexer
open GqlModel.Lexer.Spec

/-- the scanner state "at `rest`, byte position `p`, rune freshly read" -/
def mkSt (rest : Bytes) (p : Nat) : NumSt := ⟨rest, p, (runeAt rest).1, (runeAt rest).2⟩

theorem advance_ascii (c : UInt8) (r : Bytes) (p : Nat) (h : c.toNat < 128) :
    (mkSt (c :: r) p).advance = mkSt r (p + 1) := by
  simp [mkSt, NumSt.advance, width_ascii c r h]

theorem isDigitByte_ascii {c : UInt8} (h : isDigitByte c) : c.toNat < 128 := by
  unfold isDigitByte at h; omega

theorem isDigitCode_mkSt (rest : Bytes) (p : Nat) : isDigitCode (mkSt rest p).code ↔ 0 < digitsLen rest := by
  match rest with
  | [] => simp [mkSt, runeAt, isDigitCode, digitsLen, spanLen]
  | c :: r =>
    simp only [mkSt, isDigitCode_iff, digitsLen_cons]
    split <;> simp_all

theorem readDigitsLoop_spec : ∀ (f : Nat) (rest : Bytes) (p : Nat), rest.length < f →
    readDigitsLoop f (mkSt rest p) = mkSt (rest.drop (digitsLen rest)) (p + digitsLen rest) := by
  intro f
  induction f with
  | zero => intro rest p h; omega
  | succ f ih =>
    intro rest p hlen
    rw [readDigitsLoop]
    match rest with
    | [] =>
      have : ¬ isDigitCode (mkSt [] p).code := by rw [isDigitCode_mkSt]; simp [digitsLen, spanLen]
      rw [if_neg this]; simp [digitsLen, spanLen]
    | c :: r =>
      simp only [List.length_cons] at hlen
      by_cases hd : isDigitByte c
      · have : isDigitCode (mkSt (c :: r) p).code := by rw [isDigitCode_mkSt, digitsLen_cons, if_pos hd]; omega
        rw [if_pos this, advance_ascii c r p (isDigitByte_ascii hd), ih r (p + 1) (by omega), digitsLen_cons, if_pos hd,
          List.drop_succ_cons]
        congr 1; omega
      · have : ¬ isDigitCode (mkSt (c :: r) p).code := by rw [isDigitCode_mkSt, digitsLen_cons, if_neg hd]; omega
        rw [if_neg this, digitsLen_cons, if_neg hd]; simp

/-- shifting a spec result to absolute positions -/
def liftPos (p : Nat) (rest : Bytes) : Except (Nat × ErrKind) Nat → Except LexErr NumSt
  | .ok i => .ok (mkSt (rest.drop i) (p + i))
  | .error (o, e) => .error ⟨p + o, e⟩

/-- `Digit+` -/
def digits1 (bs : Bytes) : Except (Nat × ErrKind) Nat :=
  if digitsLen bs = 0 then .error (0, .expectedDigit) else .ok (digitsLen bs)

theorem readDigits_spec (f : Nat) (rest : Bytes) (p : Nat) (hlen : rest.length < f) :
    readDigits f (mkSt rest p) = liftPos p rest (digits1 rest) := by
  unfold readDigits digits1
  by_cases h : 0 < digitsLen rest
  · rw [if_pos ((isDigitCode_mkSt rest p).mpr h), if_neg (Nat.ne_of_gt h), readDigitsLoop_spec f rest p hlen]; rfl
  · rw [if_neg (fun h' => h ((isDigitCode_mkSt rest p).mp h')), if_pos (Nat.eq_zero_of_not_pos h)]; rfl

theorem code_mkSt_cons (c : UInt8) (r : Bytes) (p : Nat) : (mkSt (c :: r) p).code = (runeAt (c :: r)).1 := rfl

/-! `integerPart` is a sign and then `intCore`; what is proved about the integer part is proved about `intCore` and moved
over the sign with `shift`. -/

/-- `integerPart` after the optional sign -/
def intCore : Bytes → Except (Nat × ErrKind) Nat
  | c :: r =>
    if c = 48 then
      match r with
      | d :: _ => if isDigitByte d then .error (1, .digitAfterZero) else .ok 1
      | [] => .ok 1
    else if isDigitByte c then .ok (digitsLen (c :: r))
    else .error (0, .expectedDigit)
  | [] => .error (0, .expectedDigit)

/-- a scan result `k` bytes further on -/
def shift (k : Nat) : Except (Nat × ErrKind) Nat → Except (Nat × ErrKind) Nat
  | .ok i => .ok (k + i)
  | .error (o, e) => .error (k + o, e)

theorem shift_zero (x : Except (Nat × ErrKind) Nat) : shift 0 x = x := by
  match x with
  | .ok i => exact congrArg Except.ok (Nat.zero_add i)
  | .error (o, e) => exact congrArg (fun o => Except.error (o, e)) (Nat.zero_add o)

theorem shift_eq_ok {k i : Nat} {x : Except (Nat × ErrKind) Nat} (h : shift k x = .ok i) :
    ∃ j, x = .ok j ∧ i = k + j := by
  match x, h with
  | .ok j, h => exact ⟨j, rfl, (Except.ok.inj h).symm⟩

/-- the left side is the body of `Spec.integerPart` with the width `k` of the sign (its `neg`) left a variable -/
theorem intCore_shift (k : Nat) (bs : Bytes) :
    (match bs with
      | c :: r =>
        if c = 48 then
          match r with
          | d :: _ => if isDigitByte d then .error (k + 1, .digitAfterZero) else .ok (k + 1)
          | [] => .ok (k + 1)
        else if isDigitByte c then .ok (k + digitsLen (c :: r))
        else .error (k, .expectedDigit)
      | [] => .error (k, .expectedDigit) : Except (Nat × ErrKind) Nat) = shift k (intCore bs) := by
  match bs with
  | [] => rfl
  | c :: r =>
    simp only [intCore]
    by_cases h0 : c = 48
    · rw [if_pos h0, if_pos h0]
      match r with
      | [] => rfl
      | d :: _ =>
        simp only
        by_cases hd : isDigitByte d
        · rw [if_pos hd, if_pos hd]; rfl
        · rw [if_neg hd, if_neg hd]; rfl
    · rw [if_neg h0, if_neg h0]
      by_cases hd : isDigitByte c
      · rw [if_pos hd, if_pos hd]; rfl
      · rw [if_neg hd, if_neg hd]; rfl

theorem integerPart_minus (r : Bytes) : integerPart (45 :: r) = shift 1 (intCore r) := by
  rw [← intCore_shift]; rfl

theorem integerPart_noSign {c : UInt8} (r : Bytes) (h : ¬ c = 45) : integerPart (c :: r) = intCore (c :: r) := by
  rw [← shift_zero (intCore (c :: r)), ← intCore_shift]
  unfold integerPart
  simp only [if_neg h, List.drop_zero]
  rfl

/-- the two ways `intCore` accepts: a `0` not followed by a digit, or a run of digits that does not start with `0` -/
theorem intCore_ok {bs : Bytes} {i : Nat} (h : intCore bs = .ok i) :
    (∃ r, bs = 48 :: r ∧ i = 1 ∧ ∀ d, r.head? = some d → ¬ isDigitByte d) ∨
    (∃ c r, bs = c :: r ∧ ¬ c = 48 ∧ isDigitByte c ∧ i = digitsLen (c :: r)) := by
  match bs with
  | [] => cases h
  | c :: r =>
    simp only [intCore] at h
    by_cases h0 : c = 48
    · rw [if_pos h0] at h
      refine .inl ⟨r, by rw [h0], ?_⟩
      match r, h with
      | [], h => exact ⟨(Except.ok.inj h).symm, nofun⟩
      | d :: _, h =>
        simp only at h
        by_cases hd : isDigitByte d
        · rw [if_pos hd] at h; cases h
        · rw [if_neg hd] at h
          exact ⟨(Except.ok.inj h).symm, fun d' hd' => Option.some.inj hd' ▸ hd⟩
    · rw [if_neg h0] at h
      by_cases hd : isDigitByte c
      · rw [if_pos hd] at h; exact .inr ⟨c, r, rfl, h0, hd, (Except.ok.inj h).symm⟩
      · rw [if_neg hd] at h; cases h

theorem intCore_zero {r : Bytes} (h : ∀ d, r.head? = some d → ¬ isDigitByte d) : intCore (48 :: r) = .ok 1 := by
  simp only [intCore, if_true]
  match r, h with
  | [], _ => rfl
  | d :: _, h => simp only; rw [if_neg (h d rfl)]

theorem intCore_digits {c : UInt8} (r : Bytes) (h0 : ¬ c = 48) (hd : isDigitByte c) :
    intCore (c :: r) = .ok (digitsLen (c :: r)) := by
  simp only [intCore]; rw [if_neg h0, if_pos hd]

theorem intCore_error {bs : Bytes} {o : Nat} {k : ErrKind} (h : intCore bs = .error (o, k)) : k ≠ .fuel := by
  match bs with
  | [] => cases h; exact nofun
  | c :: r =>
    simp only [intCore] at h
    by_cases h0 : c = 48
    · rw [if_pos h0] at h
      match r, h with
      | d :: _, h =>
        simp only at h
        by_cases hd : isDigitByte d
        · rw [if_pos hd] at h; cases h; exact nofun
        · rw [if_neg hd] at h; cases h
    · rw [if_neg h0] at h
      by_cases hd : isDigitByte c
      · rw [if_pos hd] at h; cases h
      · rw [if_neg hd] at h; cases h; exact nofun

theorem liftPos_shift (p : Nat) (c : UInt8) (r : Bytes) (x : Except (Nat × ErrKind) Nat) :
    liftPos p (c :: r) (shift 1 x) = liftPos (p + 1) r x := by
  match x with
  | .ok i => simp only [shift, liftPos, Nat.add_comm 1, List.drop_succ_cons, Nat.add_assoc]
  | .error (o, e) => simp only [shift, liftPos, Nat.add_assoc]

theorem numInt_spec (f : Nat) (rest : Bytes) (p : Nat) (hlen : rest.length < f) :
    numInt f (mkSt rest p) = liftPos p rest (intCore rest) := by
  unfold numInt
  match rest with
  | [] =>
    have : ¬ (mkSt [] p).code = 48 := by simp [mkSt, runeAt]
    rw [if_neg this, readDigits_spec f [] p hlen]; rfl
  | c :: r =>
    simp only [code_mkSt_cons, code_eq_byte, Nat.reduceLT, intCore]
    by_cases h0 : c = 48
    · subst h0
      rw [if_pos rfl, if_pos rfl, advance_ascii 48 r p (by decide)]
      match r with
      | [] => simp [mkSt, runeAt, isDigitCode, liftPos]
      | d :: r' =>
        simp only [code_mkSt_cons, isDigitCode_iff]
        by_cases hd : isDigitByte d
        · rw [if_pos hd, if_pos hd]; rfl
        · rw [if_neg hd, if_neg hd]; rfl
    · rw [if_neg h0, if_neg h0, readDigits_spec f (c :: r) p hlen]
      unfold digits1
      rw [digitsLen_cons]
      by_cases hd : isDigitByte c
      · rw [if_pos hd, if_pos hd, if_neg (Nat.succ_ne_zero _)]
      · rw [if_neg hd, if_neg hd, if_pos rfl]

theorem numInt_numSign_spec (f : Nat) (rest : Bytes) (p : Nat) (hlen : rest.length < f) :
    numInt f (numSign (mkSt rest p)) = liftPos p rest (integerPart rest) := by
  match rest with
  | [] =>
    have : ¬ (mkSt [] p).code = 45 := by simp [mkSt, runeAt]
    rw [numSign, if_neg this, numInt_spec f [] p hlen]; rfl
  | c :: r =>
    unfold numSign
    simp only [code_mkSt_cons, code_eq_byte, Nat.reduceLT]
    by_cases hm : c = 45
    · subst hm
      rw [if_pos rfl, advance_ascii 45 r p (by decide), numInt_spec f r (p + 1) (Nat.lt_of_succ_lt hlen),
        integerPart_minus, liftPos_shift]
    · rw [if_neg hm, numInt_spec f (c :: r) p hlen, integerPart_noSign r hm]

/-- `Sign? Digit+` -/
def signedDigits : Bytes → Except (Nat × ErrKind) Nat
  | s :: r => if s = 43 ∨ s = 45 then shift 1 (digits1 r) else digits1 (s :: r)
  | [] => digits1 []

theorem digits1_ok {bs : Bytes} {i : Nat} (h : digits1 bs = .ok i) : i = digitsLen bs ∧ 0 < i := by
  unfold digits1 at h
  by_cases hz : digitsLen bs = 0
  · rw [if_pos hz] at h; cases h
  · rw [if_neg hz] at h; cases h; exact ⟨rfl, Nat.pos_of_ne_zero hz⟩

theorem digits1_error {bs : Bytes} {o : Nat} {k : ErrKind} (h : digits1 bs = .error (o, k)) : k ≠ .fuel := by
  unfold digits1 at h
  by_cases hz : digitsLen bs = 0
  · rw [if_pos hz] at h; cases h; exact nofun
  · rw [if_neg hz] at h; cases h

theorem fractionalPart_cons (c : UInt8) (r : Bytes) :
    fractionalPart (c :: r) = if c = 46 then shift 1 (digits1 r) else .ok 0 := by
  unfold fractionalPart digits1
  by_cases hc : c = 46
  · simp only [if_pos hc]
    by_cases hz : digitsLen r = 0
    · rw [if_pos hz, if_pos hz]; rfl
    · rw [if_neg hz, if_neg hz]; rfl
  · simp only [if_neg hc]

theorem exponentPart_cons (c : UInt8) (r : Bytes) :
    exponentPart (c :: r) = if c = 69 ∨ c = 101 then shift 1 (signedDigits r) else .ok 0 := by
  unfold exponentPart
  by_cases hc : c = 69 ∨ c = 101
  · simp only [if_pos hc]
    match r with
    | [] => rfl
    | s :: r2 =>
      unfold signedDigits digits1
      by_cases hs : s = 43 ∨ s = 45
      · simp only [if_pos hs, List.drop_succ_cons, List.drop_zero]
        by_cases hz : digitsLen r2 = 0
        · rw [if_pos hz, if_pos hz]; rfl
        · rw [if_neg hz, if_neg hz]; exact congrArg Except.ok (Nat.add_assoc 1 1 _)
      · simp only [if_neg hs, List.drop_zero]
        by_cases hz : digitsLen (s :: r2) = 0
        · rw [if_pos hz, if_pos hz]; rfl
        · rw [if_neg hz, if_neg hz]; rfl
  · simp only [if_neg hc]

/-- the same for the optional parts, which also report whether they were present -/
def liftPosB (p : Nat) (rest : Bytes) : Except (Nat × ErrKind) Nat → Except LexErr (NumSt × Bool)
  | .ok i => .ok (mkSt (rest.drop i) (p + i), decide (i ≠ 0))
  | .error (o, e) => .error ⟨p + o, e⟩

/-- an optional part that is present: its first byte, then `x` -/
theorem liftPosB_shift (p : Nat) (c : UInt8) (r : Bytes) (x : Except (Nat × ErrKind) Nat) :
    (match liftPos (p + 1) r x with
      | .ok s' => .ok (s', true)
      | .error e => .error e : Except LexErr (NumSt × Bool)) = liftPosB p (c :: r) (shift 1 x) := by
  rw [← liftPos_shift p c r x]
  match x with
  | .ok i => simp only [shift, liftPos, liftPosB, Nat.add_comm 1 i]; rfl
  | .error (o, e) => rfl

theorem numFrac_spec (f : Nat) (rest : Bytes) (p : Nat) (hlen : rest.length < f) :
    numFrac f (mkSt rest p) = liftPosB p rest (fractionalPart rest) := by
  unfold numFrac
  match rest with
  | [] => simp [mkSt, runeAt, fractionalPart, liftPosB]
  | c :: r =>
    simp only [code_mkSt_cons, code_eq_byte, Nat.reduceLT]
    rw [fractionalPart_cons]
    by_cases hm : c = 46
    · subst hm
      rw [if_pos rfl, if_pos rfl, advance_ascii 46 r p (by decide), readDigits_spec f r (p + 1) (Nat.lt_of_succ_lt hlen)]
      exact liftPosB_shift p 46 r _
    · rw [if_neg hm, if_neg hm]; rfl

theorem numExp_signedDigits_spec (f : Nat) (rest : Bytes) (p : Nat) (hlen : rest.length < f) :
    readDigits f (if (mkSt rest p).code = 43 ∨ (mkSt rest p).code = 45 then (mkSt rest p).advance else mkSt rest p) =
      liftPos p rest (signedDigits rest) := by
  match rest with
  | [] =>
    have : ¬ ((mkSt [] p).code = 43 ∨ (mkSt [] p).code = 45) := by simp [mkSt, runeAt]
    rw [if_neg this]; exact readDigits_spec f [] p hlen
  | s :: r =>
    simp only [code_mkSt_cons, code_eq_byte, Nat.reduceLT, signedDigits]
    by_cases hs : s = 43 ∨ s = 45
    · rw [if_pos hs, if_pos hs, advance_ascii s r p (by rcases hs with rfl | rfl <;> decide),
        readDigits_spec f r (p + 1) (Nat.lt_of_succ_lt hlen), liftPos_shift]
    · rw [if_neg hs, if_neg hs]; exact readDigits_spec f (s :: r) p hlen

theorem numExp_spec (f : Nat) (rest : Bytes) (p : Nat) (hlen : rest.length < f) :
    numExp f (mkSt rest p) = liftPosB p rest (exponentPart rest) := by
  unfold numExp
  match rest with
  | [] => simp [mkSt, runeAt, exponentPart, liftPosB]
  | c :: r =>
    simp only [code_mkSt_cons, code_eq_byte, Nat.reduceLT]
    rw [exponentPart_cons]
    by_cases hm : c = 69 ∨ c = 101
    · rw [if_pos hm, if_pos hm, advance_ascii c r p (by rcases hm with rfl | rfl <;> decide),
        numExp_signedDigits_spec f r (p + 1) (Nat.lt_of_succ_lt hlen)]
      exact liftPosB_shift p c r _
    · rw [if_neg hm, if_neg hm]; rfl

/-- `readNumber` at `rest` (called with the rune there) is the spec's number scan, at absolute offsets -/
theorem readNumber_spec (f : Nat) (rest : Bytes) (p : Nat) (hlen : rest.length < f) :
    readNumber f rest p (runeAt rest).1 (runeAt rest).2 =
      match number rest with
      | .ok (k, len) => .ok (makeToken k p (p + len) (rest.take len))
      | .error (o, e) => .error ⟨p + o, e⟩ := by
  unfold readNumber number
  have e0 : (⟨rest, p, (runeAt rest).1, (runeAt rest).2⟩ : NumSt) = mkSt rest p := rfl
  rw [e0, numInt_numSign_spec f rest p hlen]
  match integerPart rest with
  | .error (o, e) => simp [liftPos]
  | .ok i =>
    simp only [liftPos]
    rw [numFrac_spec f (rest.drop i) (p + i) (by simp only [List.length_drop]; omega)]
    match fractionalPart (rest.drop i) with
    | .error (o, e) => simp [liftPosB, Nat.add_assoc]
    | .ok fl =>
      simp only [liftPosB, List.drop_drop]
      rw [numExp_spec f (rest.drop (i + fl)) (p + i + fl) (by simp only [List.length_drop]; omega)]
      match exponentPart (rest.drop (i + fl)) with
      | .error (o, e) => simp [liftPosB, Nat.add_assoc]
      | .ok x =>
        simp only [liftPosB, mkSt]
        have e1 : p + i + fl + x - p = i + fl + x := by omega
        rw [e1]
        by_cases hf : fl = 0 <;> by_cases hx : x = 0 <;> simp [hf, hx, makeToken, Nat.add_assoc]

theorem readNumber_ok {f : Nat} {rest : Bytes} {p : Nat} {t : LTok} (hlen : rest.length < f)
    (h : readNumber f rest p (runeAt rest).1 (runeAt rest).2 = .ok t) :
    ∃ k len, number rest = .ok (k, len) ∧ t = makeToken k p (p + len) (rest.take len) := by
  rw [readNumber_spec f rest p hlen] at h
  match hn : number rest with
  | .error (o, e) => rw [hn] at h; cases h
  | .ok (k, len) => rw [hn] at h; cases h; exact ⟨k, len, rfl, rfl⟩

theorem number_ok {bs : Bytes} {k : TokenKind} {len : Nat} (h : number bs = .ok (k, len)) :
    ∃ i fl x, integerPart bs = .ok i ∧ fractionalPart (bs.drop i) = .ok fl ∧ exponentPart (bs.drop (i + fl)) = .ok x ∧
      k = (if fl = 0 ∧ x = 0 then .int else .float) ∧ len = i + fl + x := by
  unfold number at h
  match hi : integerPart bs with
  | .error e => rw [hi] at h; cases h
  | .ok i =>
    rw [hi] at h; simp only at h
    match hf : fractionalPart (bs.drop i) with
    | .error (o, e) => rw [hf] at h; cases h
    | .ok fl =>
      rw [hf] at h; simp only at h
      match hx : exponentPart (bs.drop (i + fl)) with
      | .error (o, e) => rw [hx] at h; cases h
      | .ok x =>
        rw [hx] at h; cases h
        exact ⟨i, fl, x, rfl, hf, hx, rfl, rfl⟩

/-- a scanner of S never reports `fuel` -/
def NoFuel {α : Type} (x : Except (Nat × ErrKind) α) : Prop := ∀ o k, x = .error (o, k) → k ≠ .fuel

theorem NoFuel.shift {x : Except (Nat × ErrKind) Nat} (k : Nat) (h : NoFuel x) : NoFuel (shift k x) := by
  match x with
  | .ok i => exact nofun
  | .error (o, e) => intro o' k' he; cases he; exact h o e rfl

theorem intCore_noFuel (bs : Bytes) : NoFuel (intCore bs) := fun _ _ => intCore_error

theorem digits1_noFuel (bs : Bytes) : NoFuel (digits1 bs) := fun _ _ => digits1_error

theorem integerPart_noFuel : ∀ bs : Bytes, NoFuel (integerPart bs)
  | [] => nofun
  | c :: r => by
    by_cases hm : c = 45
    · subst hm; rw [integerPart_minus]; exact (intCore_noFuel r).shift 1
    · rw [integerPart_noSign r hm]; exact intCore_noFuel _

theorem signedDigits_noFuel : ∀ bs : Bytes, NoFuel (signedDigits bs)
  | [] => digits1_noFuel []
  | s :: r => by
    simp only [signedDigits]
    split
    · exact (digits1_noFuel r).shift 1
    · exact digits1_noFuel _

/-- an optional part (`f`: a byte satisfying `P`, then `g`) -/
theorem optPart_noFuel {P : UInt8 → Prop} [DecidablePred P] {f g : Bytes → Except (Nat × ErrKind) Nat}
    (hnil : f [] = .ok 0) (hcons : ∀ c r, f (c :: r) = if P c then shift 1 (g r) else .ok 0)
    (hg : ∀ bs, NoFuel (g bs)) : ∀ bs : Bytes, NoFuel (f bs)
  | [] => by rw [hnil]; exact nofun
  | c :: r => by
    rw [hcons]
    split
    · exact (hg r).shift 1
    · exact nofun

theorem fractionalPart_noFuel (bs : Bytes) : NoFuel (fractionalPart bs) :=
  optPart_noFuel rfl fractionalPart_cons digits1_noFuel bs

theorem exponentPart_noFuel (bs : Bytes) : NoFuel (exponentPart bs) :=
  optPart_noFuel rfl exponentPart_cons signedDigits_noFuel bs

theorem number_noFuel (bs : Bytes) : NoFuel (number bs) := by
  intro o k h
  unfold number at h
  split at h
  · next e hi => cases h; exact integerPart_noFuel bs _ _ hi
  · split at h
    · next hf => cases h; exact fractionalPart_noFuel _ _ _ hf
    · split at h
      · next hx => cases h; exact exponentPart_noFuel _ _ _ hx
      · cases h

theorem number_kind {bs : Bytes} {k : TokenKind} {len : Nat} (h : number bs = .ok (k, len)) : k = .int ∨ k = .float := by
  obtain ⟨i, fl, x, -, -, -, rfl, -⟩ := number_ok h
  by_cases hz : fl = 0 ∧ x = 0
  · left; rw [if_pos hz]
  · right; rw [if_neg hz]

theorem number_ne_name {bs : Bytes} {k : TokenKind} {len : Nat} (hn : number bs = .ok (k, len)) : k ≠ .name := by
  rcases number_kind hn with rfl | rfl <;> decide

end GqlModel.Lexer
