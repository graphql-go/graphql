import GqlProofs.PlanExec
import GqlProofs.PlanMemo
import GqlProofs.PlanReach
import GqlProofs.ExecBasic
/-! # Worlds without func values: the dethunk passes find nothing to do -/
namespace GqlModel.Plan
open GqlModel.Exec GqlModel.Coerce

section passes

/-- no closure left in the value; the theorems about it say "settled" -/
def NoDef (v : PVal) : Prop := v.AllCl (fun _ => False)

mutual
theorem noDef_of_toJ? : ∀ (v : PVal) (j : JVal), v.toJ? = some j → NoDef v
  | .leaf _, _, _ => allCl_leaf _
  | .list xs, j, h => by
    unfold NoDef
    simp only [PVal.toJ?] at h
    cases hx : PVal.listToJ? xs with
    | none => simp [hx] at h
    | some js => simp only [PVal.AllCl]; exact noDefList_of_toJ? xs js hx
  | .obj fs, j, h => by
    unfold NoDef
    simp only [PVal.toJ?] at h
    cases hx : PVal.fieldsToJ? fs with
    | none => simp [hx] at h
    | some js => simp only [PVal.AllCl]; exact noDefFields_of_toJ? fs js hx
  | .deferred _, _, h => by simp [PVal.toJ?] at h
theorem noDefList_of_toJ? : ∀ (xs : List PVal) (js : List JVal), PVal.listToJ? xs = some js →
    PVal.AllClList (fun _ => False) xs
  | [], _, _ => by simp [PVal.AllClList]
  | x :: xs, js, h => by
    simp only [PVal.listToJ?] at h
    cases hx : x.toJ? with
    | none => simp [hx] at h
    | some jx =>
      cases hxs : PVal.listToJ? xs with
      | none => simp [hx, hxs] at h
      | some jxs => simp only [PVal.AllClList]; exact ⟨noDef_of_toJ? x jx hx, noDefList_of_toJ? xs jxs hxs⟩
theorem noDefFields_of_toJ? : ∀ (fs : List (String × PVal)) (js : List (String × JVal)), PVal.fieldsToJ? fs = some js →
    PVal.AllClFields (fun _ => False) fs
  | [], _, _ => by simp [PVal.AllClFields]
  | (k, x) :: xs, js, h => by
    simp only [PVal.fieldsToJ?] at h
    cases hx : x.toJ? with
    | none => simp [hx] at h
    | some jx =>
      cases hxs : PVal.fieldsToJ? xs with
      | none => simp [hx, hxs] at h
      | some jxs => simp only [PVal.AllClFields]; exact ⟨noDef_of_toJ? x jx hx, noDefFields_of_toJ? xs jxs hxs⟩
end

variable {frc : Closure → MSt → Res PVal × MSt}

theorem bfsEntries_noDef (p : Path) : ∀ (segs : List PathSeg) (root : PVal) (q : List Path) (st : MSt), NoDef root →
    ∃ q', bfsEntries frc p segs root q st = (.ok (root, q'), st)
  | [], root, q, st, _ => ⟨q, rfl⟩
  | seg :: rest, root, q, st, h => by
    rw [bfsEntries_cons]
    cases hg : root.getAt (p ++ [seg]) with
    | none => exact bfsEntries_noDef p rest root q st h
    | some x =>
      cases x with
      | deferred cl => exact absurd (allCl_deferred.1 (allCl_getAt _ h hg)) id
      | leaf j => exact bfsEntries_noDef p rest root _ st h
      | list xs => exact bfsEntries_noDef p rest root _ st h
      | obj fs => exact bfsEntries_noDef p rest root _ st h

theorem bfsLoop_noDef : ∀ (fuel : Nat) (root : PVal) (q : List Path) (st : MSt), NoDef root →
    bfsLoop frc fuel root q st = (.fuelOut, st) ∨ bfsLoop frc fuel root q st = (.ok root, st)
  | 0, root, q, st, _ => .inl rfl
  | fuel + 1, root, [], st, _ => .inr rfl
  | fuel + 1, root, p :: q, st, h => by
    rw [bfsLoop_cons]
    cases hg : root.getAt p with
    | none => exact bfsLoop_noDef fuel root q st h
    | some cont =>
      obtain ⟨q', hq'⟩ := bfsEntries_noDef (frc := frc) p (childSegs cont) root q st h
      simp only [hq']
      exact bfsLoop_noDef fuel root q' st h

/-- the three depth-first functions on finished values: out of fuel, or nothing happens -/
structure DfsId (frc : Closure → MSt → Res PVal × MSt) (fuel : Nat) : Prop where
  val : ∀ v st, NoDef v → dfsVal frc fuel v st = (.fuelOut, st) ∨ dfsVal frc fuel v st = (.ok v, st)
  fields : ∀ ks fs st, (∀ p ∈ fs, NoDef p.2) →
    dfsFields frc fuel ks fs st = (.fuelOut, st) ∨ dfsFields frc fuel ks fs st = (.ok fs, st)
  items : ∀ xs acc st, (∀ x ∈ xs, NoDef x) →
    dfsItems frc fuel xs acc st = (.fuelOut, st) ∨ dfsItems frc fuel xs acc st = (.ok (acc ++ xs), st)

theorem dfsId : ∀ fuel, DfsId frc fuel
  | 0 => ⟨fun _ _ _ => .inl rfl, fun _ _ _ _ => .inl rfl, fun _ _ _ _ => .inl rfl⟩
  | fuel + 1 => by
    have ih : DfsId frc fuel := dfsId fuel
    refine ⟨?_, ?_, ?_⟩
    · intro v st h
      cases v with
      | leaf j => exact .inr rfl
      | deferred cl => exact absurd (allCl_deferred.1 h) id
      | obj fs =>
        rw [dfsVal_value (v := .obj fs) (fun _ => nofun), dfsDescend]
        rcases ih.fields (sortedKeys fs) fs st (allCl_obj.1 h) with h1 | h1 <;> rw [h1]
        · exact .inl rfl
        · exact .inr rfl
      | list xs =>
        rw [dfsVal_value (v := .list xs) (fun _ => nofun), dfsDescend]
        rcases ih.items xs [] st (allCl_list.1 h) with h1 | h1 <;> rw [h1]
        · exact .inl rfl
        · exact .inr (by simp)
    · intro ks fs st h
      cases ks with
      | nil => exact .inr rfl
      | cons k ks =>
        rw [dfsFields_cons]
        cases hl : lookupF fs k with
        | none => exact ih.fields ks fs st h
        | some v =>
          rcases ih.val v st (h _ (lookupF_mem hl)) with h1 | h1 <;> simp only [h1]
          · exact .inl rfl
          · simp only [andThen_ok, setF_lookupF hl]; exact ih.fields ks fs st h
    · intro xs acc st h
      cases xs with
      | nil => exact .inr (by rw [dfsItems_nil, List.append_nil])
      | cons x xs =>
        rw [dfsItems_cons]
        rcases ih.val x st (h x List.mem_cons_self) with h1 | h1 <;> rw [h1]
        · exact .inl rfl
        · rw [andThen_ok]
          rcases ih.items xs (acc ++ [x]) st (fun y hy => h y (List.mem_cons_of_mem _ hy)) with h2 | h2 <;> rw [h2]
          · exact .inl rfl
          · exact .inr (by simp)

end passes

theorem corrOrOut_andThen {α β γ δ : Type} {R : α → β → Prop} {R' : γ → δ → Prop} {x : Res α × St} {y : Res β × MSt}
    {k : α → St → Res γ × St} {k' : β → MSt → Res δ × MSt} (h : y.1 = .fuelOut ∨ Corr R x y)
    (hk : ∀ a b st mst, R a b → SRel st mst → (k' b mst).1 = .fuelOut ∨ Corr R' (k a st) (k' b mst)) :
    (andThen y k').1 = .fuelOut ∨ Corr R' (andThen x k) (andThen y k') := by
  obtain ⟨rS, st⟩ := x
  obtain ⟨rM, mst⟩ := y
  rcases h with h | ⟨hr, hst⟩
  · cases h; exact .inl rfl
  · cases hr with
    | ok hab => exact hk _ _ st mst hab hst
    | fail => exact .inr (corr_fail hst)
    | fuelOut => exact .inl rfl

theorem corrOrOut_pass {α β δ : Type} {R : α → β → Prop} {R' : α → δ → Prop} {x : Res α × St} {y : Res β × MSt}
    {k' : β → MSt → Res δ × MSt} (h : y.1 = .fuelOut ∨ Corr R x y)
    (hk : ∀ a b mst, R a b → (k' b mst).1 = .fuelOut ∨ ∃ b', k' b mst = (.ok b', mst) ∧ R' a b') :
    (andThen y k').1 = .fuelOut ∨ Corr R' x (andThen y k') := by
  obtain ⟨rS, st⟩ := x
  obtain ⟨rM, mst⟩ := y
  rcases h with h | ⟨hr, hst⟩
  · cases h; exact .inl rfl
  · cases hr with
    | ok hab =>
      rcases hk _ _ mst hab with h1 | ⟨b', h1, hab'⟩
      · exact .inl h1
      · exact .inr (by rw [andThen_ok, h1]; exact corr_ok hst hab')
    | fail => exact .inr (corr_fail hst)
    | fuelOut => exact .inl rfl

section root
variable {c : Ctx} {pv : Option Vars} {rank : String → Nat}

theorem mRootMut_corr (hw : worldFuncFree c.world = true) (hac : Acyclic c.frags rank) (hfr : FragsOK c pv) (dfuel : Nat)
    (rt : String) : ∀ (fuel : Nat) (fps : List FieldPlan) (accS : List (String × JVal)) (acc : List (String × PVal))
    (st : St) (mst : MSt), (∀ fp ∈ fps, FpOK c.schema rt (NodeOK c pv rank) fp) → PVal.fieldsToJ? acc = some accS →
    SRel st mst →
    (mRootMut c (recompute c.schema c.frags pv) dfuel fuel rt fps acc mst).1 = .fuelOut ∨
    Corr (fun fs pfs => PVal.fieldsToJ? pfs = some fs)
      (execGroups c fuel false rt .nil [] (groupsOf fps) accS st) (mRootMut c (recompute c.schema c.frags pv) dfuel fuel rt fps acc mst)
  | 0, fps, accS, acc, st, mst, _, _, _ => .inl (by rw [mRootMut_zero])
  | fuel + 1, [], accS, acc, st, mst, _, hacc, h => by
    rw [mRootMut_nil]; exact .inr (corr_ok h hacc)
  | fuel + 1, fp :: rest, accS, acc, st, mst, hok, hacc, h => by
    have hfp := hok fp List.mem_cons_self
    have hrest : ∀ fp' ∈ rest, FpOK c.schema rt (NodeOK c pv rank) fp' := fun fp' hm => hok fp' (List.mem_cons_of_mem _ hm)
    obtain ⟨n0, hhead, hdef⟩ := hfp.head_node
    have hp := hfp.eval c.vars
    show _ ∨ Corr _ (execGroups c (fuel + 1) false rt .nil [] ((fp.key, fp.fieldNodes) :: groupsOf rest) accS st) _
    cases hfd : fp.fieldDef with
    | none =>
      rw [execGroups_unknown hhead (hdef.symm.trans hfd), mRootMut_skip (.inr hfd)]
      exact mRootMut_corr hw hac hfr dfuel rt fuel rest accS acc st mst hrest hacc h
    | some fd =>
      rw [execGroups_field hhead (hdef.symm.trans hfd), mRootMut_field hp hfd]
      refine corrOrOut_andThen (.inr ((execP hw hac hfr fuel).field false rt .nil _ [(rt, fp.key)] fp fd st mst hfp hfd h))
        fun j v stS stM hab hst => ?_
      -- a finished value: the depth-first pass runs out of fuel or leaves it alone
      rcases (dfsId (frc := forceAll c (recompute c.schema c.frags pv) dfuel) dfuel).val v stM (noDef_of_toJ? v j hab) with h1 | h1
      · rw [h1]; exact .inl rfl
      · rw [h1]
        exact mRootMut_corr hw hac hfr dfuel rt fuel rest _ _ stS stM hrest (fieldsToJ?_append hacc hab) hst

end root

/-- the two responses agree: same class; same data (M's tree read as a JSON value); the same errors in the same order; M's events
are exactly the algorithm's resolver invocations, in order. Request-error TEXTS are not compared. -/
inductive RespEq : Response → MResponse → Prop
  | reqErr (a b : String) : RespEq (.requestError a) (.requestError b)
  | data {fs : List (String × JVal)} {pfs : List (String × PVal)} {errs : List (Path × Bool)} {log : List LogEntry}
      {kf : List Path} : PVal.fieldsToJ? pfs = some fs →
      RespEq (.result (some fs) errs log kf) (.result (some pfs) errs (log.map Event.call))
  | nodata {errs : List (Path × Bool)} {log : List LogEntry} {kf : List Path} :
      RespEq (.result none errs log kf) (.result none errs (log.map Event.call))

theorem memoValid_nil (p : Plan) : p.MemoValid [] := fun _ h => by cases h

theorem run_eq_ref (s : Schema) (doc : Document) (opName : String) (inputs : Vars) (w : World) (fuel : Nat) (p : Plan)
    (hp : planQuery s doc opName = .ok p) : run s doc opName inputs w fuel = executePlanRef p inputs w fuel := by
  have hr : KeysNodup p.root := planQuery_root_nodup hp
  unfold run
  rw [hp]
  simp only [executePlan]
  exact (executePlanCore_eq_ref p hr inputs w [] (memoValid_nil p) fuel).1

theorem runPlan_corr {c : Ctx} {pv : Option Vars} {rank : String → Nat} (hw : worldFuncFree c.world = true)
    (hac : Acyclic c.frags rank) (hfr : FragsOK c pv) (q : Plan) (sel : SelectionSet)
    (hroot : q.root = planSelectionSet c.schema c.frags pv q.rootType sel) (hreg : Regime pv c.vars (setDynamic sel))
    (fuel : Nat) :
    (runPlan c (recompute c.schema c.frags pv) q fuel { errs := [], events := [], memo := [] }).1 = .fuelOut ∨
    Corr (fun fs pfs => PVal.fieldsToJ? pfs = some fs)
      (execGroups c fuel false q.rootType .nil [] (collect c q.rootType sel ([], [])).1 [] St.empty)
      (runPlan c (recompute c.schema c.frags pv) q fuel { errs := [], events := [], memo := [] }) := by
  obtain ⟨hgo, hfps⟩ := planSelectionSet_sim (rt := q.rootType) hac hfr sel hreg
  have h0 : SRel St.empty { errs := [], events := [], memo := [] } := ⟨rfl, rfl⟩
  rw [← hgo, ← hroot, runPlan_eq]
  rw [← hroot] at hfps
  cases q.isMutation with
  | true =>
    rw [if_pos rfl]
    refine corrOrOut_pass (mRootMut_corr hw hac hfr fuel q.rootType fuel q.root [] [] St.empty _ hfps rfl h0) fun fs pfs st hab => ?_
    have hnd : ∀ p ∈ pfs, NoDef p.2 := allCl_obj.1 (noDef_of_toJ? (.obj pfs) (.obj fs) (toJ?_obj hab))
    rcases (dfsId (frc := forceAll c (recompute c.schema c.frags pv) fuel) fuel).fields (sortedKeys pfs) pfs st hnd with h2 | h2
    · exact .inl (by rw [h2])
    · exact .inr ⟨pfs, h2, hab⟩
  | false =>
    rw [if_neg Bool.false_ne_true]
    refine corrOrOut_pass (.inr ((execP hw hac hfr fuel).groups false q.rootType .nil [] [] q.root [] [] St.empty _ hfps rfl h0))
      fun fs pfs st hab => ?_
    have hnd : NoDef (.obj pfs) := noDef_of_toJ? (.obj pfs) (.obj fs) (toJ?_obj hab)
    rcases bfsLoop_noDef (frc := forceAll c (recompute c.schema c.frags pv) fuel) fuel (.obj pfs) [[]] st hnd with h2 | h2
    · exact .inl (by rw [h2]; rfl)
    · exact .inr ⟨pfs, by rw [h2]; rfl, hab⟩

/-- what `run` does with a request for which `execute` finds a context: it walks a plan for that context, root type and selection,
in one of the two regimes -/
theorem run_of_ctx {s : Schema} {doc : Document} {opName : String} {inputs : Vars} {w : World} {c : Ctx} {root : String}
    {sel : SelectionSet} (h : requestCtx s doc opName inputs w = some (c, root, sel)) :
    ∃ (pv : Option Vars) (q : Plan), c.frags = doc.fragments ∧ c.world = w ∧ q.rootType = root ∧
      q.root = planSelectionSet c.schema c.frags pv q.rootType sel ∧ Regime pv c.vars (setDynamic sel) ∧ FragsOK c pv ∧
      ∀ fuel, run s doc opName inputs w fuel =
        MResponse.of (runPlan c (recompute c.schema c.frags pv) q fuel { errs := [], events := [], memo := [] }) := by
  obtain ⟨op, nm, varDefs, dirs, loc, vars, hsel, hroot, hv, rfl⟩ := requestCtx_eq_some_iff.1 h
  have hp : planQuery s doc opName = .ok
      (Plan.mk s varDefs sel doc.fragments root (op == .mutation) (docDynamic doc) none
        (if docDynamic doc then [] else planSelectionSet s doc.fragments none root sel)) := by
    unfold planQuery; rw [hsel]; simp only [hroot]
  obtain ⟨hqs, hqf, hqt, -, hqr, hreg, hfr⟩ := planQuery_walked hp vars w rfl
  refine ⟨_, _, rfl, rfl, hqt, hqr, hreg, hfr, fun fuel => ?_⟩
  rw [run_eq_ref s doc opName inputs w fuel _ hp]
  unfold executePlanRef
  simp only [hv]
  rw [hqs, hqf]

theorem run_of_no_ctx {s : Schema} {doc : Document} {opName : String} {inputs : Vars} {w : World}
    (h : requestCtx s doc opName inputs w = none) : ∃ what, ∀ fuel, run s doc opName inputs w fuel = .requestError what := by
  cases hp : planQuery s doc opName with
  | error e => exact ⟨_, fun fuel => by unfold run; rw [hp]⟩
  | ok p =>
    -- an operation with a root type was selected, so it is the coercion of the variables that failed
    obtain ⟨op, name, varDefs, dirs, sel, loc, root, hsel, hroot, rfl⟩ := planQuery_ok hp
    unfold requestCtx at h
    simp only [hsel, hroot] at h
    cases hv : getVariableValues s varDefs inputs with
    | ok vars => simp [hv] at h
    | error e =>
      refine ⟨"variables: " ++ e, fun fuel => ?_⟩
      rw [run_eq_ref s doc opName inputs w fuel _ hp]
      unfold executePlanRef
      simp only [hv]

theorem respEq_of_corr {x : Res (List (String × JVal)) × St} {y : Res (List (String × PVal)) × MSt}
    (h : Corr (fun fs pfs => PVal.fieldsToJ? pfs = some fs) x y) (hy : y.1 ≠ .fuelOut) :
    RespEq (respond x) (MResponse.of y) := by
  obtain ⟨rS, stS⟩ := x
  obtain ⟨rM, stM⟩ := y
  obtain ⟨hr, hst⟩ := h
  simp only at hr hst hy
  obtain ⟨he, hev⟩ := hst
  cases hr with
  | ok hab =>
    simp only [respond, MResponse.of, he, hev, ← List.map_reverse]
    exact .data hab
  | fail =>
    simp only [respond, MResponse.of, he, hev, ← List.map_reverse]
    exact .nodata
  | fuelOut => exact absurd rfl hy

theorem mresponse_of_eq_fuelOut {y : Res (List (String × PVal)) × MSt} : MResponse.of y = .fuelOut ↔ y.1 = .fuelOut := by
  obtain ⟨r, st⟩ := y
  cases r <;> simp [MResponse.of]

/-- a response of M read back, as `execute_result` reads the algorithm's -/
theorem mresponse_of_eq_result {y : Res (List (String × PVal)) × MSt} {data : Option (List (String × PVal))}
    {errs : List (Path × Bool)} {events : List Event} (h : MResponse.of y = .result data errs events) :
    errs = y.2.errs.reverse ∧ events = y.2.events.reverse ∧
      ((∃ fs, y.1 = .ok fs ∧ data = some fs) ∨ (y.1 = .fail ∧ data = none)) := by
  obtain ⟨r, st⟩ := y
  cases r with
  | ok fs => cases h; exact ⟨rfl, rfl, .inl ⟨fs, rfl, rfl⟩⟩
  | fail => cases h; exact ⟨rfl, rfl, .inr ⟨rfl, rfl⟩⟩
  | fuelOut => cases h

end GqlModel.Plan
