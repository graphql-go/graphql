import GqlModel.Invocations
import GqlModel.Plan
/-! The four mutually recursive executor functions as programs: a run is a pair `(Res α, state)`, and every function body
is built from two ways of continuing a run, `andThen` (go on with the value of a successful run) and `recover` (go on
from the state of a failed one). What `complete` decides before it calls anything is `shape`. The planner's proofs
set the equations of this module beside those of the plan executor; hence `funcOf` / `listOf`, the classifiers of
`GqlModel.Plan`, in `shape` and `complete_succ` (`funcOf_eq_none_iff` relates them to `GoVal.isFunc`). -/
namespace GqlModel.Exec
open GqlModel.Coerce GqlModel.Plan

section run
variable {α β σ : Type}

def andThen (x : Res α × σ) (k : α → σ → Res β × σ) : Res β × σ :=
  match x with
  | (.ok a, st) => k a st
  | (.fail, st) => (.fail, st)
  | (.fuelOut, st) => (.fuelOut, st)

def recover (x : Res α × σ) (h : σ → Res α × σ) : Res α × σ :=
  match x with
  | (.ok a, st) => (.ok a, st)
  | (.fail, st) => h st
  | (.fuelOut, st) => (.fuelOut, st)

@[simp] theorem andThen_ok (a : α) (st : σ) (k : α → σ → Res β × σ) : andThen (.ok a, st) k = k a st := rfl
@[simp] theorem andThen_fail (st : σ) (k : α → σ → Res β × σ) : andThen (.fail, st) k = (.fail, st) := rfl
@[simp] theorem andThen_fuelOut (st : σ) (k : α → σ → Res β × σ) : andThen (.fuelOut, st) k = (.fuelOut, st) := rfl
@[simp] theorem recover_fail (st : σ) (h : σ → Res α × σ) : recover ((.fail : Res α), st) h = h st := rfl

theorem andThen_of_ok {x : Res α × σ} {k : α → σ → Res β × σ} {a : α} (h : x.1 = .ok a) : andThen x k = k a x.2 := by
  obtain ⟨r, s⟩ := x; cases h; rfl

theorem andThen_inv {x : Res α × σ} {k : α → σ → Res β × σ} {r : Res β} {s : σ} (h : andThen x k = (r, s)) (hr : r ≠ .fuelOut) :
    (x = (.fail, s) ∧ r = .fail) ∨ ∃ a s1, x = (.ok a, s1) ∧ k a s1 = (r, s) := by
  obtain ⟨r1, s1⟩ := x
  cases r1 with
  | ok a => exact .inr ⟨a, s1, rfl, h⟩
  | fail => cases h; exact .inl ⟨rfl, rfl⟩
  | fuelOut => cases h; exact absurd rfl hr

theorem andThen_ne_fuelOut {x : Res α × σ} {k : α → σ → Res β × σ} (hx : x.1 ≠ .fuelOut)
    (hk : ∀ a s, x = (.ok a, s) → (k a s).1 ≠ .fuelOut) : (andThen x k).1 ≠ .fuelOut := by
  obtain ⟨_ | _ | _, s⟩ := x
  · exact hk _ s rfl
  · nofun
  · exact absurd rfl hx

theorem recover_ne_fuelOut {x : Res α × σ} {f : σ → Res α × σ} (hx : x.1 ≠ .fuelOut) (hf : ∀ s, (f s).1 ≠ .fuelOut) :
    (recover x f).1 ≠ .fuelOut := by
  obtain ⟨_ | _ | _, s⟩ := x
  · nofun
  · exact hf s
  · exact absurd rfl hx

theorem andThen_snd {I : σ → Prop} {x : Res α × σ} {k : α → σ → Res β × σ} (hx : I x.2) (hk : ∀ a s, I s → I (k a s).2) :
    I (andThen x k).2 := by
  obtain ⟨_ | _ | _, s⟩ := x
  · exact hk _ s hx
  · exact hx
  · exact hx

theorem recover_snd {I : σ → Prop} {x : Res α × σ} {f : σ → Res α × σ} (hx : I x.2) (hf : ∀ s, I s → I (f s).2) :
    I (recover x f).2 := by
  obtain ⟨_ | _ | _, s⟩ := x
  · exact hx
  · exact hf s hx
  · exact hx

end run

/-- `handleFieldError` at a recover point whose type is `nonNull` or not: rethrow, or null -/
def absorbAt {α σ : Type} (nonNull : Bool) (null : α) (st : σ) : Res α × σ :=
  if nonNull then (.fail, st) else (.ok null, st)

theorem absorbAt_ne_fuelOut {α σ : Type} (b : Bool) (null : α) (st : σ) : (absorbAt b null st).1 ≠ .fuelOut := by
  cases b <;> nofun

theorem kinds_exclusive (s : Schema) (n : String) :
    (s.isLeaf n && s.isObject n) = false ∧ (s.isLeaf n && s.isAbstract n) = false ∧
      (s.isAbstract n && s.isObject n) = false := by
  unfold Schema.isLeaf Schema.isScalar Schema.isEnum Schema.isAbstract Schema.isInterface Schema.isUnion Schema.isObject
  cases s.find? n with
  | none => exact ⟨rfl, rfl, rfl⟩
  | some td => cases td <;> exact ⟨rfl, rfl, rfl⟩

section
variable {s : Schema} {n : String}

theorem isLeaf_not_object (h : s.isLeaf n = true) : s.isObject n = false := by
  have := (kinds_exclusive s n).1
  rwa [h] at this

theorem isLeaf_not_abstract (h : s.isLeaf n = true) : s.isAbstract n = false := by
  have := (kinds_exclusive s n).2.1
  rwa [h] at this

theorem isAbstract_not_object (h : s.isAbstract n = true) : s.isObject n = false := by
  have := (kinds_exclusive s n).2.2
  rwa [h] at this
end

theorem fieldDef?_cases {s : Schema} {rt n : String} {fd : FieldDefS} (h : fieldDef? s rt n = some fd) :
    (n = "__typename" ∧ fd = { name := "__typename", type := .nonNull (.named "String"), args := [] }) ∨
    (n ≠ "__typename" ∧ (s.objectFields rt).find? (fun f => f.name == n) = some fd) := by
  unfold fieldDef? at h
  split at h
  next hn => exact .inl ⟨eq_of_beq hn, (Option.some.inj h).symm⟩
  next hn => exact .inr ⟨fun e => hn (beq_iff_eq.mpr e), h⟩

theorem fieldDef?_name {s : Schema} {rt n : String} {fd : FieldDefS} (h : fieldDef? s rt n = some fd) :
    fd.name = n := by
  rcases fieldDef?_cases h with ⟨hn, rfl⟩ | ⟨_, hf⟩
  · exact hn.symm
  · exact eq_of_beq (List.find?_some (p := fun f : FieldDefS => f.name == n) hf)

def Res.mapOk {α β : Type} (f : α → β) : Res α → Res β
  | .ok a => .ok (f a)
  | .fail => .fail
  | .fuelOut => .fuelOut

/-- the known-finding mark of a failing deferred value -/
def kfMark (t : GType) (p : Path) (st : St) : St :=
  { st with kfThunk := if t.isNonNull then p :: st.kfThunk else st.kfThunk }

theorem kfMark_log (t : GType) (p : Path) (st : St) : (kfMark t p st).log = st.log := rfl
theorem kfMark_errs (t : GType) (p : Path) (st : St) : (kfMark t p st).errs = st.errs := rfl
theorem addErr_log (st : St) (p : Path) (d : Bool) : (addErr st p d).log = st.log := rfl

def callEntry (c : Ctx) (dfr : Bool) (rt : String) (src : GoVal) (p : Path) (fd : FieldDefS) (nodes : List FieldNode) :
    LogEntry :=
  { path := p, parentType := rt, fieldName := fd.name,
    args := match nodes.head? with
      | some n => getArgumentValues c.schema fd.args n.args c.vars
      | none => [],
    source := src, occurrences := nodes.length, deferred := dfr }

def logCall (e : LogEntry) (st : St) : St := { st with log := e :: st.log }

def absorb (t : GType) : Res JVal → Res JVal
  | .fail => if t.isNonNull then .fail else .ok .null
  | r => r

theorem absorb_fail (t : GType) : absorb t .fail = if t.isNonNull then .fail else .ok .null := rfl

theorem absorb_fail_cases (t : GType) :
    (t.isNonNull = true ∧ absorb t .fail = .fail) ∨ (t.isNonNull = false ∧ absorb t .fail = .ok .null) := by
  cases h : t.isNonNull
  · exact .inr ⟨rfl, by simp only [absorb, h]; rfl⟩
  · exact .inl ⟨rfl, by simp only [absorb, h]; rfl⟩

theorem absorb_ok_cases {t : GType} {r : Res JVal} {j : JVal} (h : absorb t r = .ok j) :
    r = .ok j ∨ (r = .fail ∧ j = .null) := by
  cases r with
  | ok j1 => exact .inl h
  | fail =>
    cases hnn : t.isNonNull with
    | true => simp only [absorb, hnn, if_true] at h; cases h
    | false =>
      simp only [absorb, hnn, Bool.false_eq_true, if_false, Res.ok.injEq] at h
      exact .inr ⟨rfl, h.symm⟩
  | fuelOut => cases h

theorem Res.mapOk_ok_cases {α β : Type} {f : α → β} {r : Res α} {b : β} (h : r.mapOk f = .ok b) :
    ∃ a, r = .ok a ∧ b = f a := by
  cases r with
  | ok a => cases h; exact ⟨a, rfl, rfl⟩
  | fail => cases h
  | fuelOut => cases h

theorem Res.mapOk_eq_fail {α β : Type} {f : α → β} {r : Res α} (h : r.mapOk f = .fail) : r = .fail := by
  cases r with
  | fail => rfl
  | _ => cases h

theorem Res.mapOk_ne_fuelOut {α β : Type} {f : α → β} {r : Res α} (h : r.mapOk f ≠ .fuelOut) : r ≠ .fuelOut :=
  fun e => h (by rw [e]; rfl)

section
variable {c : Ctx} {dfr : Bool} {rt fname : String} {src : GoVal} {path p : Path} {groups : Groups}
  {acc : List (String × JVal)} {st : St} {fd : FieldDefS} {nodes : List FieldNode} {t : GType} {v : GoVal}
  {xs : List GoVal} {i : Nat} {jacc : List JVal}

theorem execGroups_zero : execGroups c 0 dfr rt src path groups acc st = (.fuelOut, st) := by simp only [execGroups]
theorem execField_zero : execField c 0 dfr rt src p fd nodes st = (.fuelOut, st) := by simp only [execField]
theorem complete_zero : complete c 0 dfr t rt fname nodes p v st = (.fuelOut, st) := by simp only [complete]
theorem completeItems_zero : completeItems c 0 dfr t rt fname nodes p xs i jacc st = (.fuelOut, st) := by
  simp only [completeItems]
end

/-- the fuel-0 case of an invariant whose conclusion is a predicate of the result and the state; `hz` is one of the four
equations above -/
theorem of_zero {α : Type} {o : Res α × St} {st : St} (hz : o = (.fuelOut, st)) {P : Res α → St → Prop}
    (hP : P .fuelOut st) : ∀ r st', o = (r, st') → P r st' := by
  intro r st' h
  cases hz.symm.trans h
  exact hP

inductive Shape where
  | nonNull (inner : GType)
  | null
  | items (item : GType) (xs : List GoVal)
  | leaf (j : JVal)
  | object (ot : String)
  | error

def shape (c : Ctx) (t : GType) (v : GoVal) : Shape :=
  match t with
  | .nonNull inner => .nonNull inner
  | .list item =>
    if v.nullish then .null else
    match listOf v with
    | some xs => .items item xs
    | none => .error
  | .named n =>
    if v.nullish then .null else
    if c.schema.isLeaf n then
      (match serializeLeaf c.schema n v with
      | some j => .leaf j
      | none => .error)
    else if c.schema.isAbstract n then
      (match runtimeTypeOf c n v with
      | none => .error
      | some ot => if !(c.schema.isObject ot && c.schema.isPossibleType n ot) then .error else .object ot)
    else if c.schema.isObject n then
      if objectHasIsTypeOf c.schema n && !c.world.isTypeOfAns n v then .error else .object n
    else .error

theorem shape_congr {c c2 : Ctx} {v : GoVal} (hs : c2.schema = c.schema)
    (hrt : ∀ n, runtimeTypeOf c2 n v = runtimeTypeOf c n v)
    (hito : ∀ n, c2.world.isTypeOfAns n v = c.world.isTypeOfAns n v) (t : GType) : shape c2 t v = shape c t v := by
  unfold shape
  simp only [hs, hrt, hito]

/-- the value is completed on the spot -/
inductive LeafValue (c : Ctx) (v : GoVal) : GType → JVal → Prop
  | nullList {item} : v.nullish = true → LeafValue c v (.list item) .null
  | nullNamed {n} : v.nullish = true → LeafValue c v (.named n) .null
  | leaf {n j} : v.nullish = false → c.schema.isLeaf n = true → serializeLeaf c.schema n v = some j →
      LeafValue c v (.named n) j

inductive Rejected (c : Ctx) (v : GoVal) : GType → Prop
  | notIterable {item} : v.nullish = false → (∀ xs, v ≠ .list xs) → Rejected c v (.list item)
  | leafPanics {n} : v.nullish = false → c.schema.isLeaf n = true → serializeLeaf c.schema n v = none →
      Rejected c v (.named n)
  | noRuntimeType {n} : v.nullish = false → c.schema.isLeaf n = false → c.schema.isAbstract n = true →
      runtimeTypeOf c n v = none → Rejected c v (.named n)
  | notPossible {n ot} : v.nullish = false → c.schema.isLeaf n = false → c.schema.isAbstract n = true →
      runtimeTypeOf c n v = some ot → (c.schema.isObject ot && c.schema.isPossibleType n ot) = false →
      Rejected c v (.named n)
  | isTypeOfFails {n} : v.nullish = false → c.schema.isLeaf n = false → c.schema.isAbstract n = false →
      c.schema.isObject n = true → (objectHasIsTypeOf c.schema n && !c.world.isTypeOfAns n v) = true →
      Rejected c v (.named n)
  | notOutput {n} : v.nullish = false → c.schema.isLeaf n = false → c.schema.isAbstract n = false →
      c.schema.isObject n = false → Rejected c v (.named n)

/-- the runtime object type as which a value of the composite type `n` is executed -/
inductive RuntimeObject (c : Ctx) (v : GoVal) (n : String) : String → Prop
  | abstract {ot} : c.schema.isLeaf n = false → c.schema.isAbstract n = true → runtimeTypeOf c n v = some ot →
      c.schema.isObject ot = true → c.schema.isPossibleType n ot = true → RuntimeObject c v n ot
  | object : c.schema.isLeaf n = false → c.schema.isAbstract n = false → c.schema.isObject n = true →
      (objectHasIsTypeOf c.schema n && !c.world.isTypeOfAns n v) = false → RuntimeObject c v n n

theorem shape_spec (c : Ctx) (t : GType) (v : GoVal) :
    match shape c t v with
    | .nonNull inner => t = .nonNull inner
    | .null => LeafValue c v t .null
    | .items item xs => t = .list item ∧ v = .list xs
    | .leaf j => LeafValue c v t j
    | .object ot => ∃ n, t = .named n ∧ v.nullish = false ∧ RuntimeObject c v n ot
    | .error => Rejected c v t := by
  unfold shape
  cases t with
  | nonNull inner => rfl
  | list item =>
    simp only
    cases hnull : v.nullish with
    | true => exact .nullList hnull
    | false =>
      simp only [Bool.false_eq_true, if_false]
      cases v with
      | list xs => exact ⟨rfl, rfl⟩
      | _ => exact .notIterable hnull nofun
  | named n =>
    simp only
    cases hnull : v.nullish with
    | true => exact .nullNamed hnull
    | false =>
      simp only [Bool.false_eq_true, if_false]
      cases hleaf : c.schema.isLeaf n with
      | true =>
        simp only [if_true]
        cases hs : serializeLeaf c.schema n v with
        | some j => exact .leaf hnull hleaf hs
        | none => exact .leafPanics hnull hleaf hs
      | false =>
        simp only [Bool.false_eq_true, if_false]
        cases habs : c.schema.isAbstract n with
        | true =>
          simp only [if_true]
          cases hrt : runtimeTypeOf c n v with
          | none => exact .noRuntimeType hnull hleaf habs hrt
          | some ot =>
            simp only
            cases hposs : c.schema.isObject ot && c.schema.isPossibleType n ot with
            | false => exact .notPossible hnull hleaf habs hrt hposs
            | true =>
              rw [Bool.and_eq_true] at hposs
              exact ⟨n, rfl, trivial, .abstract hleaf habs hrt hposs.1 hposs.2⟩
        | false =>
          simp only [Bool.false_eq_true, if_false]
          cases hobj : c.schema.isObject n with
          | true =>
            simp only [if_true]
            cases hito : objectHasIsTypeOf c.schema n && !c.world.isTypeOfAns n v with
            | true => exact .isTypeOfFails hnull hleaf habs hobj hito
            | false => exact ⟨n, rfl, trivial, .object hleaf habs hobj hito⟩
          | false => exact .notOutput hnull hleaf habs hobj

theorem shape_items {c : Ctx} {t item : GType} {v : GoVal} {xs : List GoVal} (h : shape c t v = .items item xs) :
    t = .list item ∧ listOf v = some xs := by
  have hs := shape_spec c t v
  rw [h] at hs
  obtain ⟨rfl, rfl⟩ := hs
  exact ⟨rfl, rfl⟩

/-- a case analysis in the order of `complete`'s body is the `match` on `shape`. The model matches the value against
`.list xs | _` where `shape` uses `listOf`; `fList`, with `hL`, stands for that branch as the model writes it. -/
theorem shape_elim {ρ : Type} (c : Ctx) (t : GType) (v : GoVal) (fNN : GType → ρ) (fNull : ρ) (fItems : GType → List GoVal → ρ)
    (fLeaf : JVal → ρ) (fObj : String → ρ) (fErr : ρ) (fList : GType → ρ)
    (hL : ∀ item, fList item = match listOf v with
      | some xs => fItems item xs
      | none => fErr) :
    (match t with
      | .nonNull inner => fNN inner
      | .list item => if v.nullish then fNull else fList item
      | .named n =>
        if v.nullish then fNull else
        if c.schema.isLeaf n then
          (match serializeLeaf c.schema n v with
          | some j => fLeaf j
          | none => fErr)
        else if c.schema.isAbstract n then
          (match runtimeTypeOf c n v with
          | none => fErr
          | some ot =>
            if !(c.schema.isObject ot && c.schema.isPossibleType n ot) then fErr else fObj ot)
        else if c.schema.isObject n then
          if objectHasIsTypeOf c.schema n && !c.world.isTypeOfAns n v then fErr else fObj n
        else fErr) =
    match shape c t v with
      | .nonNull inner => fNN inner
      | .null => fNull
      | .items item xs => fItems item xs
      | .leaf j => fLeaf j
      | .object ot => fObj ot
      | .error => fErr := by
  unfold shape
  cases t with
  | nonNull inner => rfl
  | list item =>
    simp only
    cases v.nullish with
    | true => rfl
    | false => simp only [Bool.false_eq_true, if_false]; rw [hL]; cases listOf v <;> rfl
  | named n =>
    simp only
    cases v.nullish with
    | true => rfl
    | false =>
      simp only [Bool.false_eq_true, if_false]
      cases c.schema.isLeaf n with
      | true => simp only [if_true]; cases serializeLeaf c.schema n v <;> rfl
      | false =>
        simp only [Bool.false_eq_true, if_false]
        cases c.schema.isAbstract n with
        | true =>
          simp only [if_true]
          cases runtimeTypeOf c n v with
          | none => rfl
          | some ot => simp only; cases (!(c.schema.isObject ot && c.schema.isPossibleType n ot)) <;> rfl
        | false =>
          simp only [Bool.false_eq_true, if_false]
          cases c.schema.isObject n with
          | false => rfl
          | true => simp only [if_true]; cases (objectHasIsTypeOf c.schema n && !c.world.isTypeOfAns n v) <;> rfl

section algorithm
variable {c : Ctx} {fuel : Nat} {dfr : Bool} {t item : GType} {rt fname key : String} {src v : GoVal} {path p : Path}
  {fd : FieldDefS} {node : FieldNode} {nodes : List FieldNode} {rest : Groups} {acc : List (String × JVal)} {st : St}
  {x : GoVal} {xs : List GoVal} {i : Nat} {js : List JVal}

theorem execGroups_nil : execGroups c (fuel + 1) dfr rt src path [] acc st = (.ok acc, st) := by simp only [execGroups]

theorem execGroups_unknown (hh : nodes.head? = some node) (hfd : fieldDef? c.schema rt node.name = none) :
    execGroups c (fuel + 1) dfr rt src path ((key, nodes) :: rest) acc st = execGroups c fuel dfr rt src path rest acc st := by
  simp only [execGroups, hh, hfd]

theorem execGroups_noHead (hh : nodes.head? = none) :
    execGroups c (fuel + 1) dfr rt src path ((key, nodes) :: rest) acc st = execGroups c fuel dfr rt src path rest acc st := by
  simp only [execGroups, hh]

theorem execGroups_skip (hno : ∀ node fd, nodes.head? = some node → fieldDef? c.schema rt node.name ≠ some fd) :
    execGroups c (fuel + 1) dfr rt src path ((key, nodes) :: rest) acc st = execGroups c fuel dfr rt src path rest acc st := by
  cases hh : nodes.head? with
  | none => exact execGroups_noHead hh
  | some node =>
    cases hfd : fieldDef? c.schema rt node.name with
    | none => exact execGroups_unknown hh hfd
    | some fd => exact absurd hfd (hno node fd hh)

theorem fieldOf_cases (s : Schema) (rt : String) (nodes : List FieldNode) :
    (∀ node fd, nodes.head? = some node → fieldDef? s rt node.name ≠ some fd) ∨
      ∃ node fd, nodes.head? = some node ∧ fieldDef? s rt node.name = some fd := by
  cases hh : nodes.head? with
  | none => exact .inl fun _ _ h => nomatch h
  | some node =>
    cases hfd : fieldDef? s rt node.name with
    | none => exact .inl fun _ _ h => by cases h; rw [hfd]; nofun
    | some fd => exact .inr ⟨node, fd, rfl, hfd⟩

theorem execGroups_field (hh : nodes.head? = some node) (hfd : fieldDef? c.schema rt node.name = some fd) :
    execGroups c (fuel + 1) dfr rt src path ((key, nodes) :: rest) acc st =
      andThen (execField c fuel dfr rt src (path ++ [.key key]) fd nodes st)
        fun v st => execGroups c fuel dfr rt src path rest (acc ++ [(key, v)]) st := by
  simp only [execGroups, hh, hfd]
  rcases execField c fuel dfr rt src _ fd nodes st with ⟨_ | _ | _, _⟩ <;> rfl

theorem funcOf_eq_none_iff {v : GoVal} : funcOf v = none ↔ v.isFunc = false := by
  cases v <;> simp [funcOf, GoVal.isFunc]

theorem execField_typename (h : (fd.name == "__typename") = true) :
    execField c (fuel + 1) dfr rt src p fd nodes st = (.ok (.str rt), st) := by
  simp only [execField, h, if_true]

theorem execField_succ (h : (fd.name == "__typename") = false) :
    execField c (fuel + 1) dfr rt src p fd nodes st =
      match c.world.outcome src fd.name with
      | .fail => absorbAt fd.type.isNonNull .null (addErr { st with log := callEntry c dfr rt src p fd nodes :: st.log } p dfr)
      | .value v =>
        recover (complete c fuel dfr fd.type rt fd.name nodes p v { st with log := callEntry c dfr rt src p fd nodes :: st.log })
          (absorbAt fd.type.isNonNull .null) := by
  simp only [execField, h, Bool.false_eq_true, if_false, callEntry]
  cases c.world.outcome src fd.name with
  | fail => rfl
  | value v => simp only; rcases complete c fuel dfr fd.type rt fd.name nodes p v _ with ⟨_ | _ | _, _⟩ <;> rfl

theorem completeItems_nil : completeItems c (fuel + 1) dfr item rt fname nodes p [] i js st = (.ok js, st) := by
  simp only [completeItems]

theorem completeItems_cons :
    completeItems c (fuel + 1) dfr item rt fname nodes p (x :: xs) i js st =
      andThen (recover (complete c fuel dfr item rt fname nodes (p ++ [.idx i]) x st) (absorbAt item.isNonNull .null))
        fun j st => completeItems c fuel dfr item rt fname nodes p xs (i + 1) (js ++ [j]) st := by
  simp only [completeItems]
  rcases complete c fuel dfr item rt fname nodes _ x st with ⟨_ | _ | _, _⟩
  · rfl
  · cases item.isNonNull <;> rfl
  · rfl

theorem absorbAt_isNonNull (t : GType) (s : St) : absorbAt t.isNonNull JVal.null s = (absorb t .fail, s) := by
  simp only [absorbAt, absorb]
  split <;> rfl

theorem recover_absorbAt (t : GType) (x : Res JVal × St) :
    recover x (absorbAt t.isNonNull .null) = (absorb t x.1, x.2) := by
  obtain ⟨_ | _ | _, s⟩ := x
  · rfl
  · exact absorbAt_isNonNull t s
  · rfl

theorem execField_fails (h : (fd.name == "__typename") = false) (ho : c.world.outcome src fd.name = .fail) :
    execField c (fuel + 1) dfr rt src p fd nodes st =
      (absorb fd.type .fail, addErr (logCall (callEntry c dfr rt src p fd nodes) st) p dfr) := by
  rw [execField_succ h, ho]
  exact absorbAt_isNonNull _ _

theorem execField_value (h : (fd.name == "__typename") = false) (ho : c.world.outcome src fd.name = .value v) :
    execField c (fuel + 1) dfr rt src p fd nodes st =
      (absorb fd.type (complete c fuel dfr fd.type rt fd.name nodes p v (logCall (callEntry c dfr rt src p fd nodes) st)).1,
        (complete c fuel dfr fd.type rt fd.name nodes p v (logCall (callEntry c dfr rt src p fd nodes) st)).2) := by
  rw [execField_succ h, ho]
  exact recover_absorbAt _ _

theorem complete_thunkErr : complete c (fuel + 1) dfr t rt fname nodes p (.thunk .err) st =
    (.fail, kfMark t p (addErr st p true)) := by simp only [complete]; rfl

theorem complete_badFunc : complete c (fuel + 1) dfr t rt fname nodes p .badFunc st =
    (.fail, kfMark t p (addErr st p true)) := by simp only [complete]; rfl

theorem complete_thunk : complete c (fuel + 1) dfr t rt fname nodes p (.thunk (.ok v)) st =
    recover (complete c fuel true t rt fname nodes p v st) fun s => (.fail, kfMark t p s) := by
  simp only [complete]
  rcases complete c fuel true t rt fname nodes p v st with ⟨_ | _ | _, _⟩ <;> rfl

/-- "Cannot return null for non-nullable field" -/
def nonNullGuardS (p : Path) (dfr : Bool) (j : JVal) (st : St) : Res JVal × St :=
  if j.isNull then (.fail, addErr st p dfr) else (.ok j, st)

theorem complete_succ (h : funcOf v = none) :
    complete c (fuel + 1) dfr t rt fname nodes p v st =
      match shape c t v with
      | .nonNull inner => andThen (complete c fuel dfr inner rt fname nodes p v st) (nonNullGuardS p dfr)
      | .null => (.ok .null, st)
      | .items item xs => andThen (completeItems c fuel dfr item rt fname nodes p xs 0 [] st) fun js st => (.ok (.list js), st)
      | .leaf j => (.ok j, st)
      | .object ot =>
        andThen (execGroups c fuel dfr ot v p (collectMerged c ot nodes) [] st) fun fs st => (.ok (.obj fs), st)
      | .error => (.fail, addErr st p dfr) := by
  rw [complete.eq_def]
  dsimp only
  split
  · cases h
  · cases h
  refine Eq.trans (shape_elim c t v _ _
    (fun item xs => andThen (completeItems c fuel dfr item rt fname nodes p xs 0 [] st) fun js st => (.ok (.list js), st))
    _ _ _ _ fun item => ?_) ?_
  · cases v with
    | list xs => simp only [listOf]; rcases completeItems c fuel dfr item rt fname nodes p xs 0 [] st with ⟨_ | _ | _, _⟩ <;> rfl
    | _ => rfl
  cases shape c t v with
  | nonNull inner =>
    simp only
    rcases complete c fuel dfr inner rt fname nodes p v st with ⟨j | _ | _, st1⟩
    · simp only [andThen_ok, nonNullGuardS]
      cases j <;> rfl
    · rfl
    · rfl
  | null => rfl
  | items item xs => rfl
  | leaf j => rfl
  | object ot => simp only; rcases execGroups c fuel dfr ot v p _ [] st with ⟨_ | _ | _, _⟩ <;> rfl
  | error => rfl


end algorithm

end GqlModel.Exec
