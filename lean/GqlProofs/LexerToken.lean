import GqlProofs.LexerNumber
import GqlProofs.LexerBlockValue
import GqlProofs.LexerBlock
/-! M = S: `readToken` after Ignored (lexer.go:489-576) = `Spec.token`. -/
namespace GqlModel.Lexer
open GqlModel.Lexer.Spec

theorem punctuator_eq (c : UInt8) (r : Bytes) : punctuator (runeAt (c :: r)).1 = punctuatorByte c := by
  unfold punctuator punctuatorByte
  simp only [code_eq_byte, Nat.reduceLT]

theorem ite_some_ne {α : Type} (p : Prop) [Decidable p] (a : α) (o : Option α) (x : α) (h1 : a ≠ x) (h2 : o ≠ some x) :
    (if p then some a else o) ≠ some x := by
  split
  · simpa using h1
  · exact h2

def punctuatorKinds : List TokenKind :=
  [.bang, .dollar, .amp, .parenL, .parenR, .colon, .equals, .at, .bracketL, .bracketR, .braceL, .pipe, .braceR]

theorem punctuatorByte_ne (c : UInt8) {x : TokenKind} (hx : x ∉ punctuatorKinds) : punctuatorByte c ≠ some x := by
  unfold punctuatorByte
  iterate 13 (refine ite_some_ne _ _ _ _ (fun e => hx (by rw [← e]; decide)) ?_)
  simp

theorem punctuatorByte_ne_name {c : UInt8} {k : TokenKind} (hp : punctuatorByte c = some k) : k ≠ .name :=
  fun hk => punctuatorByte_ne c (x := .name) (by decide) (hk ▸ hp)

abbrev isCtrl (c : UInt8) : Prop := c.toNat < 32 ∧ c ≠ 9 ∧ c ≠ 10 ∧ c ≠ 13

/-- the three ranges hold `-`, the digits, the letters and `_` -/
theorem punctuatorByte_none {c : UInt8} (h : c.toNat < 33 ∨ (42 ≤ c.toNat ∧ c.toNat ≤ 57) ∨ (65 ≤ c.toNat ∧ c.toNat ≤ 90) ∨
    (94 ≤ c.toNat ∧ c.toNat ≤ 122)) : punctuatorByte c = none := by
  unfold punctuatorByte
  rw [if_neg (by bnorm; omega), if_neg (by bnorm; omega), if_neg (by bnorm; omega), if_neg (by bnorm; omega),
    if_neg (by bnorm; omega), if_neg (by bnorm; omega), if_neg (by bnorm; omega), if_neg (by bnorm; omega),
    if_neg (by bnorm; omega), if_neg (by bnorm; omega), if_neg (by bnorm; omega), if_neg (by bnorm; omega),
    if_neg (by bnorm; omega)]

theorem punct_not_ctrl {c : UInt8} {k : TokenKind} (h : punctuatorByte c = some k) : ¬ isCtrl c := by
  intro hc
  rw [punctuatorByte_none (.inl (Nat.lt_succ_of_lt hc.1))] at h
  cases h

theorem nameStartByte_facts {c : UInt8} (h : isNameStartByte c) : ¬ isCtrl c ∧ punctuatorByte c = none ∧ ¬ c = 46 := by
  unfold isNameStartByte at h
  bnorm at h
  refine ⟨?_, punctuatorByte_none (by omega), ?_⟩
  · unfold isCtrl; omega
  · bnorm; omega

theorem numStart_facts {c : UInt8} (h : c = 45 ∨ isDigitByte c) :
    ¬ isCtrl c ∧ punctuatorByte c = none ∧ ¬ c = 46 ∧ ¬ isNameStartByte c := by
  have hn : c.toNat = 45 ∨ (48 ≤ c.toNat ∧ c.toNat ≤ 57) := by
    rcases h with rfl | h
    · exact Or.inl rfl
    · exact Or.inr h
  refine ⟨?_, punctuatorByte_none (by omega), ?_, ?_⟩
  · unfold isCtrl; omega
  · bnorm; omega
  · unfold isNameStartByte; bnorm; omega

theorem token_cons (c : UInt8) (r : Bytes) : token (c :: r) =
    if isCtrl c then .error (0, .invalidChar)
    else
      match punctuatorByte c with
      | some k => .ok (k, 1, [])
      | none =>
        if c = 46 then
          match r with
          | d1 :: d2 :: _ => if d1 = 46 ∧ d2 = 46 then .ok (.spread, 3, []) else .error (0, .unexpectedChar)
          | _ => .error (0, .unexpectedChar)
        else if isNameStartByte c then .ok (.name, nameLen (c :: r), (c :: r).take (nameLen (c :: r)))
        else if c = 45 ∨ isDigitByte c then
          match number (c :: r) with
          | .ok (k, len) => .ok (k, len, (c :: r).take len)
          | .error e => .error e
        else if c = 34 then
          match r with
          | 34 :: 34 :: r3 =>
            match blockBody r3 with
            | .ok (len, raw) => .ok (.blockString, len + 3, Spec.blockStringValue raw)
            | .error (o, e) => .error (o + 3, e)
          | _ =>
            match stringBody r with
            | .ok (len, v) => .ok (.string, len + 1, v)
            | .error (o, e) => .error (o + 1, e)
        else .error (0, .unexpectedChar) := rfl

theorem token_ctrl (c : UInt8) (r : Bytes) (h : isCtrl c) : token (c :: r) = .error (0, .invalidChar) := by
  rw [token_cons, if_pos h]
theorem token_punct (c : UInt8) (r : Bytes) (h : ¬ isCtrl c) {k : TokenKind} (hp : punctuatorByte c = some k) :
    token (c :: r) = .ok (k, 1, []) := by
  rw [token_cons, if_neg h, hp]
theorem token_name (c : UInt8) (r : Bytes) (h : ¬ isCtrl c) (hp : punctuatorByte c = none) (hd : ¬ c = 46)
    (hn : isNameStartByte c) : token (c :: r) = .ok (.name, nameLen (c :: r), (c :: r).take (nameLen (c :: r))) := by
  rw [token_cons, if_neg h, hp]; simp only; rw [if_neg hd, if_pos hn]
theorem token_number (c : UInt8) (r : Bytes) (h : ¬ isCtrl c) (hp : punctuatorByte c = none) (hd : ¬ c = 46)
    (hn : ¬ isNameStartByte c) (hnum : c = 45 ∨ isDigitByte c) :
    token (c :: r) = match number (c :: r) with
      | .ok (k, len) => .ok (k, len, (c :: r).take len)
      | .error e => .error e := by
  rw [token_cons, if_neg h, hp]; simp only; rw [if_neg hd, if_neg hn, if_pos hnum]
theorem token_other (c : UInt8) (r : Bytes) (h : ¬ isCtrl c) (hp : punctuatorByte c = none) (hd : ¬ c = 46)
    (hn : ¬ isNameStartByte c) (hnum : ¬ (c = 45 ∨ isDigitByte c)) (hq : ¬ c = 34) :
    token (c :: r) = .error (0, .unexpectedChar) := by
  rw [token_cons, if_neg h, hp]; simp only; rw [if_neg hd, if_neg hn, if_neg hnum, if_neg hq]

theorem token_quote (r : Bytes) : token (34 :: r) =
    if r.head? = some 34 ∧ (r.drop 1).head? = some 34 then
      match blockBody (r.drop 2) with
      | .ok (len, raw) => .ok (.blockString, len + 3, Spec.blockStringValue raw)
      | .error (o, e) => .error (o + 3, e)
    else
      match stringBody r with
      | .ok (len, v) => .ok (.string, len + 1, v)
      | .error (o, e) => .error (o + 1, e) := by
  have e1 : ¬ isCtrl 34 := by decide
  have e2 : punctuatorByte 34 = none := by decide
  have e3 : ¬ (34 : UInt8) = 46 := by decide
  have e4 : ¬ isNameStartByte 34 := by decide
  have e5 : ¬ ((34 : UInt8) = 45 ∨ isDigitByte 34) := by decide
  rw [token_cons]
  simp only [e1, e2, e3, e4, e5, if_false, if_true]
  match r with
  | [] => simp
  | [q1] => simp
  | q1 :: q2 :: r3 =>
    by_cases h1 : q1 = 34
    · by_cases h2 : q2 = 34
      · subst h1 h2; simp
      · simp [h1, h2]
    · simp [h1]

theorem token_dot (r : Bytes) : token (46 :: r) =
    if r.head? = some 46 ∧ (r.drop 1).head? = some 46 then .ok (.spread, 3, []) else .error (0, .unexpectedChar) := by
  have e1 : ¬ isCtrl 46 := by decide
  have e2 : punctuatorByte 46 = none := by decide
  rw [token_cons]
  simp only [e1, e2, if_false, if_true]
  match r with
  | [] => simp
  | [q1] => simp
  | q1 :: q2 :: r3 => simp

/-- a NAME carries the rune cursor, every other token the byte cursor (D-03a); a lexical error has the same site, and the
same offset when the rune cursor equals the byte cursor and no byte ≥ 0x80 precedes the offending byte -/
def TokAgrees (rest : Bytes) (p rp : Nat) (m : Except LexErr LTok) : Except (Nat × ErrKind) (TokenKind × Nat × Bytes) → Prop
  | .ok (k, len, v) => m = .ok (makeToken k (if k = .name then rp else p) ((if k = .name then rp else p) + len) v)
  | .error (o, ek) => ∃ q, m = .error ⟨q, ek⟩ ∧ (hasHigh (rest.take o) = false → rp = p → q = p + o)

theorem TokAgrees.ok {rest : Bytes} {p rp : Nat} {m : Except LexErr LTok} {s : Except (Nat × ErrKind) (TokenKind × Nat × Bytes)}
    {k : TokenKind} {len : Nat} {v : Bytes} (h : TokAgrees rest p rp m s) (hs : s = .ok (k, len, v)) :
    m = .ok (makeToken k (if k = .name then rp else p) ((if k = .name then rp else p) + len) v) := by subst hs; exact h

theorem TokAgrees.error {rest : Bytes} {p rp : Nat} {m : Except LexErr LTok} {s : Except (Nat × ErrKind) (TokenKind × Nat × Bytes)}
    {o : Nat} {ek : ErrKind} (h : TokAgrees rest p rp m s) (hs : s = .error (o, ek)) :
    ∃ q, m = .error ⟨q, ek⟩ ∧ (hasHigh (rest.take o) = false → rp = p → q = p + o) := by subst hs; exact h

theorem readTokenAt_agrees (f : Nat) (c : UInt8) (r : Bytes) (p rp : Nat) (hlen : (c :: r).length < f) :
    TokAgrees (c :: r) p rp (readTokenAt f (c :: r) p rp) (token (c :: r)) := by
  unfold readTokenAt
  simp only [ne_eq, punctuator_eq, isNameStart_iff, isDigitCode_iff, List.drop_succ_cons, List.drop_zero]
  simp only [code_eq_byte, code_lt_byte, Nat.reduceLT]
  simp only [code_eq_head, Nat.reduceLT]
  by_cases hctl : c.toNat < 32 ∧ ¬ c = 9 ∧ ¬ c = 10 ∧ ¬ c = 13
  · rw [if_pos hctl, token_ctrl c r hctl]
    exact ⟨rp, rfl, fun _ h => h ▸ rfl⟩
  rw [if_neg hctl]
  cases hp : punctuatorByte c with
  | some k =>
    rw [token_punct c r hctl hp]
    simp only [TokAgrees, if_neg (punctuatorByte_ne_name hp)]
  | none =>
    simp only
    by_cases hdot : c = 46
    · subst hdot
      rw [if_pos rfl, token_dot]
      by_cases hd : r.head? = some 46 ∧ (r.drop 1).head? = some 46
      · rw [if_pos hd, if_pos hd]; rfl
      · rw [if_neg hd, if_neg hd]; exact ⟨rp, rfl, fun _ h => h ▸ rfl⟩
    rw [if_neg hdot]
    by_cases hns : isNameStartByte c
    · rw [if_pos hns, readName_spec c r p rp hns, token_name c r hctl hp hdot hns]
      rfl
    rw [if_neg hns]
    by_cases hnum : c = 45 ∨ isDigitByte c
    · rw [if_pos hnum, readNumber_spec f (c :: r) p hlen, token_number c r hctl hp hdot hns hnum]
      match hn : number (c :: r) with
      | .ok (k, len) => simp only [TokAgrees, if_neg (number_ne_name hn)]
      | .error (o, e) => exact ⟨p + o, rfl, fun _ _ => rfl⟩
    rw [if_neg hnum]
    by_cases hq : c = 34
    · subst hq
      have hlen : r.length + 1 < f := hlen
      rw [if_pos rfl, token_quote]
      by_cases hb : r.head? = some 34 ∧ (r.drop 1).head? = some 34
      · rw [if_pos hb, if_pos hb]
        unfold readBlockString
        simp only [List.drop_succ_cons]
        have := readBlockLoop_agrees f (r.drop 2) (p + 3) (p + 3) (by rw [List.length_drop]; omega)
        match hsb : blockBody (r.drop 2) with
        | .ok (len, raw) =>
          simp only [TokAgrees, this.ok hsb, blockStringValue_eq, reduceCtorEq, if_false, makeToken]
          congr 2; omega
        | .error (o, k) =>
          obtain ⟨q, hq, hpos⟩ := this.error hsb
          refine ⟨q, by rw [hq], ?_⟩
          intro hh _
          have e : o + 3 = (2 + o) + 1 := by omega
          rw [e, List.take_succ_cons, hasHigh_cons, List.take_add, hasHigh_append] at hh
          simp only [Bool.or_eq_false_iff] at hh
          have := hpos hh.2.2; omega
      · rw [if_neg hb, if_neg hb]
        unfold readString
        simp only [List.drop_succ_cons, List.drop_zero]
        have := readStringLoop_agrees f r (p + 1) (p + 1) (by omega)
        match hsb : stringBody r with
        | .ok (len, v) =>
          simp only [TokAgrees, this.ok hsb, reduceCtorEq, if_false, makeToken]
          congr 2; omega
        | .error (o, k) =>
          obtain ⟨q, hq, hpos⟩ := this.error hsb
          refine ⟨q, by rw [hq], ?_⟩
          intro hh _
          rw [List.take_succ_cons, hasHigh_cons] at hh
          simp only [Bool.or_eq_false_iff] at hh
          have := hpos hh.2; omega
    · rw [if_neg hq, token_other c r hctl hp hdot hns hnum hq]
      exact ⟨rp, rfl, fun _ h => h ▸ rfl⟩

theorem readTokenAt_spec (f : Nat) (c : UInt8) (r : Bytes) (p rp : Nat) (hlen : (c :: r).length < f) :
    match token (c :: r) with
    | .ok (k, len, v) =>
      readTokenAt f (c :: r) p rp = .ok (makeToken k (if k = .name then rp else p) ((if k = .name then rp else p) + len) v)
    | .error (o, ek) =>
      ∃ q, readTokenAt f (c :: r) p rp = .error ⟨q, ek⟩ ∧ (hasHigh ((c :: r).take o) = false → rp = p → q = p + o) :=
  readTokenAt_agrees f c r p rp hlen

end GqlModel.Lexer
