import GqlProofs.LexerLoop
/-! The token stream of the grammar (`lexLoopG`): the Ignored gaps of an ASCII input are ASCII; a token's extent
delimits its lexeme, so the scan of `bytes[start, stop)` alone gives the same token. -/
namespace GqlModel.Lexer
open GqlModel.Lexer.Spec

theorem lexLoopG_gaps_ascii : ∀ (f : Nat) (rest : Bytes) (off : Nat), hasHigh rest = false →
    (∀ gt ∈ (lexLoopG f rest off).tokens, hasHigh gt.1 = false) ∧
    (∀ ge, (lexLoopG f rest off).err = some ge → hasHigh ge.1 = false) := by
  intro f
  induction f with
  | zero => intro rest off _; simp [lexLoopG]
  | succ f ih =>
    intro rest off h
    match hd : rest.drop (ignoredLen false rest) with
    | [] =>
      rw [lexLoopG_eof f rest off hd]
      simp only [List.mem_singleton, forall_eq, reduceCtorEq, false_imp_iff, implies_true, and_true]
      exact hasHigh_take _ h
    | c :: r =>
      match ht : token (c :: r) with
      | .error (o, ek) =>
        rw [lexLoopG_err f rest off hd ht]
        simp only [List.not_mem_nil, false_imp_iff, implies_true, Option.some.injEq, true_and]
        intro ge hge; rw [← hge]; exact hasHigh_take _ h
      | .ok (kind, len, v) =>
        rw [lexLoopG_ok f rest off hd ht]
        have hsub : hasHigh ((c :: r).drop len) = false := by rw [← hd]; exact hasHigh_drop _ (hasHigh_drop _ h)
        obtain ⟨h1, h2⟩ := ih ((c :: r).drop len) (off + ignoredLen false rest + len) hsub
        refine ⟨?_, h2⟩
        intro gt hgt
        rcases List.mem_cons.mp hgt with rfl | hm
        · exact hasHigh_take _ h
        · exact h1 gt hm

theorem nameAfterMultibyteIgnored_eq_false {bytes : Bytes} : nameAfterMultibyteIgnored bytes = false ↔
    ∀ gt ∈ (lexAllG bytes).tokens, gt.2.kind = .name → hasHigh gt.1 = false := by
  simp only [nameAfterMultibyteIgnored, List.any_eq_false, Bool.and_eq_true, beq_iff_eq, not_and, Bool.not_eq_true]

/-- the reading of "no NAME after a multi-byte Ignored gap" that `lexLoop_spec` asks for (`bytes.drop 0`: its premise
at offset 0) -/
theorem name_gaps_ascii {bytes : Bytes} (h : nameAfterMultibyteIgnored bytes = false) :
    ∀ gt ∈ (lexLoopG (bytes.length + 1) (bytes.drop 0) 0).tokens, gt.2.kind = .name → hasHigh gt.1 = false :=
  nameAfterMultibyteIgnored_eq_false.mp h

theorem token_ignorable_err (c : UInt8) (r : Bytes)
    (hc : c = 9 ∨ c = 32 ∨ c = 10 ∨ c = 13 ∨ c = 44 ∨ c = 35 ∨ c = 0xEF) : token (c :: r) = .error (0, .unexpectedChar) := by
  rcases hc with rfl | rfl | rfl | rfl | rfl | rfl | rfl <;> rfl

theorem token_ok_ignoredLen {c : UInt8} {r : Bytes} {k : TokenKind} {len : Nat} {v : Bytes}
    (h : token (c :: r) = .ok (k, len, v)) : ignoredLen false (c :: r) = 0 := by
  rw [ignoredLen_false_cons]
  have key : ¬ (c = 9 ∨ c = 32 ∨ c = 10 ∨ c = 13 ∨ c = 44 ∨ c = 35 ∨ c = 0xEF) := by
    intro hc; rw [token_ignorable_err c r hc] at h; simp at h
  have h1 : ¬ (c = 9 ∨ c = 32 ∨ c = 10 ∨ c = 13 ∨ c = 44) := by
    intro hh; apply key; rcases hh with h | h | h | h | h <;> simp [h]
  have h2 : ¬ c = 35 := fun hh => key (by simp [hh])
  have h3 : ¬ c = 0xEF := fun hh => key (by simp [hh])
  rw [if_neg h1, if_neg h2, if_neg h3]

theorem lexAllG_lexeme (l : Bytes) {k : TokenKind} {v : Bytes} (h : token l = .ok (k, l.length, v)) :
    lexAllG l = ⟨[([], makeToken k 0 l.length v), ([], makeToken .eof l.length l.length [])], none⟩ := by
  match l with
  | [] => simp [token] at h
  | c :: r =>
    have hg := token_ok_ignoredLen h
    unfold lexAllG
    have hd : (c :: r).drop (ignoredLen false (c :: r)) = c :: r := by rw [hg]; rfl
    rw [lexLoopG_ok _ (c :: r) 0 hd h, hg]
    have hnil : (c :: r).drop (c :: r).length = [] := List.drop_length
    rw [hnil]
    have hd2 : ([] : Bytes).drop (ignoredLen false []) = [] := rfl
    have e : (c :: r).length = r.length + 1 := rfl
    rw [e, lexLoopG_eof _ [] _ hd2]
    simp [ignoredLen]

theorem lexLoopG_mem : ∀ (f : Nat) (rest : Bytes) (off : Nat) (gt : Bytes × LTok), gt ∈ (lexLoopG f rest off).tokens →
    gt.2.kind ≠ .eof →
    off ≤ gt.2.start ∧ ∃ c r, rest.drop (gt.2.start - off) = c :: r ∧
      token (c :: r) = .ok (gt.2.kind, gt.2.stop - gt.2.start, gt.2.value) := by
  intro f
  induction f with
  | zero => intro rest off gt h; simp [lexLoopG] at h
  | succ f ih =>
    intro rest off gt hgt hk
    match hd : rest.drop (ignoredLen false rest) with
    | [] =>
      rw [lexLoopG_eof f rest off hd] at hgt
      simp only [List.mem_singleton] at hgt
      subst hgt; exact absurd rfl hk
    | c :: r =>
      match ht : token (c :: r) with
      | .error (o, ek) => rw [lexLoopG_err f rest off hd ht] at hgt; simp at hgt
      | .ok (kind, len, v) =>
        rw [lexLoopG_ok f rest off hd ht] at hgt
        rcases List.mem_cons.mp hgt with rfl | hm
        · refine ⟨by simp [makeToken], c, r, ?_, ?_⟩
          · simp only [makeToken]; rw [show off + ignoredLen false rest - off = ignoredLen false rest by omega]; exact hd
          · simp only [makeToken]; rw [show off + ignoredLen false rest + len - (off + ignoredLen false rest) = len by omega]; exact ht
        · obtain ⟨hle, c', r', hdr, htk⟩ := ih _ _ gt hm hk
          refine ⟨by omega, c', r', ?_, htk⟩
          rw [← hdr, ← hd, List.drop_drop, List.drop_drop]
          congr 1; omega

end GqlModel.Lexer
