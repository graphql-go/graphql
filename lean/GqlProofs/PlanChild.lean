import GqlModel.Plan
import GqlProofs.ListCount
/-! # One step of a response path

`getAt` and `setAt` walk a path one segment at a time (`child`, `setChild`). A family of predicates that goes down along `child`
goes down along `getAt` (`getAt_rec`); one kept by `setChild` when the entry is replaced by a compatible one is kept by `setAt`
(`setAt_rec`). So a fact about addresses in the response tree needs its one-step form only. -/
namespace GqlModel.Plan
open GqlModel.Exec

theorem lookupF_mem {fs : List (String × PVal)} {k : String} {v : PVal} (h : lookupF fs k = some v) : (k, v) ∈ fs := by
  obtain ⟨p, hp, rfl⟩ := Option.map_eq_some_iff.mp h
  have hk : p.1 = k := eq_of_beq (List.find?_some (p := fun x : String × PVal => x.1 == k) hp)
  exact hk ▸ List.mem_of_find?_eq_some hp

theorem lookupF_setF_self {fs : List (String × PVal)} {k : String} {v x : PVal} (h : lookupF fs k = some v) :
    lookupF (setF fs k x) k = some x := by
  induction fs with
  | nil => simp [lookupF] at h
  | cons y rest ih =>
    obtain ⟨k', y⟩ := y
    simp only [setF]
    by_cases hk : (k' == k) = true
    · simp [hk, lookupF]
    · have hk' : (k' == k) = false := by simpa using hk
      simp only [hk, Bool.false_eq_true, if_false]
      have hl : lookupF rest k = some v := by simpa [lookupF, List.find?_cons, hk'] using h
      simpa [lookupF, List.find?_cons, hk'] using ih hl

theorem lookupF_setF_ne {fs : List (String × PVal)} {k k2 : String} {x : PVal} (hne : k ≠ k2) :
    lookupF (setF fs k x) k2 = lookupF fs k2 := by
  induction fs with
  | nil => rfl
  | cons y rest ih =>
    obtain ⟨k', y⟩ := y
    simp only [setF]
    by_cases hk : (k' == k) = true
    · have hk1 : k' = k := by simpa using hk
      have hk2 : (k' == k2) = false := by simp [hk1, hne]
      simp [hk, lookupF, hk2]
    · simp only [hk, Bool.false_eq_true, if_false]
      by_cases hk2 : (k' == k2) = true
      · simp [lookupF, hk2]
      · have hk2' : (k' == k2) = false := by simpa using hk2
        simpa [lookupF, List.find?_cons, hk2'] using ih

theorem setF_of_lookupF {k : String} {x : PVal} : ∀ {fs : List (String × PVal)}, lookupF fs k = some x →
    ∃ as bs, fs = as ++ (k, x) :: bs ∧ ∀ v, setF fs k v = as ++ (k, v) :: bs
  | [], h => by simp [lookupF] at h
  | (k', y) :: rest, h => by
    by_cases hk : (k' == k) = true
    · simp only [lookupF, List.find?_cons, hk, Option.map_some, Option.some.injEq] at h
      exact ⟨[], rest, by rw [eq_of_beq hk, h]; rfl, fun v => by simp [setF, eq_of_beq hk]⟩
    · have hl : lookupF rest k = some x := by simpa [lookupF, List.find?_cons, hk] using h
      obtain ⟨as, bs, rfl, hs⟩ := setF_of_lookupF hl
      exact ⟨(k', y) :: as, bs, rfl, fun v => by simp [setF, hk, hs v]⟩

theorem setF_lookupF {fs : List (String × PVal)} {k : String} {v : PVal} (h : lookupF fs k = some v) : setF fs k v = fs := by
  obtain ⟨as, bs, rfl, hs⟩ := setF_of_lookupF h
  exact hs v

theorem lookupF_none {fs : List (String × PVal)} {k : String} (h : lookupF fs k = none) : ∀ x ∈ fs, x.1 ≠ k := by
  intro x hx hk
  unfold lookupF at h
  simp only [Option.map_eq_none_iff] at h
  have := List.find?_eq_none.1 h x hx
  simp [hk] at this

theorem setF_keys (fs : List (String × PVal)) (k : String) (v : PVal) : (setF fs k v).map (·.1) = fs.map (·.1) := by
  induction fs with
  | nil => rfl
  | cons x rest ih =>
    obtain ⟨k', x⟩ := x
    simp only [setF]
    by_cases hk : (k' == k) = true
    · simp [hk]
    · simp [hk, ih]

theorem mem_setF {fs : List (String × PVal)} {k : String} {v' : PVal} (hnd : (fs.map (·.1)).Nodup) {x : String × PVal}
    (hx : x ∈ setF fs k v') : x = (k, v') ∨ (x ∈ fs ∧ x.1 ≠ k) := by
  induction fs with
  | nil => simp [setF] at hx
  | cons y rest ih =>
    obtain ⟨k', y⟩ := y
    simp only [List.map_cons, List.nodup_cons] at hnd
    simp only [setF] at hx
    by_cases hk : (k' == k) = true
    · have hk' : k' = k := by simpa using hk
      simp only [hk, if_true] at hx
      rcases List.mem_cons.1 hx with rfl | hx
      · exact .inl (by rw [hk'])
      · right
        refine ⟨List.mem_cons_of_mem _ hx, ?_⟩
        intro hxk
        apply hnd.1
        rw [hk', ← hxk]
        exact List.mem_map.2 ⟨x, hx, rfl⟩
    · simp only [hk, Bool.false_eq_true, if_false] at hx
      rcases List.mem_cons.1 hx with rfl | hx
      · exact .inr ⟨List.mem_cons_self, by simpa using hk⟩
      · rcases ih hnd.2 hx with h | h
        · exact .inl h
        · exact .inr ⟨List.mem_cons_of_mem _ h.1, h.2⟩

theorem eq_of_lookupF {fs : List (String × PVal)} {k : String} {v : PVal} (hnd : (fs.map (·.1)).Nodup)
    (hl : lookupF fs k = some v) {x : String × PVal} (hx : x ∈ fs) (hk : x.1 = k) : x = (k, v) := by
  -- with distinct keys the first match on the key of `x` is `x`
  rw [lookupF, ← hk, find_of_nodup_key (·.1) fs x hnd hx] at hl
  rw [← hk, ← Option.some.inj hl]

theorem insertKey_perm (k : String) (l : List String) : (insertKey k l).Perm (k :: l) := by
  induction l with
  | nil => exact List.Perm.refl _
  | cons x xs ih =>
    simp only [insertKey]
    by_cases h : k < x
    · simp only [h, if_true]; exact List.Perm.refl _
    · simp only [h, if_false]
      exact (List.Perm.cons x ih).trans (List.Perm.swap k x xs)

theorem sortedKeys_perm (fs : List (String × PVal)) : (sortedKeys fs).Perm (fs.map (·.1)) := by
  unfold sortedKeys
  induction fs.map (·.1) with
  | nil => exact List.Perm.refl _
  | cons k ks ih =>
    simp only [List.foldr_cons]
    exact (insertKey_perm k _).trans (List.Perm.cons k ih)

theorem mem_sortedKeys {fs : List (String × PVal)} {x : String × PVal} (hx : x ∈ fs) : x.1 ∈ sortedKeys fs :=
  (sortedKeys_perm fs).mem_iff.mpr (List.mem_map.2 ⟨x, hx, rfl⟩)

theorem sortedKeys_length (fs : List (String × PVal)) : (sortedKeys fs).length = fs.length := by
  simpa using (sortedKeys_perm fs).length_eq

def PVal.child : PVal → PathSeg → Option PVal
  | .obj fs, .key k => lookupF fs k
  | .list xs, .idx i => xs[i]?
  | _, _ => none

/-- the assignment `m[k] = v` / `list[i] = v` at one segment -/
def PVal.setChild : PVal → PathSeg → PVal → PVal
  | .obj fs, .key k, v => .obj (setF fs k v)
  | .list xs, .idx i, v => .list (xs.set i v)
  | x, _, _ => x

theorem getAt_nil (v : PVal) : v.getAt [] = some v := by cases v <;> rfl

theorem setAt_nil (v nv : PVal) : v.setAt [] nv = nv := by cases v <;> rfl

theorem getAt_cons (v : PVal) (seg : PathSeg) (p : Path) : v.getAt (seg :: p) = (v.child seg).bind (·.getAt p) := by
  cases v <;> cases seg <;> simp only [PVal.getAt, PVal.child, Option.bind_none] <;> split <;> simp_all

theorem setAt_cons (v : PVal) (seg : PathSeg) (p : Path) (nv : PVal) :
    v.setAt (seg :: p) nv = match v.child seg with
      | some w => v.setChild seg (w.setAt p nv)
      | none => v := by
  cases v <;> cases seg <;> simp only [PVal.setAt, PVal.child, PVal.setChild] <;> split <;> simp_all

theorem child_mem_obj {fs : List (String × PVal)} {seg : PathSeg} {w : PVal} (h : (PVal.obj fs).child seg = some w) :
    ∃ k, seg = .key k ∧ (k, w) ∈ fs := by
  cases seg with
  | key k => exact ⟨k, rfl, lookupF_mem h⟩
  | idx i => cases h

theorem child_mem_list {xs : List PVal} {seg : PathSeg} {w : PVal} (h : (PVal.list xs).child seg = some w) : w ∈ xs := by
  cases seg with
  | key k => cases h
  | idx i => exact List.mem_of_getElem? h

theorem child_of_entries {Q : PVal → Prop} (hobj : ∀ fs, Q (.obj fs) → ∀ x ∈ fs, Q x.2) (hlist : ∀ xs, Q (.list xs) → ∀ x ∈ xs, Q x)
    {v : PVal} {seg : PathSeg} {w : PVal} (h : Q v) (hc : v.child seg = some w) : Q w := by
  cases v with
  | obj fs => obtain ⟨k, _, hm⟩ := child_mem_obj hc; exact hobj fs h _ hm
  | list xs => exact hlist xs h _ (child_mem_list hc)
  | leaf _ => cases seg <;> cases hc
  | deferred _ => cases seg <;> cases hc

theorem isContainer_of_child {v w : PVal} {seg : PathSeg} (h : v.child seg = some w) : v.isContainer = true := by
  cases v <;> cases seg <;> first | rfl | cases h

theorem child_setChild_self {v w w' : PVal} {seg : PathSeg} (h : v.child seg = some w) : (v.setChild seg w').child seg = some w' := by
  cases v with
  | obj fs =>
    cases seg with
    | key k => exact lookupF_setF_self h
    | idx i => cases h
  | list xs =>
    cases seg with
    | key k => cases h
    | idx i =>
      exact List.getElem?_set_self (List.getElem?_eq_some_iff.1 (h : xs[i]? = some w)).1
  | leaf _ => cases seg <;> cases h
  | deferred _ => cases seg <;> cases h

theorem child_setChild_ne {v w' : PVal} {seg seg' : PathSeg} (hne : seg ≠ seg') : (v.setChild seg w').child seg' = v.child seg' := by
  cases v with
  | obj fs =>
    cases seg with
    | key k =>
      cases seg' with
      | key k2 => exact lookupF_setF_ne (fun e => hne (by rw [e]))
      | idx j => rfl
    | idx i => rfl
  | list xs =>
    cases seg with
    | key k => rfl
    | idx i =>
      cases seg' with
      | key k2 => rfl
      | idx j => exact List.getElem?_set_ne (fun e => hne (by rw [e]))
  | leaf _ => rfl
  | deferred _ => rfl

/-- the index may change on the way down -/
theorem getAt_rec {ι : Type} {P : ι → PVal → Prop} (step : ∀ v seg w i, P i v → v.child seg = some w → ∃ i', P i' w) :
    ∀ (a : Path) {v w : PVal} {i : ι}, P i v → v.getAt a = some w → ∃ i', P i' w
  | [], v, w, i, h, hg => by rw [getAt_nil] at hg; cases hg; exact ⟨i, h⟩
  | seg :: rest, v, w, i, h, hg => by
    rw [getAt_cons] at hg
    cases hc : v.child seg with
    | none => rw [hc] at hg; cases hg
    | some x =>
      rw [hc] at hg
      obtain ⟨i', h'⟩ := step v seg x i h hc
      exact getAt_rec step rest h' hg

theorem getAt_down {P : PVal → Prop} (step : ∀ v seg w, P v → v.child seg = some w → P w) (a : Path) {v w : PVal} (h : P v)
    (hg : v.getAt a = some w) : P w := by
  obtain ⟨_, h'⟩ := getAt_rec (ι := Unit) (P := fun _ => P) (fun v seg w i h hc => ⟨i, step v seg w h hc⟩) a (i := ()) h hg
  exact h'

theorem setAt_rec {ι : Type} {P : ι → PVal → Prop}
    (step : ∀ v seg w w', v.child seg = some w → (∀ i, P i w → P i w') → ∀ i, P i v → P i (v.setChild seg w')) :
    ∀ (a : Path) {root old nv : PVal}, root.getAt a = some old → (∀ i, P i old → P i nv) → ∀ i, P i root → P i (root.setAt a nv)
  | [], root, old, nv, hg, hc, i, h => by
    rw [getAt_nil] at hg; cases hg; rw [setAt_nil]; exact hc i h
  | seg :: rest, root, old, nv, hg, hc, i, h => by
    rw [getAt_cons] at hg
    rw [setAt_cons]
    cases hch : root.child seg with
    | none => rw [hch] at hg; cases hg
    | some x =>
      rw [hch] at hg
      exact step root seg x _ hch (fun i hi => setAt_rec step rest hg hc i hi) i h

theorem setAt_keeps {P : PVal → Prop} (down : ∀ v seg w, P v → v.child seg = some w → P w)
    (step : ∀ v seg w', P v → P w' → P (v.setChild seg w')) : ∀ (a : Path) {root nv : PVal}, P root → P nv → P (root.setAt a nv)
  | [], root, nv, _, hn => by rw [setAt_nil]; exact hn
  | seg :: rest, root, nv, h, hn => by
    rw [setAt_cons]
    cases hch : root.child seg with
    | none => exact h
    | some x => exact step root seg _ h (setAt_keeps down step rest (down root seg x h hch) hn)

theorem getAt_append : ∀ (a b : Path) (root : PVal), root.getAt (a ++ b) = (root.getAt a).bind (fun v => v.getAt b)
  | [], b, root => by simp [getAt_nil]
  | seg :: rest, b, root => by
    rw [List.cons_append, getAt_cons, getAt_cons]
    cases root.child seg with
    | none => rfl
    | some x => exact getAt_append rest b x

theorem getAt_setAt_below : ∀ (a0 c : Path) (root : PVal) {old : PVal} (nv : PVal), root.getAt a0 = some old →
    (root.setAt a0 nv).getAt (a0 ++ c) = nv.getAt c
  | [], c, root, old, nv, _ => by simp [setAt_nil]
  | seg :: rest, c, root, old, nv, h => by
    rw [getAt_cons] at h
    cases hc : root.child seg with
    | none => rw [hc] at h; cases h
    | some x =>
      rw [hc] at h
      rw [setAt_cons, hc, List.cons_append, getAt_cons, child_setChild_self hc]
      exact getAt_setAt_below rest c x nv h

end GqlModel.Plan
