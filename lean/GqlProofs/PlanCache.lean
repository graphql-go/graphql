import GqlModel.PlanCache
import GqlProofs.ListCount
/-! Lemmas for C06 about `GqlModel.PlanCache`: decimal rendering and the split-at-separator lemma (the raw key); `findKey` /
`removeKey` / `evictLoop`; what `lookup` and `store` do to the entries; the invariants (`Inv`: bounded + distinct keys;
`InvT`/`InvTO`: every entry is what building from scratch gives; `InvN`/`InvE`: the same for the normalising cache, exactly or
up to an equivalence of results) and their preservation; reachable states (`Reach`); histories in raw mode for an arbitrary key
function (`runWith`: reachability, counters, what is stored), of which `run` is the instance at `rawKey` on a non-nil cache
(`run_some`; a nil cache bypasses, `run_none`); the key assumption `KeyFaithful` and what one normalising `Get` does under it
(`getNorm_faithful`). -/
-- `[DecidableEq S]` (schema pointers are compared) is a variable of the whole file, also where no schema is compared
set_option linter.unusedSectionVars false
namespace GqlModel.PlanCache

theorem digit_ne_colon (d : Nat) : digit d ≠ 58 := by
  unfold digit; split <;> decide

theorem decAux_fuel : ∀ (f f' n : Nat), n < f → n < f' → decAux f n = decAux f' n := by
  intro f
  induction f with
  | zero => intro f' n h; omega
  | succ f ih =>
    intro f' n h h'
    cases f' with
    | zero => omega
    | succ f' =>
      simp only [decAux]
      split
      · rfl
      · rw [ih f' (n / 10) (by omega) (by omega)]

theorem dec_unfold (n : Nat) : dec n = if n < 10 then [digit n] else dec (n / 10) ++ [digit (n % 10)] := by
  have hd : ∀ m, dec m = decAux (m + 1) m := fun _ => rfl
  rw [hd n]
  simp only [decAux]
  split
  · rfl
  · rw [decAux_fuel n (n / 10 + 1) (n / 10) (by omega) (by omega), hd (n / 10)]

theorem dec_no_colon : ∀ (n : Nat), ∀ b ∈ dec n, b ≠ 58 := by
  intro n
  induction n using Nat.strongRecOn with
  | _ n ih =>
    intro b hb
    rw [dec_unfold] at hb
    split at hb
    · simp only [List.mem_singleton] at hb; subst hb; exact digit_ne_colon n
    · rcases List.mem_append.mp hb with hb | hb
      · exact ih (n / 10) (by omega) b hb
      · simp only [List.mem_singleton] at hb; subst hb; exact digit_ne_colon _

/-- reading a decimal rendering back -/
def undec (bs : Bytes) : Nat := bs.foldl (fun a b => 10 * a + (b.toNat - 48)) 0

theorem digit_val : ∀ d : Fin 10, (digit d.val).toNat - 48 = d.val := by decide

theorem undec_dec (n : Nat) : undec (dec n) = n := by
  induction n using Nat.strongRecOn with
  | _ n ih =>
    rw [dec_unfold]
    split
    · rename_i h
      exact (Nat.zero_add _).trans (digit_val ⟨n, h⟩)
    · rw [undec, List.foldl_append, ← undec, ih (n / 10) (by omega)]
      have := digit_val ⟨n % 10, Nat.mod_lt _ (by omega)⟩
      simp only [List.foldl_cons, List.foldl_nil] at this ⊢
      omega

theorem dec_injective (n m : Nat) (h : dec n = dec m) : n = m := by
  rw [← undec_dec n, h, undec_dec]

theorem split_at_sep (sep : UInt8) (a a' r r' : Bytes) (ha : ∀ b ∈ a, b ≠ sep) (ha' : ∀ b ∈ a', b ≠ sep)
    (h : a ++ sep :: r = a' ++ sep :: r') : a = a' ∧ r = r' := by
  -- the part before the first separator can be read off
  have key : ∀ a r : Bytes, (∀ b ∈ a, b ≠ sep) → (a ++ sep :: r).takeWhile (· != sep) = a := fun a r ha =>
    takeWhile_append_stop _ a sep r (fun b hb => bne_iff_ne.mpr (ha b hb)) (bne_self_eq_false sep)
  have e : a = a' := by rw [← key a r ha, h, key a' r' ha']
  subst e
  exact ⟨rfl, (List.cons.inj (List.append_cancel_left h)).2⟩

/-- `operationName + "\x00" + key` splits uniquely at its LAST NUL when the keys contain none -/
theorem nulJoin_inj (op k op' k' : Bytes) (hk : ∀ b ∈ k, b ≠ 0) (hk' : ∀ b ∈ k', b ≠ 0)
    (h : nulJoin op k = nulJoin op' k') : op = op' ∧ k = k' := by
  unfold nulJoin at h
  have hr := congrArg List.reverse h
  simp only [List.reverse_append, List.reverse_cons, List.append_assoc, List.singleton_append] at hr
  obtain ⟨h1, h2⟩ := split_at_sep 0 k.reverse k'.reverse op.reverse op'.reverse
    (fun b hb => hk b (List.mem_reverse.mp hb)) (fun b hb => hk' b (List.mem_reverse.mp hb)) hr
  exact ⟨List.reverse_inj.mp h2, List.reverse_inj.mp h1⟩

/-- the raw key determines operation name and query (stated as the property theorem `rawKey_injective`) -/
theorem rawKey_inj (op q op' q' : Bytes) (h : rawKey op q = rawKey op' q') : op = op' ∧ q = q' := by
  -- the decimal prefix contains no ':' (dec_no_colon), so the first ':' splits the key uniquely;
  -- decimal rendering is injective (dec_injective), which fixes len(op) and hence the cut
  unfold rawKey at h
  obtain ⟨h1, h2⟩ := split_at_sep 58 _ _ _ _ (dec_no_colon _) (dec_no_colon _) h
  have hlen : op.length = op'.length := dec_injective _ _ h1
  exact List.append_inj h2 hlen

variable {S R A : Type} [DecidableEq S]

theorem findKey_eq_find? (k : Bytes) (l : List (Entry S R)) : findKey k l = l.find? (fun e => decide (e.key = k)) := by
  induction l with
  | nil => rfl
  | cons x xs ih => by_cases h : x.key = k <;> simp [findKey, h, ih]

theorem removeKey_eq_eraseP (k : Bytes) (l : List (Entry S R)) : removeKey k l = l.eraseP (fun e => decide (e.key = k)) := by
  induction l with
  | nil => rfl
  | cons x xs ih => by_cases h : x.key = k <;> simp [removeKey, h, ih]

theorem findKey_some {k : Bytes} {l : List (Entry S R)} {e : Entry S R} (h : findKey k l = some e) :
    e ∈ l ∧ e.key = k := by
  rw [findKey_eq_find?] at h
  exact ⟨List.mem_of_find?_eq_some h, by simpa using List.find?_some h⟩

theorem findKey_none {k : Bytes} {l : List (Entry S R)} (h : findKey k l = none) : k ∉ l.map (·.key) := by
  rw [findKey_eq_find?] at h
  intro hk
  obtain ⟨e, he, rfl⟩ := List.mem_map.mp hk
  exact List.find?_eq_none.mp h e he (decide_eq_true rfl)

theorem findKey_isSome_of_mem {k : Bytes} {l : List (Entry S R)} (h : k ∈ l.map (·.key)) :
    (findKey k l).isSome := by
  cases hf : findKey k l with
  | none => exact absurd h (findKey_none hf)
  | some _ => rfl

theorem mem_removeKey {k : Bytes} {l : List (Entry S R)} {x : Entry S R} (h : x ∈ removeKey k l) : x ∈ l :=
  List.mem_of_mem_eraseP (removeKey_eq_eraseP k l ▸ h)

theorem removeKey_length {k : Bytes} {l : List (Entry S R)} {e : Entry S R} (h : findKey k l = some e) :
    (removeKey k l).length + 1 = l.length := by
  rw [findKey_eq_find?] at h
  have hl := List.length_eraseP_of_mem (List.mem_of_find?_eq_some h) (List.find?_some h)
  have := List.length_pos_of_mem (List.mem_of_find?_eq_some h)
  rw [removeKey_eq_eraseP, hl]; omega

theorem removeKey_keys_eq_erase (k : Bytes) (l : List (Entry S R)) :
    (removeKey k l).map (·.key) = (l.map (·.key)).erase k := by
  induction l with
  | nil => rfl
  | cons x xs ih => by_cases h : x.key = k <;> simp [removeKey, h, ih]

/-- with enough fuel the eviction loop keeps exactly the `cap` most recently used entries -/
theorem evictLoop_eq_take (cap : Nat) : ∀ (f : Nat) (l : List (Entry S R)), l.length ≤ cap + f →
    evictLoop cap f l = l.take cap := by
  intro f
  induction f with
  | zero => intro l h; simp only [evictLoop]; rw [List.take_of_length_le (by omega)]
  | succ f ih =>
    intro l h
    simp only [evictLoop]
    split
    · rename_i hgt
      cases hl : l.getLast? with
      | none =>
        have : l = [] := by simpa using hl
        subst this; simp at hgt
      | some _ =>
        simp only []
        rw [ih l.dropLast (by simp; omega), List.dropLast_eq_take, List.take_take]
        congr 1; omega
    · rw [List.take_of_length_le (by omega)]

theorem mem_lookup {c : Cache S R} {s : S} {k : Bytes} {x : Entry S R} (h : x ∈ (lookup c s k).1.items) : x ∈ c.items := by
  unfold lookup at h
  split at h
  · exact h
  · rename_i e hf
    split at h
    · exact mem_removeKey h
    · rcases List.mem_cons.mp h with rfl | h
      · exact (findKey_some hf).1
      · exact mem_removeKey h

theorem lookup_hit {c : Cache S R} {s : S} {k : Bytes} {r : R} (h : (lookup c s k).2 = some r) :
    ∃ e ∈ c.items, e.key = k ∧ e.schema = s ∧ e.res = r := by
  unfold lookup at h
  split at h
  · cases h
  · rename_i e hf
    split at h
    · cases h
    · rename_i hs
      exact ⟨e, (findKey_some hf).1, (findKey_some hf).2, Decidable.not_not.mp hs, Option.some.inj h⟩

theorem mem_store {c : Cache S R} {s : S} {k : Bytes} {r : R} {x : Entry S R} (h : x ∈ (store c s k r).items) :
    x = ⟨k, s, r⟩ ∨ x ∈ c.items := by
  unfold store at h
  split at h
  · exact (List.mem_cons.mp h).imp_right mem_removeKey
  · rw [evictLoop_eq_take _ _ _ (by simp only [List.length_cons]; omega)] at h
    exact List.mem_cons.mp (List.mem_of_mem_take h)

/-- bounded, and the key list has no duplicates (map and list of the Go code in bijection) -/
def Inv (c : Cache S R) : Prop := c.items.length ≤ c.cap ∧ (keysOf c).Nodup

theorem lookup_cfg (c : Cache S R) (s : S) (k : Bytes) :
    (lookup c s k).1.cap = c.cap ∧ (lookup c s k).1.maxBytes = c.maxBytes ∧ (lookup c s k).1.normalize = c.normalize := by
  unfold lookup; split
  · simp
  · split <;> simp

theorem store_cfg (c : Cache S R) (s : S) (k : Bytes) (r : R) :
    (store c s k r).cap = c.cap ∧ (store c s k r).maxBytes = c.maxBytes ∧ (store c s k r).normalize = c.normalize ∧
    (store c s k r).hits = c.hits ∧ (store c s k r).misses = c.misses := by
  unfold store; split <;> simp

theorem front_removeKey {l : List (Entry S R)} {k : Bytes} {e e' : Entry S R} (hf : findKey k l = some e)
    (hk : e'.key = k) (hn : (l.map (·.key)).Nodup) :
    (e' :: removeKey k l).length = l.length ∧ ((e' :: removeKey k l).map (·.key)).Nodup := by
  refine ⟨removeKey_length hf, ?_⟩
  rw [List.map_cons, List.nodup_cons, hk, removeKey_keys_eq_erase]
  exact ⟨hn.not_mem_erase, hn.erase k⟩

theorem lookup_inv (c : Cache S R) (s : S) (k : Bytes) (h : Inv c) : Inv (lookup c s k).1 := by
  unfold lookup
  cases hf : findKey k c.items with
  | none => exact h
  | some e =>
    obtain ⟨hlen, hnd⟩ := front_removeKey hf (findKey_some hf).2 h.2
    have hle : (e :: removeKey k c.items).length ≤ c.cap := hlen ▸ h.1
    simp only []
    split
    · exact ⟨Nat.le_of_succ_le hle, (List.nodup_cons.mp hnd).2⟩
    · exact ⟨hle, hnd⟩

theorem store_inv (c : Cache S R) (s : S) (k : Bytes) (r : R) (h : Inv c) : Inv (store c s k r) := by
  unfold store
  cases hf : findKey k c.items with
  | some e =>
    obtain ⟨hlen, hnd⟩ := front_removeKey (e' := ⟨k, s, r⟩) hf rfl h.2
    exact ⟨Nat.le_trans (Nat.le_of_eq hlen) h.1, hnd⟩
  | none =>
    simp only []
    rw [evictLoop_eq_take c.cap _ _ (by simp only [List.length_cons]; omega)]
    refine ⟨by show (List.take _ _).length ≤ c.cap; simp only [List.length_take]; omega, ?_⟩
    show ((List.take c.cap (_ :: c.items)).map (·.key)).Nodup
    rw [List.map_take]
    apply List.Nodup.sublist (List.take_sublist _ _)
    simp only [List.map_cons, List.nodup_cons]
    exact ⟨findKey_none hf, h.2⟩

theorem items_reset (c : Cache S R) : (reset c).items = [] := rfl

theorem reset_inv (c : Cache S R) : Inv (reset c) := ⟨by simp [reset], by simp [reset, keysOf]⟩

/-- every entry holds what building from scratch gives for the request its key encodes -/
def InvT (keyOf : Bytes → Bytes → Bytes) (build : S → Bytes → Bytes → R) (c : Cache S R) : Prop :=
  ∀ e ∈ c.items, ∃ q op, e.key = keyOf op q ∧ e.res = build e.schema q op

theorem lookup_invT {keyOf : Bytes → Bytes → Bytes} {build : S → Bytes → Bytes → R}
    (hinj : ∀ op q op' q', keyOf op q = keyOf op' q' → op = op' ∧ q = q')
    (c : Cache S R) (s : S) (q op : Bytes) (h : InvT keyOf build c) :
    InvT keyOf build (lookup c s (keyOf op q)).1 ∧ ∀ r, (lookup c s (keyOf op q)).2 = some r → r = build s q op := by
  refine ⟨fun x hx => h x (mem_lookup hx), fun r hr => ?_⟩
  obtain ⟨e, hm, hk, hs, rfl⟩ := lookup_hit hr
  obtain ⟨q0, op0, hk0, hr0⟩ := h e hm
  obtain ⟨h1, h2⟩ := hinj op0 q0 op q (by rw [← hk0, hk])
  rw [hr0, hs, h1, h2]

theorem store_invT {keyOf : Bytes → Bytes → Bytes} {build : S → Bytes → Bytes → R}
    (c : Cache S R) (s : S) (q op : Bytes) (h : InvT keyOf build c) :
    InvT keyOf build (store c s (keyOf op q) (build s q op)) := by
  intro x hx
  rcases mem_store hx with rfl | hx
  · exact ⟨q, op, rfl, rfl⟩
  · exact h x hx

/-- States reachable from `NewPlanCache(o)` by any interleaving of the three state-changing primitives with
any arguments.  Every `Get` (raw or normalising) and `Reset` is a composition of these. -/
inductive Reach (o : Opts) : Cache S R → Prop where
  | new : Reach o (newPlanCache o)
  | lookup {c} (s : S) (k : Bytes) : Reach o c → Reach o (lookup c s k).1
  | store {c} (s : S) (k : Bytes) (r : R) : Reach o c → Reach o (store c s k r)
  | reset {c} : Reach o c → Reach o (reset c)

/-- the capacity `NewPlanCache` configures: the default 1024 when `MaxEntries ≤ 0` -/
def capOf (o : Opts) : Nat := if o.maxEntries ≤ 0 then 1024 else o.maxEntries.toNat

theorem capOf_pos (o : Opts) : 1 ≤ capOf o := by
  unfold capOf; split <;> omega

theorem reach_inv {o : Opts} {c : Cache S R} (h : Reach o c) : Inv c ∧ c.cap = capOf o := by
  induction h with
  | new => exact ⟨⟨by simp [newPlanCache], by simp [newPlanCache, keysOf]⟩, rfl⟩
  | @lookup c0 s k _ ih => exact ⟨lookup_inv _ s k ih.1, by rw [(lookup_cfg c0 s k).1, ih.2]⟩
  | @store c0 s k r _ ih => exact ⟨store_inv _ s k r ih.1, by rw [(store_cfg c0 s k r).1, ih.2]⟩
  | reset _ ih => exact ⟨reset_inv _, ih.2⟩

theorem getRawWith_reach {o : Opts} (keyOf : Bytes → Bytes → Bytes) (build : S → Bytes → Bytes → R)
    {c : Cache S R} (s : S) (q op : Bytes) (h : Reach o c) : Reach o (getRawWith keyOf build c s q op).1 := by
  have hl := Reach.lookup s (keyOf op q) h
  rcases hlk : lookup c s (keyOf op q) with ⟨c', r⟩
  rw [hlk] at hl
  cases r with
  | some r => simpa only [getRawWith, hlk] using hl
  | none => simpa only [getRawWith, hlk] using Reach.store s (keyOf op q) (build s q op) hl

theorem getNorm_reach {o : Opts} (fb : KeyShape) (norm : S → Bytes → Bytes → NormOut A) (errRes buildN : S → Bytes → Bytes → R)
    (failed : R → Bool) {c : Cache S R} (s : S) (q op : Bytes) (h : Reach o c) :
    Reach o (getNorm fb norm errRes buildN failed c s q op).1 := by
  unfold getNorm
  cases norm s q op with
  | parseErr => exact h
  | normErr => exact h
  | ok nk sy =>
    have hl := Reach.lookup s (normCacheKey fb op q nk) h
    rcases hlk : lookup c s (normCacheKey fb op q nk) with ⟨c', r⟩
    rw [hlk] at hl
    cases r with
    | some r => simpa only [hlk] using hl
    | none => simpa only [hlk] using Reach.store s (normCacheKey fb op q nk) (buildN s q op) hl


theorem getRawWith_spec {keyOf : Bytes → Bytes → Bytes} {build : S → Bytes → Bytes → R}
    (hinj : ∀ op q op' q', keyOf op q = keyOf op' q' → op = op' ∧ q = q')
    (c : Cache S R) (s : S) (q op : Bytes) (h : InvT keyOf build c) :
    (getRawWith keyOf build c s q op).2.1 = build s q op ∧ InvT keyOf build (getRawWith keyOf build c s q op).1 := by
  have hl := lookup_invT hinj c s q op h
  rcases hlk : lookup c s (keyOf op q) with ⟨c', r⟩
  rw [hlk] at hl
  cases r with
  | some r => simp only [getRawWith, hlk]; exact ⟨hl.2 r rfl, hl.1⟩
  | none => simp only [getRawWith, hlk]; exact ⟨trivial, store_invT c' s q op hl.1⟩


/-- honest entries, lifted to a possibly nil cache -/
def InvTO (build : S → Bytes → Bytes → R) : Option (Cache S R) → Prop
  | none => True
  | some c => InvT rawKey build c

theorem get_spec (build : S → Bytes → Bytes → R) (c : Option (Cache S R)) (s : S) (q op : Bytes)
    (h : InvTO build c) : (get build c s q op).2.1 = build s q op ∧ InvTO build (get build c s q op).1 := by
  cases c with
  | none => exact ⟨rfl, trivial⟩
  | some c =>
    simp only [get]
    split
    · exact ⟨rfl, h⟩
    · exact getRawWith_spec rawKey_inj c s q op h


theorem lookup_counters (c : Cache S R) (s : S) (k : Bytes) :
    (∀ r, (lookup c s k).2 = some r → (lookup c s k).1.hits = c.hits + 1 ∧ (lookup c s k).1.misses = c.misses) ∧
    ((lookup c s k).2 = none → (lookup c s k).1.hits = c.hits ∧ (lookup c s k).1.misses = c.misses + 1) := by
  unfold lookup
  split
  · simp
  · split <;> simp

/-- a non-nil cache in raw mode is the cache over an arbitrary key function, at the key as coded -/
theorem stepOp_some (build : S → Bytes → Bytes → R) (c : Cache S R) (x : Op S) :
    stepOp build (some c) x = (some (stepWith rawKey build c x).1, (stepWith rawKey build c x).2) := by
  cases x with
  | reset => rfl
  | get s q op => simp only [stepOp, get, stepWith]; split <;> rfl

theorem run_some (build : S → Bytes → Bytes → R) : ∀ (ops : List (Op S)) (c : Cache S R),
    run build (some c) ops = (some (runWith rawKey build c ops).1, (runWith rawKey build c ops).2)
  | [], _ => rfl
  | x :: xs, c => by simp only [run, runWith, stepOp_some, run_some build xs]

theorem run_none (build : S → Bytes → Bytes → R) : ∀ ops : List (Op S),
    run build none ops = (none, ops.map fun x => (specOp build x).map (·, .bypass))
  | [] => rfl
  | x :: xs => by cases x <;> simp only [run, stepOp, get, resetOpt, run_none build xs] <;> rfl

theorem countOutcome_cons {X : Type} (w : Outcome) (o : Option (X × Outcome)) (outs : List (Option (X × Outcome))) :
    countOutcome w (o :: outs) = countOutcome w [o] + countOutcome w outs := by
  unfold countOutcome
  rw [← List.length_append, ← List.filter_append]
  rfl

theorem shouldCache_congr {c c' : Cache S R} (h : c'.maxBytes = c.maxBytes) (n : Nat) :
    shouldCache c' n = shouldCache c n := by simp [shouldCache, h]

theorem cacheable_congr {c c' : Cache S R} (h : c'.maxBytes = c.maxBytes) : cacheable c' = cacheable c := by
  funext x
  cases x with
  | reset => rfl
  | get _ q _ => exact shouldCache_congr h q.length

/-- `runWith_counters` for a history of one operation: bypass iff over-size, otherwise exactly one of the counters
moves, by one, matching the outcome; the byte limit stays -/
theorem stepWith_counters (keyOf : Bytes → Bytes → Bytes) (build : S → Bytes → Bytes → R) (c : Cache S R) (x : Op S) :
    (stepWith keyOf build c x).1.maxBytes = c.maxBytes ∧
    (stepWith keyOf build c x).1.hits = c.hits + countOutcome .hit [(stepWith keyOf build c x).2] ∧
    (stepWith keyOf build c x).1.misses = c.misses + countOutcome .miss [(stepWith keyOf build c x).2] ∧
    countOutcome .hit [(stepWith keyOf build c x).2] + countOutcome .miss [(stepWith keyOf build c x).2] =
      ([x].filter (cacheable c)).length := by
  cases x with
  | reset => exact ⟨rfl, rfl, rfl, rfl⟩
  | get s q op =>
    cases hsc : shouldCache c q.length with
    | false => simp only [stepWith, cacheable, List.filter_cons, hsc]; exact ⟨rfl, rfl, rfl, rfl⟩
    | true =>
      have hc := lookup_counters c s (keyOf op q)
      have hcfg := lookup_cfg c s (keyOf op q)
      simp only [stepWith, cacheable, List.filter_cons, hsc, getRawWith, Bool.not_true, Bool.false_eq_true, if_false, if_true]
      generalize lookup c s (keyOf op q) = lk at hc hcfg ⊢
      -- once the outcome is known, `countOutcome w [some (_, outcome)]` evaluates to 1 or 0
      obtain ⟨c', _ | r⟩ := lk
      · obtain ⟨_, hbytes, _, hhits, hmisses⟩ := store_cfg c' s (keyOf op q) (build s q op)
        exact ⟨hbytes.trans hcfg.2.1, hhits.trans (hc.2 rfl).1, hmisses.trans (hc.2 rfl).2, rfl⟩
      · exact ⟨hcfg.2.1, (hc.1 r rfl).1, (hc.1 r rfl).2, rfl⟩

/-- after any history, for any key function: `hits` grew by the number of hits, `misses` by the number of misses, and
every cacheable `Get` is one or the other -/
theorem runWith_counters (keyOf : Bytes → Bytes → Bytes) (build : S → Bytes → Bytes → R) :
    ∀ (ops : List (Op S)) (c : Cache S R),
      (runWith keyOf build c ops).1.hits = c.hits + countOutcome .hit (runWith keyOf build c ops).2 ∧
      (runWith keyOf build c ops).1.misses = c.misses + countOutcome .miss (runWith keyOf build c ops).2 ∧
      countOutcome .hit (runWith keyOf build c ops).2 + countOutcome .miss (runWith keyOf build c ops).2 =
        (ops.filter (cacheable c)).length
  | [], _ => ⟨rfl, rfl, rfl⟩
  | x :: xs, c => by
    obtain ⟨hmb, hh, hm, hc⟩ := stepWith_counters keyOf build c x
    obtain ⟨ih1, ih2, ih3⟩ := runWith_counters keyOf build xs (stepWith keyOf build c x).1
    rw [cacheable_congr hmb] at ih3
    simp only [runWith, countOutcome_cons _ _ (runWith keyOf build _ xs).2]
    rw [show (x :: xs).filter (cacheable c) = [x].filter (cacheable c) ++ xs.filter (cacheable c) from
      List.filter_append [x] xs, List.length_append]
    omega

theorem mem_keys_store {c : Cache S R} {s : S} {k k' : Bytes} {r : R} (h : k' ∈ keysOf (store c s k r)) :
    k' = k ∨ k' ∈ keysOf c := by
  obtain ⟨e, he, hk⟩ := List.mem_map.mp h
  rcases mem_store he with rfl | he
  · exact Or.inl hk.symm
  · exact Or.inr (List.mem_map.mpr ⟨e, he, hk⟩)

theorem mem_keys_lookup {c : Cache S R} {s : S} {k k' : Bytes} (h : k' ∈ keysOf (lookup c s k).1) : k' ∈ keysOf c := by
  obtain ⟨e, he, hk⟩ := List.mem_map.mp h
  exact List.mem_map.mpr ⟨e, mem_lookup he, hk⟩


theorem mem_keys_stepWith (keyOf : Bytes → Bytes → Bytes) (build : S → Bytes → Bytes → R) {c : Cache S R} {x : Op S}
    {k : Bytes} (hk : k ∈ keysOf (stepWith keyOf build c x).1) :
    k ∈ keysOf c ∨ ∃ s q op, x = .get s q op ∧ k = keyOf op q ∧ shouldCache c q.length = true := by
  cases x with
  | reset => cases hk
  | get s q op =>
    simp only [stepWith] at hk
    split at hk
    · exact Or.inl hk
    · rename_i hsc
      unfold getRawWith at hk
      have hsub : ∀ k', k' ∈ keysOf (lookup c s (keyOf op q)).1 → k' ∈ keysOf c := fun _ => mem_keys_lookup
      generalize lookup c s (keyOf op q) = lk at hk hsub
      obtain ⟨c1, _ | r⟩ := lk
      · exact (mem_keys_store hk).elim (fun e => Or.inr ⟨s, q, op, rfl, e, by simpa using hsc⟩)
          (fun h' => Or.inl (hsub k h'))
      · exact Or.inl (hsub k hk)

theorem runWith_reach {o : Opts} (keyOf : Bytes → Bytes → Bytes) (build : S → Bytes → Bytes → R) :
    ∀ (ops : List (Op S)) (c : Cache S R), Reach o c → Reach o (runWith keyOf build c ops).1
  | [], _, h => h
  | x :: xs, c, h => by
    have hx : Reach o (stepWith keyOf build c x).1 := by
      cases x with
      | reset => exact Reach.reset h
      | get s q op =>
        simp only [stepWith]
        split
        · exact h
        · exact getRawWith_reach keyOf build s q op h
    exact runWith_reach keyOf build xs _ hx

/-- every history in normalising mode stays inside `Reach`, whatever the normaliser and fingerprint do -/
theorem runNorm_reach (fb : KeyShape) {o : Opts} (norm : S → Bytes → Bytes → NormOut A) (build errRes buildN : S → Bytes → Bytes → R)
    (failed : R → Bool) : ∀ (ops : List (Op S)) (c : Cache S R), Reach o c →
      Reach o (runNorm fb norm build errRes buildN failed c ops).1 := by
  intro ops
  induction ops with
  | nil => intro c h; exact h
  | cons x xs ih =>
    intro c h
    simp only [runNorm]
    apply ih
    cases x with
    | reset => exact Reach.reset h
    | get s q op =>
      simp only [stepNorm]
      split
      · exact h
      · exact getNorm_reach fb norm errRes buildN failed s q op h

/-- **Over-size queries are never stored**: every key retained after a history is a key the cache held before or the key
of some `Get` of that history whose query passed `shouldCache`. -/
theorem only_cacheable_gets_are_stored (keyOf : Bytes → Bytes → Bytes) (build : S → Bytes → Bytes → R) :
    ∀ (ops : List (Op S)) (c : Cache S R), ∀ k ∈ keysOf (runWith keyOf build c ops).1,
      k ∈ keysOf c ∨ ∃ s q op, Op.get s q op ∈ ops ∧ k = keyOf op q ∧ shouldCache c q.length = true
  | [], _, _, hk => Or.inl hk
  | x :: xs, c, k, hk => by
    rcases only_cacheable_gets_are_stored keyOf build xs _ k hk with h' | ⟨s, q, op, hm, he, hs⟩
    · rcases mem_keys_stepWith keyOf build h' with h'' | ⟨s, q, op, rfl, he, hs⟩
      · exact Or.inl h''
      · exact Or.inr ⟨s, q, op, List.mem_cons_self, he, hs⟩
    · exact Or.inr ⟨s, q, op, List.mem_cons_of_mem _ hm, he,
        by rw [← shouldCache_congr (stepWith_counters keyOf build c x).1]; exact hs⟩

/-- a fresh cache takes a query iff it is within the byte limit `NewPlanCache` configures: the default 65536 when
`MaxQueryBytes ≤ 0` -/
theorem shouldCache_new (o : Opts) (n : Nat) : shouldCache (newPlanCache o : Cache S R) n = true ↔
    (n : Int) ≤ (if o.maxQueryBytes ≤ 0 then 65536 else o.maxQueryBytes) := by
  simp only [shouldCache, newPlanCache, defaultMaxQueryBytes, Bool.or_eq_true]
  split <;> simp only [decide_eq_true_eq] <;> omega

/-- entries of the normalising cache are honest w.r.t. `buildN` -/
def InvN (fb : KeyShape) (norm : S → Bytes → Bytes → NormOut A) (buildN : S → Bytes → Bytes → R) (c : Cache S R) : Prop :=
  ∀ e ∈ c.items, ∃ q op nk sy, norm e.schema q op = .ok nk sy ∧ e.key = normCacheKey fb op q nk ∧ e.res = buildN e.schema q op


/-! ## the normalising cache up to an equivalence of results (used with "documents equal up to source locations") -/

/-- every entry is `E`-equivalent to what its key's request builds -/
def InvE (fb : KeyShape) (E : R → R → Prop) (norm : S → Bytes → Bytes → NormOut A) (buildN : S → Bytes → Bytes → R) (c : Cache S R) : Prop :=
  ∀ e ∈ c.items, ∃ q op nk sy, norm e.schema q op = .ok nk sy ∧ e.key = normCacheKey fb op q nk ∧ E e.res (buildN e.schema q op)

/-- **the assumption on the cache key**, as a named predicate: two requests to one schema that get the same cache key
build `E`-equivalent results. For the key as coded (hex of the 64-bit FNV-1a hash of the structural fingerprint, and
`"raw:" + FNV(query)` when normalisation is not applicable) this is NOT provable — it fails on constructed collisions
(D-06k) — and is assumed; for a key that is the printed normalised document it follows from C08's `parse_print`. -/
def KeyFaithful (fb : KeyShape) (E : R → R → Prop) (norm : S → Bytes → Bytes → NormOut A) (buildN : S → Bytes → Bytes → R) : Prop :=
  ∀ s q op q' op' nk sy nk' sy', norm s q op = .ok nk sy → norm s q' op' = .ok nk' sy' →
    normCacheKey fb op q nk = normCacheKey fb op' q' nk' → E (buildN s q op) (buildN s q' op')

/-- one normalising `Get` keeps every entry `E`-equivalent to what its key's request builds and, when it goes through
the cache, returns a result `E`-equivalent to what THIS request builds: the LRU logic (eviction, schema guard,
move-to-front, in-place update) adds no way to serve a wrong plan beyond an unfaithful key -/
theorem getNorm_faithful (fb : KeyShape) (E : R → R → Prop) (hrefl : ∀ r, E r r) (htrans : ∀ a b c, E a b → E b c → E a c)
    (norm : S → Bytes → Bytes → NormOut A) (errRes buildN : S → Bytes → Bytes → R) (failed : R → Bool)
    (hkey : KeyFaithful fb E norm buildN)
    (c : Cache S R) (s : S) (q op : Bytes) (h : InvE fb E norm buildN c) :
    InvE fb E norm buildN (getNorm fb norm errRes buildN failed c s q op).1 ∧
    ((getNorm fb norm errRes buildN failed c s q op).2.2 ≠ .noLookup →
      E (getNorm fb norm errRes buildN failed c s q op).2.1.res (buildN s q op)) := by
  unfold getNorm
  cases hn : norm s q op with
  | parseErr => exact ⟨h, fun hh => absurd rfl hh⟩
  | normErr => exact ⟨h, fun hh => absurd rfl hh⟩
  | ok nk sy =>
    dsimp only
    -- what is needed of the lookup: its entries are entries of `c` (so still faithful), and a hit is an entry of `c` under this
    -- key and schema
    have hl : InvE fb E norm buildN (lookup c s (normCacheKey fb op q nk)).1 := fun x hx => h x (mem_lookup hx)
    have hhit : ∀ r, (lookup c s (normCacheKey fb op q nk)).2 = some r →
        ∃ e ∈ c.items, e.key = normCacheKey fb op q nk ∧ e.schema = s ∧ e.res = r := fun r => lookup_hit (r := r)
    generalize lookup c s (normCacheKey fb op q nk) = lk at hl hhit ⊢
    obtain ⟨c', r⟩ := lk
    cases r with
    | some r =>
      refine ⟨hl, fun _ => ?_⟩
      obtain ⟨e, hm, hk, hs, rfl⟩ := hhit r rfl
      obtain ⟨q0, op0, nk0, sy0, hn0, hk0, hr0⟩ := h e hm
      rw [hs] at hn0 hr0
      exact htrans _ _ _ hr0 (hkey s q0 op0 q op nk0 sy0 nk sy hn0 hn (by rw [← hk0, hk]))
    | none =>
      refine ⟨fun x hx => ?_, fun _ => hrefl _⟩
      rcases mem_store hx with rfl | hx
      · exact ⟨q, op, nk, sy, hn, rfl, hrefl _⟩
      · exact hl x hx

/-- what a history's outputs must satisfy: every `Get` that went through the cache (hit or miss) returned a result
`E`-equivalent to what its own request builds -/
def OutsFaithful (fb : KeyShape) (E : R → R → Prop) (buildN : S → Bytes → Bytes → R) :
    List (Op S) → List (Option (NormResult R A × Outcome)) → Prop
  | [], [] => True
  | .get s q op :: ops, some (r, oc) :: outs =>
    ((oc = .hit ∨ oc = .miss) → E r.res (buildN s q op)) ∧ OutsFaithful fb E buildN ops outs
  | .reset :: ops, _ :: outs => OutsFaithful fb E buildN ops outs
  | .get _ _ _ :: ops, none :: outs => OutsFaithful fb E buildN ops outs
  | _, _ => False

end GqlModel.PlanCache
