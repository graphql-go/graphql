import GqlProofs.ParserBasics
/-! Facts about derivations of the grammar S alone (C03).  A derivation moves from its start position to its end position by
consuming tokens, and the end offset it threads is the end of the last of them (`SpanLe`); `Steps` adds whether at least one
token is consumed.  Proved once per nonterminal (`…_steps`), this gives the bounds `…_lt` / `…_le` that the fuel
arguments use and the location theorems of `ParserLoc`.  Also: the kind of the first token of a derivation. -/
namespace GqlModel.Grammar

/-- end offset after consuming `mid`, starting from end offset `d` -/
def lastStopD (d : Nat) (mid : List Token) : Nat :=
  match mid.getLast? with
  | some t => t.stop
  | none => d

theorem lastStopD_nil (d : Nat) : lastStopD d [] = d := rfl

theorem lastStopD_append (d : Nat) (m1 m2 : List Token) : lastStopD d (m1 ++ m2) = lastStopD (lastStopD d m1) m2 := by
  simp only [lastStopD, List.getLast?_append]
  cases m2.getLast? <;> rfl

/-- `p'` is reached from `p` by consuming the tokens `mid`, and its end offset is the end of the last of them -/
def SpanLe (p p' : Pos) : Prop := ∃ mid, p.ts = mid ++ p'.ts ∧ p'.e = lastStopD p.e mid

theorem SpanLe.refl (p : Pos) : SpanLe p p := ⟨[], by simp, rfl⟩

theorem SpanLe.trans {p p1 p2 : Pos} (h1 : SpanLe p p1) (h2 : SpanLe p1 p2) : SpanLe p p2 := by
  obtain ⟨m1, e1, s1⟩ := h1
  obtain ⟨m2, e2, s2⟩ := h2
  exact ⟨m1 ++ m2, by rw [e1, e2, List.append_assoc], by rw [s2, s1, lastStopD_append]⟩

theorem SpanLe.le {p p' : Pos} (h : SpanLe p p') : p'.ts.length ≤ p.ts.length := by
  obtain ⟨mid, e, _⟩ := h
  rw [e, List.length_append]
  exact Nat.le_add_left _ _

def Steps (strict : Bool) (p p' : Pos) : Prop := SpanLe p p' ∧ (strict = true → p'.ts.length < p.ts.length)

theorem Steps.refl (p : Pos) : Steps false p p := ⟨.refl p, fun h => by cases h⟩

theorem Steps.le {b : Bool} {p p' : Pos} (h : Steps b p p') : p'.ts.length ≤ p.ts.length := h.1.le

theorem Steps.lt {p p' : Pos} (h : Steps true p p') : p'.ts.length < p.ts.length := h.2 rfl

theorem Steps.ne {p p' : Pos} (h : Steps true p p') : p.ts ≠ [] := fun he => by
  have := h.lt; rw [he] at this; exact Nat.not_lt_zero _ this

theorem Steps.trans {a b : Bool} {p p1 p2 : Pos} (h1 : Steps a p p1) (h2 : Steps b p1 p2) : Steps (a || b) p p2 := by
  refine ⟨h1.1.trans h2.1, fun h => ?_⟩
  cases a
  · exact Nat.lt_of_lt_of_le (h2.2 h) h1.le
  · exact Nat.lt_of_le_of_lt h2.le h1.lt

theorem Steps.weaken {b : Bool} {p p' : Pos} (h : Steps b p p') : Steps false p p' := ⟨h.1, fun h => by cases h⟩

theorem tok_steps {k : TokenKind} {p : Pos} {t : Token} {p' : Pos} (h : Tok k p t p') : Steps true p p' := by
  cases h with
  | mk e t r hk => exact ⟨⟨[t], rfl, rfl⟩, fun _ => Nat.lt_succ_self _⟩

theorem tok_kind {k : TokenKind} {p : Pos} {t : Token} {p' : Pos} (h : Tok k p t p') : p.kind = k := by
  cases h with
  | mk e t r hk => exact hk

theorem kw_steps {s : String} {p p' : Pos} (h : Kw s p p') : Steps true p p' := by
  cases h with
  | mk ht _ => exact tok_steps ht

theorem kw_kind {s : String} {p p' : Pos} (h : Kw s p p') : p.kind = .name := by
  cases h with
  | mk ht _ => exact tok_kind ht

theorem kw_isName {s : String} {p p' : Pos} (h : Kw s p p') : p.isName s := by
  cases h with
  | mk ht hv => cases ht with | mk e t r hk => exact ⟨hk, hv⟩

theorem dname_steps {p : Pos} {n : Name} {p' : Pos} (h : DName p n p') : Steps true p p' := by
  cases h with
  | mk ht => exact tok_steps ht

theorem dname_kind {p : Pos} {n : Name} {p' : Pos} (h : DName p n p') : p.kind = .name := by
  cases h with
  | mk ht => exact tok_kind ht

theorem many_steps {α} {b : Bool} {D : Pos → α → Pos → Prop} (hD : ∀ p x p', D p x p' → Steps b p p')
    {p : Pos} {xs : List α} {p' : Pos} (h : Many D p xs p') : Steps false p p' := by
  induction h with
  | nil => exact .refl _
  | cons hx _ ih => exact ((hD _ _ _ hx).trans ih).weaken

theorem sepBy_steps {α} {sep : TokenKind} {D : Pos → α → Pos → Prop} (hD : ∀ p x p', D p x p' → Steps true p p')
    {p : Pos} {xs : List α} {p' : Pos} (h : SepBy sep D p xs p') : Steps true p p' := by
  induction h with
  | one hx _ => exact hD _ _ _ hx
  | cons hx hs _ ih => exact ((hD _ _ _ hx).trans (tok_steps hs)).trans ih

/-- the counting form (`xs.length + …`) bounds the fuel a loop needs -/
theorem many_le {α} {D : Pos → α → Pos → Prop} (hD : ∀ p x p', D p x p' → p'.ts.length < p.ts.length)
    {p : Pos} {xs : List α} {p' : Pos} (h : Many D p xs p') : xs.length + p'.ts.length ≤ p.ts.length := by
  induction h with
  | nil => simp
  | cons hx _ ih => have := hD _ _ _ hx; simp; omega

theorem sepBy_le {α} {sep : TokenKind} {D : Pos → α → Pos → Prop} (hD : ∀ p x p', D p x p' → p'.ts.length < p.ts.length)
    {p : Pos} {xs : List α} {p' : Pos} (h : SepBy sep D p xs p') : xs.length + p'.ts.length ≤ p.ts.length := by
  induction h with
  | one hx _ => have := hD _ _ _ hx; simp; omega
  | cons hx hs _ ih => have := hD _ _ _ hx; have := (tok_steps hs).lt; simp; omega

theorem dvariable_steps {p : Pos} {r : Name × Loc} {p' : Pos} (h : DVariable p r p') : Steps true p p' := by
  cases h with
  | mk hd hn => exact (tok_steps hd).trans (dname_steps hn)

mutual
theorem DValue.steps : ∀ {c p v p'}, DValue c p v p' → Steps true p p'
  | _, _, _, _, .var h => dvariable_steps h
  | _, _, _, _, .int h => tok_steps h
  | _, _, _, _, .float h => tok_steps h
  | _, _, _, _, .string h => tok_steps h
  | _, _, _, _, .blockString h => tok_steps h
  | _, _, _, _, .tru h => kw_steps h
  | _, _, _, _, .fls h => kw_steps h
  | _, _, _, _, .enum h _ _ _ => tok_steps h
  | _, _, _, _, .list ho hvs hc => ((tok_steps ho).trans (DValues.steps hvs)).trans (tok_steps hc)
  | _, _, _, _, .obj ho hfs hc => ((tok_steps ho).trans (DObjFields.steps hfs)).trans (tok_steps hc)
theorem DValues.steps : ∀ {c p vs p'}, DValues c p vs p' → Steps false p p'
  | _, _, _, _, .nil => .refl _
  | _, _, _, _, .cons hv hvs => ((DValue.steps hv).trans (DValues.steps hvs)).weaken
theorem DObjFields.steps : ∀ {c p fs p'}, DObjFields c p fs p' → Steps false p p'
  | _, _, _, _, .nil => .refl _
  | _, _, _, _, .cons hf hfs => ((DObjField.steps hf).trans (DObjFields.steps hfs)).weaken
theorem DObjField.steps : ∀ {c p f p'}, DObjField c p f p' → Steps true p p'
  | _, _, _, _, .mk hn hc hv => ((dname_steps hn).trans (tok_steps hc)).trans (DValue.steps hv)
end

theorem DValues.toMany : ∀ {c p vs p'}, DValues c p vs p' → Many (DValue c) p vs p'
  | _, _, _, _, .nil => .nil
  | _, _, _, _, .cons hv hvs => .cons hv (DValues.toMany hvs)

theorem DValues.ofMany {c : Bool} {p : Pos} {vs : List Value} {p' : Pos} (h : Many (DValue c) p vs p') : DValues c p vs p' := by
  induction h with
  | nil => exact .nil
  | cons hx _ ih => exact .cons hx ih

theorem DObjFields.toMany : ∀ {c p fs p'}, DObjFields c p fs p' → Many (DObjField c) p fs p'
  | _, _, _, _, .nil => .nil
  | _, _, _, _, .cons hf hfs => .cons hf (DObjFields.toMany hfs)

theorem DObjFields.ofMany {c : Bool} {p : Pos} {fs : List ObjField} {p' : Pos} (h : Many (DObjField c) p fs p') :
    DObjFields c p fs p' := by
  induction h with
  | nil => exact .nil
  | cons hx _ ih => exact .cons hx ih

theorem DValue.kind {c : Bool} {p : Pos} {v : Value} {p' : Pos} (h : DValue c p v p') :
    p.kind ≠ .bracketR ∧ p.kind ≠ .braceR ∧ p.kind ≠ .parenR := by
  have hk : ∀ {k : TokenKind} {t : Token} {q : Pos}, Tok k p t q → k ≠ .bracketR → k ≠ .braceR → k ≠ .parenR →
      p.kind ≠ .bracketR ∧ p.kind ≠ .braceR ∧ p.kind ≠ .parenR := by
    intro k t q ht h1 h2 h3
    rw [tok_kind ht]; exact ⟨h1, h2, h3⟩
  cases h with
  | var h => cases h with | mk hd _ => exact hk hd (by decide) (by decide) (by decide)
  | int h => exact hk h (by decide) (by decide) (by decide)
  | float h => exact hk h (by decide) (by decide) (by decide)
  | string h => exact hk h (by decide) (by decide) (by decide)
  | blockString h => exact hk h (by decide) (by decide) (by decide)
  | tru h => cases h with | mk ht _ => exact hk ht (by decide) (by decide) (by decide)
  | fls h => cases h with | mk ht _ => exact hk ht (by decide) (by decide) (by decide)
  | enum h _ _ _ => exact hk h (by decide) (by decide) (by decide)
  | list ho _ _ => exact hk ho (by decide) (by decide) (by decide)
  | obj ho _ _ => exact hk ho (by decide) (by decide) (by decide)

theorem DObjField.kind {c : Bool} {p : Pos} {f : ObjField} {p' : Pos} (h : DObjField c p f p') : p.kind = .name := by
  cases h with
  | mk hn _ _ => exact dname_kind hn

theorem dargument_steps {p : Pos} {a : Argument} {p' : Pos} (h : DArgument p a p') : Steps true p p' := by
  cases h with
  | mk hn hc hv => exact ((dname_steps hn).trans (tok_steps hc)).trans (DValue.steps hv)

theorem dargument_kind {p : Pos} {a : Argument} {p' : Pos} (h : DArgument p a p') : p.kind = .name := by
  cases h with
  | mk hn _ _ => exact dname_kind hn

theorem darguments_steps {p : Pos} {as : List Argument} {p' : Pos} (h : DArguments p as p') : Steps false p p' := by
  cases h with
  | none _ => exact .refl _
  | some ho hm _ hc => exact (((tok_steps ho).trans (many_steps (fun _ _ _ => dargument_steps) hm)).trans (tok_steps hc)).weaken

theorem ddirective_steps {p : Pos} {d : Directive} {p' : Pos} (h : DDirective p d p') : Steps true p p' := by
  cases h with
  | mk ha hn hargs => exact ((tok_steps ha).trans (dname_steps hn)).trans (darguments_steps hargs)

theorem ddirectives_steps {p : Pos} {ds : List Directive} {p' : Pos} (h : DDirectives p ds p') : Steps false p p' := by
  induction h with
  | nil _ => exact .refl _
  | cons hd _ ih => exact ((ddirective_steps hd).trans ih).weaken

theorem dnamedType_steps {p : Pos} {t : TypeRef} {p' : Pos} (h : DNamedType p t p') : Steps true p p' := by
  cases h with
  | mk hn => exact dname_steps hn

theorem dnamedType_kind {p : Pos} {t : TypeRef} {p' : Pos} (h : DNamedType p t p') : p.kind = .name := by
  cases h with
  | mk hn => exact dname_kind hn

mutual
theorem DBaseType.steps : ∀ {p t p'}, DBaseType p t p' → Steps true p p'
  | _, _, _, .named h => dnamedType_steps h
  | _, _, _, .list ho ht hc => ((tok_steps ho).trans (DType.steps ht)).trans (tok_steps hc)
theorem DType.steps : ∀ {p t p'}, DType p t p' → Steps true p p'
  | _, _, _, .plain h _ => DBaseType.steps h
  | _, _, _, .nonNull h hb => (DBaseType.steps h).trans (tok_steps hb)
end

theorem dfragmentName_steps {p : Pos} {n : Name} {p' : Pos} (h : DFragmentName p n p') : Steps true p p' := by
  cases h with
  | mk hn _ => exact dname_steps hn

theorem dtypeCondition_steps {p : Pos} {t : Option TypeRef} {p' : Pos} (h : DTypeCondition p t p') : Steps false p p' := by
  cases h with
  | none _ => exact .refl _
  | some hk ht => exact ((kw_steps hk).trans (dnamedType_steps ht)).weaken

mutual
theorem DSelectionSet.steps : ∀ {p s p'}, DSelectionSet p s p' → Steps true p p'
  | _, _, _, .mk ho hs _ hc => ((tok_steps ho).trans (DSelections.steps hs)).trans (tok_steps hc)
theorem DSelections.steps : ∀ {p ss p'}, DSelections p ss p' → Steps false p p'
  | _, _, _, .nil => .refl _
  | _, _, _, .cons h hs => ((DSelection.steps h).trans (DSelections.steps hs)).weaken
theorem DSelection.steps : ∀ {p s p'}, DSelection p s p' → Steps true p p'
  | _, _, _, .field hn _ ha hd hs =>
      (((dname_steps hn).trans (darguments_steps ha)).trans (ddirectives_steps hd)).trans (DOptSelectionSet.steps hs)
  | _, _, _, .aliased ha hc hn hargs hd hs =>
      (((((dname_steps ha).trans (tok_steps hc)).trans (dname_steps hn)).trans (darguments_steps hargs)).trans
        (ddirectives_steps hd)).trans (DOptSelectionSet.steps hs)
  | _, _, _, .spread hs hn hd => ((tok_steps hs).trans (dfragmentName_steps hn)).trans (ddirectives_steps hd)
  | _, _, _, .inline hs ht hd hss =>
      (((tok_steps hs).trans (dtypeCondition_steps ht)).trans (ddirectives_steps hd)).trans (DSelectionSet.steps hss)
theorem DOptSelectionSet.steps : ∀ {p s p'}, DOptSelectionSet p s p' → Steps false p p'
  | _, _, _, .none _ => .refl _
  | _, _, _, .some h => (DSelectionSet.steps h).weaken
end

theorem DSelections.toMany : ∀ {p ss p'}, DSelections p ss p' → Many DSelection p ss p'
  | _, _, _, .nil => .nil
  | _, _, _, .cons h hs => .cons h (DSelections.toMany hs)

theorem DSelections.ofMany {p : Pos} {ss : List Selection} {p' : Pos} (h : Many DSelection p ss p') : DSelections p ss p' := by
  induction h with
  | nil => exact .nil
  | cons hx _ ih => exact .cons hx ih

theorem DSelection.kind {p : Pos} {s : Selection} {p' : Pos} (h : DSelection p s p') : p.kind ≠ .braceR := by
  cases h with
  | field hn _ _ _ _ => rw [dname_kind hn]; decide
  | aliased ha _ _ _ _ _ => rw [dname_kind ha]; decide
  | spread hs _ _ => rw [tok_kind hs]; decide
  | inline hs _ _ _ => rw [tok_kind hs]; decide

theorem dopType_steps {p : Pos} {op : OpType} {p' : Pos} (h : DOpType p op p') : Steps true p p' := by
  cases h <;> (rename_i hk; exact kw_steps hk)

theorem dopType_kind {p : Pos} {op : OpType} {p' : Pos} (h : DOpType p op p') : p.kind = .name := by
  cases h <;> (rename_i hk; exact kw_kind hk)

theorem ddefault_steps {p : Pos} {d : Option Value} {p' : Pos} (h : DDefault p d p') : Steps false p p' := by
  cases h with
  | none _ => exact .refl _
  | some hq hv => exact ((tok_steps hq).trans (DValue.steps hv)).weaken

theorem dvarDef_steps {p : Pos} {v : VarDef} {p' : Pos} (h : DVarDef p v p') : Steps true p p' := by
  cases h with
  | mk hv hc ht hd => exact (((dvariable_steps hv).trans (tok_steps hc)).trans (DType.steps ht)).trans (ddefault_steps hd)

theorem dvarDef_kind {p : Pos} {v : VarDef} {p' : Pos} (h : DVarDef p v p') : p.kind = .dollar := by
  cases h with
  | mk hv _ _ _ => cases hv with | mk hd _ => exact tok_kind hd

theorem dvarDefs_steps {p : Pos} {vs : List VarDef} {p' : Pos} (h : DVarDefs p vs p') : Steps false p p' := by
  cases h with
  | none _ => exact .refl _
  | some ho hm _ hc => exact (((tok_steps ho).trans (many_steps (fun _ _ _ => dvarDef_steps) hm)).trans (tok_steps hc)).weaken

theorem doptName_steps {p : Pos} {n : Option Name} {p' : Pos} (h : DOptName p n p') : Steps false p p' := by
  cases h with
  | none _ => exact .refl _
  | some hn => exact (dname_steps hn).weaken

theorem ddescription_steps {p : Pos} {d : Option String} {p' : Pos} (h : DDescription p d p') : Steps false p p' := by
  cases h with
  | none _ _ => exact .refl _
  | string ht => exact (tok_steps ht).weaken
  | blockString ht => exact (tok_steps ht).weaken

theorem ddescription_kind {p : Pos} {d : Option String} {p1 : Pos} (h : DDescription p d p1) (hk : p1.kind = .name) :
    p.kind = .name ∨ p.kind = .string ∨ p.kind = .blockString := by
  cases h with
  | none _ _ => exact .inl hk
  | string ht => exact .inr (.inl (tok_kind ht))
  | blockString ht => exact .inr (.inr (tok_kind ht))

theorem dopTypeDef_steps {p : Pos} {d : OpTypeDef} {p' : Pos} (h : DOpTypeDef p d p') : Steps true p p' := by
  cases h with
  | mk ho hc ht => exact ((dopType_steps ho).trans (tok_steps hc)).trans (dnamedType_steps ht)

theorem dopTypeDef_kind {p : Pos} {d : OpTypeDef} {p' : Pos} (h : DOpTypeDef p d p') : p.kind = .name := by
  cases h with
  | mk ho _ _ => exact dopType_kind ho

theorem dimplements_steps {p : Pos} {ts : List TypeRef} {p' : Pos} (h : DImplements p ts p') : Steps false p p' := by
  cases h with
  | none _ => exact .refl _
  | plain hk _ hs => exact ((kw_steps hk).trans (sepBy_steps (fun _ _ _ => dnamedType_steps) hs)).weaken
  | leadingAmp hk ha hs =>
    exact (((kw_steps hk).trans (tok_steps ha)).trans (sepBy_steps (fun _ _ _ => dnamedType_steps) hs)).weaken

theorem dinputValueDef_steps {p : Pos} {d : InputValueDef} {p' : Pos} (h : DInputValueDef p d p') : Steps true p p' := by
  cases h with
  | mk hde hn hc ht hd hdirs =>
    exact (((((ddescription_steps hde).trans (dname_steps hn)).trans (tok_steps hc)).trans (DType.steps ht)).trans
      (ddefault_steps hd)).trans (ddirectives_steps hdirs)

theorem dinputValueDef_kind {p : Pos} {d : InputValueDef} {p' : Pos} (h : DInputValueDef p d p') :
    p.kind = .name ∨ p.kind = .string ∨ p.kind = .blockString := by
  cases h with
  | mk hde hn _ _ _ _ => exact ddescription_kind hde (dname_kind hn)

theorem dargumentDefs_steps {p : Pos} {ds : List InputValueDef} {p' : Pos} (h : DArgumentDefs p ds p') : Steps false p p' := by
  cases h with
  | none _ => exact .refl _
  | some ho hm _ hc =>
    exact (((tok_steps ho).trans (many_steps (fun _ _ _ => dinputValueDef_steps) hm)).trans (tok_steps hc)).weaken

theorem dfieldDef_steps {p : Pos} {d : FieldDef} {p' : Pos} (h : DFieldDef p d p') : Steps true p p' := by
  cases h with
  | mk hde hn ha hc ht hdirs =>
    exact (((((ddescription_steps hde).trans (dname_steps hn)).trans (dargumentDefs_steps ha)).trans (tok_steps hc)).trans
      (DType.steps ht)).trans (ddirectives_steps hdirs)

theorem dfieldDef_kind {p : Pos} {d : FieldDef} {p' : Pos} (h : DFieldDef p d p') :
    p.kind = .name ∨ p.kind = .string ∨ p.kind = .blockString := by
  cases h with
  | mk hde hn _ _ _ _ => exact ddescription_kind hde (dname_kind hn)

theorem denumValueDef_steps {p : Pos} {d : EnumValueDef} {p' : Pos} (h : DEnumValueDef p d p') : Steps true p p' := by
  cases h with
  | mk hde hn hdirs => exact ((ddescription_steps hde).trans (dname_steps hn)).trans (ddirectives_steps hdirs)

theorem denumValueDef_kind {p : Pos} {d : EnumValueDef} {p' : Pos} (h : DEnumValueDef p d p') :
    p.kind = .name ∨ p.kind = .string ∨ p.kind = .blockString := by
  cases h with
  | mk hde hn _ => exact ddescription_kind hde (dname_kind hn)

theorem braced_steps {α} {b : Bool} {D : Pos → α → Pos → Prop} (hD : ∀ p x p', D p x p' → Steps b p p')
    {p : Pos} {xs : List α} {p' : Pos} (h : Braced D p xs p') : Steps true p p' := by
  cases h with
  | mk ho hm hc => exact ((tok_steps ho).trans (many_steps hD hm)).trans (tok_steps hc)

theorem dobjectDef_steps {p : Pos} {d : ObjectDef} {p' : Pos} (h : DObjectDef p d p') : Steps true p p' := by
  cases h with
  | mk hde hk hn hi hd hb =>
    exact (((((ddescription_steps hde).trans (kw_steps hk)).trans (dname_steps hn)).trans (dimplements_steps hi)).trans
      (ddirectives_steps hd)).trans (braced_steps (fun _ _ _ => dfieldDef_steps) hb)

theorem ddefinition_steps {p : Pos} {d : Definition} {p' : Pos} (h : DDefinition p d p') : Steps true p p' := by
  cases h with
  | query hs => exact DSelectionSet.steps hs
  | operation ho hn hv hd hs =>
    exact ((((dopType_steps ho).trans (doptName_steps hn)).trans (dvarDefs_steps hv)).trans (ddirectives_steps hd)).trans
      (DSelectionSet.steps hs)
  | fragment hk hn hk2 ht hd hs =>
    exact (((((kw_steps hk).trans (dfragmentName_steps hn)).trans (kw_steps hk2)).trans (dnamedType_steps ht)).trans
      (ddirectives_steps hd)).trans (DSelectionSet.steps hs)
  | schema hk hd ho hm _ hc =>
    exact ((((kw_steps hk).trans (ddirectives_steps hd)).trans (tok_steps ho)).trans
      (many_steps (fun _ _ _ => dopTypeDef_steps) hm)).trans (tok_steps hc)
  | scalar hde hk hn hd =>
    exact (((ddescription_steps hde).trans (kw_steps hk)).trans (dname_steps hn)).trans (ddirectives_steps hd)
  | object ho => exact dobjectDef_steps ho
  | interface hde hk hn hd hb =>
    exact ((((ddescription_steps hde).trans (kw_steps hk)).trans (dname_steps hn)).trans (ddirectives_steps hd)).trans
      (braced_steps (fun _ _ _ => dfieldDef_steps) hb)
  | union hde hk hn hd hq hs =>
    exact (((((ddescription_steps hde).trans (kw_steps hk)).trans (dname_steps hn)).trans (ddirectives_steps hd)).trans
      (tok_steps hq)).trans (sepBy_steps (fun _ _ _ => dnamedType_steps) hs)
  | enum hde hk hn hd hb =>
    exact ((((ddescription_steps hde).trans (kw_steps hk)).trans (dname_steps hn)).trans (ddirectives_steps hd)).trans
      (braced_steps (fun _ _ _ => denumValueDef_steps) hb)
  | inputObject hde hk hn hd hb =>
    exact ((((ddescription_steps hde).trans (kw_steps hk)).trans (dname_steps hn)).trans (ddirectives_steps hd)).trans
      (braced_steps (fun _ _ _ => dinputValueDef_steps) hb)
  | extend hk ho => exact (kw_steps hk).trans (dobjectDef_steps ho)
  | directive hde hk ha hn hargs hk2 hs =>
    exact ((((((ddescription_steps hde).trans (kw_steps hk)).trans (tok_steps ha)).trans (dname_steps hn)).trans
      (dargumentDefs_steps hargs)).trans (kw_steps hk2)).trans (sepBy_steps (fun _ _ _ => dname_steps) hs)

theorem tok_lt {k : TokenKind} {p : Pos} {t : Token} {p' : Pos} (h : Tok k p t p') : p'.ts.length < p.ts.length :=
  (tok_steps h).lt

theorem dname_lt {p : Pos} {n : Name} {p' : Pos} (h : DName p n p') : p'.ts.length < p.ts.length :=
  (dname_steps h).lt

theorem dargument_lt {p : Pos} {a : Argument} {p' : Pos} (h : DArgument p a p') : p'.ts.length < p.ts.length :=
  (dargument_steps h).lt

theorem darguments_le {p : Pos} {as : List Argument} {p' : Pos} (h : DArguments p as p') : p'.ts.length ≤ p.ts.length :=
  (darguments_steps h).le

theorem ddirective_lt {p : Pos} {d : Directive} {p' : Pos} (h : DDirective p d p') : p'.ts.length < p.ts.length :=
  (ddirective_steps h).lt

theorem dnamedType_lt {p : Pos} {t : TypeRef} {p' : Pos} (h : DNamedType p t p') : p'.ts.length < p.ts.length :=
  (dnamedType_steps h).lt

theorem dvarDef_lt {p : Pos} {v : VarDef} {p' : Pos} (h : DVarDef p v p') : p'.ts.length < p.ts.length :=
  (dvarDef_steps h).lt

theorem dopTypeDef_lt {p : Pos} {d : OpTypeDef} {p' : Pos} (h : DOpTypeDef p d p') : p'.ts.length < p.ts.length :=
  (dopTypeDef_steps h).lt

theorem dinputValueDef_lt {p : Pos} {d : InputValueDef} {p' : Pos} (h : DInputValueDef p d p') : p'.ts.length < p.ts.length :=
  (dinputValueDef_steps h).lt

theorem dfieldDef_lt {p : Pos} {d : FieldDef} {p' : Pos} (h : DFieldDef p d p') : p'.ts.length < p.ts.length :=
  (dfieldDef_steps h).lt

theorem denumValueDef_lt {p : Pos} {d : EnumValueDef} {p' : Pos} (h : DEnumValueDef p d p') : p'.ts.length < p.ts.length :=
  (denumValueDef_steps h).lt

theorem manyDefinitions_ne {p : Pos} {ds : List Definition} {p' : Pos} (h : Many DDefinition p ds p') (hne : ds ≠ []) :
    p.ts ≠ [] := by
  cases h with
  | nil => exact absurd rfl hne
  | cons hD _ => exact (ddefinition_steps hD).ne

theorem ddefinition_lt {p : Pos} {d : Definition} {p' : Pos} (h : DDefinition p d p') : p'.ts.length < p.ts.length :=
  (ddefinition_steps h).lt

theorem DValue.lt {c : Bool} {p : Pos} {v : Value} {p' : Pos} (h : DValue c p v p') : p'.ts.length < p.ts.length :=
  (DValue.steps h).lt

theorem DObjField.lt {c : Bool} {p : Pos} {f : ObjField} {p' : Pos} (h : DObjField c p f p') : p'.ts.length < p.ts.length :=
  (DObjField.steps h).lt

theorem DValues.le {c : Bool} {p : Pos} {vs : List Value} {p' : Pos} (h : DValues c p vs p') :
    vs.length + p'.ts.length ≤ p.ts.length :=
  many_le (fun _ _ _ => DValue.lt) (DValues.toMany h)

theorem DObjFields.le {c : Bool} {p : Pos} {fs : List ObjField} {p' : Pos} (h : DObjFields c p fs p') :
    fs.length + p'.ts.length ≤ p.ts.length :=
  many_le (fun _ _ _ => DObjField.lt) (DObjFields.toMany h)

theorem ddirectives_le {p : Pos} {ds : List Directive} {p' : Pos} (h : DDirectives p ds p') :
    ds.length + p'.ts.length ≤ p.ts.length := by
  induction h with
  | nil _ => simp
  | cons hd _ ih => have := ddirective_lt hd; simp; omega

theorem DBaseType.lt {p : Pos} {t : TypeRef} {p' : Pos} (h : DBaseType p t p') : p'.ts.length < p.ts.length :=
  (DBaseType.steps h).lt

theorem DType.lt {p : Pos} {t : TypeRef} {p' : Pos} (h : DType p t p') : p'.ts.length < p.ts.length :=
  (DType.steps h).lt

theorem DSelectionSet.lt {p : Pos} {s : SelectionSet} {p' : Pos} (h : DSelectionSet p s p') : p'.ts.length < p.ts.length :=
  (DSelectionSet.steps h).lt

theorem DSelection.lt {p : Pos} {s : Selection} {p' : Pos} (h : DSelection p s p') : p'.ts.length < p.ts.length :=
  (DSelection.steps h).lt

theorem DSelections.le {p : Pos} {ss : List Selection} {p' : Pos} (h : DSelections p ss p') :
    ss.length + p'.ts.length ≤ p.ts.length :=
  many_le (fun _ _ _ => DSelection.lt) (DSelections.toMany h)

theorem DOptSelectionSet.le : ∀ {p s p'}, DOptSelectionSet p s p' → p'.ts.length ≤ p.ts.length :=
  fun h => (DOptSelectionSet.steps h).le

end GqlModel.Grammar
