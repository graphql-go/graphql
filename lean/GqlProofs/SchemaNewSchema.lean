import GqlProofs.SchemaClosure
import GqlProofs.SchemaConsistent
/-! C11: `NewSchema` and `AppendType`. Each returns a schema whose type map is good (`Good`) and is the closure of the
roots / of the appended types, or an ordinary error, and an error only if no safe universe that passes the interface
assertions holds them (`newSchema_outcome`, `appendAll_outcome`). -/
namespace GqlModel.SchemaBuild

variable {cfg : Config}

theorem dirArgsErr_none (as : List ArgCfg) (h : dirArgsErr cfg as = none) :
    ∀ a ∈ as, isInputType cfg a.type.build = true := by
  fun_induction dirArgsErr cfg as
  case case1 => exact fun _ h => nomatch h
  -- the argument passes all four tests of the loop
  case case6 a rest _ _ _ hin ih => exact List.forall_mem_cons.mpr ⟨by simpa using hin, ih h⟩
  all_goals cases h

theorem specified_input (cfg : Config) :
    isInputType cfg (.nonNull (.ref idBoolean)) = true ∧ isInputType cfg (.ref idString) = true := by
  unfold isInputType leafKind kindOf
  simp only [TRef.strip]
  rw [get_builtin cfg (i := idBoolean) (by decide), get_builtin cfg (i := idString) (by decide)]
  decide

theorem dirArgTypes_input (h : cfg.directives.findSome? (dirErr cfg) = none) :
    ∀ t ∈ dirArgTypes cfg, isInputType cfg t = true := by
  intro t ht
  rcases mem_dirArgTypes ht with rfl | rfl | ⟨d, a, hd, ha, rfl⟩
  · exact (specified_input cfg).1
  · exact (specified_input cfg).2
  · have hde := List.findSome?_eq_none_iff.mp h _ hd
    simp only [dirErr, dirCtorErr] at hde
    -- the name and the locations of the directive passed; what is left is the loop over its arguments
    split at hde
    · cases hde
    · split at hde
      · cases hde
      · exact dirArgsErr_none _ hde a ((mem_sortBy _ a _).mpr ha)

/-- the checks of `NewSchema` that precede the type map do not depend on `Types` -/
def UpfrontChecks (cfg : Config) : Prop :=
  ∃ q, cfg.query = some q ∧ ctorErr cfg q = none ∧ cfg.mutation.bind (ctorErr cfg) = none ∧
    cfg.directives.findSome? (dirErr cfg) = none

theorem newSchemaTM_cases (cfg : Config) (more : List TRef) :
    (UpfrontChecks cfg ∧ newSchemaTM cfg more = reduceRoots cfg [] (rootRefs cfg more)) ∨
    (¬ UpfrontChecks cfg ∧ ∃ e, newSchemaTM cfg more = .error e ∧ e.isCrash = false) := by
  unfold newSchemaTM UpfrontChecks
  cases hq : cfg.query with
  | none => exact .inr ⟨fun ⟨_, h, _⟩ => (nomatch h), _, rfl, rfl⟩
  | some q =>
    cases h1 : ctorErr cfg q with
    | some e =>
      exact .inr ⟨fun ⟨_, h, h', _⟩ => (by cases h; rw [h1] at h'; cases h'), e, by simp only [h1], ctorErr_noCrash h1⟩
    | none =>
      cases h2 : cfg.mutation.bind (ctorErr cfg) with
      | some e =>
        refine .inr ⟨fun ⟨_, _, _, h, _⟩ => (nomatch h), e, by simp only [h1], ?_⟩
        obtain ⟨m, _, hm⟩ := Option.bind_eq_some_iff.mp h2
        exact ctorErr_noCrash hm
      | none =>
        cases h3 : cfg.directives.findSome? (dirErr cfg) with
        | some e =>
          exact .inr ⟨fun ⟨_, _, _, _, h⟩ => (nomatch h), e, by simp only [h1],
            findSome?_pred (P := fun e => e.isCrash = false) (fun _ _ hb => dirErr_noCrash hb) _ _ h3⟩
        | none => exact .inl ⟨⟨q, rfl, h1, rfl, rfl⟩, by simp only [h1]⟩

theorem isPossibleScan_of_sub {tm U : TM} (hU : Inv cfg U) (hsub : Sub tm U) {a o : Nat} (ho : o ∈ tm) :
    isPossibleScan cfg tm a o = isPossibleScan cfg U a o := by
  unfold isPossibleScan possibleTypesOf
  cases hka : kindOf cfg a with
  | interface =>
    simp only
    rw [Bool.eq_iff_iff]
    simp only [List.any_eq_true, beq_iff_eq]
    constructor
    · rintro ⟨p, hp, hn⟩
      refine ⟨p, ?_, hn⟩
      rw [mem_implsOf] at hp ⊢
      exact ⟨⟨hsub p hp.1.1, hp.1.2⟩, hp.2⟩
    · rintro ⟨p, hp, hn⟩
      rw [mem_implsOf] at hp
      have : p = o := inv_name_inj hU hp.1.1 (hsub o ho) hn
      subst this
      exact ⟨p, (mem_implsOf cfg).mpr ⟨⟨ho, hp.1.2⟩, hp.2⟩, rfl⟩
  | union => rfl
  | scalar => rfl
  | object => rfl
  | enum => rfl
  | inputObject => rfl
  | list => rfl
  | nonNull => rfl

theorem assertAll_of_sub {tm U : TM} (hU : Inv cfg U) (hsub : Sub tm U) (hcl : ∀ i ∈ tm, ClosedE cfg tm i)
    (h : assertAll cfg U = none) : assertAll cfg tm = none := by
  unfold assertAll at h ⊢
  rw [List.findSome?_eq_none_iff] at h ⊢
  intro o ho
  obtain ⟨hom, hko⟩ := (mem_objects cfg).mp ho
  have h1 := h o ((mem_objects cfg).mpr ⟨hsub o hom, hko⟩)
  rw [List.findSome?_eq_none_iff] at h1 ⊢
  intro i hi
  have h2 := h1 i hi
  rw [← h2]
  refine conformsTo_congr _ _ _ _ _ fun ofield hofm f _ a x hx _ _ _ => ?_
  obtain ⟨x', hx', _, hxm⟩ := (hcl o hom).built.2 _ (field_type_mem_typeRefs hofm)
  rw [hx] at hx'; cases hx'
  exact isPossibleScan_of_sub hU hsub hxm

theorem Good.of_roots {tm : TM} {more : List TRef} (sp : RootsSpec (cfg := cfg) [] (rootRefs cfg more) tm) (hp : UpfrontChecks cfg)
    (ha : assertAll cfg tm = none) : Good cfg tm := by
  obtain ⟨q, hq, _, _, hd⟩ := hp
  have hdir := dirArgTypes_input hd
  have hroot : ∀ i, TRef.ref i ∈ rootRefs cfg more → i ∈ tm := fun i hi => visited_ref (sp.visited _ hi)
  refine ⟨sp.inv, sp.closed, ⟨q, hq, hroot q ?_⟩, ?_, ?_, hroot idSchema ?_, ?_, ha⟩
  · simp [rootRefs, optRoot, hq]
  · intro m hm; apply hroot; simp [rootRefs, optRoot, hm]
  · intro m hm; apply hroot; simp [rootRefs, optRoot, hm]
  · simp [rootRefs]
  · intro t ht
    obtain ⟨j, hj, _⟩ := isInputType_named (hdir t ht)
    exact ⟨hdir t ht, (sp.visited t (by simp only [rootRefs, List.mem_append]; exact Or.inr ht)).resolve_left
      fun h => by rw [hj] at h; cases h⟩

def NewOutcome (cfg : Config) (more : List TRef) : Except Err St → Prop
  | .ok s => Good cfg s.tm ∧ RootsSpec (cfg := cfg) [] (rootRefs cfg more) s.tm ∧ UpfrontChecks cfg
  | .error e => e.isCrash = false ∧ ∀ U, Safe (cfg := cfg) U → assertAll cfg U = none → UpfrontChecks cfg →
      ¬ ∀ t ∈ rootRefs cfg more, RootOk cfg U t

theorem newSchema_outcome (cfg : Config) (more : List TRef) : NewOutcome cfg more (newSchema cfg more) := by
  unfold newSchema
  rcases newSchemaTM_cases cfg more with ⟨hp, heq⟩ | ⟨hnp, e, heq, hc⟩
  · have o := reduceRoots_outcome (cfg := cfg) (rootRefs cfg more) [] (rootRefs_built more)
      ⟨fun _ hi => (nomatch hi), List.Pairwise.nil⟩ (fun _ hi => nomatch hi)
    rw [heq]
    cases hr : reduceRoots cfg [] (rootRefs cfg more) with
    | error e =>
      rw [hr] at o
      exact ⟨o.1, fun U hU _ _ => o.2 U hU fun _ he => nomatch he⟩
    | ok tm =>
      rw [hr] at o
      have sp : RootsSpec (cfg := cfg) [] (rootRefs cfg more) tm := o
      simp only [finishTM]
      cases ha : assertAll cfg tm with
      | none => exact ⟨Good.of_roots sp hp ha, sp, hp⟩
      | some e =>
        refine ⟨assertAll_noCrash ha, fun U hU hass _ h => ?_⟩
        rw [assertAll_of_sub hU.inv (sp.within hU (fun _ he => nomatch he) h) sp.closed hass] at ha
        cases ha
  · rw [heq]; exact ⟨hc, fun _ _ _ hp => absurd hp hnp⟩

theorem newSchema_spec {s : St} {more : List TRef} (h : newSchema cfg more = .ok s) :
    Good cfg s.tm ∧ RootsSpec (cfg := cfg) [] (rootRefs cfg more) s.tm ∧ UpfrontChecks cfg := by
  have o := newSchema_outcome cfg more; rwa [h] at o

theorem newSchema_good {s : St} {more : List TRef} (h : newSchema cfg more = .ok s) : Good cfg s.tm :=
  (newSchema_spec h).1

theorem newSchema_noCrash {more : List TRef} {e : Err} (h : newSchema cfg more = .error e) : e.isCrash = false := by
  have o := newSchema_outcome cfg more; rw [h] at o; exact o.1

theorem newSchema_in_safe {U : TM} (hU : Safe (cfg := cfg) U) (hass : assertAll cfg U = none) (hp : UpfrontChecks cfg)
    (more : List TRef) (hroots : ∀ t ∈ rootRefs cfg more, RootOk cfg U t) :
    ∃ s, newSchema cfg more = .ok s ∧ Sub s.tm U := by
  have o := newSchema_outcome cfg more
  cases h : newSchema cfg more with
  | error e => rw [h] at o; exact absurd hroots (o.2 U hU hass hp)
  | ok s =>
    rw [h] at o
    exact ⟨s, rfl, o.2.1.within hU (fun _ he => nomatch he) hroots⟩

/-- what a sequence of `AppendType` calls establishes -/
structure AppendSpec (s : St) (ys : List TRef) (s' : St) : Prop where
  sub : ∀ e ∈ s.tm, e ∈ s'.tm
  visited : ∀ y ∈ ys, Visited cfg s'.tm y.build
  reach : ∀ e ∈ s'.tm, e ∉ s.tm → ∃ y ∈ ys, ∃ r, y.build.strip = .named r ∧ Reach cfg r e
  topOk : ∀ y ∈ ys, y.build = .nil ∨ topErr cfg y.build = none

theorem AppendSpec.nil (s : St) : AppendSpec (cfg := cfg) s [] s :=
  ⟨fun _ he => he, fun _ hy => (nomatch hy), fun _ he hne => absurd he hne, fun _ hy => nomatch hy⟩

theorem AppendSpec.one {s : St} {t : TRef} {tm1 : TM} (sp : Spec cfg s.tm t.build tm1)
    (htop : t.build = .nil ∨ topErr cfg t.build = none) : AppendSpec (cfg := cfg) s [t] ⟨tm1⟩ :=
  ⟨sp.sub, fun _ hy => List.mem_singleton.mp hy ▸ sp.visited, fun e he hne =>
    let ⟨r, hr⟩ := sp.reach e he hne
    ⟨t, List.mem_singleton.mpr rfl, r, hr⟩, fun _ hy => List.mem_singleton.mp hy ▸ htop⟩

/-- `AppendSpec` keeps `sub` where the closure records keep `ext`, so it composes on its own -/
theorem AppendSpec.cons {s s1 s' : St} {t : TRef} {rest : List TRef} (sp1 : AppendSpec (cfg := cfg) s [t] s1)
    (sp2 : AppendSpec (cfg := cfg) s1 rest s') : AppendSpec (cfg := cfg) s (t :: rest) s' := by
  have ht : t ∈ [t] := List.mem_singleton.mpr rfl
  refine ⟨fun e he => sp2.sub e (sp1.sub e he),
    List.forall_mem_cons.mpr ⟨(sp1.visited t ht).mono sp2.sub, sp2.visited⟩, fun e he hne => ?_,
    List.forall_mem_cons.mpr ⟨sp1.topOk t ht, sp2.topOk⟩⟩
  by_cases h1m : e ∈ s1.tm
  · obtain ⟨y, hy, r⟩ := sp1.reach e h1m hne
    exact ⟨y, List.mem_singleton.mp hy ▸ List.mem_cons_self .., r⟩
  · obtain ⟨y, hy, r⟩ := sp2.reach e he h1m
    exact ⟨y, List.mem_cons_of_mem _ hy, r⟩

theorem AppendSpec.rootOk {s s' : St} {ts : List TRef} (sp : AppendSpec (cfg := cfg) s ts s') :
    ∀ y ∈ ts, RootOk cfg s'.tm y.build :=
  fun y hy => (sp.topOk y hy).imp_right fun h => ⟨h, sp.visited y hy⟩

theorem AppendSpec.within {s s' : St} {ts : List TRef} {U : TM} (sp : AppendSpec (cfg := cfg) s ts s')
    (hU : Safe (cfg := cfg) U) (hsub : Sub s.tm U) (hr : ∀ y ∈ ts, RootOk cfg U y.build) : Sub s'.tm U :=
  hU.within hsub fun e he hm =>
    let ⟨y, hy, r, hs, hre⟩ := sp.reach e he hm
    ⟨r, visited_named (hr y hy).visited hs, hre⟩

theorem Good.extend {tm tm' : TM} {t : TRef} (g : Good cfg tm) (sp : Spec cfg tm t tm') (has : assertAll cfg tm' = none) :
    Good cfg tm' :=
  have sub := sp.sub
  let ⟨q, hq, hqm⟩ := g.query
  ⟨sp.inv, sp.closed_all g.closed, ⟨q, hq, sub q hqm⟩, fun m hm => sub m (g.mutation m hm),
    fun m hm => sub m (g.subscription m hm), sub _ g.schemaType,
    fun t ht => ⟨(g.dirArgs t ht).1, (g.dirArgs t ht).2.mono sub⟩, has⟩

def AppendOutcome (cfg : Config) (s : St) (ts : List TRef) : Except Err St → Prop
  | .ok s' => Good cfg s'.tm ∧ AppendSpec (cfg := cfg) s ts s'
  | .error e => e.isCrash = false ∧ ∀ U, Safe (cfg := cfg) U → assertAll cfg U = none → Sub s.tm U →
      ¬ ∀ y ∈ ts, RootOk cfg U y.build

theorem appendType_outcome {s : St} (g : Good cfg s.tm) (t : TRef) : AppendOutcome cfg s [t] (appendType cfg s t) := by
  unfold appendType appendTM
  by_cases hnil : t.build = .nil
  · simp only [hnil, beq_self_eq_true, if_true]
    exact ⟨g, .one (Spec.same g.inv (Or.inl (by rw [hnil]; rfl))) (Or.inl hnil)⟩
  · simp only [show (t.build == TRef.nil) = false by simpa using hnil, Bool.false_eq_true, if_false]
    have root : ∀ {U : TM}, (∀ y ∈ [t], RootOk cfg U y.build) → topErr cfg t.build = none ∧ Visited cfg U t.build :=
      fun h => (h t (List.mem_singleton.mpr rfl)).resolve_left hnil
    cases hte : topErr cfg t.build with
    | some e =>
      exact ⟨topErr_build_noCrash hte, fun U _ _ _ h => by have := (root h).1; rw [hte] at this; cases this⟩
    | none =>
      have o := reduce_outcome (cfg.size + 1) s.tm t.build (Nat.lt_succ_of_le (unregistered_le s.tm)) g.inv
        (build_strip_ne_nilPtr t)
      simp only
      cases hr : reduce cfg (cfg.size + 1) s.tm t.build with
      | error e =>
        rw [hr] at o
        exact ⟨o.1, fun U hU _ hsub h => o.2 U hU hsub (root h).2⟩
      | ok tm1 =>
        rw [hr] at o
        have sp : Spec cfg s.tm t.build tm1 := o
        simp only [finishTM]
        cases has : assertAll cfg tm1 with
        | none => exact ⟨g.extend sp has, .one sp (Or.inr hte)⟩
        | some e =>
          refine ⟨assertAll_noCrash has, fun U hU hass hsub h => ?_⟩
          rw [assertAll_of_sub hU.inv (sp.within hU hsub (root h).2) (sp.closed_all g.closed) hass] at has
          cases has

theorem appendAll_outcome : ∀ (ts : List TRef) (s : St), Good cfg s.tm → AppendOutcome cfg s ts (appendAll cfg s ts) := by
  intro ts
  induction ts with
  | nil => exact fun s g => ⟨g, .nil s⟩
  | cons t rest ih =>
    intro s g
    have o1 := appendType_outcome g t
    simp only [appendAll]
    cases h1 : appendType cfg s t with
    | error e =>
      rw [h1] at o1
      exact ⟨o1.1, fun U hU hass hsub h => o1.2 U hU hass hsub fun y hy =>
        h y (List.mem_cons.mpr (Or.inl (List.mem_singleton.mp hy)))⟩
    | ok s1 =>
      rw [h1] at o1
      obtain ⟨g1, sp1⟩ := o1
      have o2 := ih s1 g1
      simp only
      cases h2 : appendAll cfg s1 rest with
      | ok s' => rw [h2] at o2; exact ⟨o2.1, sp1.cons o2.2⟩
      | error e =>
        rw [h2] at o2
        refine ⟨o2.1, fun U hU hass hsub h => ?_⟩
        obtain ⟨ht, hrest⟩ := List.forall_mem_cons.mp h
        exact o2.2 U hU hass (sp1.within hU hsub fun _ hy => List.mem_singleton.mp hy ▸ ht) hrest

theorem appendAll_spec {ts : List TRef} {s s' : St} (g : Good cfg s.tm) (h : appendAll cfg s ts = .ok s') :
    Good cfg s'.tm ∧ AppendSpec (cfg := cfg) s ts s' := by
  have o := appendAll_outcome ts s g; rwa [h] at o

theorem appendAll_good {ts : List TRef} {s s' : St} (g : Good cfg s.tm) (h : appendAll cfg s ts = .ok s') :
    Good cfg s'.tm :=
  (appendAll_spec g h).1

theorem appendAll_noCrash {ts : List TRef} {s : St} {e : Err} (g : Good cfg s.tm) (h : appendAll cfg s ts = .error e) :
    e.isCrash = false := by
  have o := appendAll_outcome ts s g; rw [h] at o; exact o.1

theorem appendAll_in_safe {U : TM} (hU : Safe (cfg := cfg) U) (hass : assertAll cfg U = none) {ts : List TRef} {s : St}
    (g : Good cfg s.tm) (hsub : Sub s.tm U) (hr : ∀ y ∈ ts, RootOk cfg U y.build) :
    ∃ s', appendAll cfg s ts = .ok s' ∧ Sub s'.tm U := by
  have o := appendAll_outcome ts s g
  cases h : appendAll cfg s ts with
  | error e => rw [h] at o; exact absurd hr (o.2 U hU hass hsub)
  | ok s' => rw [h] at o; exact ⟨s', rfl, o.2.within hU hsub hr⟩

end GqlModel.SchemaBuild
