import GqlProofs.IntrospectionDefaults
import GqlProofs.Introspection
/-! # Helper lemmas for C10's `default_roundtrip`: values

`coerceLit t (astFromValue t v) = v` for every conformant `v` (mutual induction over the value): leaves by case analysis
over the named type (numbers through the rendering lemmas of `IntrospectionDefaults.lean`, enums through the uniqueness of value names, custom
scalars through the conformance condition on their `parseLiteral` table), lists element-wise, input objects through
`assemble_id` (the loop over the declared fields gives back a canonical object). -/
namespace GqlModel.Introspection

theorem JVal.beq_sound : (∀ a b, JVal.beq a b = true → a = b) ∧
    (∀ a b, JVal.beqFields a b = true → a = b) ∧ (∀ a b, JVal.beqList a b = true → a = b) := by
  apply JVal.beq.mutual_induct (motive_1 := fun a b => JVal.beq a b = true → a = b)
    (motive_2 := fun a b => JVal.beqFields a b = true → a = b) (motive_3 := fun a b => JVal.beqList a b = true → a = b)
  -- the fall-through cases, where the function answers `false`: two values of different constructors (case8), lists
  -- (case11) and field lists (case14) of which one is empty and the other is not
  case case8 => intro t x _ _ _ _ _ _ _ h; rw [JVal.beq] at h; cases h; all_goals assumption
  case case11 => intro t x _ _ h; rw [JVal.beqList] at h; cases h; all_goals assumption
  case case14 => intro t x _ _ h; rw [JVal.beqFields] at h; cases h; all_goals assumption
  all_goals intros
  all_goals simp_all [JVal.beq, JVal.beqList, JVal.beqFields]

theorem JVal.eq_of_beq : ∀ (a b : JVal), JVal.beq a b = true → a = b := JVal.beq_sound.1
theorem JVal.eq_of_beqList : ∀ (a b : List JVal), JVal.beqList a b = true → a = b := JVal.beq_sound.2.2

theorem JVal.eq_of_beq' {a b : JVal} (h : (a == b) = true) : a = b := JVal.eq_of_beq a b h

theorem namedName_stripNN (t : GType) : (GType.stripNN t).namedName = t.namedName := by
  induction t with
  | nonNull t ih => simpa [GType.stripNN, GType.namedName] using ih
  | _ => rfl

theorem listDepth_stripNN (t : GType) : GType.listDepth (GType.stripNN t) = GType.listDepth t := by
  induction t with
  | nonNull t ih => simpa [GType.stripNN, GType.listDepth] using ih
  | _ => rfl

theorem stripNN_named {t : GType} {n : String} (h : GType.stripNN t = .named n) : t.namedName = n ∧ GType.listDepth t = 0 := by
  rw [← namedName_stripNN, ← listDepth_stripNN, h]
  exact ⟨rfl, rfl⟩

theorem stripNN_not_nonNull (t u : GType) : GType.stripNN t ≠ .nonNull u := by
  induction t with
  | named m => simp [GType.stripNN]
  | list t _ => simp [GType.stripNN]
  | nonNull t ih => simpa [GType.stripNN] using ih

theorem stripNN_list {t it : GType} (h : GType.stripNN t = .list it) : GType.listDepth t = GType.listDepth it + 1 := by
  rw [← listDepth_stripNN, h]
  rfl

theorem numText_ok (cs : Chars) (hv : (parseNum cs).isSome = true) (hall : ∀ c ∈ cs, isNumChar c = true)
    (hhead : numHead cs = true) :
    litOK (.num (String.ofList cs)) = true := by
  simp only [litOK, String.toList_ofList, validNumText, hv, Bool.true_and, Bool.and_eq_true, List.all_eq_true]
  exact ⟨hall, hhead⟩

theorem digit_isNumChar {c : Char} (h : isDigit c = true) : isNumChar c = true := by simp [isNumChar, h]

theorem signedDigits_ok {t : Chars} (neg : Bool) (ds suffix : Chars) (ht : t = (if neg then ['-'] else []) ++ ds ++ suffix)
    (hne : ds ≠ []) (hall : ∀ c ∈ ds, isDigit c = true) (hs : ∀ c ∈ suffix, isNumChar c = true)
    (hv : (parseNum t).isSome = true) : litOK (.num (String.ofList t)) = true := by
  subst ht
  obtain ⟨c, cs, rfl⟩ := List.exists_cons_of_ne_nil hne
  apply numText_ok _ hv
  · intro x hx
    simp only [List.mem_append] at hx
    rcases hx with (h | h) | h
    · cases neg
      · cases h
      · cases List.mem_singleton.mp h; decide
    · exact digit_isNumChar (hall x h)
    · exact hs x h
  · cases neg
    · simp [numHead, hall c]
    · simp [numHead]

theorem intChars_ok (i : Int) (suffix : Chars) (hs : ∀ c ∈ suffix, isNumChar c = true)
    (hv : (parseNum (intChars i ++ suffix)).isSome = true) : litOK (.num (String.ofList (intChars i ++ suffix))) = true := by
  obtain ⟨hne, hall, _⟩ := natChars_spec i.natAbs
  exact signedDigits_ok _ _ suffix (by rw [intChars_eq]) hne hall hs hv

theorem decChars_ok (m : Int) (e : Nat) (he : e > 0) : litOK (.num (String.ofList (decChars m e))) = true := by
  obtain ⟨ip, fs, heq, hne, hall, _, hfall, _⟩ := decChars_eq m e
  exact signedDigits_ok _ ip ('.' :: fs) heq hne hall
    (List.forall_mem_cons.mpr ⟨by decide, fun x h => digit_isNumChar (hfall x h)⟩) (by rw [parseNum_decChars m e he]; rfl)

def leafLit : Lit → Bool
  | .list _ => false
  | .obj _ => false
  | _ => true

theorem astLeaf_leafLit (all : List TypeDef) (n : String) (v : JVal) : leafLit (astLeaf all n v) = true := by
  unfold astLeaf
  cases v with
  | int i => by_cases h : isFloatName all n = true <;> simp [h, leafLit]
  | str x => by_cases h : isEnumName all n = true <;> simp [h, leafLit]
  | _ => simp [leafLit]

theorem astNamed_leafLit {all : List TypeDef} {n : String} {v : JVal} {l : Lit} (h : astNamed all n v = some l) :
    leafLit l = true := by
  unfold astNamed at h
  split at h
  · rename_i vals _ _
    rcases hx : enumNameOf vals v with _ | x
    · simp [hx] at h
    · simp [hx] at h; subst h; rfl
  · simp at h
  · simp at h; subst h; exact astLeaf_leafLit all n v

theorem leaf_roundtrip (all : List TypeDef) (hwf : wfInputTypes all = true) (n : String) (v : JVal)
    (hc : conformsLeaf all n v = true) :
    ∃ l, astNamed all n v = some l ∧ litOK l = true ∧ coerceNamed all n l = v := by
  unfold conformsLeaf at hc
  unfold astNamed coerceNamed
  rcases hf : findType all n with _ | td
  · simp [hf] at hc
  · simp only [hf] at hc ⊢
    have hwtd : wfInputType td = true := List.all_eq_true.mp hwf td (findType_mem_all hf)
    cases td with
    | scalar sn k d =>
      cases k with
      | int =>
        cases v with
        | int i =>
          simp only [decide_eq_true_eq] at hc
          refine ⟨_, rfl, ?_, ?_⟩
          · simp only [astLeaf, isFloatName, hf]
            have := intChars_ok i [] (by simp) (by rw [List.append_nil, parseNum_intChars]; rfl)
            simpa using this
          · simp only [astLeaf, isFloatName, hf, coerceLeaf, Bool.false_eq_true, ↓reduceIte, String.toList_ofList]
            rw [parseNum_intChars]
            have : ¬ (i < -2147483648 ∨ i > 2147483647) := by omega
            simp only [signed_natAbs]
            simp [this]
        | _ => simp at hc
      | float =>
        cases v with
        | int i =>
          refine ⟨_, rfl, ?_, ?_⟩
          · simp only [astLeaf, isFloatName, hf]
            exact intChars_ok i ['.', '0'] (by decide) (by rw [parseNum_intChars_dot0]; rfl)
          · simp only [astLeaf, isFloatName, hf, coerceLeaf, ↓reduceIte, String.toList_ofList]
            rw [parseNum_intChars_dot0]
            simp only [numToJVal_int10]
        | dec m e =>
          simp only [decide_eq_true_eq] at hc
          refine ⟨_, rfl, ?_, ?_⟩
          · simp only [astLeaf]; exact decChars_ok m e hc.1
          · simp only [astLeaf, coerceLeaf, hf, String.toList_ofList]
            rw [parseNum_decChars m e hc.1]
            simp only [numToJVal_dec m e hc.1 hc.2]
        | _ => simp at hc
      | string =>
        cases v with
        | str x => exact ⟨_, rfl, by simp [astLeaf, isEnumName, hf, litOK], by simp [astLeaf, isEnumName, hf, coerceLeaf]⟩
        | _ => simp at hc
      | boolean =>
        cases v with
        | bool b => exact ⟨_, rfl, by simp [astLeaf, litOK], by simp [astLeaf, coerceLeaf, hf]⟩
        | _ => simp at hc
      | id =>
        cases v with
        | str x => exact ⟨_, rfl, by simp [astLeaf, isEnumName, hf, litOK], by simp [astLeaf, isEnumName, hf, coerceLeaf]⟩
        | _ => simp at hc
      | custom ser pv pl =>
        cases v with
        | int i =>
          simp only [JVal.isNull, Bool.not_false, Bool.true_and] at hc
          refine ⟨_, rfl, ?_, ?_⟩
          · simp only [astLeaf, isFloatName, hf]
            have := intChars_ok i [] (by simp) (by rw [List.append_nil, parseNum_intChars]; rfl)
            simpa using this
          · simp only [coerceLeaf, hf]; exact JVal.eq_of_beq' hc
        | str x =>
          simp only [JVal.isNull, Bool.not_false, Bool.true_and] at hc
          exact ⟨_, rfl, by simp [astLeaf, isEnumName, hf, litOK], by simp only [coerceLeaf, hf]; exact JVal.eq_of_beq' hc⟩
        | bool b =>
          simp only [JVal.isNull, Bool.not_false, Bool.true_and] at hc
          exact ⟨_, rfl, by simp [astLeaf, litOK], by simp only [coerceLeaf, hf]; exact JVal.eq_of_beq' hc⟩
        | _ => simp at hc
    | «enum» en vals d =>
      rcases hx : enumNameOf vals v with _ | x
      · simp [hx] at hc
      · unfold enumNameOf at hx
        rcases hfind : vals.find? (fun ev => enumInternal ev == v) with _ | ev
        · simp [hfind] at hx
        · simp only [hfind, Option.map_some, Option.some.injEq] at hx
          have hmem : ev ∈ vals := List.mem_of_find?_eq_some hfind
          have hint : enumInternal ev = v := JVal.eq_of_beq' (by have := List.find?_some hfind; exact this)
          simp only [wfInputType, Bool.and_eq_true, List.all_eq_true, decide_eq_true_eq] at hwtd
          have hnm := hwtd.1 ev hmem
          simp only [literalLikeName, Bool.not_eq_true', Bool.or_eq_false_iff, beq_eq_false_iff_ne, ne_eq] at hnm
          refine ⟨.enum x, by simp [enumNameOf, hfind, hx], ?_, ?_⟩
          · simp only [litOK, Bool.and_eq_true, bne_iff_ne, ne_eq]
            rw [← hx]
            exact ⟨⟨⟨hnm.1, hnm.2.1.1⟩, hnm.2.1.2⟩, hnm.2.2⟩
          · simp only [coerceLeaf, hf]
            rw [← hx, find_of_nodup_key (·.name) vals ev hwtd.2 hmem]
            exact hint
    | object => simp at hc
    | interface => simp at hc
    | union => simp at hc
    | inputObject => simp at hc

theorem coerceLit_leaf (all : List TypeDef) (t : GType) (l : Lit) (h : leafLit l = true) :
    coerceLit all t l = wrapSingle (GType.listDepth t) (coerceNamed all t.namedName l) := by
  cases l <;> simp [leafLit] at h <;> simp [coerceLit]

/-! ### input objects: the assembly loop gives back a canonical object -/

def present (fs : List (String × JVal)) (k : String) : Bool := fs.any (fun p => p.1 == k)

theorem lookupLast_of_nodup (fs : List (String × JVal)) (p : String × JVal) (hn : (fs.map (·.1)).Nodup) (hm : p ∈ fs) :
    lookupLast fs p.1 = some p.2 := by
  unfold lookupLast
  rw [find_of_nodup_key (·.1) fs.reverse p (by rw [List.map_reverse]; exact (List.reverse_perm _).nodup_iff.mpr hn)
    (List.mem_reverse.mpr hm)]
  rfl

theorem lookupLast_absent (fs : List (String × JVal)) (k : String) (h : present fs k = false) : lookupLast fs k = none := by
  rw [lookupLast, List.find?_eq_none.mpr fun p hp => List.any_eq_false.mp h p (List.mem_reverse.mp hp)]
  rfl

def assembleField (given : List (String × JVal)) (f : InputFieldS) : Option (String × JVal) :=
  let v := match lookupLast given f.name with
    | some x => if x.isNull then (f.default.getD .null) else x
    | none => f.default.getD .null
  if v.isNull then none else some (f.name, v)

theorem assembleObj_eq (decl : List InputFieldS) (given : List (String × JVal)) :
    assembleObj decl given = (sortOn (·.name) decl).filterMap (assembleField given) := rfl

theorem assemble_aux (G : List (String × JVal)) : ∀ (D : List InputFieldS) (fs : List (String × JVal)),
    fs.map (·.1) = (D.map (·.name)).filter (present G) →
    (∀ p ∈ fs, lookupLast G p.1 = some p.2 ∧ p.2.isNull = false) →
    (∀ f ∈ D, present G f.name = true ∨ (f.default.getD .null).isNull = true) →
    D.filterMap (assembleField G) = fs := by
  intro D
  induction D with
  | nil => intro fs h _ _; simp at h; simp [h]
  | cons f D ih =>
    intro fs hk hv hd
    by_cases hp : present G f.name = true
    · simp only [List.map_cons, List.filter_cons, hp, if_true] at hk
      rcases fs with _ | ⟨p, fs⟩
      · simp at hk
      · simp only [List.map_cons, List.cons.injEq] at hk
        obtain ⟨hl, hnn⟩ := hv p (by simp)
        have hf : assembleField G f = some p := by
          unfold assembleField
          rw [← hk.1, hl]
          simp [hnn]
        rw [List.filterMap_cons, hf]
        simp only
        congr 1
        exact ih fs hk.2 (fun q hq => hv q (List.mem_cons_of_mem _ hq)) (fun g hg => hd g (List.mem_cons_of_mem _ hg))
    · have hp' : present G f.name = false := by simpa using hp
      simp only [List.map_cons, List.filter_cons, hp', Bool.false_eq_true, if_false] at hk
      have hdn : (f.default.getD .null).isNull = true := by
        rcases hd f (by simp) with h | h
        · rw [hp'] at h; exact absurd h (by simp)
        · exact h
      have hf : assembleField G f = none := by
        unfold assembleField
        rw [lookupLast_absent G f.name hp']
        simp [hdn]
      rw [List.filterMap_cons, hf]
      simp only
      exact ih fs hk hv (fun g hg => hd g (List.mem_cons_of_mem _ hg))

theorem conformant_not_null (all : List TypeDef) (t : GType) (v : JVal) (h : conformant all t v = true) : v.isNull = false := by
  cases v <;> simp_all [conformant, JVal.isNull]

theorem conformantFields_values (all : List TypeDef) (decl : List InputFieldS) : ∀ (fs : List (String × JVal)),
    conformantFields all decl fs = true → ∀ p ∈ fs, p.2.isNull = false := by
  intro fs
  induction fs with
  | nil => intro _ p hp; simp at hp
  | cons q fs ih =>
    obtain ⟨k, x⟩ := q
    intro h p hp
    simp only [conformantFields, Bool.and_eq_true] at h
    rcases List.mem_cons.mp hp with rfl | hp'
    · rcases hft : inputFieldType decl k with _ | ft
      · simp [hft] at h
      · simp only [hft] at h
        exact conformant_not_null all ft x h.1
    · exact ih h.2 p hp'

theorem assemble_id (decl : List InputFieldS) (fs : List (String × JVal)) (hn : (decl.map (·.name)).Nodup)
    (hk : keysInDeclOrder decl fs = true) (hv : ∀ p ∈ fs, p.2.isNull = false)
    (hd : decl.all (fun f => (fs.any (fun p => p.1 == f.name)) ||
           (!f.type.isNonNull && (match f.default with | none => true | some d => d.isNull))) = true) :
    assembleObj decl fs = fs := by
  rw [assembleObj_eq]
  have hkeys : fs.map (·.1) = ((sortOn (·.name) decl).map (·.name)).filter (present fs) := by
    have := hk
    simp only [keysInDeclOrder, beq_iff_eq] at this
    rw [this]; rfl
  have hnod : (fs.map (·.1)).Nodup := by
    rw [hkeys, sortOn_map (·.name) id (·.name) (fun _ => rfl) decl]
    exact List.filter_sublist.nodup (nodup_sortOn _ _ hn)
  apply assemble_aux fs _ fs hkeys
  · intro p hp
    exact ⟨lookupLast_of_nodup fs p hnod hp, hv p hp⟩
  · intro f hf
    have hf' : f ∈ decl := (mem_sortOn _ f decl).mp hf
    have := List.all_eq_true.mp hd f hf'
    simp only [Bool.or_eq_true, Bool.and_eq_true] at this
    rcases this with h | h
    · left; exact h
    · right
      rcases hdf : f.default with _ | d
      · rfl
      · simpa [hdf] using h.2

theorem inputFieldType_name {decl : List InputFieldS} {k : String} {ft : GType} (h : inputFieldType decl k = some ft) :
    ∃ f ∈ decl, f.name = k := by
  unfold inputFieldType at h
  rcases hf : decl.find? (fun f => f.name == k) with _ | f
  · simp [hf] at h
  · exact ⟨f, List.mem_of_find?_eq_some hf, by simpa using List.find?_some hf⟩

theorem named_roundtrip (all : List TypeDef) (hwf : wfInputTypes all = true) {t : GType} {n : String} (v : JVal)
    (hs : GType.stripNN t = .named n) (h : conformsLeaf all n v = true) :
    ∃ l, astNamed all t.namedName v = some l ∧ litOK l = true ∧ coerceLit all t l = v := by
  obtain ⟨hn1, hn2⟩ := stripNN_named hs
  obtain ⟨l, hl, hok, hco⟩ := leaf_roundtrip all hwf n v h
  refine ⟨l, hn1 ▸ hl, hok, ?_⟩
  rw [coerceLit_leaf all t l (astNamed_leafLit hl), hn1, hn2]; exact hco

/-- a value that is neither a list nor an object conforms only to a named type, as a leaf -/
theorem leafValue_roundtrip (all : List TypeDef) (hwf : wfInputTypes all = true) (t : GType) (v : JVal)
    (h : (match GType.stripNN t with | .named n => conformsLeaf all n v | _ => false) = true) :
    ∃ l, astNamed all t.namedName v = some l ∧ litOK l = true ∧ coerceLit all t l = v := by
  rcases hs : GType.stripNN t with n | it | u
  · simp only [hs] at h
    exact named_roundtrip all hwf v hs h
  · simp [hs] at h
  · exact absurd hs (stripNN_not_nonNull t u)

mutual
theorem value_roundtrip (all : List TypeDef) (hwf : wfInputTypes all = true) : ∀ (v : JVal) (t : GType),
    conformant all t v = true → ∃ l, astFromValue all t v = some l ∧ litOK l = true ∧ coerceLit all t l = v
  | .null, t, h => by simp [conformant] at h
  | .list xs, t, h => by
    simp only [conformant] at h
    simp only [astFromValue]
    rcases hs : GType.stripNN t with n | it | u
    · simp only [hs, GType.namedName] at h ⊢
      exact (stripNN_named hs).1 ▸ named_roundtrip all hwf _ hs h
    · simp only [hs] at h ⊢
      obtain ⟨hok, hco⟩ := values_roundtrip all hwf xs it h
      exact ⟨_, rfl, by simpa [litOK] using hok, by simp only [coerceLit, hs, hco]⟩
    · exact absurd hs (stripNN_not_nonNull t u)
  | .obj fs, t, h => by
    simp only [conformant] at h
    rcases hs : GType.stripNN t with n | it | u
    · simp only [hs] at h
      obtain ⟨hn1, hn2⟩ := stripNN_named hs
      simp only [astFromValue, hn1]
      rcases hf : findType all n with _ | td
      · simp [hf, conformsLeaf] at h
      · cases td with
        | inputObject tn decl d =>
          simp only [hf, Bool.and_eq_true] at h ⊢
          have hwtd : wfInputType (.inputObject tn decl d) = true := List.all_eq_true.mp hwf _ (findType_mem_all hf)
          simp only [wfInputType, Bool.and_eq_true, List.all_eq_true, decide_eq_true_eq] at hwtd
          obtain ⟨hok, hco⟩ := fields_roundtrip all hwf fs decl hwtd.1 h.1.2
          refine ⟨_, rfl, by simpa [litOK] using hok, ?_⟩
          simp only [coerceLit, hn1, hn2, hf, wrapSingle, hco]
          rw [assemble_id decl fs hwtd.2 h.1.1 (conformantFields_values all decl fs h.1.2) h.2]
        | scalar sn k d =>
          simp only [hf] at h ⊢
          exact hn1 ▸ named_roundtrip all hwf _ hs h
        | «enum» en vals d =>
          simp only [hf] at h ⊢
          exact hn1 ▸ named_roundtrip all hwf _ hs h
        | object => simp [hf, conformsLeaf] at h
        | interface => simp [hf, conformsLeaf] at h
        | union => simp [hf, conformsLeaf] at h
    · simp [hs] at h
    · exact absurd hs (stripNN_not_nonNull t u)
  | .bool b, t, h => by
    simp only [conformant] at h
    simpa only [astFromValue] using leafValue_roundtrip all hwf t _ h
  | .int i, t, h => by
    simp only [conformant] at h
    simpa only [astFromValue] using leafValue_roundtrip all hwf t _ h
  | .dec m e, t, h => by
    simp only [conformant] at h
    simpa only [astFromValue] using leafValue_roundtrip all hwf t _ h
  | .str x, t, h => by
    simp only [conformant] at h
    simpa only [astFromValue] using leafValue_roundtrip all hwf t _ h
theorem values_roundtrip (all : List TypeDef) (hwf : wfInputTypes all = true) : ∀ (xs : List JVal) (it : GType),
    conformantAll all it xs = true →
    litsOK (astFromValues all it xs) = true ∧ coerceLits all it (astFromValues all it xs) = xs
  | [], it, _ => by simp [astFromValues, litsOK, coerceLits]
  | x :: xs, it, h => by
    simp only [conformantAll, Bool.and_eq_true] at h
    obtain ⟨l, hl, hok, hco⟩ := value_roundtrip all hwf x it h.1
    obtain ⟨hoks, hcos⟩ := values_roundtrip all hwf xs it h.2
    simp only [astFromValues, hl, litsOK, hok, hoks, coerceLits, hco, hcos, Bool.and_self, and_self]
theorem fields_roundtrip (all : List TypeDef) (hwf : wfInputTypes all = true) : ∀ (fs : List (String × JVal)) (decl : List InputFieldS),
    (∀ f ∈ decl, validName f.name = true) → conformantFields all decl fs = true →
    fieldsOK (astFromFields all decl fs) = true ∧ coerceFields all decl (astFromFields all decl fs) = fs
  | [], decl, _, _ => by simp [astFromFields, fieldsOK, coerceFields]
  | (k, x) :: fs, decl, hv, h => by
    simp only [conformantFields, Bool.and_eq_true] at h
    rcases hft : inputFieldType decl k with _ | ft
    · simp [hft] at h
    · simp only [hft] at h
      obtain ⟨l, hl, hok, hco⟩ := value_roundtrip all hwf x ft h.1
      obtain ⟨hoks, hcos⟩ := fields_roundtrip all hwf fs decl hv h.2
      obtain ⟨f, hfm, hfn⟩ := inputFieldType_name hft
      have hvk : validName k = true := hfn ▸ hv f hfm
      simp only [astFromFields, hft, hl, fieldsOK, hvk, hok, hoks, coerceFields, hco, hcos, Bool.and_self, and_self]
end

/-! ### the pinned function agrees with the repaired one on scalar-like defaults -/

theorem astNamed_scalar (all : List TypeDef) (n : String) (v : JVal) (h : isScalarName all n = true) :
    astNamed all n v = some (astLeaf all n v) := by
  unfold isScalarName at h
  unfold astNamed
  rcases hf : findType all n with _ | td
  · simp [hf] at h
  · cases td <;> simp [hf] at h ⊢

mutual
theorem pinned_eq_on_scalarLike (all : List TypeDef) : ∀ (v : JVal) (t : GType), scalarLike all t v = true →
    astFromValuePinned all t v = astFromValue all t v
  | .null, t, _ => by simp [astFromValuePinned, astFromValue]
  | .list xs, t, h => by
    simp only [scalarLike] at h
    simp only [astFromValuePinned, astFromValue]
    rcases hs : GType.stripNN t with n | it | u
    · simp only [hs] at h ⊢
      rw [astNamed_scalar all _ _ h]
    · simp only [hs] at h ⊢
      rw [pinneds_eq_on_scalarLike all xs it h]
    · simp only [hs] at h ⊢
      rw [astNamed_scalar all _ _ h]
  | .obj fs, t, h => by
    simp only [scalarLike] at h
    simp only [astFromValuePinned, astFromValue]
    have := astNamed_scalar all t.namedName (.obj fs) h
    unfold isScalarName at h
    rcases hf : findType all t.namedName with _ | td
    · simp [hf] at h
    · cases td <;> simp [hf] at h ⊢
      exact this.symm
  | .bool b, t, h => by
    simp only [scalarLike] at h
    simp only [astFromValuePinned, astFromValue, astNamed_scalar all _ _ h]
  | .int i, t, h => by
    simp only [scalarLike] at h
    simp only [astFromValuePinned, astFromValue, astNamed_scalar all _ _ h]
  | .dec m e, t, h => by
    simp only [scalarLike] at h
    simp only [astFromValuePinned, astFromValue, astNamed_scalar all _ _ h]
  | .str x, t, h => by
    simp only [scalarLike] at h
    simp only [astFromValuePinned, astFromValue, astNamed_scalar all _ _ h]
theorem pinneds_eq_on_scalarLike (all : List TypeDef) : ∀ (xs : List JVal) (it : GType), scalarLikeAll all it xs = true →
    astFromValuesPinned all it xs = astFromValues all it xs
  | [], it, _ => by simp [astFromValuesPinned, astFromValues]
  | x :: xs, it, h => by
    simp only [scalarLikeAll, Bool.and_eq_true] at h
    simp only [astFromValuesPinned, astFromValues, pinned_eq_on_scalarLike all x it h.1, pinneds_eq_on_scalarLike all xs it h.2]
end

end GqlModel.Introspection
