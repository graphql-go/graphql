import GqlProofs.LexerLoop
import GqlModel.ParseBytes

/-! Text that lexes contains no NUL byte: the lexer model accepts a text only if every byte of it was read by one of its
scanners, and every scanner rejects the byte 0.  Through the spec scanners (`Spec.ignoredLen`; `Spec.token` by way of the
lexemes of the grammar, `Lexeme.nz`) and the unconditional step theorem `readToken_spec`: the D-03a rune/byte mixture only
makes a NAME token end earlier than its lexeme, so the next scan re-reads bytes, it never skips any.  C06 uses
`parseBytes_nz` for the `"\x00"` separator of the normalising plan-cache key. -/

namespace GqlModel.Lexer
open GqlModel.Lexer.Spec

def NZ (bs : Bytes) : Prop := ∀ b ∈ bs, b ≠ 0

theorem NZ_nil : NZ [] := fun _ h => by cases h

theorem NZ_cons {c : UInt8} {r : Bytes} (hc : c ≠ 0) (hr : NZ r) : NZ (c :: r) := List.forall_mem_cons.2 ⟨hc, hr⟩

theorem NZ_append {a b : Bytes} (ha : NZ a) (hb : NZ b) : NZ (a ++ b) := List.forall_mem_append.2 ⟨ha, hb⟩

theorem NZ_take_le {l : Bytes} {m n : Nat} (h : NZ (l.take n)) (hmn : m ≤ n) : NZ (l.take m) :=
  fun b hb => h b (List.take_subset_take_left l hmn hb)

theorem NZ_take_succ_cons {c : UInt8} {r : Bytes} {n : Nat} (hc : c ≠ 0) (hr : NZ (r.take n)) : NZ ((c :: r).take (n + 1)) := by
  rw [List.take_succ_cons]; exact NZ_cons hc hr

theorem ignoredLen_nz (fl : Bool) (rest : Bytes) : NZ (rest.take (ignoredLen fl rest)) := by
  induction hn : rest.length using Nat.strongRecOn generalizing fl rest with
  | _ n ih =>
  subst hn
  match rest with
  | [] => cases fl <;> exact NZ_nil
  | c :: r =>
    cases fl with
    | true =>
      rw [ignoredLen_true_cons]
      by_cases hlt : c = 10 ∨ c = 13
      · rw [if_pos hlt]
        exact NZ_take_succ_cons (by rcases hlt with rfl | rfl <;> decide) (ih _ (Nat.lt_succ_self _) false r rfl)
      by_cases hc : isCommentByte c
      · rw [if_neg hlt, if_pos hc]
        exact NZ_take_succ_cons (fun h0 => by subst h0; exact absurd hc (by decide)) (ih _ (Nat.lt_succ_self _) true r rfl)
      · rw [if_neg hlt, if_neg hc]; exact NZ_nil
    | false =>
      rw [ignoredLen_false_cons]
      by_cases hws : c = 9 ∨ c = 32 ∨ c = 10 ∨ c = 13 ∨ c = 44
      · rw [if_pos hws]
        exact NZ_take_succ_cons (by rcases hws with rfl | rfl | rfl | rfl | rfl <;> decide) (ih _ (Nat.lt_succ_self _) false r rfl)
      by_cases h35 : c = 35
      · rw [if_neg hws, if_pos h35]
        exact NZ_take_succ_cons (by subst h35; decide) (ih _ (Nat.lt_succ_self _) true r rfl)
      by_cases hef : c = 0xEF
      · rw [if_neg hws, if_neg h35, if_pos hef]
        match r with
        | b1 :: b2 :: r' =>
          simp only
          by_cases hb : b1 = 0xBB ∧ b2 = 0xBF
          · rw [if_pos hb]
            have := ih r'.length (by simp only [List.length_cons]; omega) false r' rfl
            exact NZ_take_succ_cons (by subst hef; decide) (NZ_take_succ_cons (by rw [hb.1]; decide)
              (NZ_take_succ_cons (by rw [hb.2]; decide) this))
          · rw [if_neg hb]; exact NZ_nil
        | [] => exact NZ_nil
        | [_] => exact NZ_nil
      · rw [if_neg hws, if_neg h35, if_neg hef]; exact NZ_nil

theorem digit_ne_zero {c : UInt8} (h : isDigitByte c) : c ≠ 0 := by
  intro h0; subst h0; simp [isDigitByte] at h

theorem nameCont_ne_zero {c : UInt8} (h : isNameContByte c) : c ≠ 0 := by
  intro h0; subst h0; simp [isNameContByte, isNameStartByte, isDigitByte] at h

theorem AllDigits.nz {l : Bytes} (h : AllDigits l) : NZ l := fun b hb => digit_ne_zero (h b hb)

theorem IsIntegerPart.nz {l : Bytes} (h : IsIntegerPart l) : NZ l := by
  obtain ⟨sign, body, rfl, hs, hb⟩ := h
  refine NZ_append ?_ ?_
  · rcases hs with rfl | rfl
    · exact NZ_nil
    · exact NZ_cons (by decide) NZ_nil
  · rcases hb with rfl | ⟨d, ds, rfl, hd, _, hds⟩
    · exact NZ_cons (by decide) NZ_nil
    · exact NZ_cons (digit_ne_zero hd) (AllDigits.nz hds)

theorem IsFractionalPart.nz {l : Bytes} (h : IsFractionalPart l) : NZ l := by
  obtain ⟨ds, rfl, _, hds⟩ := h
  exact NZ_cons (by decide) (AllDigits.nz hds)

theorem IsExponentPart.nz {l : Bytes} (h : IsExponentPart l) : NZ l := by
  obtain ⟨e, sign, ds, rfl, he, hs, _, hds⟩ := h
  refine NZ_cons (by rcases he with rfl | rfl <;> decide) (NZ_append ?_ (AllDigits.nz hds))
  rcases hs with rfl | rfl | rfl
  · exact NZ_nil
  · exact NZ_cons (by decide) NZ_nil
  · exact NZ_cons (by decide) NZ_nil

theorem NumberG.nz {k : TokenKind} {l rest : Bytes} (h : NumberG k l rest) : NZ l := by
  obtain ⟨li, lf, lx, rfl, gi, gf, gx, -⟩ := h
  refine NZ_append (IsIntegerPart.nz gi.grammar) (NZ_append ?_ ?_)
  · exact gf.grammar.elim (· ▸ NZ_nil) IsFractionalPart.nz
  · exact gx.grammar.elim (· ▸ NZ_nil) IsExponentPart.nz

theorem StrChar.nz {l v : Bytes} (h : StrChar l v) : NZ l := by
  cases h with
  | plain c _ _ _ _ h5 =>
    refine NZ_cons (fun h0 => ?_) NZ_nil
    subst h0; exact absurd h5 (by decide)
  | esc e b he =>
    refine NZ_cons (by decide) (NZ_cons (fun h0 => ?_) NZ_nil)
    subst h0; exact absurd he (by rw [show escapedCharacter 0 = none by decide]; exact nofun)
  | uni h1 h2 h3 h4 u hu =>
    have hhex : ∀ x : UInt8, hexValue x ≠ none → x ≠ 0 := by
      intro x hx h0; subst h0; exact hx (by decide)
    have hh : hexValue h1 ≠ none ∧ hexValue h2 ≠ none ∧ hexValue h3 ≠ none ∧ hexValue h4 ≠ none := by
      unfold escapedUnicode at hu
      cases a1 : hexValue h1 <;> cases a2 : hexValue h2 <;> cases a3 : hexValue h3 <;>
        cases a4 : hexValue h4 <;> simp [a1, a2, a3, a4] at hu ⊢
    exact NZ_cons (by decide) (NZ_cons (by decide) (NZ_cons (hhex _ hh.1) (NZ_cons (hhex _ hh.2.1)
      (NZ_cons (hhex _ hh.2.2.1) (NZ_cons (hhex _ hh.2.2.2) NZ_nil)))))

theorem StrChars.nz {body v : Bytes} (h : StrChars body v) : NZ body := by
  induction h with
  | nil => exact NZ_nil
  | cons hc _ ih => exact NZ_append (StrChar.nz hc) ih

theorem BlockLex.nz {l v : Bytes} (h : BlockLex l v) : NZ l := by
  induction h with
  | close => exact NZ_cons (by decide) (NZ_cons (by decide) (NZ_cons (by decide) NZ_nil))
  | esc _ ih => exact NZ_cons (by decide) (NZ_cons (by decide) (NZ_cons (by decide) (NZ_cons (by decide) ih)))
  | char c _ hB _ _ ih => exact NZ_cons (fun h0 => hB (by subst h0; decide)) ih

theorem Lexeme.nz {k : TokenKind} {l v rest : Bytes} (h : Lexeme k l v rest) : NZ l := by
  cases h with
  | punct _ hp =>
    exact NZ_cons (fun h0 => punct_not_ctrl hp (by subst h0; exact ⟨by decide, by decide, by decide, by decide⟩)) NZ_nil
  | spread => exact NZ_cons (by decide) (NZ_cons (by decide) (NZ_cons (by decide) NZ_nil))
  | name hs hall _ => exact NZ_cons (nameCont_ne_zero (.inl hs)) fun x hx => nameCont_ne_zero (hall x hx)
  | number hg => exact hg.nz
  | string hd _ => exact NZ_cons (by decide) (NZ_append (StrChars.nz hd) (NZ_cons (by decide) NZ_nil))
  | block _ hl => exact NZ_cons (by decide) (NZ_cons (by decide) (NZ_cons (by decide) hl.nz))

theorem token_nz {bs : Bytes} {k : TokenKind} {len : Nat} {v : Bytes} (h : token bs = .ok (k, len, v)) : NZ (bs.take len) :=
  ((token_munch k v).elim h).2.nz

theorem NZ_take_add {l : Bytes} {a b : Nat} (h1 : NZ (l.take a)) (h2 : NZ ((l.drop a).take b)) : NZ (l.take (a + b)) := by
  rw [List.take_add]; exact NZ_append h1 h2

theorem lexLoop_nz (body : Bytes) : ∀ (f off : Nat), NZ (body.take off) → (lexLoop f body off).err = none → NZ body := by
  intro f
  induction f with
  | zero => intro off _ h; simp [lexLoop] at h
  | succ f ih =>
    intro off hpre herr
    obtain ⟨k, hle, _, hstep⟩ := readToken_spec body off
    have hign : NZ ((body.drop off).take (ignoredLen false (body.drop off))) :=
      ignoredLen_nz false (body.drop off)
    match hd : (body.drop off).drop (ignoredLen false (body.drop off)) with
    | [] =>
      have hall : NZ (body.take (off + ignoredLen false (body.drop off))) := NZ_take_add hpre hign
      have hlen : body.length ≤ off + ignoredLen false (body.drop off) := by
        have := congrArg List.length hd
        simp only [List.length_drop, List.length_nil] at this
        omega
      rw [List.take_of_length_le hlen] at hall
      exact hall
    | c :: r =>
      rw [hd] at hstep; simp only at hstep
      match ht : token (c :: r) with
      | .ok (kind, len, v) =>
        rw [ht] at hstep; simp only at hstep
        have hne : kind ≠ .eof := token_ne_eof ht
        simp only [lexLoop, hstep, makeToken, hne, if_false] at herr
        refine ih _ ?_ herr
        have htok : NZ (((body.drop off).drop (ignoredLen false (body.drop off))).take len) := by
          rw [hd]; exact token_nz ht
        have hall : NZ (body.take (off + ignoredLen false (body.drop off) + len)) :=
          NZ_take_add (NZ_take_add hpre hign) (by rw [List.drop_drop] at htok; exact htok)
        -- the next scan starts at the token's `stop`, for a NAME the rune cursor `off + k + len` with `k ≤` the gap (D-03a)
        refine NZ_take_le hall ?_
        split <;> omega
      | .error (o, ek) =>
        rw [ht] at hstep; simp only at hstep
        obtain ⟨q, hq, _⟩ := hstep
        simp [lexLoop, hq] at herr

theorem lexAll_nz (body : Bytes) (h : (lexAll body).err = none) : NZ body :=
  lexLoop_nz body _ 0 (by simp [NZ_nil]) h

end GqlModel.Lexer

namespace GqlModel

theorem parseBytes_nz (b : Lexer.Bytes) (p : Parser.Parsed) (h : parseBytes b = .ok p) : ∀ x ∈ b, x ≠ 0 := by
  unfold parseBytes at h
  cases he : (Lexer.lexAll b).err with
  | some e => rw [he] at h; simp at h
  | none => exact Lexer.lexAll_nz b he

end GqlModel
