import GqlProofs.ExecResolved
import GqlProofs.ExecState
/-! C10 / C20: `__typename` always names the RUNTIME object type: wherever the response holds an object at the place of
a legitimate position (`Position`), the value under every response key that selects `__typename` is the name of that
position's runtime type (for an abstract position: the type `runtimeTypeOf` chose).  The instance `TypenameOK` of the
hereditary scheme of `ExecHereditary`. -/
namespace GqlModel.Exec

/-- the typename entries of the object `fs` found at the place of a position of runtime type `rt` -/
def TypenameOK (rt : String) (groups : Groups) (fs : List (String × JVal)) : Prop :=
  ∀ k nodes node x, (k, nodes) ∈ groups → nodes.head? = some node → node.name = "__typename" →
    (k, x) ∈ fs → x = .str rt

/-- `HeredOf (fun rt' _ G' fs' => TypenameOK rt' G' fs')` (ExecHereditary) written out; `GroupsT` below is `GroupsH` of the same -/
def HeredT (c : Ctx) (t : GType) (p : Path) (v : GoVal) (nodes : List FieldNode) (j : JVal) : Prop :=
  ∀ ot o p', ObjAt c t p v ot o p' →
    ∀ rt' src' path' G', PosFrom c ot o p' (collectMerged c ot nodes) rt' src' path' G' →
      ∀ rel fs', path' = p ++ rel → ValAt j rel (.obj fs') → TypenameOK rt' G' fs'

def GroupsT (c : Ctx) (rt : String) (src : GoVal) (path : Path) (groups : Groups) (fs : List (String × JVal)) : Prop :=
  ∀ k nodes node fd, Selected c rt groups k nodes node fd →
    ∀ v, c.world.outcome src fd.name = .value v →
      ∃ x, (k, x) ∈ fs ∧ HeredT c fd.type (path ++ [.key k]) v nodes x

theorem execGroups_typename {c : Ctx} {fuel : Nat} {dfr : Bool} {rt : String} {src : GoVal} {path : Path}
    {groups : Groups} {st st' : St} {fs : List (String × JVal)}
    (h : execGroups c fuel dfr rt src path groups [] st = (.ok fs, st')) (hn : (fs.map (·.1)).Nodup) :
    TypenameOK rt groups fs := by
  intro k nodes node x hm hnode hname hx
  have hself : ("__typename" == "__typename") = true := beq_self_eq_true _
  obtain ⟨fd, hfd, hfdn⟩ : ∃ fd, fieldDef? c.schema rt node.name = some fd ∧ (fd.name == "__typename") = true :=
    ⟨{ name := "__typename", type := .nonNull (.named "String"), args := [] }, by rw [fieldDef?, hname, if_pos hself],
      hself⟩
  obtain ⟨v, hv, hall⟩ := execGroups_selected_values c fuel _ _ _ _ _ _ _ _ _ h k nodes node fd hm hnode hfd
  cases mem_unique_of_keys_nodup hn hv hx
  cases fuel with
  | zero => cases execGroups_zero.symm.trans h
  | succ fuel =>
    have hfield := hall St.empty
    rw [execField_typename hfdn] at hfield
    exact (Res.ok.inj hfield).symm

structure TnP (c : Ctx) (fuel : Nat) : Prop where
  groups : ∀ dfr rt src path groups acc st fs st',
    execGroups c fuel dfr rt src path groups acc st = (.ok fs, st') → GroupsT c rt src path groups fs
  field : ∀ dfr rt src p fd nodes st j st',
    execField c fuel dfr rt src p fd nodes st = (.ok j, st') → fd.name ≠ "__typename" →
    ∀ v, c.world.outcome src fd.name = .value v → HeredT c fd.type p v nodes j
  complete : ∀ dfr t rt fname nodes p v st j st',
    complete c fuel dfr t rt fname nodes p v st = (.ok j, st') → HeredT c t p v nodes j
  items : ∀ dfr item rt fname nodes p xs i acc st js st',
    completeItems c fuel dfr item rt fname nodes p xs i acc st = (.ok js, st') → i = acc.length →
    ∀ m x, xs[m]? = some x → ∃ y, js[i + m]? = some y ∧ HeredT c item (p ++ [.idx (i + m)]) x nodes y

/-- `__typename`: the property does not look at the log -/
theorem tnP (c : Ctx) (fuel : Nat) : TnP c fuel :=
  have h := heredP (QL := fun _ rt _ G fs => TypenameOK rt G fs) (c := c) (fun _ _ _ _ _ _ _ h => h)
    (fun _ _ _ _ _ _ _ _ _ hg hn => execGroups_typename hg hn) fuel
  ⟨h.groups, h.field, h.complete, h.items⟩

end GqlModel.Exec
