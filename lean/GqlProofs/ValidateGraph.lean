import GqlProofs.FragmentSpreadsSpec
import GqlProofs.ListCount
/-! # C02, graph rules: fragment table, `FragmentSpreads`, `RecursivelyReferencedFragments`

`rrf_run` describes `RecursivelyReferencedFragments` on the loop with the step counter (`rrfLoopC`): the scan exactly
(`rrfScan_shape`; `Fresh`: new, pairwise different names of the table, paid for by `unc`), the worklist invariant `RInv`,
fuel `|fragment table| + 1`. Reachability (`rrf_spec`, C02) and the counts of `GqlProofs/GraphCost.lean` (C19) are read off. -/
namespace GqlModel.Validate.Graph

/-- `Fragment(name)` finds the LAST definition of that name: `lookupFrag` is `List.findRev?` -/
theorem lookupFrag_eq_findRev? (tbl : List Frag) (n : String) :
    lookupFrag tbl n = tbl.reverse.find? (fun f => f.name.value == n) := by
  rw [← List.findRev?_eq_find?_reverse]
  induction tbl with
  | nil => rfl
  | cons g gs ih =>
    simp only [lookupFrag, List.findRev?, ih, beq_iff_eq]
    cases List.findRev? (fun f => f.name.value == n) gs <;> rfl

theorem lookupFrag_some {tbl : List Frag} {n : String} {f : Frag} (h : lookupFrag tbl n = some f) :
    f ∈ tbl ∧ f.name.value = n := by
  rw [lookupFrag_eq_findRev?] at h
  have hp := List.find?_some h
  exact ⟨List.mem_reverse.1 (List.mem_of_find?_eq_some h), eq_of_beq hp⟩

theorem lookupFrag_isSome_of_mem {tbl : List Frag} {f : Frag} (h : f ∈ tbl) :
    (lookupFrag tbl f.name.value).isSome = true := by
  rw [lookupFrag_eq_findRev?, List.find?_isSome]
  exact ⟨f, List.mem_reverse.2 h, beq_self_eq_true _⟩

theorem lookupFrag_mem_names {tbl : List Frag} {n : String} {f : Frag} (h : lookupFrag tbl n = some f) :
    n ∈ fragNames tbl := by
  have := lookupFrag_some h
  rw [← this.2]
  exact List.mem_map.2 ⟨f, this.1, rfl⟩

theorem lookupFrag_of_mem_names {tbl : List Frag} {n : String} (h : n ∈ fragNames tbl) :
    ∃ f, lookupFrag tbl n = some f := by
  rcases List.mem_map.1 h with ⟨f, hf, rfl⟩
  have := lookupFrag_isSome_of_mem hf
  exact Option.isSome_iff_exists.1 this

theorem lookupFrag_self {tbl : List Frag} (hnd : (fragNames tbl).Nodup) {f : Frag} (h : f ∈ tbl) :
    lookupFrag tbl f.name.value = some f := by
  rw [lookupFrag_eq_findRev?]
  exact find_of_nodup_key (·.name.value) tbl.reverse f (by rw [List.map_reverse]; exact (List.reverse_perm _).nodup_iff.mpr hnd)
    (List.mem_reverse.2 h)

theorem fsLoop_ok (fuel : Nat) (stk : List SelectionSet) (acc : List Spread) (h : wt stk ≤ fuel) :
    (fsLoop fuel stk acc).2 = false ∧ ∀ x, x ∈ (fsLoop fuel stk acc).1 ↔ (x ∈ acc ∨ x ∈ pend stk) := by
  obtain ⟨h1, _, h3⟩ := fsLoopC_spec fuel stk acc 0 h
  rw [fsLoopC_erase] at h1 h3
  exact ⟨h1, fun x => h3.mem_iff.trans List.mem_append⟩

theorem fragmentSpreads_no_oof (ss : SelectionSet) : (fragmentSpreadsF ss).2 = false :=
  (fragmentSpreads_run ss).1

theorem mem_fragmentSpreads (ss : SelectionSet) (x : Spread) : x ∈ fragmentSpreads ss ↔ x ∈ spreadsSet ss :=
  (fragmentSpreads_run ss).2.2.mem_iff

theorem mem_fragmentSpreads_names (ss : SelectionSet) (n : String) :
    n ∈ (fragmentSpreads ss).map (·.name) ↔ n ∈ spreadNames ss :=
  ((fragmentSpreads_run ss).2.2.map (·.name)).mem_iff

theorem Reaches.trans {tbl : List Frag} {a b c : String} (h1 : Reaches tbl a b) (h2 : Reaches tbl b c) :
    Reaches tbl a c := by
  induction h1 with
  | refl => exact h2
  | step e _ ih => exact .step e (ih h2)

theorem Reaches.single {tbl : List Frag} {a b : String} (h : SpreadEdge tbl a b) : Reaches tbl a b :=
  .step h (.refl b)

theorem Reaches.tail {tbl : List Frag} {a b c : String} (h1 : Reaches tbl a b) (h2 : SpreadEdge tbl b c) :
    Reaches tbl a c := h1.trans (.single h2)

theorem Reaches.closed_induction {tbl : List Frag} {C : String → Prop}
    (hcl : ∀ a b, C a → SpreadEdge tbl a b → C b) {a b : String} (h : Reaches tbl a b) (ha : C a) : C b := by
  induction h with
  | refl => exact ha
  | step e _ ih => exact ih (hcl _ _ ha e)

theorem spreadEdge_iff {tbl : List Frag} {a b : String} :
    SpreadEdge tbl a b ↔ ∃ f, lookupFrag tbl a = some f ∧ b ∈ spreadNames f.sel := by
  unfold SpreadEdge succs
  cases h : lookupFrag tbl a with
  | none => simp
  | some f => simp

/-- number of entries of `names` that are not in `col` -/
def unc (names col : List String) : Nat := names.countP (fun m => decide (m ∉ col))

theorem unc_le_length (names col : List String) : unc names col ≤ names.length := List.countP_le_length

theorem unc_mono (names : List String) {c1 c2 : List String} (h : ∀ x, x ∈ c1 → x ∈ c2) :
    unc names c2 ≤ unc names c1 :=
  List.countP_mono_left fun x _ hx => decide_eq_true fun hc => of_decide_eq_true hx (h x hc)

theorem unc_strict (names : List String) {c1 c2 : List String} (h : ∀ x, x ∈ c1 → x ∈ c2) (g : String)
    (hg : g ∈ names) (hg2 : g ∈ c2) (hg1 : g ∉ c1) : unc names c2 < unc names c1 :=
  countP_lt names (fun x _ hx => decide_eq_true fun hc => of_decide_eq_true hx (h x hc))
    ⟨g, hg, decide_eq_true hg1, decide_eq_false fun hn => hn hg2⟩

theorem unc_cons_lt (names col : List String) (n : String) (hn : n ∈ names) (hc : n ∉ col) :
    unc names (n :: col) < unc names col :=
  unc_strict names (fun _ h => List.mem_cons_of_mem _ h) n hn List.mem_cons_self hc

/-- `added` are fragments of the table collected while the set of collected names grew from `col` to `col'`: new
names, pairwise different, each paid for by a name that was not collected before -/
structure Fresh (tbl : List Frag) (col col' : List String) (added : List Frag) : Prop where
  len : added.length + unc (fragNames tbl) col' ≤ unc (fragNames tbl) col
  sub : ∀ f, f ∈ added → f ∈ tbl
  mono : ∀ x, x ∈ col → x ∈ col'
  fresh : ∀ f, f ∈ added → f.name.value ∉ col ∧ f.name.value ∈ col'
  nodup : (added.map (·.name.value)).Nodup

theorem Fresh.refl (tbl : List Frag) (col : List String) : Fresh tbl col col [] :=
  ⟨Nat.le_of_eq (Nat.zero_add _), nofun, fun _ h => h, nofun, List.nodup_nil⟩

theorem Fresh.undefined (tbl : List Frag) (col : List String) (n : String) : Fresh tbl col (n :: col) [] :=
  ⟨Nat.zero_add _ ▸ unc_mono _ fun _ h => List.mem_cons_of_mem n h, nofun, fun _ h => List.mem_cons_of_mem _ h, nofun, List.nodup_nil⟩

theorem Fresh.push {tbl : List Frag} {col : List String} {n : String} {f : Frag} (hl : lookupFrag tbl n = some f)
    (hcol : n ∉ col) : Fresh tbl col (n :: col) [f] := by
  have hf := lookupFrag_some hl
  refine ⟨?_, fun g hg => ?_, fun _ h => List.mem_cons_of_mem _ h, fun g hg => ?_,
    List.nodup_cons.2 ⟨List.not_mem_nil, List.nodup_nil⟩⟩
  · rw [Nat.add_comm]; exact unc_cons_lt _ col n (lookupFrag_mem_names hl) hcol
  · cases List.mem_singleton.1 hg; exact hf.1
  · cases List.mem_singleton.1 hg; rw [hf.2]; exact ⟨hcol, List.mem_cons_self⟩

theorem Fresh.trans {tbl : List Frag} {c0 c1 c2 : List String} {a1 a2 : List Frag} (h1 : Fresh tbl c0 c1 a1)
    (h2 : Fresh tbl c1 c2 a2) : Fresh tbl c0 c2 (a1 ++ a2) where
  len := by
    have := h1.len
    have := h2.len
    rw [List.length_append]
    omega
  sub := fun f hf => (List.mem_append.1 hf).elim (h1.sub f) (h2.sub f)
  mono := fun x hx => h2.mono x (h1.mono x hx)
  fresh := fun f hf => (List.mem_append.1 hf).elim
    (fun h => ⟨(h1.fresh f h).1, h2.mono _ (h1.fresh f h).2⟩)
    (fun h => ⟨fun hc => (h2.fresh f h).1 (h1.mono _ hc), (h2.fresh f h).2⟩)
  nodup := by
    rw [List.map_append]
    refine List.nodup_append.2 ⟨h1.nodup, h2.nodup, fun a ha b hb hab => ?_⟩
    obtain ⟨f, hf, rfl⟩ := List.mem_map.1 ha
    obtain ⟨g, hg, rfl⟩ := List.mem_map.1 hb
    exact (h2.fresh g hg).1 (hab ▸ (h1.fresh f hf).2)

theorem rrfScan_shape (tbl : List Frag) : ∀ (sps : List Spread) (col : List String) (frs : List Frag)
    (stk : List SelectionSet),
    ∃ added : List Frag,
      (rrfScan tbl sps col frs stk).2.1 = frs ++ added ∧
      (rrfScan tbl sps col frs stk).2.2 = (added.map (·.sel)).reverse ++ stk ∧
      Fresh tbl col (rrfScan tbl sps col frs stk).1 added
  | [], col, frs, stk => ⟨[], (List.append_nil _).symm, rfl, Fresh.refl tbl col⟩
  | sp :: rest, col, frs, stk => by
    simp only [rrfScan]
    split
    · exact rrfScan_shape tbl rest col frs stk
    · rename_i hcol
      split
      · rename_i f hl
        obtain ⟨added, h1, h2, h3⟩ := rrfScan_shape tbl rest (sp.name :: col) (frs ++ [f]) (f.sel :: stk)
        refine ⟨f :: added, ?_, ?_, (Fresh.push hl hcol).trans h3⟩
        · rw [h1, List.append_assoc]; rfl
        · rw [h2, List.map_cons, List.reverse_cons, List.append_assoc]; rfl
      · obtain ⟨added, h1, h2, h3⟩ := rrfScan_shape tbl rest (sp.name :: col) frs stk
        exact ⟨added, h1, h2, (Fresh.undefined tbl col sp.name).trans h3⟩

def popSum (fsCost : SelectionSet → Nat) (l : List SelectionSet) : Nat := (l.map (popCost fsCost)).sum

theorem popSum_append (fsCost) (a b : List SelectionSet) : popSum fsCost (a ++ b) = popSum fsCost a + popSum fsCost b := by
  simp [popSum]

theorem popSum_reverse (fsCost) (a : List SelectionSet) : popSum fsCost a.reverse = popSum fsCost a := by
  simp [popSum, List.sum_reverse]

theorem rrfLoopC_erase (tbl : List Frag) (fsCost : SelectionSet → Nat) :
    ∀ (fuel : Nat) (stk : List SelectionSet) (col : List String) (frs : List Frag) (n : Nat),
    (rrfLoopC tbl fsCost fuel stk col frs n).1 = rrfLoop tbl fuel stk col frs
  | _, [], col, frs, n => by cases ‹Nat› <;> simp [rrfLoopC, rrfLoop]
  | 0, _ :: _, col, frs, n => by simp [rrfLoopC, rrfLoop]
  | fuel + 1, ss :: stk, col, frs, n => by
    simp only [rrfLoopC, rrfLoop]
    exact rrfLoopC_erase tbl fsCost fuel _ _ _ _

/-- a selection set has been dealt with: it is still on the stack, or each of its spreads is collected (or about
to be: `pending` are the names of the spreads the current scan has yet to look at) -/
def Done (stk : List SelectionSet) (col pending : List String) (ss : SelectionSet) : Prop :=
  ss ∈ stk ∨ ∀ m, m ∈ spreadNames ss → m ∈ col ∨ m ∈ pending

/-- the invariant of the loop of `RecursivelyReferencedFragments(root)`; `pending` as in `Done` -/
structure RInv (tbl : List Frag) (root : SelectionSet) (pending : List String)
    (stk : List SelectionSet) (col : List String) (frs : List Frag) : Prop where
  sound : ∀ n, n ∈ col → FragUsed tbl root n
  stkSound : ∀ s, s ∈ stk → ∀ n, n ∈ spreadNames s → FragUsed tbl root n
  frsIff : ∀ f, f ∈ frs ↔ (f.name.value ∈ col ∧ lookupFrag tbl f.name.value = some f)
  doneRoot : Done stk col pending root
  done : ∀ n, n ∈ col → ∀ f, lookupFrag tbl n = some f → Done stk col pending f.sel

theorem Done.mono {stk stk' : List SelectionSet} {col col' pending pending' : List String} {ss : SelectionSet}
    (h : Done stk col pending ss) (hs : ∀ x, x ∈ stk → x ∈ stk')
    (hc : ∀ m, m ∈ col ∨ m ∈ pending → m ∈ col' ∨ m ∈ pending') : Done stk' col' pending' ss := by
  rcases h with h | h
  · exact .inl (hs _ h)
  · exact .inr (fun m hm => hc m (h m hm))

theorem Done.pop {s : SelectionSet} {stk : List SelectionSet} {col : List String} {ss : SelectionSet}
    (h : Done (s :: stk) col [] ss) : Done stk col ((fragmentSpreads s).map (·.name)) ss := by
  rcases h with h | h
  · rcases List.mem_cons.1 h with h | h
    · exact .inr (fun m hm => .inr ((mem_fragmentSpreads_names _ m).2 (h ▸ hm)))
    · exact .inl h
  · exact .inr (fun m hm => (h m hm).imp id (fun h => by cases h))

theorem RInv.closed {tbl : List Frag} {root : SelectionSet} {col : List String} {frs : List Frag}
    (h : RInv tbl root [] [] col frs) :
    (∀ r, r ∈ spreadNames root → r ∈ col) ∧ ∀ a b, a ∈ col → SpreadEdge tbl a b → b ∈ col := by
  have hd : ∀ {ss : SelectionSet}, Done [] col [] ss → ∀ m, m ∈ spreadNames ss → m ∈ col := fun hd m hm => by
    rcases hd with h | h
    · cases h
    · rcases h m hm with h | h
      · exact h
      · cases h
  refine ⟨hd h.doneRoot, fun a b ha hab => ?_⟩
  rcases spreadEdge_iff.1 hab with ⟨g, hg, hb⟩
  exact hd (h.done a ha g hg) b hb

theorem rrfScan_inv (tbl : List Frag) (root : SelectionSet) (sps : List Spread) (col : List String)
    (frs : List Frag) (stk : List SelectionSet)
    (hinv : RInv tbl root (sps.map (·.name)) stk col frs)
    (hsp : ∀ sp, sp ∈ sps → FragUsed tbl root sp.name) :
    RInv tbl root [] (rrfScan tbl sps col frs stk).2.2 (rrfScan tbl sps col frs stk).1 (rrfScan tbl sps col frs stk).2.1 := by
  induction sps generalizing col frs stk with
  | nil => simpa [rrfScan] using hinv
  | cons sp rest ih =>
    have hrest : ∀ sp', sp' ∈ rest → FragUsed tbl root sp'.name := fun sp' h => hsp sp' (List.mem_cons_of_mem _ h)
    -- the name of `sp` leaves the pending list for a list of collected names that holds it
    have hpend : ∀ col' : List String, (∀ m, m ∈ col → m ∈ col') → sp.name ∈ col' →
        ∀ m, m ∈ col ∨ m ∈ (sp :: rest).map (·.name) → m ∈ col' ∨ m ∈ rest.map (·.name) := by
      intro col' hsub hin m hm
      rcases hm with hm | hm
      · exact .inl (hsub m hm)
      · rcases List.mem_cons.1 hm with rfl | hm
        · exact .inl hin
        · exact .inr hm
    unfold rrfScan
    by_cases hc : sp.name ∈ col
    · simp only [hc, if_true]
      have hpend := hpend col (fun _ h => h) hc
      exact ih col frs stk ⟨hinv.sound, hinv.stkSound, hinv.frsIff, hinv.doneRoot.mono (fun _ h => h) hpend,
        fun n hn f hf => (hinv.done n hn f hf).mono (fun _ h => h) hpend⟩ hrest
    · simp only [hc, if_false]
      have hpend := hpend _ (fun _ h => List.mem_cons_of_mem _ h) List.mem_cons_self
      have hsound : ∀ n, n ∈ sp.name :: col → FragUsed tbl root n := by
        intro n hn
        rcases List.mem_cons.1 hn with rfl | hn
        · exact hsp _ List.mem_cons_self
        · exact hinv.sound n hn
      cases hl : lookupFrag tbl sp.name with
      | none =>
        simp only []
        refine ih (sp.name :: col) frs stk ⟨hsound, hinv.stkSound, ?_, ?_, ?_⟩ hrest
        · intro f
          rw [hinv.frsIff f]
          constructor
          · rintro ⟨h1, h2⟩; exact ⟨List.mem_cons_of_mem _ h1, h2⟩
          · rintro ⟨h1, h2⟩
            rcases List.mem_cons.1 h1 with h | h
            · rw [h, hl] at h2; cases h2
            · exact ⟨h, h2⟩
        · exact hinv.doneRoot.mono (fun _ h => h) hpend
        · intro n hn f hf
          rcases List.mem_cons.1 hn with rfl | hn
          · rw [hl] at hf; cases hf
          · exact (hinv.done n hn f hf).mono (fun _ h => h) hpend
      | some g =>
        simp only []
        have hg := lookupFrag_some hl
        refine ih (sp.name :: col) (frs ++ [g]) (g.sel :: stk) ⟨hsound, ?_, ?_, ?_, ?_⟩ hrest
        · intro s hs n hn
          rcases List.mem_cons.1 hs with rfl | hs
          · rcases hsp sp List.mem_cons_self with ⟨r, hr, hreach⟩
            exact ⟨r, hr, hreach.tail (spreadEdge_iff.2 ⟨g, hl, hn⟩)⟩
          · exact hinv.stkSound s hs n hn
        · intro f
          rw [List.mem_append, hinv.frsIff f]
          constructor
          · rintro (⟨h1, h2⟩ | h)
            · exact ⟨List.mem_cons_of_mem _ h1, h2⟩
            · have : f = g := by simpa using h
              subst this
              rw [hg.2]
              exact ⟨List.mem_cons_self, hl⟩
          · rintro ⟨h1, h2⟩
            rcases List.mem_cons.1 h1 with h | h
            · rw [h, hl] at h2
              cases h2
              exact .inr (by simp)
            · exact .inl ⟨h, h2⟩
        · exact hinv.doneRoot.mono (fun _ h => List.mem_cons_of_mem _ h) hpend
        · intro n hn f hf
          rcases List.mem_cons.1 hn with rfl | hn
          · rw [hl] at hf; cases hf
            exact .inl List.mem_cons_self
          · exact (hinv.done n hn f hf).mono (fun _ h => List.mem_cons_of_mem _ h) hpend

theorem rrfLoopC_spec (tbl : List Frag) (fsCost : SelectionSet → Nat) (root : SelectionSet) :
    ∀ (fuel : Nat) (stk : List SelectionSet) (col : List String) (frs : List Frag) (n : Nat),
    RInv tbl root [] stk col frs → stk.length + unc (fragNames tbl) col ≤ fuel →
    ∃ (added : List Frag) (col' : List String),
      (rrfLoopC tbl fsCost fuel stk col frs n).1 = (frs ++ added, false) ∧
      (rrfLoopC tbl fsCost fuel stk col frs n).2 = n + popSum fsCost stk + popSum fsCost (added.map (·.sel)) ∧
      Fresh tbl col col' added ∧ RInv tbl root [] [] col' (frs ++ added) := by
  intro fuel
  induction fuel with
  | zero =>
    intro stk col frs n hinv h
    cases stk with
    | nil => exact ⟨[], col, by rw [List.append_nil]; rfl, rfl, Fresh.refl tbl col, by rw [List.append_nil]; exact hinv⟩
    | cons s stk => simp at h
  | succ fuel ih =>
    intro stk col frs n hinv h
    cases stk with
    | nil => exact ⟨[], col, by rw [List.append_nil]; rfl, rfl, Fresh.refl tbl col, by rw [List.append_nil]; exact hinv⟩
    | cons s stk =>
      -- the invariant before the scan of `s`; the holes come last
      have hsc := rrfScan_inv tbl root (fragmentSpreads s) col frs stk ⟨hinv.sound, ?_, hinv.frsIff, ?_, ?_⟩ ?_
      · simp only [rrfLoopC]
        obtain ⟨a1, h1, h2, h3⟩ := rrfScan_shape tbl (fragmentSpreads s) col frs stk
        rw [h1, h2] at hsc ⊢
        have hf : ((a1.map (·.sel)).reverse ++ stk).length +
            unc (fragNames tbl) (rrfScan tbl (fragmentSpreads s) col frs stk).1 ≤ fuel := by
          have := h3.len
          simp only [List.length_append, List.length_reverse, List.length_map, List.length_cons] at h ⊢
          omega
        obtain ⟨a2, c2, g1, g2, g3, g4⟩ := ih ((a1.map (·.sel)).reverse ++ stk)
          (rrfScan tbl (fragmentSpreads s) col frs stk).1 (frs ++ a1)
          (n + 1 + fsCost s + (fragmentSpreads s).length) hsc hf
        refine ⟨a1 ++ a2, c2, ?_, ?_, h3.trans g3, ?_⟩
        · rw [g1, List.append_assoc]
        · rw [g2, List.map_append, popSum_append, popSum_append, popSum_reverse]
          have hc : popSum fsCost (s :: stk) = popCost fsCost s + popSum fsCost stk := rfl
          rw [hc]
          simp only [popCost, nSpreadsSet, (fragmentSpreads_run s).2.2.length_eq]
          omega
        · rw [← List.append_assoc]; exact g4
      · -- `stkSound`
        exact fun s' hs' => hinv.stkSound s' (List.mem_cons_of_mem _ hs')
      · -- `doneRoot`
        exact hinv.doneRoot.pop
      · -- `done`
        exact fun n hn f hf => (hinv.done n hn f hf).pop
      · -- `hsp` of `rrfScan_inv`
        intro sp hsp
        exact hinv.stkSound s List.mem_cons_self sp.name
          ((mem_fragmentSpreads_names s sp.name).1 (List.mem_map.2 ⟨sp, hsp, rfl⟩))

theorem unc_lt_fuel (tbl : List Frag) (col : List String) : unc (fragNames tbl) col < tbl.length + 1 :=
  Nat.lt_succ_of_le (List.length_map (as := tbl) _ ▸ unc_le_length (fragNames tbl) col)

theorem rrf_run (tbl : List Frag) (fsCost : SelectionSet → Nat) (sel : SelectionSet) :
    ∃ col', (recursivelyReferencedF tbl sel).2 = false ∧
      rrfSteps tbl fsCost sel = popCost fsCost sel + popSum fsCost ((recursivelyReferenced tbl sel).map (·.sel)) ∧
      Fresh tbl [] col' (recursivelyReferenced tbl sel) ∧ RInv tbl sel [] [] col' (recursivelyReferenced tbl sel) := by
  have hinit : RInv tbl sel [] [sel] [] [] :=
    ⟨by simp, fun s hs n hn => by
        have : s = sel := by simpa using hs
        subst this
        exact ⟨n, hn, .refl n⟩,
      by simp, .inl (by simp), by simp⟩
  obtain ⟨added, col', h1, h2, h3, h4⟩ := rrfLoopC_spec tbl fsCost sel (tbl.length + 1) [sel] [] [] 0 hinit
    (Nat.add_comm _ _ ▸ Nat.succ_le_succ (Nat.le_of_lt_succ (unc_lt_fuel tbl [])))
  rw [rrfLoopC_erase] at h1
  have he : recursivelyReferencedF tbl sel = (added, false) := h1
  have hr : recursivelyReferenced tbl sel = added := congrArg Prod.fst he
  rw [hr, he]
  exact ⟨col', rfl, by rw [rrfSteps, h2]; simp [popSum], h3, h4⟩

theorem rrf_no_oof (tbl : List Frag) (sel : SelectionSet) : (recursivelyReferencedF tbl sel).2 = false := by
  obtain ⟨_, h, _⟩ := rrf_run tbl (fun _ => 0) sel
  exact h

/-- `RecursivelyReferencedFragments` = reachability (C02) -/
theorem rrf_spec (tbl : List Frag) (sel : SelectionSet) :
    (recursivelyReferencedF tbl sel).2 = false ∧
    ∀ f, f ∈ recursivelyReferenced tbl sel ↔
      (FragUsed tbl sel f.name.value ∧ lookupFrag tbl f.name.value = some f) := by
  obtain ⟨col, _, _, _, hc⟩ := rrf_run tbl (fun _ => 0) sel
  refine ⟨rrf_no_oof tbl sel, fun f => ?_⟩
  rw [hc.frsIff f]
  constructor
  · rintro ⟨h1, h2⟩; exact ⟨hc.sound _ h1, h2⟩
  · rintro ⟨⟨r, hr, hreach⟩, h2⟩
    exact ⟨Reaches.closed_induction (C := fun x => x ∈ col) hc.closed.2 hreach (hc.closed.1 r hr), h2⟩

theorem rrf_fresh (tbl : List Frag) (sel : SelectionSet) : ∃ col', Fresh tbl [] col' (recursivelyReferenced tbl sel) := by
  obtain ⟨col', _, _, h, _⟩ := rrf_run tbl (fun _ => 0) sel
  exact ⟨col', h⟩

theorem rrf_length_le (tbl : List Frag) (sel : SelectionSet) : (recursivelyReferenced tbl sel).length ≤ tbl.length := by
  obtain ⟨_, h⟩ := rrf_fresh tbl sel
  exact Nat.le_trans (Nat.le_trans (Nat.le_add_right _ _) h.len) (Nat.le_of_lt_succ (unc_lt_fuel tbl []))

def Defined (tbl : List Frag) (b : String) : Prop := b ∈ fragNames tbl

/-- keys of `fragmentNameUsed` = names of defined fragments reachable from some operation -/
theorem mem_usedFragNames (tbl : List Frag) (ops : List SelectionSet) (n : String) :
    n ∈ usedFragNames tbl ops ↔ ∃ sel, sel ∈ ops ∧ FragUsed tbl sel n ∧ Defined tbl n := by
  simp only [usedFragNames, List.mem_flatMap, List.mem_map]
  constructor
  · rintro ⟨sel, hsel, f, hf, rfl⟩
    have := ((rrf_spec tbl sel).2 f).1 hf
    exact ⟨sel, hsel, this.1, lookupFrag_mem_names this.2⟩
  · rintro ⟨sel, hsel, hu, hd⟩
    rcases lookupFrag_of_mem_names hd with ⟨f, hf⟩
    have hn := (lookupFrag_some hf).2
    refine ⟨sel, hsel, f, ((rrf_spec tbl sel).2 f).2 ⟨hn ▸ hu, hn ▸ hf⟩, hn⟩

/-- `RecursiveVariableUsages(operation)` = usages in the operation and in every fragment it reaches -/
theorem mem_recursiveUsages (s : Schema) (tbl : List Frag) (o : Op) (u : Usage) :
    u ∈ recursiveUsages s tbl o ↔ UsageIn s tbl o u := by
  simp only [recursiveUsages, UsageIn, List.mem_append, List.mem_flatMap]
  constructor
  · rintro (h | ⟨f, hf, hu⟩)
    · exact .inl h
    · have := ((rrf_spec tbl o.sel).2 f).1 hf
      exact .inr ⟨f, f.name.value, this.1, this.2, hu⟩
  · rintro (h | ⟨f, x, hx, hf, hu⟩)
    · exact .inl h
    · have hn := (lookupFrag_some hf).2
      exact .inr ⟨f, ((rrf_spec tbl o.sel).2 f).2 ⟨hn ▸ hx, hn ▸ hf⟩, hu⟩

theorem mem_usedVars (us : List Usage) (v : String) : v ∈ usedVars us ↔ v ≠ "" ∧ ∃ u, u ∈ us ∧ u.name = v := by
  simp only [usedVars, List.mem_filter, List.mem_map, bne_iff_ne, ne_eq]
  constructor
  · rintro ⟨⟨u, hu, rfl⟩, h⟩; exact ⟨h, u, hu, rfl⟩
  · rintro ⟨h, u, hu, rfl⟩; exact ⟨⟨u, hu, rfl⟩, h⟩

end GqlModel.Validate.Graph
