import GqlModel.Grammar
import GqlModel.PrinterWF
import GqlModel.StripLoc
/-! The plain token sequence of a well-formed tree is in the grammar S (`GqlModel/Grammar.lean`) and denotes the same
tree, locations aside — for tokens placed at arbitrary offsets.  Statement shape, per nonterminal `X`:

  `kvs p = xT x ++ k → look-ahead on k → ∃ x' p', DX p x' p' ∧ kvs p' = k ∧ x'.stripLoc = x.stripLoc`

(`kvs p` = kinds and values of the tokens ahead of position `p`; `k` = what follows the node; the look-ahead conditions
are those of the node's trailing optional parts: `NextNe` / `NextNotName`, bundled as `FollowSel` for selections and as
`FollowMember` / `FollowDef` in PrinterDeriveDefs). -/
namespace GqlModel.Printer
open GqlModel.Grammar GqlModel.Reader

def kvOf (t : Token) : KV := (t.kind, t.value)

def kvs (p : Pos) : List KV := p.ts.map kvOf

def NextNe (k : TokenKind) (l : List KV) : Prop := ∀ x r, l = x :: r → x.1 ≠ k

def NextNotName (s : String) (l : List KV) : Prop := ∀ x r, l = x :: r → x ≠ (.name, s)

theorem tok_step {p : Pos} {k : TokenKind} {v : String} {rest : List KV} (h : kvs p = (k, v) :: rest) :
    ∃ t p', Tok k p t p' ∧ t.value = v ∧ kvs p' = rest := by
  obtain ⟨e, ts⟩ := p
  cases ts with
  | nil => simp [kvs] at h
  | cons t r =>
    simp only [kvs, List.map_cons, List.cons.injEq, kvOf, Prod.mk.injEq] at h
    exact ⟨t, ⟨t.stop, r⟩, Tok.mk e t r h.1.1, h.1.2, h.2⟩

theorem kind_ne_of_next {p : Pos} {k : TokenKind} {l : List KV} (h : kvs p = l) (hn : NextNe k l) (hk : k ≠ .eof) :
    p.kind ≠ k := by
  obtain ⟨e, ts⟩ := p
  cases ts with
  | nil => simpa [Pos.kind] using fun h => hk h.symm
  | cons t r =>
    simp only [kvs, List.map_cons] at h
    have := hn (kvOf t) (r.map kvOf) h.symm
    simpa [Pos.kind, kvOf] using this

theorem not_isName_of_next {p : Pos} {s : String} {l : List KV} (h : kvs p = l) (hn : NextNotName s l) :
    ¬ p.isName s := by
  obtain ⟨e, ts⟩ := p
  cases ts with
  | nil => simp [Pos.isName]
  | cons t r =>
    simp only [kvs, List.map_cons] at h
    have := hn (kvOf t) (r.map kvOf) h.symm
    simp only [Pos.isName]
    intro hc
    apply this
    simp [kvOf, hc.1, hc.2]

theorem nextNe_cons {k k' : TokenKind} {v : String} {r : List KV} (h : k' ≠ k) : NextNe k ((k', v) :: r) := by
  intro x r' e; simp at e; rw [← e.1]; exact h

theorem nextNe_nil (k : TokenKind) : NextNe k [] := by intro x r e; simp at e

theorem nextNotName_cons_kind {k : TokenKind} {v s : String} {r : List KV} (h : k ≠ .name) : NextNotName s ((k, v) :: r) := by
  intro x r' e; simp at e; rw [← e.1]; intro hc; simp at hc; exact h hc.1

theorem nextNotName_nil (s : String) : NextNotName s [] := by intro x r e; simp at e

theorem nextNe_nT {c : TokenKind} (hc : c ≠ .name) (s : String) (k : List KV) : NextNe c (nT s ++ k) := by
  simp only [nT, List.cons_append, List.nil_append]; exact nextNe_cons (fun e => hc e.symm)

theorem nextNe_pT {c c' : TokenKind} (hc : c ≠ c') (k : List KV) : NextNe c (pT c' ++ k) := by
  simp only [pT, List.cons_append, List.nil_append]; exact nextNe_cons (fun e => hc e.symm)

theorem nextNotName_pT (s : String) (c : TokenKind) (hc : c ≠ .name) (k : List KV) : NextNotName s (pT c ++ k) := by
  simp only [pT, List.cons_append, List.nil_append]; exact nextNotName_cons_kind hc

theorem directivesT_cons_head (d : Directive) (ds : List Directive) (k : List KV) :
    ∃ r, directivesT (d :: ds) ++ k = (.at, "") :: r := by
  simp [directivesT, directiveT, pT]

theorem nextNe_directivesT {c : TokenKind} (hc : c ≠ .at) (ds : List Directive) {k : List KV} (hk : NextNe c k) :
    NextNe c (directivesT ds ++ k) := by
  cases ds with
  | nil => simpa [directivesT] using hk
  | cons d ds =>
    obtain ⟨r, hr⟩ := directivesT_cons_head d ds k
    rw [hr]; exact nextNe_cons (fun e => hc e.symm)

theorem nextNotName_directivesT (s : String) (ds : List Directive) {k : List KV} (hk : NextNotName s k) :
    NextNotName s (directivesT ds ++ k) := by
  cases ds with
  | nil => simpa [directivesT] using hk
  | cons d ds =>
    obtain ⟨r, hr⟩ := directivesT_cons_head d ds k
    rw [hr]; exact nextNotName_cons_kind (by decide)

theorem selSetT_head (s : SelectionSet) (k : List KV) : ∃ r, selSetT s ++ k = (.braceL, "") :: r := by
  cases s with
  | mk sels l => simp [selSetT, pT]

theorem nextNe_selSetT {c : TokenKind} (hc : c ≠ .braceL) (s : SelectionSet) (k : List KV) : NextNe c (selSetT s ++ k) := by
  obtain ⟨r, hr⟩ := selSetT_head s k
  rw [hr]; exact nextNe_cons (fun e => hc e.symm)

theorem nextNe_optSelSetT {c : TokenKind} (hc : c ≠ .braceL) (s : Option SelectionSet) {k : List KV} (hk : NextNe c k) :
    NextNe c (optSelSetT s ++ k) := by
  cases s with
  | none => simpa [optSelSetT] using hk
  | some s => simp only [optSelSetT]; exact nextNe_selSetT hc s k

theorem nextNe_defaultT {c : TokenKind} (hc : c ≠ .equals) (d : Option Value) {k : List KV} (hk : NextNe c k) :
    NextNe c (defaultT d ++ k) := by
  cases d with
  | none => simpa [defaultT] using hk
  | some v => simp only [defaultT, List.append_assoc]; exact nextNe_pT hc _

theorem nextNe_varDefsT {c : TokenKind} (hc : c ≠ .parenL) (vs : List VarDef) {k : List KV} (hk : NextNe c k) :
    NextNe c (varDefsT vs ++ k) := by
  cases vs with
  | nil => simpa [varDefsT] using hk
  | cons v vs => simp only [varDefsT, List.append_assoc]; exact nextNe_pT hc _

theorem derive_name {p : Pos} {s : String} {k : List KV} (h : kvs p = nT s ++ k) :
    ∃ n p', DName p n p' ∧ kvs p' = k ∧ n.value = s := by
  obtain ⟨t, p', ht, hv, hk⟩ := tok_step (by simpa [nT] using h)
  exact ⟨_, p', DName.mk ht, hk, hv⟩

theorem derive_kw {p : Pos} {s : String} {k : List KV} (h : kvs p = nT s ++ k) : ∃ p', Kw s p p' ∧ kvs p' = k := by
  obtain ⟨t, p', ht, hv, hk⟩ := tok_step (by simpa [nT] using h)
  exact ⟨p', Kw.mk ht hv, hk⟩

theorem derive_punct {p : Pos} {c : TokenKind} {k : List KV} (h : kvs p = pT c ++ k) :
    ∃ t p', Tok c p t p' ∧ kvs p' = k := by
  obtain ⟨t, p', ht, _, hk⟩ := tok_step (by simpa [pT] using h)
  exact ⟨t, p', ht, hk⟩

/-- `Many D` from a derivation for each element, for a token sequence and a well-formedness predicate defined by
recursion on the list; `F` is the look-ahead condition of an element, which holds in front of every element (`hhead`)
and at the end of the list (`hk`) -/
theorem derive_many {α : Type} {D : Pos → α → Pos → Prop} {fT : α → List KV} {listT : List α → List KV}
    {strip : α → α} {WF : α → Prop} {WFs : List α → Prop} {F : List KV → Prop}
    (step : ∀ x, WF x → ∀ (p : Pos) (k : List KV), kvs p = fT x ++ k → F k →
      ∃ x' p', D p x' p' ∧ kvs p' = k ∧ strip x' = strip x)
    (hhead : ∀ x k, F (fT x ++ k)) {k : List KV} (hk : F k) (xs : List α) (hw : WFs xs) (p : Pos)
    (h : kvs p = listT xs ++ k)
    (hnil : listT [] = [] := by rfl) (hcons : ∀ x xs, listT (x :: xs) = fT x ++ listT xs := by exact fun _ _ => rfl)
    (hwf : ∀ x xs, WFs (x :: xs) → WF x ∧ WFs xs := by exact fun _ _ h => h) :
    ∃ xs' p', Many D p xs' p' ∧ kvs p' = k ∧ xs'.map strip = xs.map strip := by
  induction xs generalizing p with
  | nil => exact ⟨[], p, Many.nil, by rw [hnil] at h; exact h, rfl⟩
  | cons x xs ih =>
    rw [hcons, List.append_assoc] at h
    have hf : F (listT xs ++ k) := by
      cases xs with
      | nil => rw [hnil]; exact hk
      | cons y ys => rw [hcons, List.append_assoc]; exact hhead y _
    obtain ⟨x', p1, hx, h1, hs1⟩ := step x (hwf _ _ hw).1 p _ h hf
    obtain ⟨xs', p2, hxs, h2, hs2⟩ := ih (hwf _ _ hw).2 p1 h1
    exact ⟨x' :: xs', p2, Many.cons hx hxs, h2, by rw [List.map_cons, List.map_cons, hs1, hs2]⟩

theorem derive_sepBy {α : Type} {D : Pos → α → Pos → Prop} {fT : α → List KV} {strip : α → α} {WF : α → Prop}
    (sep : TokenKind) (hsep : sep ≠ .eof)
    (step : ∀ x, WF x → ∀ (p : Pos) (k : List KV), kvs p = fT x ++ k →
      ∃ x' p', D p x' p' ∧ kvs p' = k ∧ strip x' = strip x) :
    ∀ (x : α) (xs : List α), (∀ y ∈ x :: xs, WF y) → ∀ (p : Pos) (k : List KV),
      kvs p = sepByT sep ((x :: xs).map fT) ++ k → NextNe sep k →
      ∃ xs' p', SepBy sep D p xs' p' ∧ kvs p' = k ∧ xs'.map strip = (x :: xs).map strip
  | x, [], hwf, p, k, h, hf => by
    obtain ⟨x', p1, hx, h1, hs⟩ := step x (hwf x (by simp)) p k h
    exact ⟨[x'], p1, SepBy.one hx (kind_ne_of_next h1 hf hsep), h1, by rw [List.map_singleton, hs]; rfl⟩
  | x, y :: ys, hwf, p, k, h, hf => by
    simp only [List.map_cons, sepByT, List.append_assoc] at h
    obtain ⟨x', p1, hx, h1, hs⟩ := step x (hwf x (by simp)) p _ h
    obtain ⟨s, p2, hsp, h2⟩ := derive_punct h1
    obtain ⟨xs', p3, hxs, h3, hss⟩ := derive_sepBy sep hsep step y ys (fun z hz => hwf z (by simp [hz])) p2 k h2 hf
    exact ⟨x' :: xs', p3, SepBy.cons hx hsp hxs, h3, by rw [List.map_cons, List.map_cons, hs, hss]⟩

theorem derive_namedType {p : Pos} {t : TypeRef} {k : List KV} (hwf : WFNamedType t) (h : kvs p = typeT t ++ k) :
    ∃ t' p', DNamedType p t' p' ∧ kvs p' = k ∧ t'.stripLoc = t.stripLoc := by
  cases t with
  | named n l =>
    obtain ⟨nm, p', hn, hk, hv⟩ := derive_name (s := n) (by simpa [typeT] using h)
    exact ⟨_, p', DNamedType.mk hn, hk, by simp [TypeRef.stripLoc, hv]⟩
  | list t l => exact absurd hwf (by simp [WFNamedType])
  | nonNull t l => exact absurd hwf (by simp [WFNamedType])

theorem derive_type_aux : ∀ t : TypeRef, WFType t → ∀ (p : Pos) (k : List KV), kvs p = typeT t ++ k →
    (isBaseTypeB t = true → ∃ t' p', DBaseType p t' p' ∧ kvs p' = k ∧ t'.stripLoc = t.stripLoc) ∧
    (NextNe .bang k → ∃ t' p', DType p t' p' ∧ kvs p' = k ∧ t'.stripLoc = t.stripLoc) := by
  intro t
  induction t with
  | named n l =>
    intro hwf p k h
    have hb : ∃ t' p', DBaseType p t' p' ∧ kvs p' = k ∧ t'.stripLoc = (TypeRef.named n l).stripLoc := by
      obtain ⟨nm, p', hn, hk, hv⟩ := derive_name (s := n) (by simpa [typeT] using h)
      exact ⟨_, p', DBaseType.named (DNamedType.mk hn), hk, by simp [TypeRef.stripLoc, hv]⟩
    refine ⟨fun _ => hb, fun hnb => ?_⟩
    obtain ⟨t', p', hd, hk, hs⟩ := hb
    exact ⟨t', p', DType.plain hd (kind_ne_of_next hk hnb (by decide)), hk, hs⟩
  | list t l ih =>
    intro hwf p k h
    have hb : ∃ t' p', DBaseType p t' p' ∧ kvs p' = k ∧ t'.stripLoc = (TypeRef.list t l).stripLoc := by
      simp only [typeT, List.append_assoc] at h
      obtain ⟨o, p1, ho, h1⟩ := derive_punct h
      obtain ⟨t', p2, hd, h2, hs⟩ := (ih hwf p1 _ h1).2 (nextNe_cons (by decide))
      obtain ⟨cl, p3, hc, h3⟩ := derive_punct h2
      exact ⟨_, p3, DBaseType.list ho hd hc, h3, by simp [TypeRef.stripLoc, hs]⟩
    refine ⟨fun _ => hb, fun hnb => ?_⟩
    obtain ⟨t', p', hd, hk, hs⟩ := hb
    exact ⟨t', p', DType.plain hd (kind_ne_of_next hk hnb (by decide)), hk, hs⟩
  | nonNull t l ih =>
    intro hwf p k h
    obtain ⟨hwft, hbase⟩ := hwf
    have hbase' : isBaseTypeB t = true := by
      cases t with
      | nonNull _ _ => exact hbase.elim
      | _ => rfl
    refine ⟨fun hb => by simp [isBaseTypeB] at hb, fun _ => ?_⟩
    simp only [typeT, List.append_assoc] at h
    obtain ⟨t', p1, hd, h1, hs⟩ := (ih hwft p _ h).1 hbase'
    obtain ⟨b, p2, hb, h2⟩ := derive_punct h1
    exact ⟨_, p2, DType.nonNull hd hb, h2, by simp [TypeRef.stripLoc, hs]⟩

theorem derive_type {t : TypeRef} (hwf : WFType t) {p : Pos} {k : List KV} (h : kvs p = typeT t ++ k)
    (hn : NextNe .bang k) : ∃ t' p', DType p t' p' ∧ kvs p' = k ∧ t'.stripLoc = t.stripLoc :=
  (derive_type_aux t hwf p k h).2 hn

theorem str_ne_of_toList_ne {v : String} {s : String} (h : v.toList ≠ s.toList) : v ≠ s := by
  intro e; subst e; exact h rfl

theorem trueC_eq : "true".toList = trueC := by decide
theorem falseC_eq : "false".toList = falseC := by decide
theorem nullC_eq : "null".toList = nullC := by decide

mutual
theorem derive_value (c : Bool) : ∀ v : Value, WFValue v → (c = true → ConstValue v) → ∀ (p : Pos) (k : List KV),
    kvs p = valueT v ++ k → ∃ v' p', DValue c p v' p' ∧ kvs p' = k ∧ v'.stripLoc = v.stripLoc
  | .var n l, _, hc, p, k, h => by
    have hcf : c = false := by
      cases c with
      | false => rfl
      | true => exact absurd (hc rfl) (by simp [ConstValue])
    subst hcf
    simp only [valueT, List.append_assoc] at h
    obtain ⟨d, p1, hd, h1⟩ := derive_punct h
    obtain ⟨nm, p2, hn, h2, hv⟩ := derive_name h1
    exact ⟨_, p2, DValue.var (DVariable.mk hd hn), h2, by simp [Value.stripLoc, hv]⟩
  | .int raw l, _, _, p, k, h => by
    obtain ⟨t, p', ht, hv, hk⟩ := tok_step (k := .int) (v := raw) (by simpa [valueT] using h)
    exact ⟨_, p', DValue.int ht, hk, by simp [Value.stripLoc, hv]⟩
  | .float raw l, _, _, p, k, h => by
    obtain ⟨t, p', ht, hv, hk⟩ := tok_step (k := .float) (v := raw) (by simpa [valueT] using h)
    exact ⟨_, p', DValue.float ht, hk, by simp [Value.stripLoc, hv]⟩
  | .str s l, _, _, p, k, h => by
    obtain ⟨t, p', ht, hv, hk⟩ := tok_step (k := .string) (v := s) (by simpa [valueT] using h)
    exact ⟨_, p', DValue.string ht, hk, by simp [Value.stripLoc, hv]⟩
  | .bool true l, _, _, p, k, h => by
    obtain ⟨p', hkw, hk⟩ := derive_kw (s := "true") (by simpa [valueT] using h)
    exact ⟨_, p', DValue.tru hkw, hk, rfl⟩
  | .bool false l, _, _, p, k, h => by
    obtain ⟨p', hkw, hk⟩ := derive_kw (s := "false") (by simpa [valueT] using h)
    exact ⟨_, p', DValue.fls hkw, hk, rfl⟩
  | .enum v l, hwf, _, p, k, h => by
    obtain ⟨t, p', ht, hv, hk⟩ := tok_step (k := .name) (v := v) (by simpa [valueT, nT] using h)
    refine ⟨_, p', DValue.enum ht ?_ ?_ ?_, hk, by simp [Value.stripLoc, hv]⟩
    · rw [hv]; exact str_ne_of_toList_ne (by rw [trueC_eq]; exact hwf.2.1)
    · rw [hv]; exact str_ne_of_toList_ne (by rw [falseC_eq]; exact hwf.2.2.1)
    · rw [hv]; exact str_ne_of_toList_ne (by rw [nullC_eq]; exact hwf.2.2.2)
  | .list vs l, hwf, hc, p, k, h => by
    simp only [valueT, List.append_assoc] at h
    obtain ⟨o, p1, ho, h1⟩ := derive_punct h
    obtain ⟨vs', p2, hvs, h2, hs⟩ := derive_values c vs hwf hc p1 _ h1
    obtain ⟨cl, p3, hcl, h3⟩ := derive_punct h2
    exact ⟨_, p3, DValue.list ho hvs hcl, h3, by simp [Value.stripLoc, hs]⟩
  | .obj fs l, hwf, hc, p, k, h => by
    simp only [valueT, List.append_assoc] at h
    obtain ⟨o, p1, ho, h1⟩ := derive_punct h
    obtain ⟨fs', p2, hfs, h2, hs⟩ := derive_fields c fs hwf hc p1 _ h1
    obtain ⟨cl, p3, hcl, h3⟩ := derive_punct h2
    exact ⟨_, p3, DValue.obj ho hfs hcl, h3, by simp [Value.stripLoc, hs]⟩
theorem derive_values (c : Bool) : ∀ vs : List Value, WFValues vs → (c = true → ConstValues vs) → ∀ (p : Pos) (k : List KV),
    kvs p = valuesT vs ++ k → ∃ vs' p', DValues c p vs' p' ∧ kvs p' = k ∧ Value.stripLocList vs' = Value.stripLocList vs
  | [], _, _, p, k, h => ⟨[], p, DValues.nil, by simpa [valuesT] using h, rfl⟩
  | v :: vs, hwf, hc, p, k, h => by
    simp only [valuesT, List.append_assoc] at h
    obtain ⟨v', p1, hv, h1, hs1⟩ := derive_value c v hwf.1 (fun e => (hc e).1) p _ h
    obtain ⟨vs', p2, hvs, h2, hs2⟩ := derive_values c vs hwf.2 (fun e => (hc e).2) p1 _ h1
    exact ⟨v' :: vs', p2, DValues.cons hv hvs, h2, by simp [Value.stripLocList, hs1, hs2]⟩
theorem derive_field (c : Bool) : ∀ f : ObjField, WFField f → (c = true → ConstField f) → ∀ (p : Pos) (k : List KV),
    kvs p = fieldT f ++ k → ∃ f' p', DObjField c p f' p' ∧ kvs p' = k ∧ f'.stripLoc = f.stripLoc
  | .mk n v l, hwf, hc, p, k, h => by
    simp only [fieldT, List.append_assoc] at h
    obtain ⟨nm, p1, hn, h1, hnv⟩ := derive_name h
    obtain ⟨cl, p2, hcl, h2⟩ := derive_punct h1
    obtain ⟨v', p3, hv, h3, hs⟩ := derive_value c v hwf.2 (fun e => hc e) p2 _ h2
    exact ⟨_, p3, DObjField.mk hn hcl hv, h3, by simp [ObjField.stripLoc, Name.stripLoc, hnv, hs]⟩
theorem derive_fields (c : Bool) : ∀ fs : List ObjField, WFFields fs → (c = true → ConstFields fs) → ∀ (p : Pos) (k : List KV),
    kvs p = fieldsT fs ++ k →
      ∃ fs' p', DObjFields c p fs' p' ∧ kvs p' = k ∧ ObjField.stripLocList fs' = ObjField.stripLocList fs
  | [], _, _, p, k, h => ⟨[], p, DObjFields.nil, by simpa [fieldsT] using h, rfl⟩
  | f :: fs, hwf, hc, p, k, h => by
    simp only [fieldsT, List.append_assoc] at h
    obtain ⟨f', p1, hf, h1, hs1⟩ := derive_field c f hwf.1 (fun e => (hc e).1) p _ h
    obtain ⟨fs', p2, hfs, h2, hs2⟩ := derive_fields c fs hwf.2 (fun e => (hc e).2) p1 _ h1
    exact ⟨f' :: fs', p2, DObjFields.cons hf hfs, h2, by simp [ObjField.stripLocList, hs1, hs2]⟩
end

theorem derive_argument (a : Argument) (hwf : WFArgument a) {p : Pos} {k : List KV} (h : kvs p = argT a ++ k) :
    ∃ a' p', DArgument p a' p' ∧ kvs p' = k ∧ a'.stripLoc = a.stripLoc := by
  simp only [argT, List.append_assoc] at h
  obtain ⟨nm, p1, hn, h1, hnv⟩ := derive_name h
  obtain ⟨cl, p2, hcl, h2⟩ := derive_punct h1
  obtain ⟨v', p3, hv, h3, hs⟩ := derive_value false a.value hwf.2 (fun e => by cases e) p2 _ h2
  exact ⟨_, p3, DArgument.mk hn hcl hv, h3, by simp [Argument.stripLoc, Name.stripLoc, hnv, hs]⟩

theorem ne_nil_of_map_eq {α β : Type} {f : α → β} {g : α → β} {xs : List α} {y : α} {ys : List α}
    (h : xs.map f = (y :: ys).map g) : xs ≠ [] := by
  intro e; subst e; simp at h

theorem derive_arguments (as : List Argument) (hwf : WFArguments as) {p : Pos} {k : List KV} (h : kvs p = argsT as ++ k)
    (hf : as = [] → NextNe .parenL k) :
    ∃ as' p', DArguments p as' p' ∧ kvs p' = k ∧ as'.map Argument.stripLoc = as.map Argument.stripLoc := by
  cases as with
  | nil =>
    have hk : kvs p = k := by simpa [argsT] using h
    exact ⟨[], p, DArguments.none (kind_ne_of_next hk (hf rfl) (by decide)), hk, rfl⟩
  | cons a as =>
    simp only [argsT, List.append_assoc] at h
    obtain ⟨o, p1, ho, h1⟩ := derive_punct h
    obtain ⟨as', p2, has, h2, hs⟩ := derive_many (listT := argListT) (F := fun _ => True)
      (fun a hw _ _ h _ => derive_argument a hw h) (fun _ _ => trivial) trivial (a :: as) hwf p1 h1
    obtain ⟨cl, p3, hcl, h3⟩ := derive_punct h2
    exact ⟨as', p3, DArguments.some ho has (ne_nil_of_map_eq hs) hcl, h3, hs⟩

theorem derive_directive (d : Directive) (hwf : WFDirective d) {p : Pos} {k : List KV} (h : kvs p = directiveT d ++ k)
    (hf : d.args = [] → NextNe .parenL k) :
    ∃ d' p', DDirective p d' p' ∧ kvs p' = k ∧ d'.stripLoc = d.stripLoc := by
  simp only [directiveT, List.append_assoc] at h
  obtain ⟨a, p1, ha, h1⟩ := derive_punct h
  obtain ⟨nm, p2, hn, h2, hnv⟩ := derive_name h1
  obtain ⟨as', p3, has, h3, hs⟩ := derive_arguments d.args hwf.2 h2 hf
  exact ⟨_, p3, DDirective.mk ha hn has, h3, by simp [Directive.stripLoc, Name.stripLoc, hnv, hs]⟩

theorem derive_directives : ∀ ds : List Directive, WFDirectives ds → ∀ (p : Pos) (k : List KV),
    kvs p = directivesT ds ++ k → NextNe .at k → NextNe .parenL k →
    ∃ ds' p', DDirectives p ds' p' ∧ kvs p' = k ∧ ds'.map Directive.stripLoc = ds.map Directive.stripLoc
  | [], _, p, k, h, hat, _ => by
    have hk : kvs p = k := by simpa [directivesT] using h
    exact ⟨[], p, DDirectives.nil (kind_ne_of_next hk hat (by decide)), hk, rfl⟩
  | d :: ds, hwf, p, k, h, hat, hpar => by
    simp only [directivesT, List.append_assoc] at h
    obtain ⟨d', p1, hd, h1, hs1⟩ := derive_directive d hwf.1 h
      (fun _ => nextNe_directivesT (by decide) ds hpar)
    obtain ⟨ds', p2, hds, h2, hs2⟩ := derive_directives ds hwf.2 p1 k h1 hat hpar
    exact ⟨d' :: ds', p2, DDirectives.cons hd hds, h2, by simp [hs1, hs2]⟩

structure FollowSel (k : List KV) : Prop where
  hColon : NextNe .colon k
  hParenL : NextNe .parenL k
  hAt : NextNe .at k
  hBraceL : NextNe .braceL k

theorem followSel_cons {kd : TokenKind} {v : String} {r : List KV} (h1 : kd ≠ .colon) (h2 : kd ≠ .parenL)
    (h3 : kd ≠ .at) (h4 : kd ≠ .braceL) : FollowSel ((kd, v) :: r) :=
  ⟨nextNe_cons h1, nextNe_cons h2, nextNe_cons h3, nextNe_cons h4⟩

theorem followSel_nil : FollowSel [] := ⟨nextNe_nil _, nextNe_nil _, nextNe_nil _, nextNe_nil _⟩

theorem selectionT_head (s : Selection) (k : List KV) :
    ∃ kd v r, selectionT s ++ k = (kd, v) :: r ∧ (kd = .name ∨ kd = .spread) := by
  cases s with
  | field alias name args dirs sel l =>
    cases alias with
    | none =>
      simp only [selectionT, aliasT, nT, List.nil_append, List.cons_append, List.append_assoc]
      exact ⟨_, _, _, rfl, Or.inl rfl⟩
    | some a =>
      simp only [selectionT, aliasT, nT, List.nil_append, List.cons_append, List.append_assoc]
      exact ⟨_, _, _, rfl, Or.inl rfl⟩
  | spread name dirs l =>
    simp only [selectionT, pT, List.nil_append, List.cons_append, List.append_assoc]
    exact ⟨_, _, _, rfl, Or.inr rfl⟩
  | inline tc dirs sel l =>
    simp only [selectionT, pT, List.nil_append, List.cons_append, List.append_assoc]
    exact ⟨_, _, _, rfl, Or.inr rfl⟩

theorem followSel_selections (ss : List Selection) (k : List KV) : FollowSel (selectionsT ss ++ (pT .braceR ++ k)) := by
  cases ss with
  | nil => simp only [selectionsT, List.nil_append, pT, List.cons_append]; exact followSel_cons (by decide) (by decide) (by decide) (by decide)
  | cons s ss =>
    obtain ⟨kd, v, r, hr, hkd⟩ := selectionT_head s (selectionsT ss ++ (pT .braceR ++ k))
    simp only [selectionsT, List.append_assoc]
    rw [hr]
    rcases hkd with rfl | rfl <;> exact followSel_cons (by decide) (by decide) (by decide) (by decide)

theorem derive_typeCond (tc : Option TypeRef) (hwf : WFTypeCond tc) {p : Pos} {k : List KV}
    (h : kvs p = typeCondT tc ++ k) (hf : NextNotName "on" k) :
    ∃ tc' p', DTypeCondition p tc' p' ∧ kvs p' = k ∧ tc'.map TypeRef.stripLoc = tc.map TypeRef.stripLoc := by
  cases tc with
  | none =>
    have hk : kvs p = k := by simpa [typeCondT] using h
    exact ⟨none, p, DTypeCondition.none (not_isName_of_next hk hf), hk, rfl⟩
  | some t =>
    simp only [typeCondT, List.append_assoc] at h
    obtain ⟨p1, hkw, h1⟩ := derive_kw h
    obtain ⟨t', p2, ht, h2, hs⟩ := derive_namedType hwf h1
    exact ⟨some t', p2, DTypeCondition.some hkw ht, h2, by simp [hs]⟩

mutual
theorem derive_selection : ∀ s : Selection, WFSelection s → ∀ (p : Pos) (k : List KV), kvs p = selectionT s ++ k →
    FollowSel k → ∃ s' p', DSelection p s' p' ∧ kvs p' = k ∧ s'.stripLoc = s.stripLoc
  | .field alias name args dirs sel l, hwf, p, k, h, hf => by
    obtain ⟨ha, hn, hargs, hd, hs⟩ := hwf
    have hfArgs : args = [] → NextNe .parenL (directivesT dirs ++ (optSelSetT sel ++ k)) := fun _ =>
      nextNe_directivesT (by decide) dirs (nextNe_optSelSetT (by decide) sel hf.hParenL)
    have hfAt : NextNe .at (optSelSetT sel ++ k) := nextNe_optSelSetT (by decide) sel hf.hAt
    have hfPar : NextNe .parenL (optSelSetT sel ++ k) := nextNe_optSelSetT (by decide) sel hf.hParenL
    cases alias with
    | none =>
      simp only [selectionT, aliasT, List.nil_append, List.append_assoc] at h
      obtain ⟨nm, p1, hnm, h1, hnv⟩ := derive_name h
      have hcolon : p1.kind ≠ .colon := by
        refine kind_ne_of_next h1 ?_ (by decide)
        cases args with
        | nil =>
          simp only [argsT, List.nil_append]
          exact nextNe_directivesT (by decide) dirs (nextNe_optSelSetT (by decide) sel hf.hColon)
        | cons a as => simp only [argsT, pT, List.cons_append, List.append_assoc]; exact nextNe_cons (by decide)
      obtain ⟨as', p2, has, h2, hsa⟩ := derive_arguments args hargs h1 hfArgs
      obtain ⟨ds', p3, hds, h3, hsd⟩ := derive_directives dirs hd p2 _ h2 hfAt hfPar
      obtain ⟨sel', p4, hsel, h4, hss⟩ := derive_optSelSet sel hs p3 k h3 hf.hBraceL
      exact ⟨_, p4, DSelection.field hnm hcolon has hds hsel, h4,
        by simp [Selection.stripLoc, Name.stripLoc, hnv, hsa, hsd, hss]⟩
    | some a =>
      simp only [selectionT, aliasT, List.append_assoc] at h
      obtain ⟨am, p1, ham, h1, hav⟩ := derive_name h
      obtain ⟨cl, p2, hcl, h2⟩ := derive_punct h1
      obtain ⟨nm, p3, hnm, h3, hnv⟩ := derive_name h2
      obtain ⟨as', p4, has, h4, hsa⟩ := derive_arguments args hargs h3 hfArgs
      obtain ⟨ds', p5, hds, h5, hsd⟩ := derive_directives dirs hd p4 _ h4 hfAt hfPar
      obtain ⟨sel', p6, hsel, h6, hss⟩ := derive_optSelSet sel hs p5 k h5 hf.hBraceL
      exact ⟨_, p6, DSelection.aliased ham hcl hnm has hds hsel, h6,
        by simp [Selection.stripLoc, Name.stripLoc, hav, hnv, hsa, hsd, hss]⟩
  | .spread name dirs l, hwf, p, k, h, hf => by
    simp only [selectionT, List.append_assoc] at h
    obtain ⟨sp, p1, hsp, h1⟩ := derive_punct h
    obtain ⟨nm, p2, hnm, h2, hnv⟩ := derive_name h1
    obtain ⟨ds', p3, hds, h3, hsd⟩ := derive_directives dirs hwf.2.2 p2 k h2 hf.hAt hf.hParenL
    exact ⟨_, p3, DSelection.spread hsp (DFragmentName.mk hnm (by rw [hnv]; exact hwf.2.1)) hds, h3,
      by simp [Selection.stripLoc, Name.stripLoc, hnv, hsd]⟩
  | .inline tc dirs sel l, hwf, p, k, h, _ => by
    obtain ⟨htc, hd, hs⟩ := hwf
    simp only [selectionT, List.append_assoc] at h
    obtain ⟨sp, p1, hsp, h1⟩ := derive_punct h
    obtain ⟨r, hr⟩ := selSetT_head sel k
    have hnotOn : NextNotName "on" (directivesT dirs ++ (selSetT sel ++ k)) := by
      cases dirs with
      | nil => simp only [directivesT, List.nil_append]; rw [hr]; exact nextNotName_cons_kind (by decide)
      | cons d ds =>
        obtain ⟨r', hr'⟩ := directivesT_cons_head d ds (selSetT sel ++ k)
        rw [hr']; exact nextNotName_cons_kind (by decide)
    obtain ⟨tc', p2, htc', h2, hst⟩ := derive_typeCond tc htc h1 hnotOn
    obtain ⟨ds', p3, hds, h3, hsd⟩ := derive_directives dirs hd p2 _ h2
      (by rw [hr]; exact nextNe_cons (by decide)) (by rw [hr]; exact nextNe_cons (by decide))
    obtain ⟨sel', p4, hsel, h4, hss⟩ := derive_selSet sel hs p3 k h3
    exact ⟨_, p4, DSelection.inline hsp htc' hds hsel, h4, by simp [Selection.stripLoc, hst, hsd, hss]⟩
theorem derive_selSet : ∀ s : SelectionSet, WFSelSet s → ∀ (p : Pos) (k : List KV), kvs p = selSetT s ++ k →
    ∃ s' p', DSelectionSet p s' p' ∧ kvs p' = k ∧ s'.stripLoc = s.stripLoc
  | .mk sels l, hwf, p, k, h => by
    simp only [selSetT, List.append_assoc] at h
    obtain ⟨o, p1, ho, h1⟩ := derive_punct h
    obtain ⟨ss', p2, hss, h2, hs⟩ := derive_selections sels hwf.2 p1 k h1
    obtain ⟨cl, p3, hcl, h3⟩ := derive_punct h2
    have hne : ss' ≠ [] := by
      intro e; subst e
      cases sels with
      | nil => exact hwf.1 rfl
      | cons s ss => simp [Selection.stripLocList] at hs
    exact ⟨_, p3, DSelectionSet.mk ho hss hne hcl, h3, by simp [SelectionSet.stripLoc, hs]⟩
theorem derive_optSelSet : ∀ s : Option SelectionSet, WFOptSelSet s → ∀ (p : Pos) (k : List KV),
    kvs p = optSelSetT s ++ k → NextNe .braceL k →
    ∃ s' p', DOptSelectionSet p s' p' ∧ kvs p' = k ∧ SelectionSet.stripLocOpt s' = SelectionSet.stripLocOpt s
  | none, _, p, k, h, hf => by
    have hk : kvs p = k := by simpa [optSelSetT] using h
    exact ⟨none, p, DOptSelectionSet.none (kind_ne_of_next hk hf (by decide)), hk, rfl⟩
  | some s, hwf, p, k, h, _ => by
    obtain ⟨s', p', hs, hk, hst⟩ := derive_selSet s hwf p k h
    exact ⟨some s', p', DOptSelectionSet.some hs, hk, by simp [SelectionSet.stripLocOpt, hst]⟩
theorem derive_selections : ∀ ss : List Selection, WFSelections ss → ∀ (p : Pos) (k : List KV),
    kvs p = selectionsT ss ++ (pT .braceR ++ k) →
    ∃ ss' p', DSelections p ss' p' ∧ kvs p' = pT .braceR ++ k ∧ Selection.stripLocList ss' = Selection.stripLocList ss
  | [], _, p, k, h => ⟨[], p, DSelections.nil, by simpa [selectionsT] using h, rfl⟩
  | s :: ss, hwf, p, k, h => by
    simp only [selectionsT, List.append_assoc] at h
    obtain ⟨s', p1, hs, h1, hst⟩ := derive_selection s hwf.1 p _ h (followSel_selections ss k)
    obtain ⟨ss', p2, hss, h2, hsst⟩ := derive_selections ss hwf.2 p1 k h1
    exact ⟨s' :: ss', p2, DSelections.cons hs hss, h2, by simp [Selection.stripLocList, hst, hsst]⟩
end

end GqlModel.Printer
