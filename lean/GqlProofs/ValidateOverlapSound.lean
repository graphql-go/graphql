import GqlProofs.ValidateOverlapInv
/-! C02: every conflict the memoised overlap algorithm reports is a conflict of the declarative rule. `Coh`: one parent
type `π ss` per selection set of the document — the one the visitor passes (`TypeInfo.ParentType()`), the one
`findConflict` derives for a sub-selection (`GetNamed` of the field definition's type) and the one a fragment's type
condition names — so the `cacheMap` can only hold the collection the caller would compute itself. -/
namespace GqlModel.Validate.Overlap
open GqlModel.Validate.Graph

theorem valueEq_print_all :
    (∀ v w : Value, valueEq v w = true → Printer.valueC v = Printer.valueC w) ∧
    (∀ xs ys : List ObjField, objFieldsEq xs ys = true → Printer.fieldsC xs = Printer.fieldsC ys) ∧
    (∀ x y : ObjField, objFieldEq x y = true → Printer.fieldC x = Printer.fieldC y) ∧
    (∀ xs ys : List Value, valuesEq xs ys = true → Printer.valuesC xs = Printer.valuesC ys) := by
  -- the cases follow the equations of the four functions. `valueEq`: the six scalar constructors, list, object, and the
  -- last equation `valueEq.eq_9` (`false` on two different constructors); `objFieldsEq` and `valuesEq`: `[] []`, two
  -- `cons`, and the last equation `eq_3` (`false` on lists of different length)
  apply valueEq.mutual_induct
  iterate 6
    intro a _ b _ h
    simp only [valueEq, beq_iff_eq] at h
    simp only [Printer.valueC, h]
  · intro xs _ ys _ ih h
    simp only [valueEq] at h
    simp only [Printer.valueC]
    rw [ih h]
  · intro xs _ ys _ ih h
    simp only [valueEq] at h
    simp only [Printer.valueC]
    rw [ih h]
  · intro v w h1 h2 h3 h4 h5 h6 h7 h8 h
    rw [valueEq.eq_9 v w h1 h2 h3 h4 h5 h6 h7 h8] at h
    cases h
  · intro _; rfl
  · intro x xs y ys ih1 ih2 h
    simp only [objFieldsEq, Bool.and_eq_true] at h
    simp only [Printer.fieldsC]
    rw [ih1 h.1, ih2 h.2]
  · intro xs ys h1 h2 h
    rw [objFieldsEq.eq_3 xs ys h1 h2] at h
    cases h
  · intro n v _ m w _ ih h
    simp only [objFieldEq, Bool.and_eq_true, beq_iff_eq] at h
    simp only [Printer.fieldC]
    rw [h.1, ih h.2]
  · intro _; rfl
  · intro x xs y ys ih1 ih2 h
    simp only [valuesEq, Bool.and_eq_true] at h
    simp only [Printer.valuesC]
    rw [ih1 h.1, ih2 h.2]
  · intro xs ys h1 h2 h
    rw [valuesEq.eq_3 xs ys h1 h2] at h
    cases h

theorem valueEq_print : ∀ v w : Value, valueEq v w = true → Printer.valueC v = Printer.valueC w :=
  valueEq_print_all.1
theorem valuesEq_print : ∀ xs ys : List Value, valuesEq xs ys = true → Printer.valuesC xs = Printer.valuesC ys :=
  valueEq_print_all.2.2.2
theorem objFieldEq_print : ∀ x y : ObjField, objFieldEq x y = true → Printer.fieldC x = Printer.fieldC y :=
  valueEq_print_all.2.2.1
theorem objFieldsEq_print : ∀ xs ys : List ObjField, objFieldsEq xs ys = true → Printer.fieldsC xs = Printer.fieldsC ys :=
  valueEq_print_all.2.1

theorem argsIncl_spec (xs ys : List Argument) (h : argsIncl xs ys = true) :
    ∀ x, x ∈ xs → ∃ y, y ∈ ys ∧ y.name.value = x.name.value ∧ valueEq x.value y.value = true := by
  intro x hx
  simp only [argsIncl, List.all_eq_true, List.any_eq_true, Bool.and_eq_true, beq_iff_eq] at h
  exact h x hx

/-- identical argument sets for S are identical arguments for the code (which compares printed values, first match
by name), provided neither field repeats an argument name -/
theorem sameArguments_of_sameArgsS (xs ys : List Argument) (hx : (xs.map (·.name.value)).Nodup)
    (hy : (ys.map (·.name.value)).Nodup) (h : sameArgsS xs ys = true) : sameArguments xs ys = true := by
  simp only [sameArgsS, Bool.and_eq_true] at h
  have h1 := argsIncl_spec xs ys h.1
  have h2 := argsIncl_spec ys xs h.2
  have hlen : xs.length = ys.length := by
    have l1 := List.Nodup.length_le_of_subset hx (fun n hn => by
      rcases List.mem_map.1 hn with ⟨x, hxm, rfl⟩
      rcases h1 x hxm with ⟨y, hym, hn', _⟩
      exact List.mem_map.2 ⟨y, hym, hn'⟩)
    have l2 := List.Nodup.length_le_of_subset hy (fun n hn => by
      rcases List.mem_map.1 hn with ⟨y, hym, rfl⟩
      rcases h2 y hym with ⟨x, hxm, hn', _⟩
      exact List.mem_map.2 ⟨x, hxm, hn'⟩)
    simp only [List.length_map] at l1 l2
    omega
  simp only [sameArguments, Bool.and_eq_true, List.all_eq_true, beq_iff_eq]
  refine ⟨hlen, fun x hxm => ?_⟩
  rcases h1 x hxm with ⟨y, hym, hn, hv⟩
  have hf := find_of_nodup_key (fun a : Argument => a.name.value) ys y hy hym
  rw [hn] at hf
  rw [hf]
  simp only [sameValue, decide_eq_true_eq]
  exact valueEq_print _ _ hv

theorem doTypesConflict_eq (s : Schema) : ∀ a b : GType, doTypesConflict s a b = !sameShapeTypes s a b
  | .list a, .list b => by simp only [doTypesConflict, sameShapeTypes]; exact doTypesConflict_eq s a b
  | .list _, .named _ => by simp [doTypesConflict, sameShapeTypes]
  | .list _, .nonNull _ => by simp [doTypesConflict, sameShapeTypes]
  | .named _, .list _ => by simp [doTypesConflict, sameShapeTypes]
  | .nonNull _, .list _ => by simp [doTypesConflict, sameShapeTypes]
  | .nonNull a, .nonNull b => by simp only [doTypesConflict, sameShapeTypes]; exact doTypesConflict_eq s a b
  | .nonNull _, .named _ => by simp [doTypesConflict, sameShapeTypes]
  | .named _, .nonNull _ => by simp [doTypesConflict, sameShapeTypes]
  | .named a, .named b => by
    simp only [doTypesConflict, sameShapeTypes]
    by_cases h : (s.leafT a || s.leafT b) = true
    · simp [h, bne]
    · simp [h]

theorem shapeConflict_eq (s : Schema) (a b : FieldOcc) : shapeConflict s a b = typesConflict s a b := by
  unfold shapeConflict typesConflict
  cases a.fdef <;> cases b.fdef <;> simp [doTypesConflict_eq]

mutual
theorem spreads_sh_sel : ∀ x : Selection, (spreadsSel (shSel x)).map (·.name) = shallowSel x
  | .field _ _ _ _ _ _ => by simp [shSel, spreadsSel, spreadsOpt, shallowSel]
  | .spread _ _ _ => by simp [shSel, spreadsSel, shallowSel]
  | .inline _ _ ss _ => by simp only [shSel, spreadsSel, shallowSel]; exact spreads_sh_set ss
theorem spreads_sh_set : ∀ x : SelectionSet, (spreadsSet (shSet x)).map (·.name) = shallowSet x
  | .mk sels _ => by simp only [shSet, spreadsSet, shallowSet]; exact spreads_sh_sels sels
theorem spreads_sh_sels : ∀ x : List Selection, (spreadsSels (shSels x)).map (·.name) = shallowSels x
  | [] => by simp [shSels, spreadsSels, shallowSels]
  | x :: xs => by
    simp only [shSels, spreadsSels, shallowSels, List.map_append]
    rw [spreads_sh_sel x, spreads_sh_sels xs]
end

theorem spreadNames_sh (ss : SelectionSet) : spreadNames (shSet ss) = shallowSet ss := spreads_sh_set ss

theorem lookupFrag_shTbl (tbl : List Frag) (n : String) :
    lookupFrag (shTbl tbl) n = (lookupFrag tbl n).map shFrag := by
  rw [lookupFrag_eq_findRev?, lookupFrag_eq_findRev?, shTbl, ← List.map_reverse, List.find?_map]
  rfl

theorem shEdge_iff {tbl : List Frag} {a b : String} :
    SpreadEdge (shTbl tbl) a b ↔ ∃ f, lookupFrag tbl a = some f ∧ b ∈ shallowSet f.sel := by
  rw [spreadEdge_iff]
  simp only [lookupFrag_shTbl, Option.map_eq_some_iff]
  constructor
  · rintro ⟨_, ⟨f, hf, rfl⟩, hb⟩
    exact ⟨f, hf, by simpa [shFrag, spreadNames_sh] using hb⟩
  · rintro ⟨f, hf, hb⟩
    exact ⟨_, ⟨f, hf, rfl⟩, by simpa [shFrag, spreadNames_sh] using hb⟩

theorem mem_shallowFrags {tbl : List Frag} {ss : SelectionSet} {f : Frag} :
    f ∈ shallowFrags tbl ss ↔
      ∃ n, (∃ r, r ∈ shallowSet ss ∧ Reaches (shTbl tbl) r n) ∧ lookupFrag tbl n = some f := by
  simp only [shallowFrags, List.mem_filterMap]
  constructor
  · rintro ⟨f', hf', hl⟩
    have := ((rrf_spec (shTbl tbl) (shSet ss)).2 f').1 hf'
    rcases this.1 with ⟨r, hr, hreach⟩
    exact ⟨f'.name.value, ⟨r, by rwa [spreadNames_sh] at hr, hreach⟩, hl⟩
  · rintro ⟨n, ⟨r, hr, hreach⟩, hl⟩
    have hn := (lookupFrag_some hl).2
    refine ⟨shFrag f, ((rrf_spec (shTbl tbl) (shSet ss)).2 (shFrag f)).2 ⟨?_, ?_⟩, ?_⟩
    · exact ⟨r, by rw [spreadNames_sh]; exact hr, by simpa [shFrag, hn] using hreach⟩
    · simp only [shFrag, hn]
      rw [lookupFrag_shTbl, hl]; rfl
    · simpa [shFrag, hn] using hl

def FlatFrag (e : Env) (n : String) (b : FieldOcc) : Prop :=
  ∃ m f, Reaches (shTbl e.tbl) n m ∧ lookupFrag e.tbl m = some f ∧ b ∈ directSet e (namedOf e.s f.typeCond) f.sel

theorem FlatFrag.step {e : Env} {n g : String} {b : FieldOcc} (hedge : SpreadEdge (shTbl e.tbl) n g)
    (h : FlatFrag e g b) : FlatFrag e n b := by
  rcases h with ⟨m, f, hr, hl, hb⟩
  exact ⟨m, f, .step hedge hr, hl, hb⟩

theorem mem_flat_of_direct {e : Env} {pt : Option String} {ss : SelectionSet} {a : FieldOcc}
    (h : a ∈ directSet e pt ss) : a ∈ flat e pt ss := List.mem_append_left _ h

theorem mem_flat_of_flatFrag {e : Env} (pt : Option String) {ss : SelectionSet} {r : String} {b : FieldOcc}
    (hr : r ∈ shallowSet ss) (h : FlatFrag e r b) : b ∈ flat e pt ss := by
  rcases h with ⟨m, f, hreach, hl, hb⟩
  refine List.mem_append_right _ (List.mem_flatMap.2 ⟨f, mem_shallowFrags.2 ⟨m, ⟨r, hr, hreach⟩, hl⟩, hb⟩)

theorem exclusive_symm (s : Schema) (x y : Option String) : exclusive s x y = exclusive s y x := by
  cases x <;> cases y <;> simp only [exclusive]
  rename_i a b
  rw [bne_comm, Bool.and_assoc, Bool.and_comm (s.objectT a), ← Bool.and_assoc]

theorem sameShapeTypes_symm (s : Schema) : ∀ a b : GType, sameShapeTypes s a b = sameShapeTypes s b a
  | .nonNull a, .nonNull b => by simp only [sameShapeTypes]; exact sameShapeTypes_symm s a b
  | .nonNull _, .named _ => by simp [sameShapeTypes]
  | .nonNull _, .list _ => by simp [sameShapeTypes]
  | .named _, .nonNull _ => by simp [sameShapeTypes]
  | .list _, .nonNull _ => by simp [sameShapeTypes]
  | .list a, .list b => by simp only [sameShapeTypes]; exact sameShapeTypes_symm s a b
  | .list _, .named _ => by simp [sameShapeTypes]
  | .named _, .list _ => by simp [sameShapeTypes]
  | .named a, .named b => by
    simp only [sameShapeTypes]
    rw [Bool.or_comm (s.leafT b) (s.leafT a), BEq.comm (a := a)]

theorem shapeConflict_symm (s : Schema) (a b : FieldOcc) : shapeConflict s a b = shapeConflict s b a := by
  unfold shapeConflict
  cases a.fdef <;> cases b.fdef <;> first | rfl | (simp only []; rw [sameShapeTypes_symm])

theorem exclOf_symm (e : Env) (x : Bool) (a b : FieldOcc) : exclOf e x a b = exclOf e x b a := by
  unfold exclOf
  rw [exclusive_symm]

theorem baseConflict_symm (e : Env) (x : Bool) (a b : FieldOcc) : baseConflict e x a b = baseConflict e x b a := by
  unfold baseConflict
  rw [exclOf_symm e x a b, shapeConflict_symm e.s a b]
  have h1 : (a.node.name.value != b.node.name.value) = (b.node.name.value != a.node.name.value) := bne_comm
  have h2 : sameArgsS a.node.args b.node.args = sameArgsS b.node.args a.node.args := by
    unfold sameArgsS
    rw [Bool.and_comm]
  rw [h1, h2]

theorem PairConflict.symm {e : Env} {x : Bool} {a b : FieldOcc} (h : PairConflict e x a b) : PairConflict e x b a := by
  induction h with
  | base hb => exact .base (by rw [baseConflict_symm]; exact hb)
  | sub s1 s2 a' b' h1 h2 ha hb hk _ ih =>
    refine .sub s2 s1 b' a' h2 h1 hb ha hk.symm ?_
    rw [exclOf_symm]
    exact ih

structure Coh (d : Document) (e : Env) (π : SelectionSet → Option String) : Prop where
  sub : ∀ ss, ss ∈ allSets d → ∀ a, a ∈ directSet e (π ss) ss → ∀ s', a.node.sel = some s' → π s' = a.subParent
  args : ∀ ss, ss ∈ allSets d → ∀ a, a ∈ directSet e (π ss) ss → (a.node.args.map (·.name.value)).Nodup
  frag : ∀ f, f ∈ e.tbl → π f.sel = namedOf e.s f.typeCond
  fragSets : ∀ f, f ∈ e.tbl → f.sel ∈ allSets d
  locs : locsDistinct d = true

variable {d : Document} {e : Env} {π : SelectionSet → Option String}

def OccCoh (d : Document) (π : SelectionSet → Option String) (a : FieldOcc) : Prop :=
  (a.node.args.map (·.name.value)).Nodup ∧ ∀ s', a.node.sel = some s' → s' ∈ allSets d ∧ π s' = a.subParent

def InfoCoh (d : Document) (e : Env) (π : SelectionSet → Option String) (i : FieldsInfo) : Prop :=
  ∃ ss, ss ∈ allSets d ∧ i = collectInfo e (π ss) ss

def CacheCoh (d : Document) (e : Env) (π : SelectionSet → Option String) (st : OState) : Prop :=
  ∀ p, p ∈ st.cache → ∃ ss, ss ∈ allSets d ∧ p.1 = ss.loc ∧ p.2 = collectInfo e (π ss) ss

theorem occ_of_info (hc : Coh d e π) {i : FieldsInfo} (hi : InfoCoh d e π i) {a : FieldOcc}
    (ha : a ∈ occsOf i.fields) : OccCoh d π a := by
  rcases hi with ⟨ss, hss, rfl⟩
  refine ⟨hc.args ss hss a ((collectInfo_spec e (π ss) ss).1 a ha), fun s' hs' => ?_⟩
  rcases mem_occsOf.1 ha with ⟨kf, hkf, hakf⟩
  exact ⟨(collectInfo_wf d e (π ss) ss hss).fields kf hkf a hakf s' hs',
    hc.sub ss hss a ((collectInfo_spec e (π ss) ss).1 a ha) s' hs'⟩

theorem getInfo_coh (hc : Coh d e π) {st : OState} (hst : CacheCoh d e π st) {ss : SelectionSet}
    (hss : ss ∈ allSets d) {pt : Option String} (hpt : π ss = pt) {g : OState × FieldsInfo} (hg : getInfo e pt ss st = g) :
    g.2 = collectInfo e (π ss) ss ∧ CacheCoh d e π g.1 := by
  subst hpt hg
  unfold getInfo
  split
  · rename_i i hi
    rcases hst _ (lookup_mem' _ _ _ hi) with ⟨ss', hss', hl, he⟩
    have : ss = ss' := eq_of_loc_eq (of_decide_eq_true hc.locs) hss hss' hl
    subst this
    exact ⟨he, hst⟩
  · refine ⟨rfl, ?_⟩
    intro p hp
    rcases List.mem_cons.1 hp with rfl | hp
    · exact ⟨ss, hss, rfl, rfl⟩
    · exact hst p hp

def Blames (x : Conflict) (a b : FieldOcc) : Prop :=
  x.key = a.node.key ∧ x.left.head? = some a.node.loc ∧ x.right.head? = some b.node.loc

def SemX (e : Env) : Call → Conflict → Prop
  | .fc excl _ a b, x => Blames x a b ∧ PairConflict e excl a b
  | .ff excl info frag, x =>
    ∃ a b, a ∈ occsOf info.fields ∧ FlatFrag e frag b ∧ a.node.key = b.node.key ∧ Blames x a b ∧
      PairConflict e excl a b
  | .bf excl n1 n2, x =>
    ∃ a b, FlatFrag e n1 a ∧ FlatFrag e n2 b ∧ a.node.key = b.node.key ∧ Blames x a b ∧ PairConflict e excl a b

/-- what soundness and coverage ask of a call (see `WFCall`) -/
def SCall (d : Document) (e : Env) (π : SelectionSet → Option String) : Call → Prop
  | .fc _ key a b => OccCoh d π a ∧ OccCoh d π b ∧ a.node.key = key
  | .ff _ info _ => InfoCoh d e π info
  | .bf _ _ _ => True

theorem between_sem (hc : Coh d e π) (excl : Bool) {i1 i2 : FieldsInfo} (h1 : InfoCoh d e π i1)
    (h2 : InfoCoh d e π i2) {c : Call} (hmem : c ∈ betweenCalls excl i1 i2) :
    ∃ k a b, c = .fc excl k a b ∧ a ∈ occsOf i1.fields ∧ b ∈ occsOf i2.fields ∧ a.node.key = b.node.key ∧
      SCall d e π c := by
  rcases mem_betweenCalls hmem with ⟨k, fs1, fs2, a, b, hk1, hk2, ha, hb, rfl⟩
  have hao : a ∈ occsOf i1.fields := mem_occsOf.2 ⟨_, hk1, ha⟩
  have hbo : b ∈ occsOf i2.fields := mem_occsOf.2 ⟨_, hk2, hb⟩
  have hka : a.node.key = k := by
    rcases h1 with ⟨ss, _, rfl⟩
    exact (collectInfo_spec e _ ss).2.2 _ hk1 a ha
  have hkb : b.node.key = k := by
    rcases h2 with ⟨ss, _, rfl⟩
    exact (collectInfo_spec e _ ss).2.2 _ hk2 b hb
  exact ⟨k, a, b, rfl, hao, hbo, hka.trans hkb.symm, occ_of_info hc h1 hao, occ_of_info hc h2 hbo, hka⟩

theorem betweenCalls_scall (hc : Coh d e π) (excl : Bool) {i1 i2 : FieldsInfo} (h1 : InfoCoh d e π i1)
    (h2 : InfoCoh d e π i2) : ∀ c, c ∈ betweenCalls excl i1 i2 → SCall d e π c := by
  intro c hmem
  rcases between_sem hc excl h1 h2 hmem with ⟨_, _, _, _, _, _, _, hsc⟩
  exact hsc

theorem frags_shallow {ss : SelectionSet} {pt : Option String} {n : String}
    (h : n ∈ (collectInfo e pt ss).frags) : n ∈ shallowSet ss := (collectInfo_spec e pt ss).2.1 n h

theorem occs_direct {ss : SelectionSet} {pt : Option String} {a : FieldOcc}
    (h : a ∈ occsOf (collectInfo e pt ss).fields) : a ∈ directSet e pt ss := (collectInfo_spec e pt ss).1 a h

theorem flatFrag_self {n : String} {f : Frag} (hl : lookupFrag e.tbl n = some f) {b : FieldOcc}
    (hb : b ∈ directSet e (namedOf e.s f.typeCond) f.sel) : FlatFrag e n b :=
  ⟨n, f, .refl n, hl, hb⟩

theorem ssList_scall (hc : Coh d e π) (x : Bool) {i1 i2 : FieldsInfo} (h1 : InfoCoh d e π i1)
    (h2 : InfoCoh d e π i2) : ∀ c, c ∈ ssList x i1 i2 → SCall d e π c := by
  intro c hcm
  rcases mem_ssList.1 hcm with hcm | ⟨f, _, rfl⟩ | ⟨f, _, rfl⟩ | ⟨f1, _, f2, _, rfl⟩
  · exact betweenCalls_scall hc x h1 h2 c hcm
  · exact h1
  · exact h2
  · trivial

theorem ffList_scall (hc : Coh d e π) (x : Bool) {info i : FieldsInfo} (h1 : InfoCoh d e π info)
    (h2 : InfoCoh d e π i) : ∀ c, c ∈ ffList x info i → SCall d e π c := by
  intro c hcm
  rcases mem_ffList.1 hcm with hcm | ⟨g, _, rfl⟩
  · exact betweenCalls_scall hc x h1 h2 c hcm
  · exact h1

theorem bfList_scall (hc : Coh d e π) (x : Bool) (n1 n2 : String) {i1 i2 : FieldsInfo} (h1 : InfoCoh d e π i1)
    (h2 : InfoCoh d e π i2) : ∀ c, c ∈ bfList x n1 n2 i1 i2 → SCall d e π c := by
  intro c hcm
  rcases mem_bfList.1 hcm with hcm | ⟨g, _, rfl⟩ | ⟨g, _, rfl⟩
  · exact betweenCalls_scall hc x h1 h2 c hcm
  · trivial
  · trivial

/-- conflicts of `findConflictsBetweenSubSelectionSets`: a conflicting pair among the flattened sub-selections -/
theorem ssList_sem (hc : Coh d e π) {x : Bool} {s1 s2 : SelectionSet} (h1 : s1 ∈ allSets d) (h2 : s2 ∈ allSets d)
    {c : Call} (hcm : c ∈ ssList x (collectInfo e (π s1) s1) (collectInfo e (π s2) s2)) {y : Conflict}
    (hs : SemX e c y) :
    ∃ a' b', a' ∈ flat e (π s1) s1 ∧ b' ∈ flat e (π s2) s2 ∧ a'.node.key = b'.node.key ∧ PairConflict e x a' b' := by
  rcases mem_ssList.1 hcm with hcm | ⟨f, hf, rfl⟩ | ⟨f, hf, rfl⟩ | ⟨f1, hf1, f2, hf2, rfl⟩
  · rcases between_sem hc x ⟨s1, h1, rfl⟩ ⟨s2, h2, rfl⟩ hcm with ⟨k, a, b, rfl, ha, hb, hk, _⟩
    exact ⟨a, b, mem_flat_of_direct (occs_direct ha), mem_flat_of_direct (occs_direct hb), hk, hs.2⟩
  · rcases hs with ⟨a, b, ha, hb, hk, _, hp⟩
    exact ⟨a, b, mem_flat_of_direct (occs_direct ha), mem_flat_of_flatFrag _ (frags_shallow hf) hb, hk, hp⟩
  · rcases hs with ⟨a, b, ha, hb, hk, _, hp⟩
    exact ⟨b, a, mem_flat_of_flatFrag _ (frags_shallow hf) hb, mem_flat_of_direct (occs_direct ha), hk.symm, hp.symm⟩
  · rcases hs with ⟨a, b, ha, hb, hk, _, hp⟩
    exact ⟨a, b, mem_flat_of_flatFrag _ (frags_shallow hf1) ha, mem_flat_of_flatFrag _ (frags_shallow hf2) hb, hk, hp⟩

theorem baseConflict_of_loud {x : Bool} {a b : FieldOcc} (ha : (a.node.args.map (·.name.value)).Nodup)
    (hb : (b.node.args.map (·.name.value)).Nodup) (h : TestFires e x a b) : baseConflict e x a b = true := by
  unfold baseConflict
  rcases h with h | h | h
  · simp only [Bool.and_eq_true] at h
    simp only [h.1, h.2, Bool.true_or, Bool.true_and]
  · simp only [Bool.and_eq_true, Bool.not_eq_true'] at h
    have hargs : sameArgsS a.node.args b.node.args = false := by
      cases hs : sameArgsS a.node.args b.node.args with
      | false => rfl
      | true => rw [sameArguments_of_sameArgsS _ _ ha hb hs] at h; exact absurd h.2 (by simp)
    simp only [h.1, Bool.not_false, Bool.true_and, hargs, Bool.or_true, Bool.true_or]
  · rw [shapeConflict_eq, h, Bool.or_true]

theorem Runs.sem (hc : Coh d e π) {n : Nat} {cs : List Call} {st st' : OState} {out : List Conflict}
    (h : Runs e n cs st st' out) :
    (∀ c, c ∈ cs → SCall d e π c) → CacheCoh d e π st →
      CacheCoh d e π st' ∧ ∀ x, x ∈ out → ∃ c, c ∈ cs ∧ SemX e c x := by
  induction h with
  | nil | oof | fcLeaf | ffHit | ffUndef | bfSkip => exact fun _ hst => ⟨hst, List.forall_mem_nil _⟩
  | cons _ _ ih1 ih2 =>
    intro hcs hst
    have r1 := ih1 (List.forall_mem_singleton.2 (hcs _ (.head _))) hst
    have r2 := ih2 (fun c h => hcs c (.tail _ h)) r1.1
    refine ⟨r2.1, fun x hx => ?_⟩
    rcases List.mem_append.1 hx with hx | hx
    · obtain ⟨c, hc, hs⟩ := r1.2 x hx
      exact ⟨c, List.mem_singleton.1 hc ▸ .head _, hs⟩
    · obtain ⟨c, hc, hs⟩ := r2.2 x hx
      exact ⟨c, .tail _ hc, hs⟩
  | fcLoud hloud =>
    intro hcs hst
    obtain ⟨ha, hb, hka⟩ := hcs _ (.head _)
    refine ⟨hst, fun x hx => ⟨_, .head _, ?_⟩⟩
    rw [List.mem_singleton.1 hx]
    exact ⟨⟨hka.symm, rfl, rfl⟩, .base (baseConflict_of_loud ha.1 hb.1 hloud)⟩
  | fcSub x a b st s1 s2 _ hs1 hs2 hg1 hg2 _ ih =>
    intro hcs hst
    obtain ⟨ha, hb, hka⟩ := hcs _ (.head _)
    have ha1 := ha.2 s1 hs1
    have hb2 := hb.2 s2 hs2
    have g1 := getInfo_coh hc (st := tick st) hst ha1.1 ha1.2 hg1
    have g2 := getInfo_coh hc g1.2 hb2.1 hb2.2 hg2
    rw [g1.1, g2.1] at ih
    have r := ih (ssList_scall hc _ ⟨s1, ha1.1, rfl⟩ ⟨s2, hb2.1, rfl⟩) g2.2
    refine ⟨r.1, fun x hx => ⟨_, .head _, ?_⟩⟩
    rcases mem_subfieldConflicts hx with ⟨⟨y, hy⟩, hk, hl, hr⟩
    -- any sub-conflict is a witness
    obtain ⟨c, hcm, hs⟩ := r.2 y hy
    obtain ⟨a', b', ha', hb', hk', hp⟩ := ssList_sem hc ha1.1 hb2.1 hcm hs
    rw [ha1.2] at ha'; rw [hb2.2] at hb'
    exact ⟨⟨hk.trans hka.symm, hl, hr⟩, .sub s1 s2 a' b' hs1 hs2 ha' hb' hk' hp⟩
  | ffSame x info frag st f _ hl hg =>
    intro _ hst
    have hf := (lookupFrag_some hl).1
    have g := getInfo_coh hc (st := markFF st info.id frag x) hst (hc.fragSets f hf) (hc.frag f hf) hg
    exact ⟨g.2, List.forall_mem_nil _⟩
  | ffOpen x info frag st f _ hl hg _ _ ih =>
    intro hcs hst
    have hi : InfoCoh d e π info := hcs _ (.head _)
    have hf := (lookupFrag_some hl).1
    have g := getInfo_coh hc (st := markFF st info.id frag x) hst (hc.fragSets f hf) (hc.frag f hf) hg
    have hfi : InfoCoh d e π _ := ⟨f.sel, hc.fragSets f hf, g.1⟩
    have r := ih (ffList_scall hc x hi hfi) g.2
    refine ⟨r.1, fun y hy => ⟨_, .head _, ?_⟩⟩
    obtain ⟨c, hcm, hs⟩ := r.2 y hy
    rcases mem_ffList.1 hcm with hcm | ⟨n, hn, rfl⟩
    · rcases between_sem hc x hi hfi hcm with ⟨k, a, b, rfl, ha, hb, hk, _⟩
      rw [g.1] at hb
      exact ⟨a, b, ha, flatFrag_self hl (hc.frag f hf ▸ occs_direct hb), hk, hs.1, hs.2⟩
    · rcases hs with ⟨a, b, ha, hb, hk, hbl, hp⟩
      rw [g.1] at hn
      exact ⟨a, b, ha, hb.step (shEdge_iff.2 ⟨f, hl, frags_shallow hn⟩), hk, hbl, hp⟩
  | bfOpen x n1 n2 st f1 f2 hl1 hl2 _ _ hg1 hg2 _ ih =>
    intro _ hst
    have hf1 := (lookupFrag_some hl1).1
    have hf2 := (lookupFrag_some hl2).1
    have g1 := getInfo_coh hc (st := markBF st n1 n2 x) hst (hc.fragSets f1 hf1) (hc.frag f1 hf1) hg1
    have g2 := getInfo_coh hc g1.2 (hc.fragSets f2 hf2) (hc.frag f2 hf2) hg2
    have hi1 : InfoCoh d e π _ := ⟨f1.sel, hc.fragSets f1 hf1, g1.1⟩
    have hi2 : InfoCoh d e π _ := ⟨f2.sel, hc.fragSets f2 hf2, g2.1⟩
    have r := ih (bfList_scall hc x n1 n2 hi1 hi2) g2.2
    refine ⟨r.1, fun y hy => ⟨_, .head _, ?_⟩⟩
    obtain ⟨c, hcm, hs⟩ := r.2 y hy
    rcases mem_bfList.1 hcm with hcm | ⟨n, hn, rfl⟩ | ⟨n, hn, rfl⟩
    · rcases between_sem hc x hi1 hi2 hcm with ⟨k, a, b, rfl, ha, hb, hk, _⟩
      rw [g1.1] at ha; rw [g2.1] at hb
      exact ⟨a, b, flatFrag_self hl1 (hc.frag f1 hf1 ▸ occs_direct ha),
        flatFrag_self hl2 (hc.frag f2 hf2 ▸ occs_direct hb), hk, hs.1, hs.2⟩
    · rcases hs with ⟨a, b, ha, hb, hk, hbl, hp⟩
      rw [g2.1] at hn
      exact ⟨a, b, ha, hb.step (shEdge_iff.2 ⟨f2, hl2, frags_shallow hn⟩), hk, hbl, hp⟩
    · rcases hs with ⟨a, b, ha, hb, hk, hbl, hp⟩
      rw [g1.1] at hn
      exact ⟨a, b, ha.step (shEdge_iff.2 ⟨f1, hl1, frags_shallow hn⟩), hb, hk, hbl, hp⟩

theorem visList_scall (hc : Coh d e π) {i : FieldsInfo} (hi : InfoCoh d e π i) :
    ∀ c, c ∈ visList i → SCall d e π c := by
  intro c hcm
  rcases List.mem_append.1 hcm with hcm | hcm
  · rcases mem_withinCalls hcm with ⟨k, fs, a, b, hk, ha, hb, rfl⟩
    have hko : KeyOK i.fields := by
      rcases hi with ⟨ss, _, rfl⟩
      exact (collectInfo_spec e _ ss).2.2
    exact ⟨occ_of_info hc hi (mem_occsOf.2 ⟨_, hk, ha⟩), occ_of_info hc hi (mem_occsOf.2 ⟨_, hk, hb⟩),
      hko _ hk a ha⟩
  · rcases mem_topFragCalls hcm with ⟨f, _, rfl⟩ | ⟨f, g, _, _, rfl⟩
    · exact hi
    · trivial

theorem visitSet_sound (hc : Coh d e π) (fuel : Nat) {ss : SelectionSet} (hss : ss ∈ allSets d) (st : OState)
    (hst : CacheCoh d e π st) :
    CacheCoh d e π (visitSet e fuel (π ss) ss st).1 ∧
    ∀ x, x ∈ (visitSet e fuel (π ss) ss st).2 →
      ∃ a b, a ∈ flat e (π ss) ss ∧ b ∈ flat e (π ss) ss ∧ a.node.key = b.node.key ∧ Blames x a b ∧
        PairConflict e false a b := by
  have g := getInfo_coh hc hst hss rfl rfl
  have hr := visitSet_runs (e := e) fuel (π ss) ss st
  rw [g.1] at hr
  have r := hr.sem hc (visList_scall hc ⟨ss, hss, rfl⟩) g.2
  refine ⟨r.1, fun x hx => ?_⟩
  obtain ⟨c, hcm, hs⟩ := r.2 x hx
  rcases List.mem_append.1 hcm with hcm | hcm
  · rcases mem_withinCalls hcm with ⟨k, fs, a, b, hk, ha, hb, rfl⟩
    have hko := (collectInfo_spec e (π ss) ss).2.2
    exact ⟨a, b, mem_flat_of_direct (occs_direct (mem_occsOf.2 ⟨_, hk, ha⟩)),
      mem_flat_of_direct (occs_direct (mem_occsOf.2 ⟨_, hk, hb⟩)), (hko _ hk a ha).trans (hko _ hk b hb).symm,
      hs.1, hs.2⟩
  · rcases mem_topFragCalls hcm with ⟨f, hf, rfl⟩ | ⟨f, g', hf, hg, rfl⟩
    · rcases hs with ⟨a, b, ha, hb, hk, hbl, hp⟩
      exact ⟨a, b, mem_flat_of_direct (occs_direct ha), mem_flat_of_flatFrag _ (frags_shallow hf) hb, hk, hbl, hp⟩
    · rcases hs with ⟨a, b, ha, hb, hk, hbl, hp⟩
      exact ⟨a, b, mem_flat_of_flatFrag _ (frags_shallow hf) ha, mem_flat_of_flatFrag _ (frags_shallow hg) hb,
        hk, hbl, hp⟩

theorem coh_of_cohB (s : Schema) (d : Document) (e : Env) (hT : ∀ f, f ∈ e.tbl → f.sel ∈ allSets d)
    (h : cohB s d e = true) :
    Coh d e (piOf s d) ∧ ∀ cs, cs ∈ typedSelSets s d → piOf s d cs.2 = cs.1.parent := by
  simp only [cohB, Bool.and_eq_true, List.all_eq_true, decide_eq_true_eq] at h
  obtain ⟨⟨⟨h1, h2⟩, h3⟩, h4⟩ := h
  refine ⟨⟨fun ss hss a ha s' hs' => ?_, fun ss hss a ha => ?_, h3, hT, h1⟩, h4⟩
  · have := (h2 ss hss a ha).2
    rw [hs'] at this
    simpa using this
  · have := (h2 ss hss a ha).1
    simpa [FieldNode.argsUnique] using this

end GqlModel.Validate.Overlap
