import GqlProofs.Normalize

/-!
# C06 — what the normaliser leaves alone for validation's sake (D-06m, D-06n)

`normalized_transparent` is about EXECUTION. Validation runs on the rewritten document, so a rewriting that is
transparent for execution can still change what validation says. Two rules look at literals as written:

* UniqueInputFieldNames — an object literal naming a field twice must stay in the document (D-06m; `tryExtract_cases`);
* OverlappingFieldsCanBeMerged — compares the argument lists of fields with one response key AS WRITTEN, also across the
  operation and the fragment definitions it spreads; fragment definitions are not rewritten, so an operation field whose
  response key occurs on a field inside ANY fragment definition keeps its argument list (D-06n):
  `normSel_kept` … — the (response key, argument list) pairs of the fields whose key is in `keep` are the same before
  and after the walk, in the same order; `fragKeys_mem` — `fragKeys doc` contains the key of every field of every
  fragment definition.
-/

namespace GqlModel.Normalize

/-! ## (response key, argument list) of every field, in document order -/

mutual
def selKeyArgs : Selection → List (String × List Argument)
  | .field alias name args _ sel _ => (respKey alias name, args) :: optKeyArgs sel
  | .inline _ _ ss _ => setKeyArgs ss
  | .spread _ _ _ => []
def optKeyArgs : Option SelectionSet → List (String × List Argument)
  | none => []
  | some ss => setKeyArgs ss
def setKeyArgs : SelectionSet → List (String × List Argument)
  | .mk sels _ => listKeyArgs sels
def listKeyArgs : List Selection → List (String × List Argument)
  | [] => []
  | x :: xs => selKeyArgs x ++ listKeyArgs xs
end

mutual
theorem selKeyArgs_keys : ∀ x : Selection, (selKeyArgs x).map (·.1) = selKeys x
  | .field _ _ _ _ sel _ => by simp only [selKeyArgs, selKeys, List.map_cons, optKeyArgs_keys sel]
  | .inline _ _ ss _ => by simp only [selKeyArgs, selKeys, setKeyArgs_keys ss]
  | .spread _ _ _ => rfl
theorem optKeyArgs_keys : ∀ x : Option SelectionSet, (optKeyArgs x).map (·.1) = optKeys x
  | none => rfl
  | some ss => by simp only [optKeyArgs, optKeys, setKeyArgs_keys ss]
theorem setKeyArgs_keys : ∀ x : SelectionSet, (setKeyArgs x).map (·.1) = setKeys x
  | .mk sels _ => by simp only [setKeyArgs, setKeys, listKeyArgs_keys sels]
theorem listKeyArgs_keys : ∀ xs : List Selection, (listKeyArgs xs).map (·.1) = listKeys xs
  | [] => rfl
  | x :: xs => by simp only [listKeyArgs, listKeys, List.map_append, selKeyArgs_keys x, listKeyArgs_keys xs]
end

/-- the pairs whose key is in `keep` -/
def keptOf (keep : List String) (l : List (String × List Argument)) : List (String × List Argument) :=
  l.filter (fun p => keep.contains p.1)

theorem keptOf_append (keep : List String) (a b : List (String × List Argument)) :
    keptOf keep (a ++ b) = keptOf keep a ++ keptOf keep b := by simp only [keptOf, List.filter_append]

mutual
/-- fields whose response key is in `keep` have the same argument lists before and after the walk -/
theorem normSel_kept (s : Schema) (keep : List String) : ∀ (x : Selection) (P : String) (st : NState),
    keptOf keep (selKeyArgs (normSel s keep P x st).1) = keptOf keep (selKeyArgs x)
  | .field al nm args dirs sel loc, P, st => by
    rcases normSel_field s keep P al nm args dirs sel loc st with ⟨_, e⟩ | ⟨fd, _, ⟨_, e⟩ | ⟨_, e⟩⟩ <;> rw [e]
    all_goals
      -- the field itself: kept means no argument definitions to extract against, so `normArgs` changes nothing
      have hhead : keptOf keep [(respKey al nm, (normArgs s (argDefsFor keep (respKey al nm) fd) args st).1)] =
          keptOf keep [(respKey al nm, args)] := by
        rcases argDefsFor_cases keep (respKey al nm) fd with ⟨_, hD⟩ | ⟨hk, _⟩
        · rw [hD, normArgs_nil]
        · simp only [keptOf, List.filter_cons, hk, Bool.false_eq_true, if_false, List.filter_nil]
      simp only [selKeyArgs]
    · rw [← List.singleton_append, keptOf_append, hhead, normOpt_kept s keep sel fd.type.namedName _,
        ← keptOf_append, List.singleton_append]
    · rw [← List.singleton_append, keptOf_append, hhead, ← keptOf_append, List.singleton_append]
  | .inline tc dirs ss loc, P, st => by
    simp only [normSel_inline, selKeyArgs]; exact normSet_kept s keep ss _ st
  | .spread n d l, P, st => by rw [normSel_spread]
theorem normOpt_kept (s : Schema) (keep : List String) : ∀ (x : Option SelectionSet) (P : String) (st : NState),
    keptOf keep (optKeyArgs (normOpt s keep P x st).1) = keptOf keep (optKeyArgs x)
  | none, P, st => by rw [normOpt_none]
  | some ss, P, st => by simp only [normOpt_some, optKeyArgs]; exact normSet_kept s keep ss P st
theorem normSet_kept (s : Schema) (keep : List String) : ∀ (x : SelectionSet) (P : String) (st : NState),
    keptOf keep (setKeyArgs (normSet s keep P x st).1) = keptOf keep (setKeyArgs x)
  | .mk sels loc, P, st => by simp only [normSet_mk, setKeyArgs]; exact normList_kept s keep sels P st
theorem normList_kept (s : Schema) (keep : List String) : ∀ (xs : List Selection) (P : String) (st : NState),
    keptOf keep (listKeyArgs (normList s keep P xs st).1) = keptOf keep (listKeyArgs xs)
  | [], P, st => by rw [normList_nil]
  | x :: xs, P, st => by
    simp only [normList_cons, listKeyArgs, keptOf_append]
    rw [normSel_kept s keep x P st, normList_kept s keep xs P _]
end

/-- `fragKeys doc` holds the response key of every field inside every fragment definition -/
theorem fragKeys_mem (doc : Document) (name : Name) (tc : TypeRef) (dirs : List Directive) (sel : SelectionSet) (loc : Loc)
    (hd : Definition.fragment name tc dirs sel loc ∈ doc.defs) (p : String × List Argument) (hp : p ∈ setKeyArgs sel) :
    (fragKeys doc).contains p.1 = true := by
  rw [List.contains_iff_mem]
  unfold fragKeys
  rw [List.mem_flatMap]
  refine ⟨_, hd, ?_⟩
  simp only [defFragKeys, ← setKeyArgs_keys sel]
  exact List.mem_map.mpr ⟨p, hp, rfl⟩

end GqlModel.Normalize
