import GqlModel.PrinterWF
/-! The list predicates of `GqlModel/PrinterWF.lean` (`WFArguments`, `WFDirectives`, …) are written by recursion, one per
kind of node; each holds of every member. -/
namespace GqlModel.Printer

theorem mem_of_consPred {α : Type} {P : α → Prop} {PL : List α → Prop} {xs : List α} (h : PL xs) (x : α) (hx : x ∈ xs)
    (hc : ∀ x xs, PL (x :: xs) → P x ∧ PL xs := by exact fun _ _ h => h) : P x := by
  induction xs with
  | nil => nomatch hx
  | cons y ys ih =>
    rcases List.mem_cons.mp hx with rfl | hx
    · exact (hc _ _ h).1
    · exact ih (hc _ _ h).2 hx

end GqlModel.Printer
