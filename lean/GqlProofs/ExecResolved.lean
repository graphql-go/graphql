import GqlProofs.ExecHereditary
import GqlProofs.ExecState
/-! C20: every selected field of every object value that made it into the response was resolved (`ResP`): if the value
completed at a position holds an object at the place of a legitimate position below it, the log has an entry for each
selected field of that position.  The instance `Done` of the hereditary scheme of `ExecHereditary`. -/
namespace GqlModel.Exec

/-- all selected fields of the position have a log entry -/
def Done (c : Ctx) (log : List LogEntry) (rt : String) (path : Path) (groups : Groups) : Prop :=
  ∀ k nodes node fd, Selected c rt groups k nodes node fd → ∃ e, e ∈ log ∧ e.path = path ++ [.key k]

/-- wherever the completed value `j` (for resolver value `v`, type `t`, at `p`) holds an object at the place of a
position at or below an object reached from `v`, that position is done: `HeredOf (fun rt' path' G' _ => Done c log rt'
path' G')` (ExecHereditary) written out, as is the second half of `GroupsDone` below (`GroupsH` of the same) -/
def Hered (c : Ctx) (t : GType) (p : Path) (v : GoVal) (nodes : List FieldNode) (j : JVal) (log : List LogEntry) :
    Prop :=
  ∀ ot o p', ObjAt c t p v ot o p' →
    ∀ rt' src' path' G', PosFrom c ot o p' (collectMerged c ot nodes) rt' src' path' G' →
      ∀ rel fs', path' = p ++ rel → ValAt j rel (.obj fs') → Done c log rt' path' G'

theorem Done.mono {c : Ctx} {rt : String} {path : Path} {groups : Groups} {log log' : List LogEntry} (hs : log <:+ log')
    (h : Done c log rt path groups) : Done c log' rt path groups :=
  fun k nodes node fd hsel => (h k nodes node fd hsel).imp fun _ he => ⟨hs.subset he.1, he.2⟩

/-- what a selection set that succeeded with fields `fs` guarantees for each of its selected fields -/
def GroupsDone (c : Ctx) (rt : String) (src : GoVal) (path : Path) (groups : Groups) (fs : List (String × JVal))
    (log : List LogEntry) : Prop :=
  ∀ k nodes node fd, Selected c rt groups k nodes node fd →
    (∃ e, e ∈ log ∧ e.path = path ++ [.key k]) ∧
    ∀ v, c.world.outcome src fd.name = .value v →
      ∃ x, (k, x) ∈ fs ∧ Hered c fd.type (path ++ [.key k]) v nodes x log

structure ResP (c : Ctx) (fuel : Nat) : Prop where
  groups : ∀ dfr rt src path groups acc st fs st',
    execGroups c fuel dfr rt src path groups acc st = (.ok fs, st') → GroupsDone c rt src path groups fs st'.log
  field : ∀ dfr rt src p fd nodes st j st',
    execField c fuel dfr rt src p fd nodes st = (.ok j, st') → fd.name ≠ "__typename" →
    (∃ e, e ∈ st'.log ∧ e.path = p) ∧
      ∀ v, c.world.outcome src fd.name = .value v → Hered c fd.type p v nodes j st'.log
  complete : ∀ dfr t rt fname nodes p v st j st',
    complete c fuel dfr t rt fname nodes p v st = (.ok j, st') → Hered c t p v nodes j st'.log
  items : ∀ dfr item rt fname nodes p xs i acc st js st',
    completeItems c fuel dfr item rt fname nodes p xs i acc st = (.ok js, st') → i = acc.length →
    ∀ m x, xs[m]? = some x → ∃ y, js[i + m]? = some y ∧ Hered c item (p ++ [.idx (i + m)]) x nodes y st'.log

theorem execField_logged {c : Ctx} {fuel : Nat} {dfr : Bool} {rt : String} {src : GoVal} {p : Path} {fd : FieldDefS}
    {nodes : List FieldNode} {st st' : St} {j : JVal} (h : execField c fuel dfr rt src p fd nodes st = (.ok j, st'))
    (hn : fd.name ≠ "__typename") : ∃ e, e ∈ st'.log ∧ e.path = p := by
  cases fuel with
  | zero => cases execField_zero.symm.trans h
  | succ fuel =>
    generalize hr : Res.ok j = r at h
    cases FieldStep.of_eq h with
    | typename hn' => exact absurd (eq_of_beq hn') hn
    | resolverFails _ _ => exact ⟨_, List.mem_cons_self, rfl⟩
    | value _ _ hc =>
      obtain ⟨new, hl, -⟩ := (logP c fuel).complete _ _ _ _ _ _ _ _ _ _ hc
      exact ⟨_, hl ▸ List.mem_append_right _ List.mem_cons_self, rfl⟩

theorem execGroups_done {c : Ctx} {fuel : Nat} {dfr : Bool} {rt : String} {src : GoVal} {path : Path} {groups : Groups}
    {acc fs : List (String × JVal)} {st st' : St} (h : execGroups c fuel dfr rt src path groups acc st = (.ok fs, st')) :
    Done c st'.log rt path groups := by
  intro k nodes node fd hsel
  obtain ⟨m, d, hrun, -, rfl⟩ := execGroups_ok_run h
  obtain ⟨v, df, hf, -, hl⟩ := runGroups_selected c fuel hrun _ _ _ _ hsel.mem hsel.head hsel.fieldDef
  obtain ⟨e, he, hp⟩ := execField_logged hf hsel.not_typename
  exact ⟨e, List.mem_append_left _ (hl he), hp⟩

theorem resP (c : Ctx) (fuel : Nat) : ResP c fuel :=
  have h := heredP (QL := fun log rt path G _ => Done c log rt path G) (c := c)
    (fun _ _ _ _ _ _ hs h => h.mono hs) (fun _ _ _ _ _ _ _ _ _ hg _ => execGroups_done hg) fuel
  ⟨fun _ _ _ _ _ _ _ _ _ hg k nodes node fd hsel =>
      ⟨execGroups_done hg k nodes node fd hsel, h.groups _ _ _ _ _ _ _ _ _ hg k nodes node fd hsel⟩,
    fun _ _ _ _ _ _ _ _ _ hf hn => ⟨execField_logged hf hn, h.field _ _ _ _ _ _ _ _ _ hf hn⟩, h.complete, h.items⟩

end GqlModel.Exec
