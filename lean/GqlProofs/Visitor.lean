import GqlModel.Visitor
/-! Simulation lemmas for C14: running the machine over a subtree emits what the reference walk emits
and returns to the same continuation, or breaks.

The reference walk is sequential composition in the "break" monad (`andThen`), the machine's runs compose the
same way (`Reach.seq`), and `sim` matches the two by induction over the tree (`Node.induct`). `Reach` counts the
iterations of the loop, so `sim` also bounds them by the size that `fuelFor` is computed from. -/
namespace GqlModel.Visitor
variable {σ : Type}

theorem Node.induct {P : Node → Prop} {Q : List Slot → Prop} {R : List Node → Prop}
    (mk : ∀ id ss, Q ss → P (.mk id ss)) (nil : Q [])
    (absent : ∀ k rest, Q rest → Q (.absent k :: rest)) (one : ∀ k n rest, P n → Q rest → Q (.one k n :: rest))
    (many : ∀ k n ns rest, R (n :: ns) → Q rest → Q (.many k n ns :: rest))
    (enil : R []) (econs : ∀ n ns, P n → R ns → R (n :: ns)) : (∀ n, P n) ∧ (∀ ss, Q ss) ∧ (∀ ns, R ns) :=
  -- the recursor's motive for a single slot: it extends any slot list for which `Q` holds
  let S : Slot → Prop := fun s => ∀ rest, Q rest → Q (s :: rest)
  have a : ∀ k, S (.absent k) := fun k rest h => absent k rest h
  have o : ∀ k n, P n → S (.one k n) := fun k n hn rest h => one k n rest hn h
  have m : ∀ k n ns, P n → R ns → S (.many k n ns) := fun k n ns hn hns rest h => many k n ns rest (econs n ns hn hns) h
  have c : ∀ s rest, S s → Q rest → Q (s :: rest) := fun _ rest hs h => hs rest h
  ⟨Node.rec (motive_2 := S) mk a o m nil c enil econs, Node.rec_1 (motive_2 := S) mk a o m nil c enil econs,
   Node.rec_2 (motive_2 := S) mk a o m nil c enil econs⟩


def andThen (r : σ × Bool) (f : σ → σ × Bool) : σ × Bool :=
  match r with
  | (st, true) => (st, true)
  | (st, false) => f st

def ofLeave (r : σ × Act) : σ × Bool := (r.1, decide (r.2 = .brk))

section
variable {v : Visitor σ} {id : Nat} {c : Ctx} {st st' : σ} (slots : List Slot)

theorem visitNode_brk (h : v.enter st id c = (st', .brk)) : visitNode v (.mk id slots) c st = (st', true) := by
  simp only [visitNode, h]

theorem visitNode_skip (h : v.enter st id c = (st', .skip)) : visitNode v (.mk id slots) c st = (st', false) := by
  simp only [visitNode, h]

theorem visitNode_cont (h : v.enter st id c = (st', .cont)) :
    visitNode v (.mk id slots) c st =
      andThen (visitSlots v id c.path (c.anc ++ [c.parent]) slots st')
        (fun st2 => ofLeave (v.leave st2 id { c with path := c.path.dropLast })) := by
  simp only [visitNode, h, andThen, ofLeave]
  rcases visitSlots v id c.path (c.anc ++ [c.parent]) slots st' with ⟨st2, _ | _⟩ <;> simp only []
  rcases v.leave st2 id { c with path := c.path.dropLast } with ⟨st3, _ | _ | _⟩ <;> rfl

end

section
variable (v : Visitor σ) (pid : Nat) (path : List Key) (anc : List (Option Nat)) (k : String) (n : Node)
  (ns : List Node) (rest : List Slot) (i : Nat) (st : σ)

theorem visitSlots_nil : visitSlots v pid path anc [] st = (st, false) := by rw [visitSlots]

theorem visitSlots_absent : visitSlots v pid path anc (.absent k :: rest) st = visitSlots v pid path anc rest st := by
  rw [visitSlots]

theorem visitElems_nil : visitElems v path anc [] i st = (st, false) := by rw [visitElems]

theorem visitSlots_one :
    visitSlots v pid path anc (.one k n :: rest) st =
      andThen (visitNode v n ⟨some (.name k), some pid, path ++ [.name k], anc⟩ st) (visitSlots v pid path anc rest) := by
  rw [visitSlots]; rfl

theorem visitSlots_many :
    visitSlots v pid path anc (.many k n ns :: rest) st =
      andThen (visitElems v (path ++ [.name k]) (anc ++ [some pid]) (n :: ns) 0 st) (visitSlots v pid path anc rest) := by
  rw [visitSlots]; rfl

theorem visitElems_cons :
    visitElems v path anc (n :: ns) i st =
      andThen (visitNode v n ⟨some (.idx i), none, path ++ [.idx i], anc⟩ st) (visitElems v path anc ns (i + 1)) := by
  rw [visitElems]; rfl
end


theorem runN_add (v : Visitor σ) (a b : Nat) (m : MS) (st : σ) :
    runN v (a + b) m st = runN v b (runN v a m st).1 (runN v a m st).2 := by
  induction a generalizing m st with
  | zero => rw [Nat.zero_add]; rfl
  | succ a ih => rw [Nat.succ_add]; exact ih _ _

theorem runN_final (v : Visitor σ) (n : Nat) (m : MS) (st : σ) (h : m = .done ∨ m = .broken) :
    runN v n m st = (m, st) := by
  induction n with
  | zero => rfl
  | succ n ih => rcases h with rfl | rfl <;> exact ih

def Reach (v : Visitor σ) (k : Nat) (a b : MS × σ) : Prop := ∃ N, N ≤ k ∧ runN v N a.1 a.2 = b

section
variable {v : Visitor σ} {a b c : MS × σ} {k k' : Nat}

theorem Reach.refl : Reach v 0 a a := ⟨0, Nat.le_refl _, rfl⟩

theorem Reach.mono (h : Reach v k a b) (hk : k ≤ k') : Reach v k' a b :=
  let ⟨N, hN, h⟩ := h
  ⟨N, Nat.le_trans hN hk, h⟩

theorem Reach.trans (h1 : Reach v k a b) (h2 : Reach v k' b c) : Reach v (k + k') a c := by
  obtain ⟨N1, l1, h1⟩ := h1
  obtain ⟨N2, l2, h2⟩ := h2
  exact ⟨N1 + N2, Nat.add_le_add l1 l2, by rw [runN_add, h1, h2]⟩

theorem Reach.step {m : MS} {st : σ} (h : Reach v k (step v m st) b) : Reach v (k + 1) (m, st) b := by
  obtain ⟨N, l, h⟩ := h
  exact ⟨N + 1, Nat.succ_le_succ l, h⟩

theorem Reach.exists (h : Reach v k a b) : ∃ N, runN v N a.1 a.2 = b :=
  let ⟨N, _, h⟩ := h
  ⟨N, h⟩

theorem Reach.runN_eq {m m' : MS} {st st' : σ} (h : Reach v k (m, st) (m', st')) (hm : m' = .done ∨ m' = .broken)
    {fuel : Nat} (hf : k ≤ fuel) : runN v fuel m st = (m', st') := by
  obtain ⟨N, l, h⟩ := h
  obtain ⟨d, rfl⟩ := Nat.exists_eq_add_of_le (Nat.le_trans l hf)
  rw [runN_add, h]
  exact runN_final v d m' st' hm

def fin (b : Bool) (s : St) : MS := if b then .broken else .run s

def exit (r : σ × Bool) (s : St) : MS × σ := (fin r.2 s, r.1)

theorem Reach.seq {r : σ × Bool} {f : σ → σ × Bool} {s t : St}
    (h1 : Reach v k a (exit r s)) (h2 : ∀ st, Reach v k' (.run s, st) (exit (f st) t)) :
    Reach v (k + k') a (exit (andThen r f) t) := by
  rcases r with ⟨st1, _ | _⟩
  · exact h1.trans (h2 st1)
  · exact h1.mono (Nat.le_add_right _ _)

end

section
variable {v : Visitor σ} {s : St} {id : Nat} {slots : List Slot} {key : Option Key} {after : Keys} {st st' : σ} {p : List Key}
  (hp : (match key with | some k => s.path ++ [k] | none => s.path) = p)
include hp

theorem enterNode_brk (h : v.enter st id ⟨key, s.parent, p, s.anc⟩ = (st', .brk)) :
    enterNode v s (.mk id slots) key after st = (.broken, st') := by
  cases key <;> subst hp <;> simp only [enterNode, h]

theorem enterNode_skip (h : v.enter st id ⟨key, s.parent, p, s.anc⟩ = (st', .skip)) :
    enterNode v s (.mk id slots) key after st = (.run { s with keys := after }, st') := by
  cases key <;> subst hp <;> simp only [enterNode, h]

theorem enterNode_cont (h : v.enter st id ⟨key, s.parent, p, s.anc⟩ = (st', .cont)) :
    enterNode v s (.mk id slots) key after st =
      (.run ⟨.slots slots, after :: s.stack, some id, p, s.anc ++ [s.parent]⟩, st') := by
  cases key <;> subst hp <;> simp only [enterNode, h]

end

theorem step_leave_node (v : Visitor σ) (after : Keys) (stack : List Keys) (id : Nat) (parent : Option Nat)
    (path : List Key) (anc : List (Option Nat)) (st : σ) :
    step v (.run ⟨.slots [], after :: stack, some id, path, anc ++ [parent]⟩) st =
      ((if (ofLeave (v.leave st id ⟨path.getLast?, parent, path.dropLast, anc⟩)).2 then .broken
        else if stack.isEmpty then .done else .run ⟨after, stack, parent, path.dropLast, anc⟩),
       (ofLeave (v.leave st id ⟨path.getLast?, parent, path.dropLast, anc⟩)).1) := by
  simp only [step, leaveFrame, List.dropLast_concat, List.getLast?_concat, Option.join_some, ofLeave]
  rcases v.leave st id ⟨path.getLast?, parent, path.dropLast, anc⟩ with ⟨st', _ | _ | _⟩ <;> rfl

theorem Node.size_pos (n : Node) : 0 < n.size := by
  cases n; rw [Node.size]; omega

/-- The machine that has just entered a node (the first clause starts AFTER the step that enters `n`, hence its bound
`2 * n.size - 1`), or stands at the slots of a node or at the elements of a list slot (below the outermost frame), gets to
where the reference walk of that part says, within two iterations per node and per absent or list slot of the part. -/
theorem sim (v : Visitor σ) :
    (∀ n s k after st, s.stack ≠ [] →
      Reach v (2 * n.size - 1) (enterNode v s n (some k) after st)
        (exit (visitNode v n ⟨some k, s.parent, s.path ++ [k], s.anc⟩ st) { s with keys := after })) ∧
    (∀ ss stack pid path anc st, stack ≠ [] →
      Reach v (2 * Slot.sizeList ss) (.run ⟨.slots ss, stack, some pid, path, anc⟩, st)
        (exit (visitSlots v pid path anc ss st) ⟨.slots [], stack, some pid, path, anc⟩)) ∧
    (∀ ns stack i path anc st, stack ≠ [] →
      Reach v (2 * Node.sizeList ns) (.run ⟨.elems ns i, stack, none, path, anc⟩, st)
        (exit (visitElems v path anc ns i st) ⟨.elems [] (i + ns.length), stack, none, path, anc⟩)) := by
  refine Node.induct ?_ ?_ ?_ ?_ ?_ ?_ ?_
  · intro id slots ih s k after st hne
    rcases hE : v.enter st id ⟨some k, s.parent, s.path ++ [k], s.anc⟩ with ⟨st1, _ | _ | _⟩
    · rw [visitNode_cont slots hE, enterNode_cont rfl hE, List.dropLast_concat]
      refine (Reach.seq (ih (after :: s.stack) id _ _ st1 (List.cons_ne_nil _ _))
        (fun st2 => Reach.step (k := 0) ?_)).mono (by rw [Node.size]; omega)
      rw [step_leave_node, List.getLast?_concat, List.dropLast_concat, List.isEmpty_eq_false_iff.2 hne]
      exact Reach.refl
    · rw [visitNode_skip slots hE, enterNode_skip rfl hE]
      exact Reach.refl.mono (Nat.zero_le _)
    · rw [visitNode_brk slots hE, enterNode_brk rfl hE]
      exact Reach.refl.mono (Nat.zero_le _)
  · intro stack pid path anc st _
    rw [visitSlots_nil]
    exact Reach.refl.mono (Nat.zero_le _)
  · intro k rest ih stack pid path anc st hne
    rw [visitSlots_absent]
    exact (Reach.step (ih stack pid path anc st hne)).mono (by rw [Slot.sizeList]; omega)
  · intro k n rest ihn ih stack pid path anc st hne
    rw [visitSlots_one]
    exact (Reach.step (Reach.seq
      (ihn ⟨.slots (.one k n :: rest), stack, some pid, path, anc⟩ (.name k) (.slots rest) st hne)
      (fun st' => ih stack pid path anc st' hne))).mono (by rw [Slot.sizeList]; omega)
  · intro k n ns rest ihe ih stack pid path anc st hne
    rw [visitSlots_many]
    refine (Reach.step (Reach.seq (ihe (.slots rest :: stack) 0 _ _ st (List.cons_ne_nil _ _))
      (fun st' => Reach.step (k := 2 * Slot.sizeList rest) ?_))).mono (by rw [Slot.sizeList, Node.sizeList]; omega)
    simp only [step, leaveFrame, List.dropLast_concat, List.getLast?_concat, Option.join_some]
    exact ih stack pid path anc st' hne
  · intro stack i path anc st _
    rw [visitElems_nil]
    exact Reach.refl.mono (Nat.zero_le _)
  · intro n ns ihn ih stack i path anc st hne
    rw [visitElems_cons, List.length_cons, Nat.add_comm ns.length, ← Nat.add_assoc]
    -- the step that enters `n` is the one its bound `2 * n.size - 1` leaves room for
    exact (Reach.step (Reach.seq
      (ihn ⟨.elems (n :: ns) i, stack, none, path, anc⟩ (.idx i) (.elems ns (i + 1)) st hne)
      (fun st' => ih stack (i + 1) path anc st' hne))).mono (by have := n.size_pos; rw [Node.sizeList]; omega)

theorem sim_node (v : Visitor σ) : ∀ (n : Node) (s : St) (k : Key) (after : Keys) (st : σ), s.stack ≠ [] →
    ∃ N, (let r := enterNode v s n (some k) after st; runN v N r.1 r.2) =
      (fin (visitNode v n ⟨some k, s.parent, s.path ++ [k], s.anc⟩ st).2 { s with keys := after },
       (visitNode v n ⟨some k, s.parent, s.path ++ [k], s.anc⟩ st).1) :=
  fun n s k after st hne => ((sim v).1 n s k after st hne).exists

theorem sim_elems (v : Visitor σ) : ∀ (ns : List Node) (i : Nat) (s : St) (st : σ), s.keys = .elems ns i →
    s.parent = none → s.stack ≠ [] →
    ∃ N, runN v N (.run s) st =
      (fin (visitElems v s.path s.anc ns i st).2 { s with keys := .elems [] (i + ns.length) },
       (visitElems v s.path s.anc ns i st).1) := by
  intro ns i ⟨keys, stack, parent, path, anc⟩ st hk hp hst
  cases hk
  cases hp
  exact ((sim v).2.2 ns stack i path anc st hst).exists

/-- The loop run for `fuelFor root` iterations, the fuel the drivers give it (or any larger number), ends in the state the
reference walk computes, in `broken` iff BREAK. -/
theorem machine_eq_reference_within (v : Visitor σ) (root : Node) (st : σ) {fuel : Nat} (hf : fuelFor root ≤ fuel) :
    runN v fuel (init root) st = (if (walk v root st).2 then MS.broken else MS.done, (walk v root st).1) := by
  refine Reach.runN_eq (k := 2 * root.size) ?_ (by by_cases h : (walk v root st).2 <;> simp [h])
    (Nat.le_trans (by rw [fuelFor]; omega) hf)
  obtain ⟨id, slots⟩ := root
  have hsz : 2 * (Node.mk id slots).size = (2 * Slot.sizeList slots + 1) + 1 := by rw [Node.size]; omega
  rw [hsz]
  refine Reach.step (?_ : Reach v _ (enterNode v _ (.mk id slots) none (.slots []) st) _)
  rcases hE : v.enter st id ⟨none, none, [], []⟩ with ⟨st1, _ | _ | _⟩
  · rw [walk, visitNode_cont slots hE, enterNode_cont rfl hE]
    refine ((sim v).2.1 slots [.slots []] id [] _ st1 (List.cons_ne_nil _ _)).trans ?_
    rcases visitSlots v id [] ([] ++ [none]) slots st1 with ⟨st2, _ | _⟩
    · refine Reach.step (k := 0) (?_ : Reach v _ (step v (.run _) st2) _)
      rw [step_leave_node]
      exact Reach.refl
    · exact Reach.refl.mono (Nat.zero_le _)
  · rw [walk, visitNode_skip slots hE, enterNode_skip rfl hE]
    exact (Reach.step (k := 0) Reach.refl).mono (by omega)
  · rw [walk, visitNode_brk slots hE, enterNode_brk rfl hE]
    exact Reach.refl.mono (Nat.zero_le _)

/-- …for a walk that is known not to break, in the form the statements about particular visitors have -/
theorem machine_done_of_walk {v : Visitor σ} {root : Node} {st st' : σ} (h : walk v root st = (st', false)) :
    ∃ N, ∀ fuel, N ≤ fuel → runN v fuel (init root) st = (MS.done, st') :=
  ⟨fuelFor root, fun _ hf => by rw [machine_eq_reference_within v root st hf, h]; rfl⟩

end GqlModel.Visitor
