import GqlModel.Occurs
import GqlProofs.ExecGroupsInv
import GqlProofs.ListCount
/-! # CollectFields (`collect`, `collectMerged`) against `Occurs`: the lemmas behind C01 and C13

Everything `collectList` does to an accumulator `(groups, visited)` is a sequence of two kinds of steps:
`Groups.add` of a node that `Occurs`, and marking a NEW fragment name as visited.  `Reach Q a b` records that;
soundness, well-formed groups, key order, monotonicity and `visited.Nodup` are proved by induction on `Reach`
(section `steps`).  Completeness is the DFS closure argument of section `dfs`; section `merged` has the independence
of fuel and the fold of `collectMerged`. -/
namespace GqlModel.Exec

section steps

variable {Q : FieldNode → Prop} {g : Groups} {f : FieldNode}

theorem stored_add_old {f' : FieldNode} (h : Stored g f') : Stored (g.add f) f' := by
  obtain ⟨p, hp, hk, hm⟩ := h
  by_cases h : f.key ∈ g.map (·.1)
  · rw [Groups.add_of_mem h]
    by_cases hpk : (p.1 == f.key) = true
    · exact ⟨(p.1, p.2 ++ [f]), List.mem_map.2 ⟨p, hp, if_pos hpk⟩, hk, List.mem_append_left _ hm⟩
    · exact ⟨p, List.mem_map.2 ⟨p, hp, if_neg hpk⟩, hk, hm⟩
  · rw [Groups.add_of_not_mem h]
    exact ⟨p, List.mem_append_left _ hp, hk, hm⟩

theorem stored_add_self (g : Groups) (f : FieldNode) : Stored (g.add f) f := by
  by_cases h : f.key ∈ g.map (·.1)
  · rw [Groups.add_of_mem h]
    obtain ⟨p, hp, hk⟩ := List.mem_map.1 h
    exact ⟨(p.1, p.2 ++ [f]), List.mem_map.2 ⟨p, hp, if_pos (beq_iff_eq.2 hk)⟩, hk,
      List.mem_append_right _ (List.mem_singleton.2 rfl)⟩
  · rw [Groups.add_of_not_mem h]
    exact ⟨(f.key, [f]), List.mem_append_right _ (List.mem_singleton.2 rfl), rfl, List.mem_singleton.2 rfl⟩

theorem allQ_of_stored (h : AllQ Q g) (hs : Stored g f) : Q f := by
  obtain ⟨p, hp, _, hm⟩ := hs
  exact (h p hp f hm).2

inductive Reach (Q : FieldNode → Prop) : Groups × List String → Groups × List String → Prop
  | refl (a) : Reach Q a a
  | add {g vis f} : Q f → Reach Q (g, vis) (g.add f, vis)
  | mark {g vis n} : n ∉ vis → Reach Q (g, vis) (g, n :: vis)
  | trans {a b d} : Reach Q a b → Reach Q b d → Reach Q a d

def Mono (a b : Groups × List String) : Prop := (∀ f, Stored a.1 f → Stored b.1 f) ∧ (∀ n ∈ a.2, n ∈ b.2)

theorem Mono.refl (a : Groups × List String) : Mono a a := ⟨fun _ h => h, fun _ h => h⟩
theorem Mono.trans {a b d : Groups × List String} (h1 : Mono a b) (h2 : Mono b d) : Mono a d :=
  ⟨fun f h => h2.1 f (h1.1 f h), fun n h => h2.2 n (h1.2 n h)⟩

variable {a b : Groups × List String}

theorem Reach.mono (h : Reach Q a b) : Mono a b := by
  induction h with
  | refl a => exact Mono.refl a
  | add _ => exact ⟨fun _ h => stored_add_old h, fun _ h => h⟩
  | mark _ => exact ⟨fun _ h => h, fun _ h => List.mem_cons_of_mem _ h⟩
  | trans _ _ ih1 ih2 => exact ih1.trans ih2

theorem Reach.inv {X : Groups → Prop} (hadd : ∀ g f, Q f → X g → X (g.add f)) (h : Reach Q a b) (ha : X a.1) :
    X b.1 := by
  induction h with
  | refl a => exact ha
  | add hf => exact hadd _ _ hf ha
  | mark _ => exact ha
  | trans _ _ ih1 ih2 => exact ih2 (ih1 ha)

theorem Reach.allQ (h : Reach Q a b) (ha : AllQ Q a.1) : AllQ Q b.1 :=
  h.inv (fun _ _ hf hg => allQ_add hg hf) ha

theorem Reach.keys_prefix (h : Reach Q a b) : a.1.map (·.1) <+: b.1.map (·.1) := by
  refine h.inv (X := fun g => a.1.map (·.1) <+: g.map (·.1)) ?_ (List.prefix_refl _)
  intro g f _ hg
  rw [keys_add]
  split
  · exact hg
  · exact hg.trans (List.prefix_append _ _)

theorem Reach.vis (h : Reach Q a b) : a.2 <:+ b.2 ∧ (a.2.Nodup → b.2.Nodup) := by
  induction h with
  | refl a => exact ⟨List.suffix_refl _, id⟩
  | add _ => exact ⟨List.suffix_refl _, id⟩
  | mark hn => exact ⟨List.suffix_cons _ _, fun ha => List.nodup_cons.2 ⟨hn, ha⟩⟩
  | trans _ _ ih1 ih2 => exact ⟨ih1.1.trans ih2.1, fun ha => ih2.2 (ih1.2 ha)⟩

theorem Reach.imp {Q' : FieldNode → Prop} (hQ : ∀ f, Q f → Q' f) (h : Reach Q a b) : Reach Q' a b := by
  induction h with
  | refl a => exact .refl a
  | add hf => exact .add (hQ _ hf)
  | mark hn => exact .mark hn
  | trans _ _ ih1 ih2 => exact .trans ih1 ih2

variable {c : Ctx} {rt : String} {s : Selection} {rest : List Selection}

theorem Occurs.weaken {sels sels' : List Selection} (h : Occurs c rt sels f) (hsub : ∀ s ∈ sels, s ∈ sels') :
    Occurs c rt sels' f := by
  cases h with
  | field hm hi => exact .field (hsub _ hm) hi
  | inline hm hi hc ho => exact .inline (hsub _ hm) hi hc ho
  | spread hm hi hf hc ho => exact .spread (hsub _ hm) hi hf hc ho

theorem Occurs.head (h : Occurs c rt [s] f) : Occurs c rt (s :: rest) f :=
  h.weaken (fun _ hx => List.mem_singleton.1 hx ▸ List.mem_cons_self)

theorem Occurs.tail (h : Occurs c rt rest f) : Occurs c rt (s :: rest) f :=
  h.weaken (fun _ hx => List.mem_cons_of_mem s hx)

/-! ## Soundness: every call is a `Reach` through occurring nodes -/

section sound
variable (c rt)

/-- `expand` only adds nodes that occur in the body of the (defined, applicable) fragment it is asked to expand -/
def ExpReach (Q : FieldNode → Prop) (expand : String → Groups × List String → Groups × List String) : Prop :=
  ∀ n acc, (∀ tc body l, c.frag? n = some (tc, .mk body l) → condApplies c.schema (some tc) rt = true →
      ∀ f, Occurs c rt body f → Q f) → Reach Q acc (expand n acc)

variable {c rt}
variable {expand : String → Groups × List String → Groups × List String}

theorem collectList_reach (he : ExpReach c rt Q expand) : ∀ (sels : List Selection) (acc : Groups × List String),
    (∀ f, Occurs c rt sels f → Q f) → Reach Q acc (collectList c rt expand sels acc) :=
  selections_induct
    (PS := fun s => ∀ acc, (∀ f, Occurs c rt [s] f → Q f) → Reach Q acc (collectSel c rt expand s acc))
    (field := fun _ _ _ _ _ _ acc hq => by
      rw [collectSel_field]
      split
      · exact .add (hq _ (.field (List.mem_singleton.2 rfl) ‹_›))
      · exact .refl acc)
    (inline := fun _ _ _ _ _ ih acc hq => by
      rw [collectSel_inline]
      split
      · rename_i h
        rw [Bool.and_eq_true_iff] at h
        exact ih acc (fun f hf => hq f (.inline (List.mem_singleton.2 rfl) h.1 h.2 hf))
      · exact .refl acc)
    (spread := fun name _ _ acc hq => by
      rw [collectSel_spread]
      split
      · exact he name.value acc (fun _ _ _ hf hc f ho => hq f (.spread (List.mem_singleton.2 rfl) ‹_› hf hc ho))
      · exact .refl acc)
    (nil := fun acc _ => .refl acc)
    (cons := fun _ _ h1 h2 acc hq => .trans (h1 acc (fun f hf => hq f hf.head)) (h2 _ (fun f hf => hq f hf.tail)))

theorem collectSel_reach (he : ExpReach c rt Q expand) : ∀ (s : Selection) (acc : Groups × List String),
    (∀ f, Occurs c rt [s] f → Q f) → Reach Q acc (collectSel c rt expand s acc) :=
  fun s => collectList_reach he [s]

theorem expandSpread_reach (Q : FieldNode → Prop) : ∀ fuel, ExpReach c rt Q (expandSpread c rt fuel)
  | 0 => fun _ acc _ => .refl acc
  | fuel + 1 => fun n acc hq =>
    expandSpread_cases (P := Reach Q acc) fuel n acc (fun _ => .refl acc) (fun _ _ hn _ _ => .mark hn)
      (fun tc body l hn hf hc =>
        .trans (.mark hn) (collectList_reach (expandSpread_reach Q fuel) body _ (hq tc body l hf hc)))

theorem collectList_steps (fuel : Nat) (sels : List Selection) (acc : Groups × List String) :
    Reach (fun _ => True) acc (collectList c rt (expandSpread c rt fuel) sels acc) :=
  collectList_reach (expandSpread_reach _ fuel) sels acc (fun _ _ => trivial)

theorem collect_reach (sels : List Selection) (l : Loc) (acc : Groups × List String) :
    Reach (Occurs c rt sels) acc (collect c rt (.mk sels l) acc) :=
  collectList_reach (expandSpread_reach _ _) sels acc (fun _ h => h)

end sound

end steps

/-! ## Completeness: the DFS closure argument

`collect` explores the fragment graph depth first with a visited set.  Completeness does not follow by
induction on a derivation of `Occurs` directly (a fragment met for the second time is skipped); the
argument is the usual closure one:

* `unvisited c vis` = number of fragment definitions whose name is not in `vis`; marking a new defined name
  decreases it, so `expandSpread` with `unvisited c vis < fuel` never runs out of fuel;
* `Direct` / `DirectSpread`: the field nodes / spread names of a selection list reachable through included,
  applicable inline fragments only (no spread is followed);
* a call from `a` to `b` (i) is monotone, (ii) *covers* the list it processes — its direct nodes are stored in
  `b`, its direct defined spreads are visited in `b` —, (iii) *closes* every name it newly visits: the body of
  that fragment is covered by `b`;
* from `visited = []` everything visited is closed, hence (induction on `Occurs`) every occurring node is stored. -/

section dfs

theorem frag?_some_mem {c : Ctx} {n : String} {x : TypeRef × SelectionSet} (h : c.frag? n = some x) :
    n ∈ c.frags.map (·.1) :=
  let ⟨_, _, _, hm⟩ := frag_mem c n x.1 x.2 h
  List.mem_map.2 ⟨_, hm, rfl⟩

theorem unvisited_lt_fragFuel (c : Ctx) (vis : List String) : unvisited c vis < c.fragFuel :=
  Nat.lt_succ_of_le (Nat.le_trans List.countP_le_length (Nat.le_of_eq (List.length_map _)))

theorem unvisited_nil_lt_fragFuel (c : Ctx) : unvisited c [] < c.fragFuel :=
  unvisited_lt_fragFuel c []

theorem not_contains_iff {vis : List String} {x : String} : (!vis.contains x) = true ↔ x ∉ vis := by
  rw [Bool.not_eq_true', ← Bool.not_eq_true, List.contains_iff_mem]

theorem unvisited_cons_lt (c : Ctx) {vis : List String} {n : String} (hd : n ∈ c.frags.map (·.1)) (hn : n ∉ vis) :
    unvisited c (n :: vis) < unvisited c vis :=
  countP_lt (p := fun x => !(n :: vis).contains x) (q := fun x => !vis.contains x) _
    (fun _ _ hx => not_contains_iff.2 (fun hm => not_contains_iff.1 hx (List.mem_cons_of_mem _ hm)))
    ⟨n, hd, not_contains_iff.2 hn, congrArg not (List.contains_iff_mem.2 List.mem_cons_self)⟩

/-- the budget left below a fragment that has just been marked -/
theorem budget_pred {u u' m fuel : Nat} (h1 : u' < u) (h2 : u ≤ m) (h3 : m < fuel + 1) : u' ≤ m - 1 ∧ m - 1 < fuel :=
  have h : u' < m := Nat.lt_of_lt_of_le h1 h2
  ⟨Nat.le_sub_one_of_lt h, Nat.sub_one_lt_of_le (Nat.zero_lt_of_lt h) (Nat.le_of_lt_succ h3)⟩

theorem Mono.unvisited_le {c : Ctx} {a b : Groups × List String} (h : Mono a b) :
    unvisited c b.2 ≤ unvisited c a.2 :=
  List.countP_mono_left (fun x _ hx => not_contains_iff.2 (fun hm => not_contains_iff.1 hx (h.2 x hm)))

inductive Direct (c : Ctx) (rt : String) : List Selection → FieldNode → Prop
  | field {sels alias name args dirs sel loc} :
      Selection.field alias name args dirs sel loc ∈ sels →
      included c.schema c.vars dirs = true →
      Direct c rt sels (mkNode alias name args sel loc)
  | inline {sels tc dirs inner l1 l2 f} :
      Selection.inline tc dirs (.mk inner l1) l2 ∈ sels →
      included c.schema c.vars dirs = true →
      condApplies c.schema tc rt = true →
      Direct c rt inner f →
      Direct c rt sels f

inductive DirectSpread (c : Ctx) (rt : String) : List Selection → String → Prop
  | spread {sels name dirs l} :
      Selection.spread name dirs l ∈ sels →
      included c.schema c.vars dirs = true →
      DirectSpread c rt sels name.value
  | inline {sels tc dirs inner l1 l2 n} :
      Selection.inline tc dirs (.mk inner l1) l2 ∈ sels →
      included c.schema c.vars dirs = true →
      condApplies c.schema tc rt = true →
      DirectSpread c rt inner n →
      DirectSpread c rt sels n

section closure
variable (c : Ctx) (rt : String)

def Covered (a : Groups × List String) (sels : List Selection) : Prop :=
  (∀ f, Direct c rt sels f → Stored a.1 f) ∧
  (∀ n, DirectSpread c rt sels n → (c.frag? n).isSome = true → n ∈ a.2)

def ClosedName (a : Groups × List String) (F : String) : Prop :=
  ∀ tc body l, c.frag? F = some (tc, .mk body l) → condApplies c.schema (some tc) rt = true → Covered c rt a body

def Good (a b : Groups × List String) : Prop := Mono a b ∧ ∀ F ∈ b.2, F ∉ a.2 → ClosedName c rt b F

def GoodExp (m : Nat) (expand : String → Groups × List String → Groups × List String) : Prop :=
  ∀ n a, unvisited c a.2 ≤ m →
    Good c rt a (expand n a) ∧ ((c.frag? n).isSome = true → n ∈ (expand n a).2)

variable {c rt} {a b : Groups × List String}

theorem Covered.mono {sels : List Selection} (h : Covered c rt a sels) (hm : Mono a b) :
    Covered c rt b sels :=
  ⟨fun f hf => hm.1 f (h.1 f hf), fun n hn hs => hm.2 n (h.2 n hn hs)⟩

theorem ClosedName.mono {F : String} (h : ClosedName c rt a F) (hm : Mono a b) :
    ClosedName c rt b F := fun tc body l hf hc => (h tc body l hf hc).mono hm

theorem Good.refl (a : Groups × List String) : Good c rt a a := ⟨Mono.refl a, fun _ h h' => absurd h h'⟩

theorem Good.trans {d : Groups × List String} (h1 : Good c rt a b) (h2 : Good c rt b d) : Good c rt a d := by
  refine ⟨h1.1.trans h2.1, fun F hF hFa => ?_⟩
  by_cases hb : F ∈ b.2
  · exact (h1.2 F hb hFa).mono h2.1
  · exact h2.2 F hF hb

theorem covered_nil (a : Groups × List String) : Covered c rt a [] := by
  constructor
  · intro f hf
    cases hf with
    | field hm _ => cases hm
    | inline hm _ _ _ => cases hm
  · intro n hn
    cases hn with
    | spread hm _ => cases hm
    | inline hm _ _ _ => cases hm

theorem covered_cons {s : Selection} {rest : List Selection}
    (h1 : Covered c rt a [s]) (h2 : Covered c rt a rest) : Covered c rt a (s :: rest) := by
  constructor
  · intro f hf
    cases hf with
    | field hm hi =>
      rcases List.mem_cons.1 hm with rfl | hm
      · exact h1.1 _ (.field (List.mem_singleton.2 rfl) hi)
      · exact h2.1 _ (.field hm hi)
    | inline hm hi hc hd =>
      rcases List.mem_cons.1 hm with rfl | hm
      · exact h1.1 _ (.inline (List.mem_singleton.2 rfl) hi hc hd)
      · exact h2.1 _ (.inline hm hi hc hd)
  · intro n hn
    cases hn with
    | spread hm hi =>
      rcases List.mem_cons.1 hm with rfl | hm
      · exact h1.2 _ (.spread (List.mem_singleton.2 rfl) hi)
      · exact h2.2 _ (.spread hm hi)
    | inline hm hi hc hd =>
      rcases List.mem_cons.1 hm with rfl | hm
      · exact h1.2 _ (.inline (List.mem_singleton.2 rfl) hi hc hd)
      · exact h2.2 _ (.inline hm hi hc hd)

theorem covered_field {alias name args dirs sel loc}
    (h : included c.schema c.vars dirs = true → Stored a.1 (mkNode alias name args sel loc)) :
    Covered c rt a [Selection.field alias name args dirs sel loc] := by
  constructor
  · intro f hf
    cases hf with
    | field hm hi =>
      cases List.mem_singleton.1 hm
      exact h hi
    | inline hm _ _ _ => cases List.mem_singleton.1 hm
  · intro n hn
    cases hn with
    | spread hm _ => cases List.mem_singleton.1 hm
    | inline hm _ _ _ => cases List.mem_singleton.1 hm

theorem covered_inline {tc dirs inner l1 l2}
    (h : included c.schema c.vars dirs = true → condApplies c.schema tc rt = true → Covered c rt a inner) :
    Covered c rt a [Selection.inline tc dirs (.mk inner l1) l2] := by
  constructor
  · intro f hf
    cases hf with
    | field hm _ => cases List.mem_singleton.1 hm
    | inline hm hi hc hd =>
      cases List.mem_singleton.1 hm
      exact (h hi hc).1 _ hd
  · intro n hn
    cases hn with
    | spread hm _ => cases List.mem_singleton.1 hm
    | inline hm hi hc hd =>
      cases List.mem_singleton.1 hm
      exact (h hi hc).2 _ hd

theorem covered_spread {name dirs l}
    (h : included c.schema c.vars dirs = true → (c.frag? name.value).isSome = true → name.value ∈ a.2) :
    Covered c rt a [Selection.spread name dirs l] := by
  constructor
  · intro f hf
    cases hf with
    | field hm _ => cases List.mem_singleton.1 hm
    | inline hm _ _ _ => cases List.mem_singleton.1 hm
  · intro n hn
    cases hn with
    | spread hm hi =>
      cases List.mem_singleton.1 hm
      exact h hi
    | inline hm _ _ _ => cases List.mem_singleton.1 hm

variable {expand : String → Groups × List String → Groups × List String} {m : Nat}

theorem collectList_good (he : GoodExp c rt m expand) : ∀ (sels : List Selection) (a : Groups × List String),
    unvisited c a.2 ≤ m →
    Good c rt a (collectList c rt expand sels a) ∧ Covered c rt (collectList c rt expand sels a) sels :=
  selections_induct
    (PS := fun s => ∀ a, unvisited c a.2 ≤ m →
      Good c rt a (collectSel c rt expand s a) ∧ Covered c rt (collectSel c rt expand s a) [s])
    (field := fun _ _ _ _ _ _ a _ => by
      rw [collectSel_field]
      split
      · exact ⟨⟨⟨fun _ h => stored_add_old h, fun _ h => h⟩, fun _ hF hFa => absurd hF hFa⟩,
          covered_field (fun _ => stored_add_self a.1 _)⟩
      · exact ⟨Good.refl a, covered_field (fun h => absurd h ‹_›)⟩)
    (inline := fun _ _ _ _ _ ih a hm => by
      rw [collectSel_inline]
      split
      · exact ⟨(ih a hm).1, covered_inline (fun _ _ => (ih a hm).2)⟩
      · exact ⟨Good.refl a, covered_inline (fun h1 h2 => absurd (Bool.and_eq_true_iff.2 ⟨h1, h2⟩) ‹_›)⟩)
    (spread := fun name _ _ a hm => by
      rw [collectSel_spread]
      split
      · exact ⟨(he name.value a hm).1, covered_spread (fun _ hs => (he name.value a hm).2 hs)⟩
      · exact ⟨Good.refl a, covered_spread (fun h => absurd h ‹_›)⟩)
    (nil := fun a _ => ⟨Good.refl a, covered_nil a⟩)
    (cons := fun _ _ h1 h2 a hm => by
      rw [collectList_cons]
      have r1 := h1 a hm
      have r2 := h2 _ (Nat.le_trans r1.1.1.unvisited_le hm)
      exact ⟨r1.1.trans r2.1, covered_cons (r1.2.mono r2.1.1) r2.2⟩)

theorem collectSel_good (he : GoodExp c rt m expand) : ∀ (s : Selection) (a : Groups × List String),
    unvisited c a.2 ≤ m →
    Good c rt a (collectSel c rt expand s a) ∧ Covered c rt (collectSel c rt expand s a) [s] :=
  fun s => collectList_good he [s]

theorem expandSpread_good : ∀ (fuel m : Nat), m < fuel → GoodExp c rt m (expandSpread c rt fuel)
  | 0, _, h => absurd h (Nat.not_lt_zero _)
  | fuel + 1, m, hlt => fun n a hm => by
    have hmark : Mono a (a.1, n :: a.2) := ⟨fun _ h => h, fun _ h => List.mem_cons_of_mem _ h⟩
    refine expandSpread_cases (P := fun b => Good c rt a b ∧ ((c.frag? n).isSome = true → n ∈ b.2)) fuel n a ?_ ?_ ?_
    · intro h
      refine ⟨Good.refl a, fun hs => h.resolve_right (fun hf => ?_)⟩
      rw [hf] at hs
      cases hs
    · intro tc sel _ hf hc
      refine ⟨⟨hmark, fun F hF hFa tc' body' l' hf' hc' => ?_⟩, fun _ => List.mem_cons_self⟩
      rcases List.mem_cons.1 hF with rfl | h'
      · rw [hf] at hf'
        cases hf'
        rw [hc] at hc'
        cases hc'
      · exact absurd h' hFa
    · intro tc body l hn hf hc
      have hb := budget_pred (unvisited_cons_lt c (frag?_some_mem hf) hn) hm hlt
      have h := collectList_good (expandSpread_good fuel (m - 1) hb.2) body (a.1, n :: a.2) hb.1
      refine ⟨⟨hmark.trans h.1.1, fun F hF hFa tc' body' l' hf' _ => ?_⟩, fun _ => h.1.1.2 n List.mem_cons_self⟩
      by_cases hFn : F = n
      · subst hFn
        rw [hf] at hf'
        cases hf'
        exact h.2
      · exact h.1.2 F hF (fun hmem => (List.mem_cons.1 hmem).elim hFn hFa) tc' body' l' hf' ‹_›

theorem collectList_good_of_fuel {fuel : Nat} (sels : List Selection) (a : Groups × List String)
    (h : unvisited c a.2 < fuel) :
    Good c rt a (collectList c rt (expandSpread c rt fuel) sels a) ∧
      Covered c rt (collectList c rt (expandSpread c rt fuel) sels a) sels :=
  collectList_good (expandSpread_good fuel (fuel - 1) (Nat.sub_one_lt (Nat.ne_of_gt (Nat.zero_lt_of_lt h)))) sels a
    (Nat.le_sub_one_of_lt h)

theorem collect_good (sels : List Selection) (l : Loc) (a : Groups × List String) (h : unvisited c a.2 < c.fragFuel) :
    Good c rt a (collect c rt (.mk sels l) a) ∧ Covered c rt (collect c rt (.mk sels l) a) sels :=
  collectList_good_of_fuel sels a h

def AllClosed (c : Ctx) (rt : String) (a : Groups × List String) : Prop := ∀ F ∈ a.2, ClosedName c rt a F

theorem allClosed_nil : AllClosed c rt ([], []) := fun _ h => nomatch h

theorem Good.allClosed (h : Good c rt a b) (ha : AllClosed c rt a) : AllClosed c rt b := by
  intro F hF
  by_cases hFa : F ∈ a.2
  · exact (ha F hFa).mono h.1
  · exact h.2 F hF hFa

theorem stored_of_occurs (hcl : AllClosed c rt b) {sels : List Selection} {f : FieldNode}
    (ho : Occurs c rt sels f) : Covered c rt b sels → Stored b.1 f := by
  induction ho with
  | field hm hi => exact fun hc => hc.1 _ (.field hm hi)
  | inline hm hi hc _ ih =>
    exact fun hcov => ih ⟨fun f hf => hcov.1 f (.inline hm hi hc hf), fun n hn => hcov.2 n (.inline hm hi hc hn)⟩
  | spread hm hi hf hc _ ih =>
    exact fun hcov => ih (hcl _ (hcov.2 _ (.spread hm hi) (hf ▸ rfl)) _ _ _ hf hc)

theorem mem_collect_keys_iff (sels : List Selection) (l : Loc) (k : String) :
    k ∈ ((collect c rt (.mk sels l) ([], [])).1).map (·.1) ↔ ∃ f, Occurs c rt sels f ∧ f.key = k := by
  have hr := collect_reach (c := c) (rt := rt) sels l ([], [])
  have hq := hr.allQ allQ_nil
  constructor
  · intro hk
    obtain ⟨p, hp, rfl⟩ := List.mem_map.1 hk
    obtain ⟨f, hf⟩ := List.exists_mem_of_ne_nil _ (collect_wf c rt (.mk sels l) ([], []) Groups.wf_nil p.1 p.2 hp).1
    exact ⟨f, (hq p hp f hf).2, (hq p hp f hf).1.symm⟩
  · rintro ⟨f, ho, rfl⟩
    have hg := collect_good (c := c) (rt := rt) sels l ([], []) (unvisited_lt_fragFuel c [])
    obtain ⟨p, hp, hk, _⟩ := stored_of_occurs (hg.1.allClosed allClosed_nil) ho hg.2
    exact List.mem_map.2 ⟨p, hp, hk⟩

end closure

end dfs

section merged

variable {c : Ctx} {rt : String}

/-! ## fuel: two expanders that agree within the budget give the same collection -/

section congr
variable {expand expand' : String → Groups × List String → Groups × List String} {m : Nat}

theorem collectList_congr (he : ExpReach c rt (fun _ => True) expand)
    (hag : ∀ n a, unvisited c a.2 ≤ m → expand n a = expand' n a) :
    ∀ (sels : List Selection) (a : Groups × List String), unvisited c a.2 ≤ m →
      collectList c rt expand sels a = collectList c rt expand' sels a :=
  selections_induct
    (PS := fun s => ∀ a, unvisited c a.2 ≤ m → collectSel c rt expand s a = collectSel c rt expand' s a)
    (field := fun _ _ _ _ _ _ a _ => by rw [collectSel_field, collectSel_field])
    (inline := fun _ _ _ _ _ ih a hm => by rw [collectSel_inline, collectSel_inline, ih a hm])
    (spread := fun _ _ _ a hm => by rw [collectSel_spread, collectSel_spread, hag _ a hm])
    (nil := fun _ _ => rfl)
    (cons := fun s _ h1 h2 a hm => by
      rw [collectList_cons, collectList_cons, ← h1 a hm,
        h2 _ (Nat.le_trans (collectSel_reach he s a (fun _ _ => trivial)).mono.unvisited_le hm)])

/-- a selection is the list of itself -/
theorem collectSel_congr (he : ExpReach c rt (fun _ => True) expand)
    (hag : ∀ n a, unvisited c a.2 ≤ m → expand n a = expand' n a) :
    ∀ (s : Selection) (a : Groups × List String), unvisited c a.2 ≤ m →
      collectSel c rt expand s a = collectSel c rt expand' s a :=
  fun s => collectList_congr he hag [s]
end congr

theorem expandSpread_fuel_irrelevant : ∀ (fuel fuel' m : Nat), m < fuel → m < fuel' →
    ∀ n (a : Groups × List String), unvisited c a.2 ≤ m → expandSpread c rt fuel n a = expandSpread c rt fuel' n a
  | 0, _, _, h, _ => absurd h (Nat.not_lt_zero _)
  | _ + 1, 0, _, _, h => absurd h (Nat.not_lt_zero _)
  | fuel + 1, fuel' + 1, m, h1, h2 => fun n a hm => by
    by_cases hn : n ∈ a.2
    · rw [expandSpread_visited _ hn, expandSpread_visited _ hn]
    · rcases hf : c.frag? n with _ | ⟨tc, ⟨body, l⟩⟩
      · rw [expandSpread_undefined _ _ hf, expandSpread_undefined _ _ hf]
      · have hlt : unvisited c (n :: a.2) < unvisited c a.2 := unvisited_cons_lt c (frag?_some_mem hf) hn
        rw [expandSpread_new fuel hn hf, expandSpread_new fuel' hn hf, collectSet_mk, collectSet_mk,
          collectList_congr (expandSpread_reach _ fuel)
            (expandSpread_fuel_irrelevant fuel fuel' (m - 1) (budget_pred hlt hm h1).2 (budget_pred hlt hm h2).2)
            body (a.1, n :: a.2) (budget_pred hlt hm h1).1]

theorem collectSet_fuel_irrelevant (fuel fuel' : Nat) (sel : SelectionSet) (a : Groups × List String)
    (h1 : unvisited c a.2 < fuel) (h2 : unvisited c a.2 < fuel') :
    collectSet c rt (expandSpread c rt fuel) sel a = collectSet c rt (expandSpread c rt fuel') sel a :=
  match sel with
  | .mk sels _ => collectList_congr (m := unvisited c a.2) (expandSpread_reach _ fuel)
      (expandSpread_fuel_irrelevant fuel fuel' _ h1 h2) sels a (Nat.le_refl _)

/-- one step of the fold in `collectMerged` -/
def mergeStep (c : Ctx) (rt : String) (acc : Groups × List String) (n : FieldNode) : Groups × List String :=
  match n.sel with
  | some sel => collect c rt sel acc
  | none => acc

theorem collectMerged_eq (c : Ctx) (rt : String) (nodes : List FieldNode) :
    collectMerged c rt nodes = (nodes.foldl (mergeStep c rt) ([], [])).1 := rfl

theorem mergeFold_reach (nodes : List FieldNode) (a : Groups × List String) :
    Reach (fun f => ∃ n ∈ nodes, ∃ sels l, n.sel = some (.mk sels l) ∧ Occurs c rt sels f) a
      (nodes.foldl (mergeStep c rt) a) :=
  List.foldlRecOn (motive := Reach _ a) nodes _ (.refl a) fun b hb n hn => hb.trans (by
    unfold mergeStep
    rcases hs : n.sel with _ | ⟨sels, l⟩
    · exact .refl _
    · exact (collect_reach sels l b).imp (fun f hf => ⟨n, hn, sels, l, hs, hf⟩))

theorem mergeStep_good (n : FieldNode) (a : Groups × List String) :
    Good c rt a (mergeStep c rt a n) ∧ ∀ sels l, n.sel = some (.mk sels l) → Covered c rt (mergeStep c rt a n) sels := by
  unfold mergeStep
  rcases hs : n.sel with _ | ⟨sels, l⟩
  · exact ⟨Good.refl _, fun _ _ h => by cases h⟩
  · have h := collect_good (c := c) (rt := rt) sels l a (unvisited_lt_fragFuel c a.2)
    refine ⟨h.1, fun sels' l' he => ?_⟩
    cases he
    exact h.2

theorem mergeFold_good : ∀ (ns : List FieldNode) (a : Groups × List String),
    Good c rt a (ns.foldl (mergeStep c rt) a) ∧
    ∀ n ∈ ns, ∀ sels l, n.sel = some (.mk sels l) → Covered c rt (ns.foldl (mergeStep c rt) a) sels
  | [], a => ⟨Good.refl a, fun _ h => nomatch h⟩
  | n :: ns, a => by
    have h1 := mergeStep_good (c := c) (rt := rt) n a
    have h2 := mergeFold_good ns (mergeStep c rt a n)
    refine ⟨h1.1.trans h2.1, fun x hx sels l hs => ?_⟩
    rcases List.mem_cons.1 hx with rfl | hx
    · exact (h1.2 sels l hs).mono h2.1.1
    · exact h2.2 x hx sels l hs

theorem collectList_append (expand : String → Groups × List String → Groups × List String) :
    ∀ (xs ys : List Selection) (a : Groups × List String),
      collectList c rt expand (xs ++ ys) a = collectList c rt expand ys (collectList c rt expand xs a)
  | [], _, _ => rfl
  | x :: xs, ys, a => collectList_append expand xs ys (collectSel c rt expand x a)

theorem collectList_drop {expand : String → Groups × List String → Groups × List String} {pre : List Selection}
    {s : Selection} {a : Groups × List String}
    (h : collectSel c rt expand s (collectList c rt expand pre a) = collectList c rt expand pre a)
    (post : List Selection) :
    collectList c rt expand (pre ++ s :: post) a = collectList c rt expand (pre ++ post) a := by
  rw [collectList_append, collectList_append, collectList_cons, h]

end merged

end GqlModel.Exec
