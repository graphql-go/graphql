import GqlModel.Printer
import GqlModel.ValueReader
/-! printer.go `quoteString` on characters (`Printer.quoteC` / `escC`) against the reference reader's `unquoteC`: the
character twin of `PrinterQuote.lean`, which does the same on bytes. -/
namespace GqlModel.Reader
open GqlModel.Printer

theorem hexDigit_table : ∀ n : Fin 16, hexValC (hexDigit n) = some n.val ∧ 32 ≤ (hexDigit n).toNat := by decide

theorem hexValC_hexDigit (n : Nat) (h : n < 16) : hexValC (hexDigit n) = some n := (hexDigit_table ⟨n, h⟩).1

theorem char_eq_of_toNat {c : Char} {n : Nat} (h : c.toNat = n) : c = Char.ofNat n := by
  rw [← h, Char.ofNat_toNat]

theorem unquoteBodyC_escape {rest rest' : Chars} {x : Char} (n : Nat) (h : unescapeC rest = some (x, rest')) :
    unquoteBodyC (n + 1) ('\\' :: rest) = (unquoteBodyC n rest').map (fun p => (x :: p.1, p.2)) := by
  rw [unquoteBodyC, if_neg (by decide), if_pos rfl, h]

theorem unquoteBodyC_plain {c : Char} (n : Nat) (rest : Chars) (h1 : c ≠ '"') (h2 : c ≠ '\\') (h3 : 32 ≤ c.toNat) :
    unquoteBodyC (n + 1) (c :: rest) = (unquoteBodyC n rest).map (fun p => (c :: p.1, p.2)) := by
  have h4 : ¬ (c = '\n' ∨ c = '\r') := by rintro (rfl | rfl) <;> exact absurd h3 (by decide)
  rw [unquoteBodyC, if_neg h1, if_neg h2, if_neg h4, if_neg (fun h => absurd h3 (Nat.not_le.mpr h.1))]

theorem unescapeC_hex (c : Char) (h : c.toNat < 128) (rest : Chars) :
    unescapeC ('u' :: '0' :: '0' :: hexDigit (c.toNat / 16) :: hexDigit (c.toNat % 16) :: rest) = some (c, rest) := by
  have h0 : hexValC '0' = some 0 := by decide
  have hb : runeOf (0 * 4096 + 0 * 256 + c.toNat / 16 * 16 + c.toNat % 16) = c := by
    rw [show 0 * 4096 + 0 * 256 + c.toNat / 16 * 16 + c.toNat % 16 = c.toNat by omega, runeOf, if_neg (by omega),
      Char.ofNat_toNat]
  simp only [unescapeC, h0, hexValC_hexDigit _ (show c.toNat / 16 < 16 by omega),
    hexValC_hexDigit _ (Nat.mod_lt _ (by decide)), hb]
  simp

theorem escC_cases (c : Char) :
    (∃ e, escC c = ['\\', e] ∧ 32 ≤ e.toNat ∧ c.toNat < 128 ∧ ∀ rest, unescapeC (e :: rest) = some (c, rest)) ∨
    (escC c = ['\\', 'u', '0', '0', hexDigit (c.toNat / 16), hexDigit (c.toNat % 16)] ∧ c.toNat < 128) ∨
    (escC c = [c] ∧ c ≠ '"' ∧ c ≠ '\\' ∧ 32 ≤ c.toNat) := by
  by_cases h1 : c = '"'
  · subst h1; exact .inl ⟨'"', rfl, by decide, by decide, fun _ => rfl⟩
  by_cases h2 : c = '\\'
  · subst h2; exact .inl ⟨'\\', rfl, by decide, by decide, fun _ => rfl⟩
  by_cases h3 : c.toNat = 8
  · obtain rfl := char_eq_of_toNat h3; exact .inl ⟨'b', rfl, by decide, by decide, fun _ => rfl⟩
  by_cases h4 : c.toNat = 12
  · obtain rfl := char_eq_of_toNat h4; exact .inl ⟨'f', rfl, by decide, by decide, fun _ => rfl⟩
  by_cases h5 : c = '\n'
  · subst h5; exact .inl ⟨'n', rfl, by decide, by decide, fun _ => rfl⟩
  by_cases h6 : c = '\r'
  · subst h6; exact .inl ⟨'r', rfl, by decide, by decide, fun _ => rfl⟩
  by_cases h7 : c = '\t'
  · subst h7; exact .inl ⟨'t', rfl, by decide, by decide, fun _ => rfl⟩
  by_cases h8 : c.toNat < 32 ∨ c.toNat = 127
  · refine .inr (.inl ⟨?_, by omega⟩)
    rw [escC, if_neg h1, if_neg h2, if_neg h3, if_neg h4, if_neg h5, if_neg h6, if_neg h7, if_pos h8]
  · refine .inr (.inr ⟨?_, h1, h2, by omega⟩)
    rw [escC, if_neg h1, if_neg h2, if_neg h3, if_neg h4, if_neg h5, if_neg h6, if_neg h7, if_neg h8]

theorem escC_step (c : Char) (n : Nat) (rest : Chars) :
    unquoteBodyC (n + 1) (escC c ++ rest) = (unquoteBodyC n rest).map (fun p => (c :: p.1, p.2)) := by
  rcases escC_cases c with ⟨e, he, _, _, hu⟩ | ⟨he, hc⟩ | ⟨he, h1, h2, h3⟩
  · rw [he]; exact unquoteBodyC_escape n (hu rest)
  · rw [he]; exact unquoteBodyC_escape n (unescapeC_hex c hc rest)
  · rw [he]; exact unquoteBodyC_plain n rest h1 h2 h3

theorem quoteC_roundtrip (s rest : Chars) :
    ∀ n, s.length < n → unquoteBodyC n (quoteBodyC s ++ '"' :: rest) = some (s, rest) := by
  induction s with
  | nil =>
    intro n hn
    obtain ⟨m, rfl⟩ := Nat.exists_eq_add_one_of_ne_zero (n := n) (by simp at hn; omega)
    simp [quoteBodyC, unquoteBodyC]
  | cons b bs ih =>
    intro n hn
    obtain ⟨m, rfl⟩ := Nat.exists_eq_add_one_of_ne_zero (n := n) (by simp at hn; omega)
    simp only [quoteBodyC, List.append_assoc]
    rw [escC_step, ih m (by simp at hn; omega)]
    rfl

theorem escC_length (c : Char) : 1 ≤ (escC c).length := by
  rcases escC_cases c with ⟨e, he, _⟩ | ⟨he, _⟩ | ⟨he, _⟩ <;> rw [he] <;> simp

theorem escC_printable (c : Char) : ∀ x ∈ escC c, 32 ≤ x.toNat := by
  have hd (n : Nat) (h : n < 16) : 32 ≤ (hexDigit n).toNat := (hexDigit_table ⟨n, h⟩).2
  intro x hx
  rcases escC_cases c with ⟨e, he, h32, _⟩ | ⟨he, hc⟩ | ⟨he, _, _, h3⟩ <;> rw [he] at hx <;>
    simp only [List.mem_cons, List.mem_nil_iff, or_false] at hx
  · rcases hx with rfl | rfl
    · decide
    · exact h32
  · rcases hx with rfl | rfl | rfl | rfl | rfl | rfl
    · decide
    · decide
    · decide
    · decide
    · exact hd _ (by omega)
    · exact hd _ (Nat.mod_lt _ (by decide))
  · exact hx ▸ h3

theorem quoteBodyC_length (s : Chars) : s.length ≤ (quoteBodyC s).length := by
  induction s with
  | nil => simp [quoteBodyC]
  | cons b bs ih => simp only [quoteBodyC, List.length_append, List.length_cons]; have := escC_length b; omega

theorem unquoteC_quoteC (s rest : Chars) : unquoteC (quoteC s ++ rest) = some (s, rest) := by
  simp only [quoteC, unquoteC, List.cons_append, List.append_assoc, if_true]
  apply quoteC_roundtrip
  have := quoteBodyC_length s
  simp; omega

end GqlModel.Reader
