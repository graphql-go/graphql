import GqlProofs.LexerIgnored
/-! `blockStringValue` of lexer.go (regexp split, `commonIndent` loop with early exit, in-place slicing, two trimming
loops, `strings.Join`) computes the spec's `BlockStringValue()`. -/
namespace GqlModel.Lexer
open GqlModel.Lexer.Spec

theorem lines_cons (c : UInt8) (r : Bytes) : lines (c :: r) =
    if c = 10 then [] :: lines r
    else if c = 13 then [] :: (match r with | d :: r' => if d = 10 then lines r' else lines r | [] => lines r)
    else match lines r with
      | l :: ls => (c :: l) :: ls
      | [] => [[c]] := by
  by_cases h10 : c = 10
  · subst h10; rw [if_pos rfl, lines.eq_4]
  rw [if_neg h10]
  by_cases h13 : c = 13
  · subst h13
    rw [if_pos rfl]
    match r with
    | [] => rw [lines.eq_3 _ (by simp)]
    | d :: r' =>
      by_cases hd : d = 10
      · subst hd; rw [lines.eq_2]; simp
      · rw [lines.eq_3 _ (by simp [hd])]; simp [hd]
  · rw [if_neg h13, lines.eq_5 c r (fun _ h => absurd h h13) h13 h10]
    cases lines r <;> rfl

theorem lines_ne_nil (bs : Bytes) : lines bs ≠ [] := by
  match bs with
  | [] => simp [lines]
  | c :: r =>
    rw [lines_cons]
    by_cases h10 : c = 10
    · rw [if_pos h10]; nofun
    by_cases h13 : c = 13
    · rw [if_neg h10, if_pos h13]; nofun
    · rw [if_neg h10, if_neg h13]; cases lines r <;> nofun

theorem splitLinesAux_spec : ∀ (bs : Bytes),
    splitLinesAux false bs = lines bs ∧
    splitLinesAux true bs = (match bs with | d :: r => if d = 10 then lines r else lines bs | [] => lines bs) := by
  intro bs
  induction bs with
  | nil => simp [splitLinesAux, lines]
  | cons c r ih =>
    obtain ⟨ih1, ih2⟩ := ih
    have key : ∀ flag, (c ≠ 10) → splitLinesAux flag (c :: r) = lines (c :: r) := by
      intro flag h10
      rw [lines_cons, if_neg h10]
      by_cases h13 : c = 13
      · simp only [splitLinesAux, if_neg h10, if_pos h13, ih2]
      · simp only [splitLinesAux, if_neg h10, if_neg h13, ih1]
        cases lines r <;> rfl
    constructor
    · by_cases h10 : c = 10
      · subst h10; simp only [splitLinesAux, if_true, ih1]; rw [lines_cons, if_pos rfl]; rfl
      · exact key false h10
    · by_cases h10 : c = 10
      · subst h10; simp only [splitLinesAux, if_true, ih1]
      · simp only [h10, if_false]; exact key true h10

theorem splitLines_eq (bs : Bytes) : splitLines bs = lines bs := (splitLinesAux_spec bs).1

theorem leadingWhitespaceLen_eq (l : Bytes) : leadingWhitespaceLen l = indentOf l := by
  induction l with
  | nil => simp [leadingWhitespaceLen, indentOf, spanLen]
  | cons c r ih =>
    simp only [leadingWhitespaceLen, indentOf, spanLen, isWhiteSpace] at ih ⊢
    by_cases h : c = 32 ∨ c = 9
    · rcases h with rfl | rfl <;> simp [ih]
    · have h1 : ¬ c = 32 := fun e => h (Or.inl e)
      have h2 : ¬ c = 9 := fun e => h (Or.inr e)
      simp [h1, h2]

theorem spanLen_eq_length (p : UInt8 → Bool) (l : Bytes) : (spanLen p l = l.length) ↔ l.all p = true := by
  rw [spanLen_eq_takeWhile]
  constructor
  · intro h; rw [← (List.takeWhile_prefix p).eq_of_length h]; exact List.all_takeWhile
  · intro h
    simpa using congrArg List.length (List.takeWhile_append_of_pos (l₂ := []) (List.all_eq_true.1 h))

theorem lineIsBlank_eq (l : Bytes) : lineIsBlank l = isBlank l := by
  simp only [lineIsBlank, isBlank, leadingWhitespaceLen_eq, indentOf]
  rw [Bool.eq_iff_iff]
  simp only [beq_iff_eq]
  exact spanLen_eq_length isWhiteSpace l

theorem commonIndentLoop_spec : ∀ (ls : List Bytes) (acc : Option Nat),
    commonIndentLoop ls acc = Option.merge min acc (commonIndent ls) := by
  intro ls
  induction ls with
  | nil => intro acc; cases acc <;> simp [commonIndentLoop, commonIndent]
  | cons line ls ih =>
    intro acc
    simp only [commonIndentLoop, commonIndent, leadingWhitespaceLen_eq]
    by_cases h1 : indentOf line < line.length
    · simp only [h1, true_and, if_true]
      cases acc with
      | none =>
        simp only [true_or, if_true, Option.merge_none_left]
        by_cases h0 : indentOf line = 0
        · simp only [h0, if_true]
          cases commonIndent ls <;> simp
        · simp only [h0, if_false, ih]
          cases commonIndent ls <;> simp
      | some a =>
        simp only [reduceCtorEq, false_or, Option.getD_some]
        by_cases h2 : indentOf line < a
        · simp only [h2, if_true]
          by_cases h0 : indentOf line = 0
          · simp only [h0, if_true]
            cases commonIndent ls <;> simp
          · simp only [h0, if_false, ih]
            cases commonIndent ls <;> simp <;> omega
        · simp only [h2, if_false, ih]
          cases commonIndent ls <;> simp <;> omega
    · simp only [h1, false_and, if_false, ih]

theorem dropLeadingBlank_eq (ls : List Bytes) : dropLeadingBlank ls = stripLeadingBlank ls := by
  induction ls with
  | nil => rfl
  | cons l ls ih => simp only [dropLeadingBlank, stripLeadingBlank, lineIsBlank_eq, ih]

theorem stripLeadingBlank_eq_dropWhile (ls : List Bytes) : stripLeadingBlank ls = ls.dropWhile isBlank := by
  induction ls with
  | nil => rfl
  | cons l ls ih => simp only [stripLeadingBlank, List.dropWhile_cons, ih]

theorem stripTrailingBlank_eq (ls : List Bytes) : stripTrailingBlank ls = (stripLeadingBlank ls.reverse).reverse := by
  induction ls with
  | nil => rfl
  | cons l ls ih =>
    rw [stripTrailingBlank, ih, List.reverse_cons, stripLeadingBlank_eq_dropWhile, stripLeadingBlank_eq_dropWhile, List.dropWhile_append]
    cases ls.reverse.dropWhile isBlank with
    | nil => cases hb : isBlank l <;> simp [hb]
    | cons x xs => simp

theorem dropTrailingBlank_eq (ls : List Bytes) : dropTrailingBlank ls = stripTrailingBlank ls := by
  rw [stripTrailingBlank_eq, dropTrailingBlank, dropLeadingBlank_eq]

theorem joinLF_eq : ∀ (ls : List Bytes), joinLF ls = joinLines ls
  | [] => rfl
  | [_] => rfl
  | l :: l2 :: ls => by simp only [joinLF, joinLines, joinLF_eq (l2 :: ls)]

theorem map_dropGo (ci : Nat) (ls : List Bytes) :
    ls.map (fun line => if ci > line.length then [] else line.drop ci) = ls.map (fun l => l.drop ci) := by
  apply List.map_congr_left
  intro l _
  split
  · rw [List.drop_eq_nil_of_le (by omega)]
  · rfl

/-- The library's `blockStringValue` is the spec's `BlockStringValue()` on every raw value
(CR, LF and CRLF line ends, common indentation of all lines but the first, leading/trailing blank lines). -/
theorem blockStringValue_eq (raw : Bytes) : Lexer.blockStringValue raw = Spec.blockStringValue raw := by
  unfold Lexer.blockStringValue Spec.blockStringValue
  simp only [splitLines_eq, dropTrailingBlank_eq, dropLeadingBlank_eq, joinLF_eq]
  match hl : lines raw with
  | [] => exact absurd hl (lines_ne_nil raw)
  | first :: others =>
    simp only [List.drop_succ_cons, List.drop_zero, commonIndentLoop_spec, Option.merge_none_left]
    cases commonIndent others with
    | none => simp
    | some ci =>
      simp only [Option.getD_some]
      by_cases h0 : ci > 0
      · simp only [h0, if_true, removeIndentGo, map_dropGo]
      · have : ci = 0 := by omega
        subst this
        simp

end GqlModel.Lexer
