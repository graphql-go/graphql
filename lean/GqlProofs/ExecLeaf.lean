import GqlModel.Conforms
import GqlProofs.CoerceRange
/-! C04 helper lemmas: whatever a resolver returns, `serializeLeaf` yields `null` or a legal serialisation. -/
namespace GqlModel.Exec
open GqlModel.Coerce

def isNumber : JVal → Bool
  | .int _ => true
  | .dec _ _ => true
  | _ => false

theorem normDec_isNumber (m : Int) (e : Nat) : isNumber (normDec m e) = true := by
  induction e generalizing m with
  | zero => rfl
  | succ e ih =>
    simp only [normDec]
    split
    · exact ih _
    · rfl

theorem coerceFloat_cases (v : JVal) : coerceFloat v = .null ∨ isNumber (coerceFloat v) = true := by
  cases v with
  | str x =>
    rw [coerceFloat]
    split
    · exact Or.inl rfl
    · cases parseDec x.toList with
      | none => exact Or.inl rfl
      | some p => exact Or.inr (normDec_isNumber _ _)
  | bool b => exact Or.inr rfl
  | int i => exact Or.inr rfl
  | dec m e => exact Or.inr rfl
  | _ => exact Or.inl rfl

theorem coerceInt_cases (v : JVal) : coerceInt v = .null ∨ ∃ i, coerceInt v = .int i ∧ inInt32 i = true := by
  have h := intOK_coerceInt v
  generalize coerceInt v = r at h ⊢
  cases r with
  | null => exact Or.inl rfl
  | int i => exact Or.inr ⟨i, rfl, h⟩
  | _ => cases h

theorem coerceBool_cases (v : JVal) : ∃ b, coerceBool v = .bool b := by
  cases v <;> exact ⟨_, rfl⟩

theorem JVal.beq_refl' (v : JVal) : (v == v) = true :=
  JVal.rec (motive_1 := fun v => JVal.beq v v = true)
    (motive_2 := fun xs => JVal.beqList xs xs = true)
    (motive_3 := fun fs => JVal.beqFields fs fs = true)
    (motive_4 := fun kv => JVal.beq kv.2 kv.2 = true)
    rfl (fun _ => decide_eq_true rfl) (fun _ => decide_eq_true rfl)
    (fun _ _ => (Bool.and_eq_true _ _).mpr ⟨decide_eq_true rfl, decide_eq_true rfl⟩)
    (fun _ => decide_eq_true rfl) (fun _ ih => ih) (fun _ ih => ih)
    rfl (fun _ _ ih1 ih2 => (Bool.and_eq_true _ _).mpr ⟨ih1, ih2⟩)
    rfl (fun _ _ ih1 ih2 =>
      (Bool.and_eq_true _ _).mpr ⟨(Bool.and_eq_true _ _).mpr ⟨decide_eq_true rfl, ih1⟩, ih2⟩)
    (fun _ _ ih => ih) v

theorem tableLookup_cases (tbl : List (JVal × JVal)) (v : JVal) :
    tableLookup tbl v = .null ∨ tbl.any (fun p => p.2 == tableLookup tbl v) = true := by
  unfold tableLookup
  cases hp : tbl.find? (fun p => p.1 == v) with
  | none => exact Or.inl rfl
  | some p => exact Or.inr (List.any_eq_true.mpr ⟨p, List.mem_of_find?_eq_some hp, JVal.beq_refl' _⟩)

theorem enumSerialize_cases (vals : List EnumValueS) (v : JVal) :
    enumSerialize vals v = .null ∨ ∃ x, enumSerialize vals v = .str x ∧ vals.any (fun ev => ev.name == x) = true := by
  unfold enumSerialize
  cases hev : vals.find? (fun ev => enumInternal ev == v) with
  | none => exact Or.inl rfl
  | some ev =>
    exact Or.inr ⟨ev.name, rfl,
      List.any_eq_true.mpr ⟨ev, List.mem_of_find?_eq_some hev, decide_eq_true rfl⟩⟩

theorem serializeLeaf_legal (s : Schema) (n : String) (v : GoVal) (j : JVal) (h : serializeLeaf s n v = some j) :
    j = .null ∨ legalLeaf s n j = true := by
  unfold serializeLeaf at h
  unfold legalLeaf
  cases hf : s.find? n with
  | none =>
    rw [hf] at h
    exact Or.inl (Option.some.inj h).symm
  | some td =>
    rw [hf] at h
    cases td with
    | scalar nm k d =>
      dsimp only at h ⊢
      cases hj : v.toJ with
      | some j' =>
        rw [hj] at h
        dsimp only at h
        by_cases hp : leafPanics k j' = true
        · rw [if_pos hp] at h
          cases h
        · rw [if_neg hp] at h
          cases h
          cases k with
          | int =>
            rcases coerceInt_cases j' with h0 | ⟨i, hi, hr⟩
            · exact Or.inl h0
            · exact Or.inr (hi ▸ hr)
          | float => exact coerceFloat_cases j'
          | string => exact Or.inr rfl
          | id => exact Or.inr rfl
          | boolean =>
            obtain ⟨b, hb⟩ := coerceBool_cases j'
            exact Or.inr (hb ▸ rfl)
          | custom ser pv pl => exact tableLookup_cases ser j'
      | none =>
        rw [hj] at h
        cases h
        cases k with
        | string => exact Or.inr (by cases fmtGo v <;> rfl)
        | id => exact Or.inr (by cases fmtGo v <;> rfl)
        | boolean => exact Or.inr rfl
        | _ => exact Or.inl rfl
    | enum nm vals d =>
      dsimp only at h ⊢
      split at h
      · cases h
      · cases hj : v.toJ with
        | none =>
          rw [hj] at h
          exact Or.inl (Option.some.inj h).symm
        | some j' =>
          rw [hj] at h
          cases h
          rcases enumSerialize_cases vals j' with h0 | ⟨x, hx, hv⟩
          · exact Or.inl h0
          · exact Or.inr (hx ▸ hv)
    | _ => exact Or.inl (Option.some.inj h).symm
end GqlModel.Exec
