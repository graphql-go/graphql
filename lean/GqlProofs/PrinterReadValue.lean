import GqlProofs.PrinterRead
/-! The value round trip: reading the printed form of a well-formed value gives the value back (unbounded nesting). -/
namespace GqlModel.Reader
open GqlModel.Printer

theorem valueC_list_cons (v : Value) (vs : List Value) (l : Loc) (h : WFValues (v :: vs)) :
    valueC (.list (v :: vs) l) = '[' :: (valueC v ++ sepAll (valuesC vs) ++ [']']) := by
  simp only [valueC, joinC, filter_nonempty_valuesC _ h]
  simp [valuesC, interC_cons_commaSp]

theorem valueC_obj_cons (f : ObjField) (fs : List ObjField) (l : Loc) (h : WFFields (f :: fs)) :
    valueC (.obj (f :: fs) l) = '{' :: (fieldC f ++ sepAll (fieldsC fs) ++ ['}']) := by
  simp only [valueC, joinC, filter_nonempty_fieldsC _ h]
  simp [fieldsC, interC_cons_commaSp]

theorem readValue_number (raw : String) (isF : Bool) (rest : Chars) (m : Nat)
    (hhead : ∃ c r, raw.toList = c :: r ∧ (c = '-' ∨ isDigit c = true))
    (hnum : readNumber (raw.toList ++ rest) = some (isF, raw.toList, rest)) :
    readValue (m + 1) (raw.toList ++ rest) =
      some (if isF then .float raw Loc.none else .int raw Loc.none, rest) := by
  obtain ⟨c, r, hcr, hc⟩ := hhead
  have hf := numHead hc
  have h0 : skipIgnored (raw.toList ++ rest) = c :: (r ++ rest) := by
    rw [hcr, List.cons_append]; exact skipIgnored_cons hf.notIgnored _
  rw [readValue_of_scalar h0 hf.ne_openList hf.ne_openObj]
  have := readScalar_number raw.toList rest isF ⟨c, r, hcr, hc⟩ hnum
  rw [hcr] at this
  simp only [List.cons_append] at this
  rw [this, ← hcr, String.ofList_toList]

theorem readValue_name (nm rest : Chars) (m : Nat) (h : isNameC nm = true) (hr : Delim rest) :
    readValue (m + 1) (nm ++ rest) =
      (if nm = trueC then some (.bool true Loc.none, rest)
       else if nm = falseC then some (.bool false Loc.none, rest)
       else if nm = nullC then none
       else some (.enum (String.ofList nm) Loc.none, rest)) := by
  obtain ⟨c, r, rfl, hc1, _, _⟩ := headOK_name h
  have hns : isNameStart c = true := by simp [isNameC] at h; exact h.1
  rw [List.cons_append, readValue_of_scalar (skipIgnored_cons hc1 _) (nameStart_ne hns _ (by decide))
    (nameStart_ne hns _ (by decide))]
  exact readScalar_name (c :: r) rest h hr

mutual
def fuelV : Value → Nat
  | .list vs _ => 1 + fuelL vs
  | .obj fs _ => 1 + fuelF fs
  | _ => 1
def fuelL : List Value → Nat
  | [] => 1
  | v :: vs => 1 + fuelV v + fuelL vs
def fuelFd : ObjField → Nat
  | .mk _ v _ => fuelV v
def fuelF : List ObjField → Nat
  | [] => 1
  | f :: fs => 1 + fuelFd f + fuelF fs
end

mutual
theorem readValue_valueC : ∀ v : Value, WFValue v → ∀ rest, Delim rest → ∀ n, fuelV v ≤ n →
    readValue n (valueC v ++ rest) = some (v.stripLoc, rest)
  | .var nm l, h, rest, hr, n, hn => by
    obtain ⟨m, rfl⟩ := Nat.exists_eq_add_one_of_ne_zero (n := n) (by simp [fuelV] at hn; omega)
    have h0 : skipIgnored (valueC (.var nm l) ++ rest) = '$' :: (nm.toList ++ rest) := by
      simp [valueC, skipIgnored, isIgnored]
    rw [readValue_of_scalar h0 (by decide) (by decide)]
    exact readScalar_var nm rest h hr
  | .int raw l, h, rest, hr, n, hn => by
    obtain ⟨m, rfl⟩ := Nat.exists_eq_add_one_of_ne_zero (n := n) (by simp [fuelV] at hn; omega)
    exact readValue_number raw false rest m (intLit_head h) (readNumber_int _ _ h hr)
  | .float raw l, h, rest, hr, n, hn => by
    obtain ⟨m, rfl⟩ := Nat.exists_eq_add_one_of_ne_zero (n := n) (by simp [fuelV] at hn; omega)
    exact readValue_number raw true rest m (floatLit_head h) (readNumber_float _ _ h hr)
  | .str s l, _, rest, _, n, hn => by
    obtain ⟨m, rfl⟩ := Nat.exists_eq_add_one_of_ne_zero (n := n) (by simp [fuelV] at hn; omega)
    have h0 : skipIgnored (valueC (.str s l) ++ rest) = '"' :: (quoteBodyC s.toList ++ ['"'] ++ rest) := by
      simp [valueC, quoteC, skipIgnored, isIgnored]
    rw [readValue_of_scalar h0 (by decide) (by decide)]
    have := readScalar_str s rest
    simp only [quoteC, List.cons_append] at this
    rw [this]; rfl
  | .bool true l, _, rest, hr, n, hn => by
    obtain ⟨m, rfl⟩ := Nat.exists_eq_add_one_of_ne_zero (n := n) (by simp [fuelV] at hn; omega)
    exact (readValue_name trueC rest m (by decide) hr).trans (if_pos rfl)
  | .bool false l, _, rest, hr, n, hn => by
    obtain ⟨m, rfl⟩ := Nat.exists_eq_add_one_of_ne_zero (n := n) (by simp [fuelV] at hn; omega)
    exact (readValue_name falseC rest m (by decide) hr).trans ((if_neg (by decide)).trans (if_pos rfl))
  | .enum v l, h, rest, hr, n, hn => by
    obtain ⟨m, rfl⟩ := Nat.exists_eq_add_one_of_ne_zero (n := n) (by simp [fuelV] at hn; omega)
    refine (readValue_name v.toList rest m h.1 hr).trans ?_
    rw [if_neg h.2.1, if_neg h.2.2.1, if_neg h.2.2.2, String.ofList_toList]
    rfl
  | .list vs l, h, rest, hr, n, hn => by
    obtain ⟨m, rfl⟩ := Nat.exists_eq_add_one_of_ne_zero (n := n) (by simp [fuelV] at hn; omega)
    have hm : fuelL vs ≤ m := by simp [fuelV] at hn; omega
    cases vs with
    | nil =>
      have h0 : skipIgnored (valueC (.list [] l) ++ rest) = '[' :: (']' :: rest) := by
        simp [valueC, valuesC, joinC, interC, skipIgnored, isIgnored]
      rw [readValue_of_list h0]
      have := readList_valuesC [] trivial rest m hm
      simp only [valuesC, sepAll, List.nil_append] at this
      rw [this]; rfl
    | cons v vs =>
      have h0 : skipIgnored (valueC (.list (v :: vs) l) ++ rest) =
          '[' :: (valueC v ++ sepAll (valuesC vs) ++ [']'] ++ rest) := by
        rw [valueC_list_cons v vs l h]; simp [skipIgnored, isIgnored]
      rw [readValue_of_list h0]
      have := readList_valuesC (v :: vs) h rest m hm
      simp only [valuesC, sepAll, List.append_assoc] at this
      rw [readList_congr (skipIgnored_commaSp _)] at this
      simp only [List.append_assoc, List.cons_append, List.nil_append] at this ⊢
      rw [this]; rfl
  | .obj fs l, h, rest, hr, n, hn => by
    obtain ⟨m, rfl⟩ := Nat.exists_eq_add_one_of_ne_zero (n := n) (by simp [fuelV] at hn; omega)
    have hm : fuelF fs ≤ m := by simp [fuelV] at hn; omega
    cases fs with
    | nil =>
      have h0 : skipIgnored (valueC (.obj [] l) ++ rest) = '{' :: ('}' :: rest) := by
        simp [valueC, fieldsC, joinC, interC, skipIgnored, isIgnored]
      rw [readValue_of_obj h0]
      have := readFields_fieldsC [] trivial rest m hm
      simp only [fieldsC, sepAll, List.nil_append] at this
      rw [this]; rfl
    | cons f fs =>
      have h0 : skipIgnored (valueC (.obj (f :: fs) l) ++ rest) =
          '{' :: (fieldC f ++ sepAll (fieldsC fs) ++ ['}'] ++ rest) := by
        rw [valueC_obj_cons f fs l h]; simp [skipIgnored, isIgnored]
      rw [readValue_of_obj h0]
      have := readFields_fieldsC (f :: fs) h rest m hm
      simp only [fieldsC, sepAll, List.append_assoc] at this
      rw [readFields_congr (skipIgnored_commaSp _)] at this
      simp only [List.append_assoc, List.cons_append, List.nil_append] at this ⊢
      rw [this]; rfl
theorem readList_valuesC : ∀ vs : List Value, WFValues vs → ∀ rest n, fuelL vs ≤ n →
    readList n (sepAll (valuesC vs) ++ ']' :: rest) = some (Value.stripLocList vs, rest)
  | [], _, rest, n, hn => by
    obtain ⟨m, rfl⟩ := Nat.exists_eq_add_one_of_ne_zero (n := n) (by simp [fuelL] at hn; omega)
    have h0 : skipIgnored (sepAll (valuesC []) ++ ']' :: rest) = ']' :: rest := by
      simp [valuesC, sepAll, skipIgnored, isIgnored]
    rw [readList_close h0]; rfl
  | v :: vs, h, rest, n, hn => by
    obtain ⟨m, rfl⟩ := Nat.exists_eq_add_one_of_ne_zero (n := n) (by simp [fuelL] at hn; omega)
    have hm1 : fuelV v ≤ m := by simp [fuelL] at hn; omega
    have hm2 : fuelL vs ≤ m := by simp [fuelL] at hn; omega
    obtain ⟨c, r, hcr, hc1, hc2, _⟩ := headOK_valueC v h.1
    have h0 : skipIgnored (sepAll (valuesC (v :: vs)) ++ ']' :: rest) =
        c :: (r ++ (sepAll (valuesC vs) ++ ']' :: rest)) := by
      simp only [valuesC, sepAll, List.append_assoc]
      rw [skipIgnored_commaSp, hcr]
      exact skipIgnored_cons hc1 _
    have hv := readValue_valueC v h.1 (sepAll (valuesC vs) ++ ']' :: rest)
      (delim_sepAll _ ']' (by decide) rest) m hm1
    rw [hcr] at hv
    simp only [List.cons_append] at hv
    rw [readList_elem h0 hc2 hv, readList_valuesC vs h.2 rest m hm2]
    rfl
theorem readFields_fieldsC : ∀ fs : List ObjField, WFFields fs → ∀ rest n, fuelF fs ≤ n →
    readFields n (sepAll (fieldsC fs) ++ '}' :: rest) = some (ObjField.stripLocList fs, rest)
  | [], _, rest, n, hn => by
    obtain ⟨m, rfl⟩ := Nat.exists_eq_add_one_of_ne_zero (n := n) (by simp [fuelF] at hn; omega)
    have h0 : skipIgnored (sepAll (fieldsC []) ++ '}' :: rest) = '}' :: rest := by
      simp [fieldsC, sepAll, skipIgnored, isIgnored]
    rw [readFields_close h0]; rfl
  | .mk nm v fl :: fs, h, rest, n, hn => by
    obtain ⟨m, rfl⟩ := Nat.exists_eq_add_one_of_ne_zero (n := n) (by simp [fuelF] at hn; omega)
    have hm1 : fuelV v ≤ m := by simp [fuelF, fuelFd] at hn; omega
    have hm2 : fuelF fs ≤ m := by simp [fuelF] at hn; omega
    obtain ⟨⟨hname, hwv⟩, hwfs⟩ := h
    obtain ⟨c, r, hcr, hc1, _, hc3⟩ := headOK_name hname
    let tail := sepAll (fieldsC fs) ++ '}' :: rest
    have h0 : skipIgnored (sepAll (fieldsC (.mk nm v fl :: fs)) ++ '}' :: rest) =
        c :: (r ++ (colonSp ++ (valueC v ++ tail))) := by
      simp only [fieldsC, fieldC, sepAll, List.append_assoc]
      rw [skipIgnored_commaSp, hcr]
      exact skipIgnored_cons hc1 _
    have hn2 : readName (c :: (r ++ (colonSp ++ (valueC v ++ tail)))) = some (nm.value.toList, colonSp ++ (valueC v ++ tail)) := by
      have := readName_name nm.value.toList (colonSp ++ (valueC v ++ tail)) hname ⟨by decide, by decide⟩
      rw [hcr] at this
      rw [hcr]
      simpa using this
    have h3 : skipIgnored (colonSp ++ (valueC v ++ tail)) = ':' :: (' ' :: (valueC v ++ tail)) := by
      simp [colonSp, skipIgnored, isIgnored]
    have hv := readValue_valueC v hwv tail (delim_sepAll _ '}' (by decide) rest) m hm1
    have hv' : readValue m (' ' :: (valueC v ++ tail)) = some (v.stripLoc, tail) := by
      cases m with
      | zero => simp [readValue] at hv
      | succ k =>
        have e : skipIgnored (' ' :: (valueC v ++ tail)) = skipIgnored (valueC v ++ tail) := by
          simp [skipIgnored, isIgnored]
        simp only [readValue, e] at hv ⊢
        exact hv
    rw [readFields_field h0 hc3 hn2 h3 hv', readFields_fieldsC fs hwfs rest m hm2]
    simp [ObjField.stripLocList, ObjField.stripLoc, Name.stripLoc]
end

/-! ### the fuel `2·length + 2` of `readValueTop` suffices -/

theorem headOK_length {cs : Chars} (h : HeadOK cs) : 1 ≤ cs.length := by
  obtain ⟨c, r, rfl, _⟩ := h; simp

mutual
theorem fuelV_le : ∀ v : Value, WFValue v → fuelV v ≤ 2 * (valueC v).length
  | .var nm l, h => by simp only [fuelV, valueC, List.length_cons]; omega
  | .int _ _, h | .float _ _, h | .str _ _, h | .bool _ _, h | .enum _ _, h => by
    have := headOK_length (headOK_valueC _ h); simp only [fuelV]; omega
  | .list [] l, h => by simp [fuelV, fuelL, valueC, valuesC, joinC, interC]
  | .list (v :: vs) l, h => by
    have h1 := fuelV_le v h.1
    have h2 := fuelL_le vs h.2
    rw [valueC_list_cons v vs l h]
    simp only [fuelV, fuelL, List.length_cons, List.length_append, List.length_nil]
    omega
  | .obj [] l, h => by simp [fuelV, fuelF, valueC, fieldsC, joinC, interC]
  | .obj (.mk nm v fl :: fs) l, h => by
    have h1 := fuelV_le v h.1.2
    have h2 := fuelF_le fs h.2
    rw [valueC_obj_cons _ fs l h]
    simp only [fuelV, fuelF, fuelFd, fieldC, colonSp, List.length_cons, List.length_append, List.length_nil]
    omega
theorem fuelL_le : ∀ vs : List Value, WFValues vs → fuelL vs ≤ 1 + 2 * (sepAll (valuesC vs)).length
  | [], _ => by simp [fuelL]
  | v :: vs, h => by
    have h1 := fuelV_le v h.1
    have h2 := fuelL_le vs h.2
    simp only [fuelL, valuesC, sepAll, commaSp, List.length_cons, List.length_append, List.length_nil]
    omega
theorem fuelF_le : ∀ fs : List ObjField, WFFields fs → fuelF fs ≤ 1 + 2 * (sepAll (fieldsC fs)).length
  | [], _ => by simp [fuelF]
  | .mk nm v fl :: fs, h => by
    have h1 := fuelV_le v h.1.2
    have h2 := fuelF_le fs h.2
    simp only [fuelF, fuelFd, fieldsC, fieldC, sepAll, commaSp, colonSp, List.length_cons, List.length_append, List.length_nil]
    omega
end

theorem readValueTop_valueC (v : Value) (h : WFValue v) (rest : Chars) (hr : Delim rest) :
    readValueTop (valueC v ++ rest) = some (v.stripLoc, rest) := by
  apply readValue_valueC v h rest hr
  have := fuelV_le v h
  simp only [List.length_append]
  omega

end GqlModel.Reader
