import GqlProofs.RoundTripLexName
/-! C08 byte level — INT and FLOAT tokens: `Reader.isIntLit` / `Reader.IsFloatLit` (what `WFValue` demands of number
texts — the raws the parser copied from the source) are carried over from characters to bytes, part by part, into the
number lexemes of the grammar (`Lexer.NumberG`: `IntPartG`, `FracG`, `ExpG`, each with what may follow it). -/
namespace GqlModel.RoundTrip
open GqlModel.Lexer GqlModel.Lexer.Spec

/-- what may follow is decided by the first byte of the next part, if there is one -/
theorem nextNot_part {P : UInt8 → Prop} {cs : Chars} {tail : Bytes} (hh : cs = [] ∨ ∃ b r, utf8 cs = b :: r ∧ ¬ P b)
    (ht : NextNot P tail) : NextNot P (utf8 cs ++ tail) := by
  rcases hh with rfl | ⟨b, r, e, hb⟩
  · exact ht
  · rw [e]; exact fun d hd => Option.some.inj hd ▸ hb

theorem digitsG_lit {ds : Chars} {tail : Bytes} (hne : ds ≠ []) (h : ds.all Reader.isDigit = true)
    (ht : NextNot isDigitByte tail) : DigitsG (utf8 ds) tail :=
  ⟨⟨fun e => hne ((utf8_eq_nil _).1 e), all_byte (fun _ => digit_ascii) (fun _ => digit_byte) h⟩, ht⟩

theorem intBody_head_ne_minus {body : Chars} (h : Reader.isIntBody body = true) (tail : Bytes) :
    ∃ b r, utf8 body ++ tail = b :: r ∧ b ≠ 45 := by
  match body, h with
  | c :: r, h =>
    simp only [Reader.isIntBody] at h
    by_cases hc : c = '0'
    · subst hc; exact ⟨48, utf8 r ++ tail, by rw [utf8_cons_ascii _ _ (by decide)]; rfl, by decide⟩
    · simp only [hc, if_false, Bool.and_eq_true] at h
      have ha := digit_ascii h.1
      have hd := digit_byte h.1
      refine ⟨byteOf c, utf8 r ++ tail, by rw [utf8_cons_ascii c r ha]; rfl, ?_⟩
      unfold isDigitByte at hd; bnorm; omega

theorem intCoreG_body (body : Chars) (tail : Bytes) (h : Reader.isIntBody body = true) (ht : NextNot isDigitByte tail) :
    IntCoreG (utf8 body) tail := by
  match body, h with
  | c :: r, h =>
    simp only [Reader.isIntBody] at h
    by_cases hc : c = '0'
    · subst hc
      simp only [if_true, List.isEmpty_iff] at h
      subst h
      exact ⟨.inl rfl, ht⟩
    · simp only [hc, if_false, Bool.and_eq_true] at h
      have h0 : byteOf c ≠ 48 := by
        have h1 := byteOf_toNat c (digit_ascii h.1)
        have h2 := mt Char.toNat_inj.mp hc
        have h3 : ('0' : Char).toNat = 48 := rfl
        bnorm; omega
      rw [utf8_cons_ascii c r (digit_ascii h.1)]
      exact ⟨.inr ⟨byteOf c, utf8 r, rfl, digit_byte h.1, h0, all_byte (fun _ => digit_ascii) (fun _ => digit_byte) h.2⟩, ht⟩

theorem intPartG_lit (ip : Chars) (tail : Bytes) (h : Reader.isIntLit ip = true) (ht : NextNot isDigitByte tail) :
    IntPartG (utf8 ip) tail := by
  match ip, h with
  | c :: r, h =>
    simp only [Reader.isIntLit] at h
    by_cases hc : c = '-'
    · subst hc
      simp only [if_true] at h
      rw [utf8_cons_ascii _ _ (by decide)]
      exact .inr ⟨_, _, rfl, rfl, intCoreG_body r tail h ht⟩
    · simp only [hc, if_false] at h
      obtain ⟨b, r', e, hb⟩ := intBody_head_ne_minus h tail
      exact .inl ⟨intCoreG_body (c :: r) tail h ht, fun d hd => by rw [e] at hd; exact Option.some.inj hd ▸ hb⟩

theorem fracG_lit {fp : Chars} {tail : Bytes} (h : fp = [] ∨ Reader.isFracPart fp = true) (ht : NextNot isDigitByte tail)
    (hdot : NextNot (· = 46) tail) : FracG (utf8 fp) tail := by
  rcases h with rfl | h
  · exact .inl ⟨rfl, hdot⟩
  · match fp, h with
    | c :: ds, h =>
      simp only [Reader.isFracPart, Bool.and_eq_true, decide_eq_true_eq, Bool.not_eq_true', List.isEmpty_eq_false_iff] at h
      obtain ⟨⟨rfl, hne⟩, hd⟩ := h
      rw [utf8_cons_ascii _ _ (by decide)]
      exact .inr ⟨_, _, rfl, by decide, digitsG_lit hne hd ht⟩

theorem expG_lit {ep : Chars} {tail : Bytes} (h : ep = [] ∨ Reader.isExpPart ep = true) (ht : NextNot isDigitByte tail)
    (hE : NextNot (fun c => c = 69 ∨ c = 101) tail) : ExpG (utf8 ep) tail := by
  rcases h with rfl | h
  · exact .inl ⟨rfl, hE⟩
  · match ep, h with
    | e :: r, h =>
      simp only [Reader.isExpPart, Bool.and_eq_true, Bool.or_eq_true, decide_eq_true_eq] at h
      obtain ⟨he, hr⟩ := h
      have hea : e.toNat < 128 := by rcases he with rfl | rfl <;> decide
      have heB : byteOf e = 69 ∨ byteOf e = 101 := by rcases he with rfl | rfl <;> decide
      rw [utf8_cons_ascii e _ hea]
      refine .inr ⟨_, _, rfl, heB, ?_⟩
      match r, hr with
      | s :: ds, hr =>
        by_cases hs : s = '+' ∨ s = '-'
        · simp only [hs, if_true, Bool.and_eq_true, Bool.not_eq_true', List.isEmpty_eq_false_iff] at hr
          have hsa : s.toNat < 128 := by rcases hs with rfl | rfl <;> decide
          have hsB : byteOf s = 43 ∨ byteOf s = 45 := by rcases hs with rfl | rfl <;> decide
          rw [utf8_cons_ascii s _ hsa]
          exact .inr ⟨_, _, rfl, hsB, digitsG_lit hr.1 hr.2 ht⟩
        · simp only [hs, if_false] at hr
          have hsd : Reader.isDigit s = true := by simp only [List.all_cons, Bool.and_eq_true] at hr; exact hr.1
          refine .inl ⟨digitsG_lit (List.cons_ne_nil _ _) hr ht, ?_⟩
          rw [utf8_cons_ascii s _ (digit_ascii hsd)]
          intro d hd hP
          cases hd
          have := digit_byte hsd
          rcases hP with h | h <;> (rw [h] at this; exact absurd this (by decide))

theorem frac_head {fp : Chars} (h : Reader.isFracPart fp = true) : ∃ r, utf8 fp = 46 :: r := by
  match fp, h with
  | c :: ds, h =>
    simp only [Reader.isFracPart, Bool.and_eq_true, decide_eq_true_eq] at h
    obtain ⟨⟨rfl, _⟩, _⟩ := h
    exact ⟨utf8 ds, by rw [utf8_cons_ascii _ _ (by decide)]; rfl⟩

theorem exp_head {ep : Chars} (h : Reader.isExpPart ep = true) : ∃ b r, utf8 ep = b :: r ∧ (b = 69 ∨ b = 101) := by
  match ep, h with
  | e :: r, h =>
    simp only [Reader.isExpPart, Bool.and_eq_true, Bool.or_eq_true, decide_eq_true_eq] at h
    rcases h.1 with rfl | rfl
    · exact ⟨101, utf8 r, by rw [utf8_cons_ascii _ _ (by decide)]; rfl, Or.inr rfl⟩
    · exact ⟨69, utf8 r, by rw [utf8_cons_ascii _ _ (by decide)]; rfl, Or.inl rfl⟩

theorem numberG_lit {ip fp ep : Chars} {rest : Bytes} (hip : Reader.isIntLit ip = true)
    (hfp : fp = [] ∨ Reader.isFracPart fp = true) (hep : ep = [] ∨ Reader.isExpPart ep = true) (hr : DelimB rest) :
    NumberG (if fp = [] ∧ ep = [] then .int else .float) (utf8 (ip ++ fp ++ ep)) rest := by
  have hd := delimB_head hr
  have xd : NextNot isDigitByte rest := fun d h => delim_not_digit (hd d h)
  have hxh : ep = [] ∨ ∃ b r, utf8 ep = b :: r ∧ (b = 69 ∨ b = 101) := hep.imp id exp_head
  have ed : NextNot isDigitByte (utf8 ep ++ rest) :=
    nextNot_part (hxh.imp id fun ⟨b, r, e, hb⟩ => ⟨b, r, e, by rcases hb with rfl | rfl <;> decide⟩) xd
  have e46 : NextNot (· = 46) (utf8 ep ++ rest) :=
    nextNot_part (hxh.imp id fun ⟨b, r, e, hb⟩ => ⟨b, r, e, by rcases hb with rfl | rfl <;> decide⟩)
      fun d h => (delim_not_num (hd d h)).1
  have fd : NextNot isDigitByte (utf8 fp ++ (utf8 ep ++ rest)) :=
    nextNot_part (hfp.imp id fun h => (frac_head h).elim fun r e => ⟨46, r, e, by decide⟩) ed
  refine ⟨utf8 ip, utf8 fp, utf8 ep, by simp only [utf8_append, List.append_assoc], intPartG_lit ip _ hip fd,
    fracG_lit hfp ed e46,
    expG_lit hep xd fun d h => not_or.2 ⟨(delim_not_num (hd d h)).2.1, (delim_not_num (hd d h)).2.2.1⟩, ?_⟩
  simp only [utf8_eq_nil]

theorem int_lexeme {raw : Chars} {rest : Bytes} (h : Reader.isIntLit raw = true) (hr : DelimB rest) :
    Lexeme .int (utf8 raw) (utf8 raw) rest := by
  have := Lexeme.number (numberG_lit (fp := []) (ep := []) h (.inl rfl) (.inl rfl) hr)
  simpa only [List.append_nil, and_self, if_true] using this

theorem float_lexeme {raw : Chars} {rest : Bytes} (h : Reader.IsFloatLit raw) (hr : DelimB rest) :
    Lexeme .float (utf8 raw) (utf8 raw) rest := by
  obtain ⟨ip, fp, ep, rfl, hip, hfp, hep, hne⟩ := h
  have := Lexeme.number (numberG_lit hip hfp hep hr)
  rwa [if_neg (fun h => hne.elim (· h.1) (· h.2))] at this

end GqlModel.RoundTrip
