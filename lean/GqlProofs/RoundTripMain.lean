import GqlProofs.RoundTripItems
import GqlProofs.PrinterDeriveDefs
import GqlProofs.PrinterPrintsDoc
import GqlModel.ParseBytes
/-! C08 byte level — assembling the lexer half: the spec tokeniser on the UTF-8 bytes of `print d` yields
`lexItems (docI d)`; its tokens before EOF (`lexToks`), converted to the shared `Token`, have the kinds and values
`printTokens d`. -/
namespace GqlModel.RoundTrip
open GqlModel.Lexer GqlModel.Lexer.Spec GqlModel.Printer

def printBytes (d : Document) : List UInt8 := (print d).toUTF8.data.toList

theorem printBytes_eq (d : Document) : printBytes d = utf8 (render (docI d)) := by
  rw [printBytes, toUTF8_eq, render_docI]; simp [print]

theorem lexAllG_items (is : List Item) (h : LexK is []) :
    lexAllG (utf8 (render is)) = ⟨lexItems is [] 0, none⟩ := by
  rw [lexAllG]
  have := lexLoopG_items is [] 0 ((utf8 (render is)).length + 1) h (by intro b hb; simp at hb) (by simp)
  simpa using this

/-- the known-finding predicates of D-03a are false: every Ignored gap is ASCII and there is no error -/
theorem kf_false_items (is : List Item) (h : LexK is []) :
    nameAfterMultibyteIgnored (utf8 (render is)) = false ∧ errorAfterMultibyte (utf8 (render is)) = false := by
  constructor
  · rw [nameAfterMultibyteIgnored_eq_false, lexAllG_items is h]
    intro gt hgt _
    exact lexItems_gaps is [] 0 h (by intro b hb; simp at hb) gt hgt
  · simp only [errorAfterMultibyte, lexAllG_items is h]

theorem lexAllG_print (d : Document) (h : WFDocument d) :
    lexAllG (printBytes d) = ⟨lexItems (docI d) [] 0, none⟩ := by
  rw [printBytes_eq]; exact lexAllG_items _ (lexK_docI d h)

/-- tokens before EOF: kind, byte offsets in the rendered text, value as bytes -/
def lexToks : List Item → Nat → List LTok
  | [], _ => []
  | .sep t :: is, off => lexToks is (off + (utf8 t).length)
  | .tok k v t :: is, off => ⟨k, off, off + (utf8 t).length, utf8 v.toList⟩ :: lexToks is (off + (utf8 t).length)

theorem lexItems_split : ∀ (is : List Item) (g : List UInt8) (off : Nat),
    (lexItems is g off).map (·.2) =
      lexToks is (off + g.length) ++ [⟨.eof, off + g.length + (utf8 (render is)).length, off + g.length + (utf8 (render is)).length, []⟩]
  | [], g, off => by simp [lexItems, lexToks]
  | .sep t :: is, g, off => by
    simp only [lexItems, lexToks, lexItems_split is (g ++ utf8 t) off, List.length_append, render_cons, Item.text,
      utf8_append, Nat.add_assoc]
  | .tok k v t :: is, g, off => by
    simp only [lexItems, lexToks, List.map_cons, lexItems_split is [] _, List.length_nil, Nat.add_zero, render_cons,
      Item.text, utf8_append, List.length_append, List.cons_append, Nat.add_assoc]

theorem lexToks_kv : ∀ (is : List Item) (off : Nat),
    (lexToks is off).map (fun t => kvOf t.toToken) = tokensOf is
  | [], _ => rfl
  | .sep t :: is, off => by simp only [lexToks, tokensOf, lexToks_kv is]
  | .tok k v t :: is, off => by
    have ih := lexToks_kv is (off + (utf8 t).length)
    simp only [lexToks, tokensOf, List.map_cons, ih]
    simp only [kvOf, LTok.toToken, bytesToString_utf8, String.ofList_toList]

theorem lexToks_ne_eof : ∀ (is : List Item) (off : Nat) (rest : Chars), LexK is rest → ∀ t ∈ lexToks is off, t.kind ≠ .eof
  | [], _, _, _, t, ht => by simp [lexToks] at ht
  | .sep _ :: is, off, rest, h, t, ht => lexToks_ne_eof is _ rest h.2 t ht
  | .tok k v tx :: is, off, rest, h, t, ht => by
    simp only [lexToks, List.mem_cons] at ht
    rcases ht with rfl | ht
    · intro hk
      have hk' : k = .eof := hk
      subst hk'
      exact h.1
    · exact lexToks_ne_eof is _ rest h.2.2 t ht

theorem lexToks_extent : ∀ (is : List Item) (pre : List UInt8), ∀ t ∈ lexToks is pre.length,
    ∃ k v tx, Item.tok k v tx ∈ is ∧ t.kind = k ∧ t.value = utf8 v.toList ∧ t.stop = t.start + (utf8 tx).length ∧
      ((pre ++ utf8 (render is)).drop t.start).take (t.stop - t.start) = utf8 tx
  | [], _, t, ht => by simp [lexToks] at ht
  | .sep s :: is, pre, t, ht => by
    have e : pre.length + (utf8 s).length = (pre ++ utf8 s).length := by simp
    simp only [lexToks] at ht
    rw [e] at ht
    obtain ⟨k, v, tx, hm, h1, h2, h3, h4⟩ := lexToks_extent is (pre ++ utf8 s) t ht
    refine ⟨k, v, tx, List.mem_cons_of_mem _ hm, h1, h2, h3, ?_⟩
    simpa [Item.text] using h4
  | .tok k v tx :: is, pre, t, ht => by
    simp only [lexToks, List.mem_cons] at ht
    rcases ht with rfl | ht
    · refine ⟨k, v, tx, by simp, rfl, rfl, rfl, ?_⟩
      simp [Item.text]
    · have e : pre.length + (utf8 tx).length = (pre ++ utf8 tx).length := by simp
      rw [e] at ht
      obtain ⟨k', v', tx', hm, h1, h2, h3, h4⟩ := lexToks_extent is (pre ++ utf8 tx) t ht
      refine ⟨k', v', tx', List.mem_cons_of_mem _ hm, h1, h2, h3, ?_⟩
      simpa [Item.text] using h4

theorem lexToks_toToken_ne_eof (is : List Item) (h : LexK is []) :
    ∀ t ∈ (lexToks is 0).map LTok.toToken, t.kind ≠ .eof := by
  intro t ht
  obtain ⟨lt, hlt, rfl⟩ := List.mem_map.mp ht
  exact lexToks_ne_eof is _ [] h lt hlt

end GqlModel.RoundTrip
