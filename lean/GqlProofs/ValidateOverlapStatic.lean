import GqlProofs.ValidateOverlapCov
/-! # C02 completeness, declarative part: "covered" implies "no conflict", on any fragment table

The calls that are covered at the end of a run that reported nothing (`Cov`) hold the calls of every visit and are closed
under "a call's sub-calls" (`Cov.fc`, `HistP`, `TblLog`: `overlapRun_cov`). A conflict is a finite derivation
(`PairConflict` is a least fixed point) and a field lies in `flat` by a finite spread path. So: every pair that a
covered call is responsible for is compared by a covered `findConflict` call (`Settled`; `desc`, by induction on the
length of the spread paths — the comparisons the algorithm skips, a selection set against its own fragment and a
fragment against itself, are those of the visit of that fragment's body), and a settled pair does not conflict
(`no_conflict_of_settled`, by induction on the derivation of the conflict). Cycles of the fragment table do no harm:
only the witnesses are followed. -/
namespace GqlModel.Validate.Overlap
open GqlModel.Validate.Graph

section

variable {e : Env}

mutual
theorem valueEq_refl : ∀ v : Value, valueEq v v = true
  | .var _ _ => by simp [valueEq]
  | .int _ _ => by simp [valueEq]
  | .float _ _ => by simp [valueEq]
  | .str _ _ => by simp [valueEq]
  | .bool _ _ => by simp [valueEq]
  | .enum _ _ => by simp [valueEq]
  | .list xs _ => by simp only [valueEq]; exact valuesEq_refl xs
  | .obj xs _ => by simp only [valueEq]; exact objFieldsEq_refl xs
theorem valuesEq_refl : ∀ xs : List Value, valuesEq xs xs = true
  | [] => by simp [valuesEq]
  | x :: xs => by simp only [valuesEq, valueEq_refl x, valuesEq_refl xs, Bool.and_self]
theorem objFieldEq_refl : ∀ f : ObjField, objFieldEq f f = true
  | .mk n v _ => by simp only [objFieldEq, beq_self_eq_true, valueEq_refl v, Bool.and_self]
theorem objFieldsEq_refl : ∀ xs : List ObjField, objFieldsEq xs xs = true
  | [] => by simp [objFieldsEq]
  | x :: xs => by simp only [objFieldsEq, objFieldEq_refl x, objFieldsEq_refl xs, Bool.and_self]
end

theorem argsIncl_refl (xs : List Argument) : argsIncl xs xs = true := by
  simp only [argsIncl, List.all_eq_true, List.any_eq_true, Bool.and_eq_true, beq_iff_eq]
  exact fun x hx => ⟨x, hx, rfl, valueEq_refl _⟩

theorem sameShapeTypes_refl (s : Schema) : ∀ t : GType, sameShapeTypes s t t = true
  | .named a => by simp [sameShapeTypes]
  | .list t => by simp only [sameShapeTypes]; exact sameShapeTypes_refl s t
  | .nonNull t => by simp only [sameShapeTypes]; exact sameShapeTypes_refl s t

theorem exclusive_self (s : Schema) (p : Option String) : exclusive s p p = false := by
  cases p <;> simp [exclusive]

theorem baseConflict_self (a : FieldOcc) : baseConflict e false a a = false := by
  have h1 : sameArgsS a.node.args a.node.args = true := by simp [sameArgsS, argsIncl_refl]
  have h2 : shapeConflict e.s a a = false := by
    unfold shapeConflict
    cases a.fdef <;> simp [sameShapeTypes_refl]
  simp [baseConflict, h1, h2]

theorem flat_cases {pt : Option String} {ss : SelectionSet} {a : FieldOcc} (h : a ∈ flat e pt ss) :
    a ∈ directSet e pt ss ∨ ∃ r, r ∈ shallowSet ss ∧ FlatFrag e r a := by
  rcases List.mem_append.1 h with h | h
  · exact .inl h
  · rcases List.mem_flatMap.1 h with ⟨f, hf, ha⟩
    rcases mem_shallowFrags.1 hf with ⟨n, ⟨r, hr, hreach⟩, hl⟩
    exact .inr ⟨r, hr, n, f, hreach, hl, ha⟩

end

/-- a field of some selection set of the document, with the parent type that selection set has -/
def DocField (d : Document) (e : Env) (π : SelectionSet → Option String) (a : FieldOcc) : Prop :=
  ∃ Y, Y ∈ allSets d ∧ a ∈ directSet e (π Y) Y

variable {d : Document} {e : Env} {π : SelectionSet → Option String} {S : OState}

/-- the flag `x` is the weaker test (`true` is "the parents are mutually exclusive", which drops two of the three tests):
a conflict under `x` is one under `s` (`Weaker.base`), so a comparison made under `s` answers the question asked under
`x`. The disjunction is that of `memoHas_stored`. -/
def Weaker (x s : Bool) : Prop := x = true ∨ s = false

/-- what `argsFaithfulB` decides: the code's `sameArguments` (equal printed values) implies the structural `sameArgsS` -/
def ArgsFaithful (d : Document) (e : Env) (π : SelectionSet → Option String) : Prop :=
  ∀ a b, DocField d e π a → DocField d e π b →
    sameArguments a.node.args b.node.args = true → sameArgsS a.node.args b.node.args = true

theorem argsFaithful_of_argsFaithfulB (s : Schema) (d : Document) (e : Env) (h : argsFaithfulB s d e = true) :
    ArgsFaithful d e (piOf s d) := by
  intro a b ha hb hsame
  simp only [argsFaithfulB, List.all_eq_true, Bool.or_eq_true, Bool.not_eq_true'] at h
  rcases ha with ⟨Y, hY, haY⟩
  rcases hb with ⟨Z, hZ, hbZ⟩
  rcases h a (List.mem_flatMap.2 ⟨Y, hY, haY⟩) b (List.mem_flatMap.2 ⟨Z, hZ, hbZ⟩) with h' | h'
  · rw [hsame] at h'; cases h'
  · exact h'

theorem Weaker.exclOf {x s : Bool} (h : Weaker x s) (a b : FieldOcc) : Weaker (exclOf e x a b) (exclOf e s a b) := by
  rcases h with rfl | rfl
  · exact .inl (by simp [Overlap.exclOf])
  · cases hx : Overlap.exclOf e x a b with
    | true => exact .inl rfl
    | false =>
      refine .inr ?_
      cases x <;> simp_all [Overlap.exclOf]

theorem Weaker.base {x s : Bool} (h : Weaker x s) {a b : FieldOcc} (hb : baseConflict e x a b = true) :
    baseConflict e s a b = true := by
  rcases h with rfl | rfl
  · simp only [baseConflict, Overlap.exclOf, Bool.true_or, Bool.not_true, Bool.false_and, Bool.false_or] at hb
    simp only [baseConflict, hb, Bool.or_true]
  · cases x with
    | false => exact hb
    | true =>
      simp only [baseConflict, Overlap.exclOf, Bool.true_or, Bool.not_true, Bool.false_and, Bool.false_or] at hb
      simp only [baseConflict, hb, Bool.or_true]

/-- the pair is one field twice, or a covered `findConflict` call compares it (in one order or the other) under a flag
that misses no conflict of flag `x` -/
def Settled (e : Env) (π : SelectionSet → Option String) (S : OState) (x : Bool) (a b : FieldOcc) : Prop :=
  a = b ∨ ∃ s, Weaker x s ∧ (Cov e π S (.fc s a.node.key a b) ∨ Cov e π S (.fc s b.node.key b a))

theorem Settled.symm {x : Bool} {a b : FieldOcc} (h : Settled e π S x a b) : Settled e π S x b a := by
  rcases h with rfl | ⟨s, hs, h⟩
  · exact .inl rfl
  · exact .inr ⟨s, hs, h.symm⟩

theorem Settled.weaker {x y : Bool} {a b : FieldOcc} (h : Settled e π S y a b) (hxy : Weaker x y) :
    Settled e π S x a b := by
  rcases h with rfl | ⟨s, hs, h⟩
  · exact .inl rfl
  · refine .inr ⟨s, ?_, h⟩
    rcases hxy with rfl | rfl
    · exact .inl rfl
    · rcases hs with h | h
      · cases h
      · exact .inr h

/-- a quiet `findConflict` sees no conflict of the two fields themselves -/
theorem testsPass_base (hargs : ArgsFaithful d e π)
    {s : Bool} {a b : FieldOcc} (hda : DocField d e π a) (hdb : DocField d e π b) (hq : TestsPass e s a b) :
    baseConflict e s a b = false := by
  rcases hq with ⟨q1, q2, q3⟩
  have hshape : shapeConflict e.s a b = false := by rw [shapeConflict_eq]; exact q3
  unfold baseConflict
  rw [hshape]
  cases hE : Overlap.exclOf e s a b with
  | true => simp
  | false =>
    rw [hE] at q1 q2
    simp only [Bool.not_false, Bool.true_and, Bool.or_false] at q1 q2 ⊢
    rw [q1, Bool.false_or]
    have hsa : sameArguments a.node.args b.node.args = true := by
      cases hh : sameArguments a.node.args b.node.args with
      | true => rfl
      | false => rw [hh] at q2; cases q2
    rw [hargs a b hda hdb hsa]; rfl

theorem Weaker.refl (s : Bool) : Weaker s s := by cases s <;> simp [Weaker]

/-- `b` is a field of a fragment reached from `n` by a spread path of `k` edges -/
inductive FlatN (e : Env) : Nat → String → FieldOcc → Prop
  | here {n f b} : lookupFrag e.tbl n = some f → b ∈ directSet e (namedOf e.s f.typeCond) f.sel → FlatN e 0 n b
  | step {k n g b} : SpreadEdge (shTbl e.tbl) n g → FlatN e k g b → FlatN e (k + 1) n b

theorem FlatFrag.flatN {n : String} {b : FieldOcc} (h : FlatFrag e n b) : ∃ k, FlatN e k n b := by
  obtain ⟨m, f, hr, hl, hb⟩ := h
  induction hr with
  | refl n => exact ⟨0, .here hl hb⟩
  | step hedge _ ih => obtain ⟨k, hk⟩ := ih hl; exact ⟨k + 1, .step hedge hk⟩

theorem FlatN.defined {k : Nat} {n : String} {b : FieldOcc} (h : FlatN e k n b) : ∃ f, lookupFrag e.tbl n = some f := by
  cases h with
  | here hl _ => exact ⟨_, hl⟩
  | step hedge _ => obtain ⟨f, hl, _⟩ := shEdge_iff.1 hedge; exact ⟨f, hl⟩

/-- `a` is a field of `X` itself (`0`) or is reached from a spread of `X` by a path of `k` edges (`k + 1`) -/
def InFlat (e : Env) (π : SelectionSet → Option String) (X : SelectionSet) : Nat → FieldOcc → Prop
  | 0, a => a ∈ directSet e (π X) X
  | k + 1, a => ∃ r, r ∈ shallowSet X ∧ FlatN e k r a

theorem inFlat_of_flat {X : SelectionSet} {a : FieldOcc} (h : a ∈ flat e (π X) X) : ∃ k, InFlat e π X k a := by
  rcases flat_cases h with h | ⟨r, hr, h⟩
  · exact ⟨0, h⟩
  · obtain ⟨k, hk⟩ := h.flatN; exact ⟨k + 1, r, hr, hk⟩

theorem FlatN.inBody (hcoh : Coh d e π) {k : Nat} {n : String} {f : Frag} {a : FieldOcc} (hl : lookupFrag e.tbl n = some f)
    (h : FlatN e k n a) : InFlat e π f.sel k a := by
  cases h with
  | here hl' ha => rw [hl] at hl'; cases hl'; rw [← hcoh.frag f (lookupFrag_some hl).1] at ha; exact ha
  | step hedge h =>
    obtain ⟨f', hl', hg⟩ := shEdge_iff.1 hedge
    rw [hl] at hl'; cases hl'
    exact ⟨_, hg, h⟩

section
variable (d e π S)

/-- every pair that a covered call is responsible for, with spread paths of total length at most `N`, is settled. The
bound is on the sum of the two lengths: a memo body shortens one of the two paths, and which one varies (`bf` compares
the nested fragments of either side), so neither length alone goes down. -/
structure Desc (N : Nat) : Prop where
  vis : ∀ X, X ∈ allSets d → ∀ k1 k2 a b, k1 + k2 ≤ N → InFlat e π X k1 a → InFlat e π X k2 b →
    a.node.key = b.node.key → Settled e π S false a b
  ff : ∀ X, X ∈ allSets d → ∀ x n k a b, k ≤ N → Cov e π S (.ff x (cI e π X) n) → a ∈ directSet e (π X) X →
    FlatN e k n b → a.node.key = b.node.key → Settled e π S x a b
  bf : ∀ x n1 n2 k1 k2 a b, k1 + k2 ≤ N → Cov e π S (.bf x n1 n2) → FlatN e k1 n1 a → FlatN e k2 n2 b →
    a.node.key = b.node.key → Settled e π S x a b
end

theorem mem_cI_frags (X : SelectionSet) {r : String} (hr : r ∈ shallowSet X) : r ∈ (cI e π X).frags :=
  (collectInfo_full e _ _).2.1 r hr

theorem desc (hcoh : Coh d e π) (hist : HistP d e π S ⟨[], []⟩) (tbl : TblLog S)
    (hvis : ∀ X, X ∈ allSets d → ∀ c, c ∈ visCalls e π X → Cov e π S c) : ∀ N, Desc d e π S N := by
  intro N
  induction N using Nat.strongRecOn with
  | _ N ih =>
  -- the visit of `X` (its calls are covered): two fields of one spread are a pair of the visit of that fragment's body
  have V : ∀ X, X ∈ allSets d → ∀ k1 k2 a b, k1 + k2 ≤ N → InFlat e π X k1 a → InFlat e π X k2 b →
      a.node.key = b.node.key → Settled e π S false a b := by
    intro X hX k1 k2 a b hle ha hb hk
    have top := fun c hc => hvis X hX c (List.mem_append_right _ hc)
    match k1, k2, ha, hb with
    | 0, 0, ha, hb =>
      rcases withinCalls_full e (π X) X a b ha hb hk with h | h | h
      · exact .inr ⟨false, .inr rfl, .inl (hvis X hX _ (List.mem_append_left _ h))⟩
      · exact .inr ⟨false, .inr rfl, .inr (hk ▸ hvis X hX _ (List.mem_append_left _ h))⟩
      · exact .inl h
    | 0, j + 1, ha, ⟨r, hr, hb⟩ =>
      exact (ih j (by omega)).ff X hX false r j a b (Nat.le_refl _) (top _ (topFragCalls_ff_full _ _ r (mem_cI_frags X hr))) ha hb hk
    | j + 1, 0, ⟨r, hr, ha⟩, hb =>
      exact ((ih j (by omega)).ff X hX false r j b a (Nat.le_refl _) (top _ (topFragCalls_ff_full _ _ r (mem_cI_frags X hr))) hb ha
        hk.symm).symm
    | j1 + 1, j2 + 1, ⟨r1, hr1, ha⟩, ⟨r2, hr2, hb⟩ =>
      by_cases h : r1 = r2
      · subst h
        obtain ⟨f, hl⟩ := ha.defined
        exact (ih (j1 + j2) (by omega)).vis f.sel (hcoh.fragSets f (lookupFrag_some hl).1) j1 j2 a b (Nat.le_refl _)
          (ha.inBody hcoh hl) (hb.inBody hcoh hl) hk
      · rcases topFragCalls_bf_full (cI e π X) _ r1 r2 (mem_cI_frags X hr1) (mem_cI_frags X hr2) h with hc | hc
        · exact (ih (j1 + j2) (by omega)).bf false r1 r2 j1 j2 a b (Nat.le_refl _) (top _ hc) ha hb hk
        · exact ((ih (j1 + j2) (by omega)).bf false r2 r1 j2 j1 b a (by omega) (top _ hc) hb ha hk.symm).symm
  have same : ∀ {X : SelectionSet} {f : Frag}, X ∈ allSets d → f ∈ e.tbl → X.loc = f.sel.loc → X = f.sel :=
    fun hX hf h => eq_of_loc_eq (of_decide_eq_true hcoh.locs) hX (hcoh.fragSets _ hf) h
  refine ⟨V, ?_, ?_⟩
  · -- a selection set against a fragment: the sub-calls of the stored execution are covered, unless `X` is the fragment's
    -- own body (the comparison is skipped) — then the pair is one of the visit of `X`
    intro X hX x n k a b hle hcov ha hb hk
    cases hcov with
    | ff h =>
      obtain ⟨s, hm, hsx⟩ := memoHas_stored h
      have hlog := tbl.ff _ hm
      refine Settled.weaker ?_ hsx
      cases hb with
      | @here _ f _ hl hb' =>
        have hf := (lookupFrag_some hl).1
        rw [← hcoh.frag f hf] at hb'
        by_cases hsame : X.loc = f.sel.loc
        · cases same hX hf hsame
          exact (V _ hX 0 0 a b (by omega) ha hb' hk).weaker (.inr rfl)
        · have hc : Call.fc s a.node.key a b ∈ ffCalls e π s X f :=
            mem_ffList.2 (.inl (betweenCalls_full e s _ _ _ _ a b ha hb' hk))
          exact .inr ⟨s, .refl s, .inl (hist.ff _ hlog (by simp) X hX rfl f hl hsame _ hc)⟩
      | @step j _ g _ hedge hb' =>
        obtain ⟨f, hl, hg⟩ := shEdge_iff.1 hedge
        have hf := (lookupFrag_some hl).1
        by_cases hsame : X.loc = f.sel.loc
        · cases same hX hf hsame
          exact (V _ hX 0 (j + 1) a b (by omega) ha ⟨g, hg, hb'⟩ hk).weaker (.inr rfl)
        · have hc : Call.ff s (cI e π X) g ∈ ffCalls e π s X f := mem_ffList.2 (.inr ⟨g, mem_cI_frags _ hg, rfl⟩)
          exact (ih j (by omega)).ff X hX s g j a b (Nat.le_refl _) (hist.ff _ hlog (by simp) X hX rfl f hl hsame _ hc)
            ha hb' hk
  · -- two fragments: the sub-calls of the stored execution (logged in one order or the other); a fragment against
    -- itself is the visit of its body
    have body : ∀ s n1 n2 k1 k2 a b, k1 + k2 ≤ N → (n1, n2, s) ∈ S.logBF → FlatN e k1 n1 a → FlatN e k2 n2 b →
        a.node.key = b.node.key → Settled e π S s a b := by
      intro s n1 n2 k1 k2 a b hle hlog ha hb hk
      obtain ⟨f1, h1⟩ := ha.defined
      obtain ⟨f2, h2⟩ := hb.defined
      have hch := hist.bf _ hlog (by simp) f1 f2 h1 h2
      cases ha with
      | @here _ f _ hl1 ha' =>
        rw [h1] at hl1; cases hl1
        cases hb with
        | @here _ f _ hl2 hb' =>
          rw [h2] at hl2; cases hl2
          rw [← hcoh.frag f1 (lookupFrag_some h1).1] at ha'
          rw [← hcoh.frag f2 (lookupFrag_some h2).1] at hb'
          exact .inr ⟨s, .refl s, .inl (hch _ (mem_bfList.2 (.inl (betweenCalls_full e s _ _ _ _ a b ha' hb' hk))))⟩
        | @step j _ g _ hedge hb' =>
          obtain ⟨f, hl, hg⟩ := shEdge_iff.1 hedge
          rw [h2] at hl; cases hl
          exact (ih (0 + j) (by omega)).bf s n1 g 0 j a b (Nat.le_refl _)
            (hch _ (mem_bfList.2 (.inr (.inl ⟨g, mem_cI_frags _ hg, rfl⟩)))) (.here h1 ha') hb' hk
      | @step j _ g _ hedge ha' =>
        obtain ⟨f, hl, hg⟩ := shEdge_iff.1 hedge
        rw [h1] at hl; cases hl
        exact (ih (j + k2) (by omega)).bf s g n2 j k2 a b (Nat.le_refl _)
          (hch _ (mem_bfList.2 (.inr (.inr ⟨g, mem_cI_frags _ hg, rfl⟩)))) ha' hb hk
    intro x n1 n2 k1 k2 a b hle hcov ha hb hk
    cases hcov with
    | bf h =>
      rcases h with h | h | h | h
      · obtain ⟨f, hl⟩ := ha.defined; rw [h] at hl; cases hl
      · obtain ⟨f, hl⟩ := hb.defined; rw [h] at hl; cases hl
      · subst h
        obtain ⟨f, hl⟩ := ha.defined
        exact (V f.sel (hcoh.fragSets f (lookupFrag_some hl).1) k1 k2 a b hle (ha.inBody hcoh hl) (hb.inBody hcoh hl)
          hk).weaker (.inr rfl)
      · obtain ⟨s, hm, hsx⟩ := memoHas_stored h
        rcases tbl.bf _ hm with hl | hl
        · exact (body s n1 n2 k1 k2 a b hle hl ha hb hk).weaker hsx
        · exact (body s n2 n1 k2 k1 b a (by omega) hl hb ha hk.symm).symm.weaker hsx

/-- **settled ⇒ no conflict**, by induction on the derivation of the conflict. `hsub`: the sub-calls of a covered
`findConflict` settle every pair of the two sub-selections; `hself`: the visit of a sub-selection settles its own pairs. -/
theorem no_conflict_of_settled
    (hargs : ArgsFaithful d e π)
    (hdoc : ∀ a, DocField d e π a → ∀ s1, a.node.sel = some s1 → ∀ a', a' ∈ flat e a.subParent s1 →
      DocField d e π a')
    (hsub : ∀ s a b s1 s2, DocField d e π a → DocField d e π b → a.node.sel = some s1 → b.node.sel = some s2 →
      (∀ c, c ∈ ssCalls e π s s1 s2 → Cov e π S c) →
      ∀ a' b', a' ∈ flat e a.subParent s1 → b' ∈ flat e b.subParent s2 → a'.node.key = b'.node.key →
        Settled e π S s a' b')
    (hself : ∀ a s1, DocField d e π a → a.node.sel = some s1 →
      ∀ a' b', a' ∈ flat e a.subParent s1 → b' ∈ flat e a.subParent s1 → a'.node.key = b'.node.key →
        Settled e π S false a' b')
    {x : Bool} {a b : FieldOcc} (hp : PairConflict e x a b) :
    DocField d e π a → DocField d e π b → Settled e π S x a b → False := by
  induction hp with
  | @base x a b hb =>
    intro hda hdb hs
    rcases hs with rfl | ⟨s, hw, h | h⟩
    · have := Weaker.base (s := false) (.inr rfl) hb
      rw [baseConflict_self] at this
      cases this
    · cases h with
      | fc hq _ =>
        have := hw.base hb
        rw [testsPass_base hargs hda hdb hq] at this
        cases this
    · cases h with
      | fc hq _ =>
        have := hw.base hb
        rw [baseConflict_symm, testsPass_base hargs hdb hda hq] at this
        cases this
  | @sub x a b s1 s2 a' b' h1 h2 ha' hb' hk hp' ih =>
    intro hda hdb hs
    refine ih (hdoc a hda s1 h1 a' ha') (hdoc b hdb s2 h2 b' hb') ?_
    rcases hs with rfl | ⟨s, hw, h | h⟩
    · rw [h1] at h2; cases h2
      exact (hself a s1 hda h1 a' b' ha' hb' hk).weaker (.inr rfl)
    · cases h with
      | fc _ hch => exact (hsub _ a b s1 s2 hda hdb h1 h2 (hch s1 s2 h1 h2) a' b' ha' hb' hk).weaker (hw.exclOf a b)
    · cases h with
      | fc _ hch =>
        exact ((hsub _ b a s2 s1 hdb hda h2 h1 (hch s2 s1 h2 h1) b' a' hb' ha' hk.symm).weaker
          (exclOf_symm e x a b ▸ hw.exclOf b a)).symm

/-- **covered ⇒ conflict free**, on any fragment table: if the memo tables at the end are closed under "a call's
sub-calls" (`HistP`, `TblLog`) and hold the calls of every visit, no selection set of the document has a conflict -/
theorem conflict_free_of_covered (hcoh : Coh d e π) (hist : HistP d e π S ⟨[], []⟩) (tbl : TblLog S)
    (hvis : ∀ X, X ∈ allSets d → ∀ c, c ∈ visCalls e π X → Cov e π S c)
    (hargs : ArgsFaithful d e π)
    {X : SelectionSet} (hX : X ∈ allSets d) : ¬ SetConflict e (π X) X := by
  rintro ⟨a, b, ha, hb, hk, hp⟩
  have D := desc hcoh hist tbl hvis
  have docFlat : ∀ Y, Y ∈ allSets d → ∀ a, a ∈ flat e (π Y) Y → DocField d e π a := by
    intro Y hY a ha
    rcases flat_cases ha with h | ⟨r, _, m, f, _, hl, h⟩
    · exact ⟨Y, hY, h⟩
    · have hf := (lookupFrag_some hl).1
      exact ⟨f.sel, hcoh.fragSets f hf, by rw [hcoh.frag f hf]; exact h⟩
  have selOf : ∀ a, DocField d e π a → ∀ s1, a.node.sel = some s1 → s1 ∈ allSets d ∧ π s1 = a.subParent := by
    rintro a ⟨Y, hY, haY⟩ s1 hs
    have hb := direct_sel_below_set e (π Y) Y a s1 haY hs
    refine ⟨?_, hcoh.sub Y hY a haY s1 hs⟩
    cases Y with
    | mk sels l => exact allSets_trans hY (by simp [belowSet]; exact .inr hb)
  obtain ⟨k1, ha'⟩ := inFlat_of_flat ha
  obtain ⟨k2, hb'⟩ := inFlat_of_flat hb
  refine no_conflict_of_settled hargs ?_ ?_ ?_ hp (docFlat X hX a ha) (docFlat X hX b hb)
    ((D _).vis X hX k1 k2 a b (Nat.le_refl _) ha' hb' hk)
  · intro a hda s1 h1 a' ha'
    obtain ⟨h1s, h1p⟩ := selOf a hda s1 h1
    exact docFlat s1 h1s a' (h1p ▸ ha')
  · intro s a b s1 s2 hda hdb h1 h2 hch a' b' ha' hb' hk
    obtain ⟨h1s, h1p⟩ := selOf a hda s1 h1
    obtain ⟨h2s, h2p⟩ := selOf b hdb s2 h2
    rw [← h1p] at ha'
    rw [← h2p] at hb'
    rcases flat_cases ha' with hda' | ⟨r1, hr1, hfa⟩ <;> rcases flat_cases hb' with hdb' | ⟨r2, hr2, hfb⟩
    · exact .inr ⟨s, .refl s, .inl (hch _ (mem_ssList.2 (.inl (betweenCalls_full e _ _ _ _ _ a' b' hda' hdb' hk))))⟩
    · obtain ⟨k, hfb⟩ := hfb.flatN
      exact (D k).ff s1 h1s s r2 k a' b' (Nat.le_refl _) (hch _ (mem_ssList.2 (.inr (.inl ⟨r2, mem_cI_frags _ hr2, rfl⟩))))
        hda' hfb hk
    · obtain ⟨k, hfa⟩ := hfa.flatN
      exact ((D k).ff s2 h2s s r1 k b' a' (Nat.le_refl _)
        (hch _ (mem_ssList.2 (.inr (.inr (.inl ⟨r1, mem_cI_frags _ hr1, rfl⟩))))) hdb' hfa hk.symm).symm
    · obtain ⟨k1, hfa⟩ := hfa.flatN
      obtain ⟨k2, hfb⟩ := hfb.flatN
      exact (D (k1 + k2)).bf s r1 r2 k1 k2 a' b' (Nat.le_refl _)
        (hch _ (mem_ssList.2 (.inr (.inr (.inr ⟨r1, mem_cI_frags _ hr1, r2, mem_cI_frags _ hr2, rfl⟩))))) hfa hfb hk
  · intro a s1 hda h1 a' b' ha' hb' hk
    obtain ⟨h1s, h1p⟩ := selOf a hda s1 h1
    obtain ⟨k1, ha''⟩ := inFlat_of_flat (h1p ▸ ha')
    obtain ⟨k2, hb''⟩ := inFlat_of_flat (h1p ▸ hb')
    exact (D _).vis s1 h1s k1 k2 a' b' (Nat.le_refl _) ha'' hb'' hk

end GqlModel.Validate.Overlap
