import GqlModel.SchemaBuildBridge
import GqlModel.Introspection
import GqlProofs.TypeInfoStacks
import GqlProofs.SchemaConsistent
/-! C11: what the translated schema (`BuiltSchema.toSchema`, lean/GqlModel/SchemaBuildBridge.lean) satisfies — the schema
premises of the other properties' theorems. Members once, well-formed enums and input objects and unique argument names
(`toSchema_*`) hold of the translation of every type map, from `Config.mapsOk` and the constructors' own checks;
`TranslationConsistent` holds of the translation of every consistent dump, hence of a successful construction. -/
namespace GqlModel.SchemaBuild

variable {cfg : Config}

theorem isNameStart_eq (c : Char) : Introspection.isNameStart c = isNameStart c := by
  unfold Introspection.isNameStart isNameStart
  rw [Bool.eq_iff_iff]
  simp only [decide_eq_true_eq, Bool.or_eq_true, Bool.and_eq_true, beq_iff_eq, Char.le_def, Char.ext_iff]
  have h1 : ('a' : Char).val.toNat = 97 := rfl
  have h2 : ('z' : Char).val.toNat = 122 := rfl
  have h3 : ('A' : Char).val.toNat = 65 := rfl
  have h4 : ('Z' : Char).val.toNat = 90 := rfl
  have h5 : ('_' : Char).val.toNat = 95 := rfl
  simp only [UInt32.le_iff_toNat_le, ← UInt32.toNat_inj, h1, h2, h3, h4, h5, Char.toNat]
  omega

theorem isNameChar_eq (c : Char) : Introspection.isNameChar c = isNameCont c := by
  unfold Introspection.isNameChar isNameCont Introspection.isDigit
  rw [isNameStart_eq]
  congr 1
  rw [Bool.eq_iff_iff]
  simp only [decide_eq_true_eq, Bool.and_eq_true, Char.le_def]
  have h1 : ('0' : Char).val.toNat = 48 := rfl
  have h2 : ('9' : Char).val.toNat = 57 := rfl
  simp only [UInt32.le_iff_toNat_le, h1, h2, Char.toNat]

theorem validName_eq (n : String) : Introspection.validName n = validName n := by
  unfold Introspection.validName validName
  cases n.toList with
  | nil => rfl
  | cons c cs =>
    simp only [isNameStart_eq]
    congr 1
    apply List.all_congr rfl
    intro x; exact isNameChar_eq x

theorem distinctNames_nodup : ∀ l : List String, distinctNames l = true → l.Nodup
  | [], _ => List.nodup_nil
  | x :: xs, h => by
    simp only [distinctNames, Bool.and_eq_true, Bool.not_eq_true', List.contains_eq_mem, decide_eq_false_iff_not] at h
    exact List.nodup_cons.mpr ⟨h.1, distinctNames_nodup xs h.2⟩

def KeysOk (t : TypeCfg) : Prop :=
  (t.fields.map (·.name)).Nodup ∧ (∀ f ∈ t.fields, (f.args.map (·.name)).Nodup) ∧
  (t.inputFields.map (·.name)).Nodup ∧ (t.values.map (·.1)).Nodup

theorem builtin_keysDistinct : builtinTypes.all (fun t =>
    distinctNames (t.fields.map (·.name)) && t.fields.all (fun f => distinctNames (f.args.map (·.name))) &&
    distinctNames (t.inputFields.map (·.name)) && distinctNames (t.values.map (·.1))) = true := by decide +kernel

theorem keysOk_get (hm : cfg.mapsOk = true) (i : Nat) : KeysOk (cfg.get i) := by
  have conv : ∀ t : TypeCfg, (distinctNames (t.fields.map (·.name)) && t.fields.all (fun f => distinctNames (f.args.map (·.name))) &&
      distinctNames (t.inputFields.map (·.name)) && distinctNames (t.values.map (·.1))) = true → KeysOk t := by
    intro t h
    simp only [Bool.and_eq_true, List.all_eq_true] at h
    exact ⟨distinctNames_nodup _ h.1.1.1, fun f hf => distinctNames_nodup _ (h.1.1.2 f hf), distinctNames_nodup _ h.1.2,
      distinctNames_nodup _ h.2⟩
  apply table_forall (P := KeysOk)
  · exact ⟨List.nodup_nil, fun f hf => (by cases hf), List.nodup_nil, List.nodup_nil⟩
  · intro t ht; exact conv t (List.all_eq_true.mp builtin_keysDistinct t ht)
  · intro t ht
    simp only [Config.mapsOk, Bool.and_eq_true, List.all_eq_true] at hm
    exact conv t (by simpa [Bool.and_eq_true, List.all_eq_true] using hm.1 t ht)

/-! ## members once (C10 `membersOnce`) -/

theorem interfaces_nodup (i : Nat) : ((orNil (interfacesOf cfg i)).map (nameOf cfg)).Nodup := by
  cases h : interfacesOf cfg i with
  | error e => exact List.nodup_nil
  | ok is => exact (interfacesOf_ok h).2

theorem members_nodup (i : Nat) : ((orNil (membersOf cfg i)).map (nameOf cfg)).Nodup := by
  cases h : membersOf cfg i with
  | error e => exact List.nodup_nil
  | ok ms => exact (membersOf_ok h).2

theorem dump_nameAt (s : St) : (dump cfg s).nameAt = nameOf cfg := by
  funext j
  unfold BuiltSchema.nameAt
  rw [dump_get]; rfl

theorem typeDef_membersOnce (s : St) (i : Nat) :
    Introspection.membersOnce ((dump cfg s).typeDef (builtType cfg i)) = true := by
  unfold BuiltSchema.typeDef
  rw [dump_nameAt]
  cases hk : (builtType cfg i).kind with
  | object =>
    simp only [Introspection.membersOnce, decide_eq_true_eq]
    rw [builtType_interfaces hk]
    exact interfaces_nodup i
  | union =>
    simp only [Introspection.membersOnce, decide_eq_true_eq]
    rw [builtType_members hk]
    exact members_nodup i
  | scalar => rfl
  | interface => rfl
  | enum => rfl
  | inputObject => rfl
  | list => rfl
  | nonNull => rfl

theorem toSchema_types_forall (s : St) {P : TypeDef → Prop} (h : ∀ i, P ((dump cfg s).typeDef (builtType cfg i))) :
    ∀ td ∈ ((dump cfg s).toSchema).types, P td := by
  intro td htd
  simp only [BuiltSchema.toSchema, List.mem_map] at htd
  obtain ⟨p, _, rfl⟩ := htd
  rw [dump_get]
  exact h p.2

theorem toSchema_membersOnce (s : St) : ((dump cfg s).toSchema).types.all Introspection.membersOnce = true := by
  rw [List.all_eq_true]
  exact toSchema_types_forall s (P := fun td => Introspection.membersOnce td = true) (typeDef_membersOnce s)

/-! ## well-formed enums and input objects (C10 `wfInputTypes`, C05 `inputFieldsNodup`) -/

theorem inputFields_wf (hm : cfg.mapsOk = true) (i : Nat) :
    ((orNil (inputFieldsOf cfg i)).map (·.name)).Nodup ∧ ∀ b ∈ orNil (inputFieldsOf cfg i), validName b.name = true := by
  cases h : inputFieldsOf cfg i with
  | error e => exact ⟨List.nodup_nil, fun b hb => (by cases hb)⟩
  | ok bs =>
    obtain ⟨rfl, _⟩ := defineInputLoop_ok (inputFieldsOf_loop h)
    refine ⟨?_, fun b hb => ?_⟩
    · rw [orNil, List.map_map]
      refine (List.filter_sublist.map _).nodup ?_
      unfold givenInputFields
      split
      · exact (keysOk_get hm i).2.2.1
      · exact List.nodup_nil
    · obtain ⟨f, hf, rfl⟩ := List.mem_map.mp hb
      exact (Bool.and_eq_true _ _ ▸ (List.mem_filter.mp hf).2).2

theorem enumErr_none_values {vs : List (String × Bool)} (h : enumErr vs = none) :
    ∀ v ∈ sortBy (fun a b => decide (a.1 < b.1)) vs, validName v.1 = true ∧
      (v.1 == "true" || v.1 == "false" || v.1 == "null") = false := by
  unfold enumErr at h
  cases vs with
  | nil => cases h
  | cons x xs =>
    simp only at h
    rw [List.findSome?_eq_none_iff] at h
    intro v hv
    have := h v hv
    split at this
    · cases this
    · rename_i hp
      split at this
      · cases this
      · rename_i hvalid
        split at this
        · cases this
        · rename_i hres
          exact ⟨by simpa using hvalid, by simpa using hres⟩

theorem enum_values_wf (hm : cfg.mapsOk = true) (i : Nat) :
    (builtType cfg i).values.Nodup ∧ ∀ v ∈ (builtType cfg i).values, validName v = true ∧
      (v == "true" || v == "false" || v == "null") = false := by
  simp only [builtType]
  split
  · rename_i hc
    simp only [Bool.and_eq_true, Option.isNone_iff_eq_none] at hc
    refine ⟨?_, ?_⟩
    · exact ((sortBy_perm _ (cfg.get i).values).map (·.1)).nodup_iff.mpr (keysOk_get hm i).2.2.2
    · intro v hv
      obtain ⟨p, hp, rfl⟩ := List.mem_map.mp hv
      have hce := ctorErrT_none_of_ctorErr hc.2
      unfold ctorErrT at hce
      split at hce
      · cases hce
      · have hk : (cfg.get i).kind = .enum := by simpa [kindOf] using hc.1
        simp only [hk] at hce
        exact enumErr_none_values hce p hp
  · exact ⟨List.nodup_nil, fun v hv => (by cases hv)⟩

theorem typeDef_wfInputType (hm : cfg.mapsOk = true) (s : St) (i : Nat) :
    Introspection.wfInputType ((dump cfg s).typeDef (builtType cfg i)) = true := by
  unfold BuiltSchema.typeDef
  cases hk : (builtType cfg i).kind with
  | enum =>
    obtain ⟨h1, h2⟩ := enum_values_wf hm i
    simp only [Introspection.wfInputType, Bool.and_eq_true, List.all_eq_true, decide_eq_true_eq, List.map_map]
    refine ⟨?_, ?_⟩
    · intro ev hev
      obtain ⟨v, hv, rfl⟩ := List.mem_map.mp hev
      obtain ⟨hv1, hv2⟩ := h2 v hv
      simp only [validName_eq, hv1, Introspection.literalLikeName, hv2, Bool.not_false, and_self]
    · have : ((fun ev : EnumValueS => ev.name) ∘ fun v => ({ name := v, internal := JVal.str v } : EnumValueS)) = id := by
        funext v; rfl
      rw [this, List.map_id]; exact h1
  | inputObject =>
    have hk' : kindOf cfg i = .inputObject := hk
    obtain ⟨h1, h2⟩ := inputFields_wf hm i
    simp only [Introspection.wfInputType, Bool.and_eq_true, List.all_eq_true, decide_eq_true_eq, List.map_map]
    rw [builtType_inputFields hk']
    refine ⟨?_, ?_⟩
    · intro f hf
      obtain ⟨a, ha, rfl⟩ := List.mem_map.mp hf
      simp only [BuiltSchema.inputField, validName_eq]
      exact h2 a ha
    · have : ((fun f : InputFieldS => f.name) ∘ (dump cfg s).inputField) = (fun a : BArg => a.name) := by
        funext a; rfl
      rw [this]; exact h1
  | scalar => rfl
  | object => rfl
  | interface => rfl
  | union => rfl
  | list => rfl
  | nonNull => rfl

theorem toSchema_wfInputTypes (hm : cfg.mapsOk = true) (s : St) :
    Introspection.wfInputTypes ((dump cfg s).toSchema).types = true := by
  unfold Introspection.wfInputTypes
  rw [List.all_eq_true]
  exact toSchema_types_forall s (P := fun td => Introspection.wfInputType td = true) (typeDef_wfInputType hm s)

theorem toSchema_inputFieldsNodup (hm : cfg.mapsOk = true) (s : St) : Coerce.inputFieldsNodup ((dump cfg s).toSchema) := by
  intro n n' fields d hfind
  have := List.all_eq_true.mp (toSchema_wfInputTypes hm s) _ (List.mem_of_find?_eq_some hfind)
  simp only [Introspection.wfInputType, Bool.and_eq_true, decide_eq_true_eq] at this
  exact this.2

/-! ## argument names (C14 `ArgsUnique`) -/

theorem fields_args_nodup (hm : cfg.mapsOk = true) (i : Nat) :
    ∀ b ∈ (builtType cfg i).fields, (b.args.map (·.name)).Nodup := by
  intro b hb
  obtain ⟨_, bs, h, hb⟩ := mem_builtType_fields hb
  obtain ⟨rfl, _⟩ := defineFieldsLoop_ok (fieldsOf_loop h)
  obtain ⟨f, hf, rfl⟩ := List.mem_map.mp hb
  have hf := (List.mem_filter.mp hf).1
  rw [buildField, List.map_map]
  refine ((sortBy_perm _ f.args).map _).nodup_iff.mpr ?_
  unfold givenFields at hf
  split at hf
  · exact (keysOk_get hm i).2.1 f hf
  · cases hf

theorem dirDefs_args_nodup (hm : cfg.mapsOk = true) : ∀ d ∈ dirDefs cfg, (d.2.map (·.name)).Nodup := by
  intro dd hdd
  rcases mem_dirDefs hdd with hs | ⟨dc, hdc, rfl⟩
  · have : ∀ dd ∈ specifiedDirs, (dd.2.map (·.name)).Nodup := by decide
    exact this dd hs
  · simp only [List.map_map]
    have : ((fun a : BArg => a.name) ∘ buildArg) = (fun a : ArgCfg => a.name) := rfl
    rw [this]
    apply ((sortBy_perm _ dc.args).map (·.name)).nodup_iff.mpr
    simp only [Config.mapsOk, Bool.and_eq_true, List.all_eq_true] at hm
    exact distinctNames_nodup _ (hm.2 (some dc) hdc)

open TypeInfoStacks in
theorem toSchema_argsUniqueB (hm : cfg.mapsOk = true) (s : St) : argsUniqueB ((dump cfg s).toSchema) = true := by
  have argNames : ∀ (l : List BArg), (l.map (dump cfg s).argDef).map (·.name) = l.map (·.name) := by
    intro l; rw [List.map_map]; rfl
  unfold argsUniqueB
  rw [Bool.and_eq_true, Bool.and_eq_true]
  refine ⟨⟨?_, by decide⟩, ?_⟩
  · rw [List.all_append, Bool.and_eq_true]
    refine ⟨?_, by decide⟩
    rw [List.all_eq_true]
    apply toSchema_types_forall s (P := fun td => ((fieldsOfDef td).all fun fd => decide (argNamesNodup fd.args)) = true)
    intro i
    rw [List.all_eq_true]
    intro fd hfd
    simp only [argNamesNodup]
    unfold BuiltSchema.typeDef at hfd
    cases hk : (builtType cfg i).kind <;> simp only [hk, fieldsOfDef, List.mem_map, List.not_mem_nil] at hfd
    · obtain ⟨b, hb, rfl⟩ := hfd
      simp only [BuiltSchema.fieldDef, argNames]
      exact decide_eq_true (fields_args_nodup hm i b hb)
    · obtain ⟨b, hb, rfl⟩ := hfd
      simp only [BuiltSchema.fieldDef, argNames]
      exact decide_eq_true (fields_args_nodup hm i b hb)
  · unfold Schema.allDirectives
    rw [List.all_append, Bool.and_eq_true]
    refine ⟨by decide, ?_⟩
    rw [List.all_eq_true]
    intro d hd
    rw [List.mem_filter] at hd
    simp only [BuiltSchema.toSchema, List.mem_map] at hd
    obtain ⟨⟨dd, hdd, rfl⟩, _⟩ := hd
    simp only [decide_eq_true_eq, argNamesNodup, argNames]
    exact dirDefs_args_nodup hm dd hdd

theorem toSchema_argsUnique (hm : cfg.mapsOk = true) (s : St) : TypeInfoStacks.ArgsUnique ((dump cfg s).toSchema) :=
  TypeInfoStacks.argsUnique_of_check _ (toSchema_argsUniqueB hm s)

/-! ## `TranslationConsistent` holds of the translation of every consistent dump, whether `NewSchema` built it or it was
taken from the real schema -/

theorem typeDef_name (b : BuiltSchema) (t : BType) : (b.typeDef t).name = t.name := by
  unfold BuiltSchema.typeDef
  cases t.kind <;> rfl

namespace BuiltSchema
variable (b : BuiltSchema)

theorem gtype_named : ∀ (t : TRef) (j : Nat), t.strip = .named j → (b.gtype t).namedName = b.nameAt j := by
  intro t
  induction t with
  | nil => intro j h; simp [TRef.strip] at h
  | nilPtr _ => intro j h; simp [TRef.strip] at h
  | ref i => intro j h; simp only [TRef.strip, Leaf.named.injEq] at h; subst h; rfl
  | list a ih =>
    intro j h
    refine ih j ?_
    simp only [TRef.strip] at h
    cases ha : a.strip <;> simp [ha] at h
    subst h; rfl
  | nonNull a ih =>
    intro j h
    refine ih j ?_
    simp only [TRef.strip] at h
    cases ha : a.strip <;> simp [ha] at h
    subst h; rfl

theorem mem_types {td : TypeDef} (h : td ∈ b.toSchema.types) : ∃ p ∈ b.typeMap, td = b.typeDef (b.get p.2) := by
  obtain ⟨p, hp, rfl⟩ := List.mem_map.mp h
  exact ⟨p, (List.mem_filter.mp hp).1, rfl⟩

variable {b}

theorem inMap_known {i : Nat} (h : b.inMap i = true) : knownName b.toSchema (b.nameAt i) := by
  unfold inMap lookup at h
  cases hf : b.typeMap.find? (fun p => p.1 == (b.get i).name) with
  | none => simp [hf] at h
  | some p =>
    have hi : p.2 = i := by simpa [hf] using h
    have hn : p.1 = b.nameAt i := by simpa [nameAt] using List.find?_some hf
    by_cases hm : b.nameAt i ∈ metaTypeNames
    · exact .inr hm
    · refine .inl (List.find?_isSome.mpr ⟨b.typeDef (b.get p.2), List.mem_map.mpr ⟨p, ?_, rfl⟩, ?_⟩)
      · exact List.mem_filter.mpr ⟨List.mem_of_find?_eq_some hf, by simpa [hn] using hm⟩
      · rw [typeDef_name, hi]; exact beq_self_eq_true _

theorem refOk_known {t : TRef} (h : b.refOk t = true) : knownName b.toSchema (b.gtype t).namedName := by
  unfold refOk at h
  cases hs : t.strip <;> simp only [hs] at h <;> try cases h
  rw [gtype_named b t _ hs]
  exact inMap_known h

theorem closed_entry (hc : b.closed = true) {i : Nat} (hi : i ∈ b.ids) :
    (∀ t ∈ typeRefs (b.get i), b.refOk t = true) ∧ (∀ j ∈ (b.get i).interfaces, b.inMap j = true) ∧
      ∀ j ∈ (b.get i).members, b.inMap j = true := by
  unfold closed at hc
  simp only [Bool.and_eq_true, List.all_eq_true] at hc
  -- the first of the five clauses of `closed` is the one about the entries
  obtain ⟨⟨⟨⟨hentries, _⟩, _⟩, _⟩, _⟩ := hc
  obtain ⟨⟨hrefs, hifaces⟩, hmembers⟩ := hentries i hi
  exact ⟨hrefs, hifaces, hmembers⟩

theorem fieldRefs_known (hc : b.closed = true) {i : Nat} (hi : i ∈ b.ids) {n : String}
    (hn : n ∈ ((b.get i).fields.map b.fieldDef).flatMap fieldRefNames) : knownName b.toSchema n := by
  obtain ⟨fd, hfd, hnf⟩ := List.mem_flatMap.mp hn
  obtain ⟨bf, hbf, rfl⟩ := List.mem_map.mp hfd
  simp only [fieldRefNames, fieldDef, List.mem_cons, List.map_map, List.mem_map] at hnf
  have hr := (closed_entry hc hi).1
  have hsub : ∀ t ∈ bf.type :: bf.args.map (·.type), t ∈ typeRefs (b.get i) := fun t ht =>
    List.mem_append_left _ (List.mem_flatMap.mpr ⟨bf, hbf, ht⟩)
  rcases hnf with rfl | ⟨a, ha, rfl⟩
  · exact refOk_known (hr _ (hsub _ (List.mem_cons_self ..)))
  · exact refOk_known (hr _ (hsub _ (List.mem_cons_of_mem _ (List.mem_map_of_mem ha))))

theorem translationConsistent (h : b.Consistent = true) : TranslationConsistent b.toSchema := by
  unfold Consistent at h
  simp only [Bool.and_eq_true] at h
  -- `Consistent` = namesOk ∧ closed ∧ hasBuiltins ∧ positionsOk ∧ conformanceOk ∧ possibleOk
  obtain ⟨⟨⟨⟨⟨hn, hc⟩, _⟩, _⟩, hconf⟩, _⟩ := h
  unfold namesOk at hn
  simp only [Bool.and_eq_true, List.all_eq_true, beq_iff_eq] at hn
  obtain ⟨hname, hdist⟩ := hn
  have hid : ∀ {p}, p ∈ b.typeMap → p.2 ∈ b.ids := fun hp => List.mem_map_of_mem hp
  refine ⟨?_, ?_, ?_, ?_⟩
  · -- names: the keys of the user entries, which are distinct
    have e : b.toSchema.types.map TypeDef.name = b.userEntries.map (·.1) := by
      simp only [toSchema, List.map_map]
      exact List.map_congr_left fun p hp => by
        simp only [Function.comp, typeDef_name]; exact (hname p (List.mem_filter.mp hp).1).1.2
    rw [e]
    refine (List.filter_sublist.map _).nodup ?_
    exact List.pairwise_map.mpr (keysDistinct_iff.mp hdist)
  ·
    intro td htd n hn
    obtain ⟨p, hp, rfl⟩ := mem_types b htd
    obtain ⟨_, hifs, hms⟩ := closed_entry hc (hid hp)
    unfold typeDef at hn
    cases hk : (b.get p.2).kind <;> simp only [hk, typeRefNames, List.not_mem_nil] at hn
    · rcases List.mem_append.mp hn with hn | hn
      · obtain ⟨j, hj, rfl⟩ := List.mem_map.mp hn; exact inMap_known (hifs j hj)
      · exact fieldRefs_known hc (hid hp) hn
    · exact fieldRefs_known hc (hid hp) hn
    · obtain ⟨j, hj, rfl⟩ := List.mem_map.mp hn; exact inMap_known (hms j hj)
    · simp only [List.map_map, List.mem_map] at hn
      obtain ⟨a, ha, rfl⟩ := hn
      exact refOk_known ((closed_entry hc (hid hp)).1 _ (List.mem_append_right _ (List.mem_map_of_mem ha)))
  ·
    unfold closed at hc
    simp only [Bool.and_eq_true] at hc
    obtain ⟨⟨⟨⟨_, hq⟩, hmu⟩, hsu⟩, _⟩ := hc
    refine ⟨?_, fun m hm => ?_, fun m hm => ?_⟩
    · cases hqq : b.query with
      | none => simp [hqq] at hq
      | some q => simp only [toSchema, hqq]; exact inMap_known (by simpa [hqq] using hq)
    · obtain ⟨mi, hmi, rfl⟩ := Option.map_eq_some_iff.mp hm
      exact inMap_known (by simpa [hmi] using hmu)
    · obtain ⟨mi, hmi, rfl⟩ := Option.map_eq_some_iff.mp hm
      exact inMap_known (by simpa [hmi] using hsu)
  ·
    intro o ifs fs bb d hobj iname hin ifs' b' d' hiface f hf
    obtain ⟨p, hp, heq⟩ := mem_types b hobj
    obtain ⟨q, hq, heqj⟩ := mem_types b hiface
    unfold typeDef at heq heqj
    cases hk : (b.get p.2).kind <;> simp only [hk] at heq <;> try (cases heq)
    cases hkj : (b.get q.2).kind <;> simp only [hkj] at heqj <;> try (cases heqj)
    obtain ⟨j, hj, hjn⟩ := List.mem_map.mp hin
    -- the declared interface `j` is registered under its name, and names are distinct: it is `q`
    have hjq : j = q.2 := by
      have h1 := (closed_entry hc (hid hp)).2.1 j hj
      unfold inMap lookup at h1
      have h2 := find_of_pairwise_key (·.1) (keysDistinct_iff.mp hdist) hq
      rw [← (hname q hq).1.2, ← hjn] at h2
      have : b.nameAt j = (b.get j).name := rfl
      rw [this] at h2
      exact (by simpa [h2] using h1 : q.2 = j).symm
    subst hjq
    unfold conformanceOk at hconf
    simp only [List.all_eq_true, Option.isNone_iff_eq_none] at hconf
    have hobjId : p.2 ∈ b.objectIds := List.mem_filter.mpr ⟨hid hp, by simp [hk]⟩
    have h2 := hconf _ hobjId _ hj
    unfold conformsTo at h2
    rw [List.findSome?_eq_none_iff] at h2
    obtain ⟨bf, hbf, rfl⟩ := List.mem_map.mp hf
    have h3 := h2 bf hbf
    unfold fieldConforms at h3
    cases hfind : (b.get p.2).fields.find? (fun g => g.name == bf.name) with
    | none => simp [hfind] at h3
    | some og =>
      exact ⟨_, List.mem_map.mpr ⟨og, List.mem_of_find?_eq_some hfind, rfl⟩,
        by simpa [fieldDef] using List.find?_some hfind⟩

end BuiltSchema

theorem Good.translationConsistent {tm : TM} (g : Good cfg tm) (hwt : cfg.wellTyped = true) :
    TranslationConsistent ((dump cfg ⟨tm⟩).toSchema) :=
  BuiltSchema.translationConsistent (g.consistent hwt)

end GqlModel.SchemaBuild
