import GqlProofs.ExecState
import GqlProofs.ExecRoot
/-! C04, two-world form of sibling independence. Two worlds that agree on everything except the outcome of ONE
(object, field) pair: a call (of any of the four functions) that, in the first world, never invokes that resolver
returns the same result and leaves the same state in the second world. -/
namespace GqlModel.Exec
open GqlModel.Coerce

def Ctx.withWorld (c : Ctx) (w : World) : Ctx := { schema := c.schema, frags := c.frags, vars := c.vars, world := w }

@[simp] theorem Ctx.withWorld_schema (c : Ctx) (w : World) : (c.withWorld w).schema = c.schema := rfl
@[simp] theorem Ctx.withWorld_world (c : Ctx) (w : World) : (c.withWorld w).world = w := rfl
@[simp] theorem Ctx.withWorld_vars (c : Ctx) (w : World) : (c.withWorld w).vars = c.vars := rfl

theorem collectList_world (c : Ctx) (w : World) (rt : String)
    (e1 e2 : String → Groups × List String → Groups × List String)
    (he : ∀ n acc, e1 n acc = e2 n acc) :
    ∀ (l : List Selection) (acc : Groups × List String),
      collectList (c.withWorld w) rt e1 l acc = collectList c rt e2 l acc :=
  selections_induct (PS := fun s => ∀ acc, collectSel (c.withWorld w) rt e1 s acc = collectSel c rt e2 s acc)
    (fun _ _ _ _ _ _ _ => by rw [collectSel_field, collectSel_field]; rfl)
    (fun _ _ _ _ _ ih _ => by rw [collectSel_inline, collectSel_inline, ih]; rfl)
    (fun _ _ _ _ => by rw [collectSel_spread, collectSel_spread, he]; rfl)
    (fun _ => rfl)
    (fun _ _ h1 h2 _ => by rw [collectList_cons, collectList_cons, h1]; exact h2 _)

/-- a selection is the list of itself -/
theorem collectSel_world (c : Ctx) (w : World) (rt : String)
    (e1 e2 : String → Groups × List String → Groups × List String)
    (he : ∀ n acc, e1 n acc = e2 n acc) :
    ∀ (s : Selection) (acc : Groups × List String),
      collectSel (c.withWorld w) rt e1 s acc = collectSel c rt e2 s acc :=
  fun s => collectList_world c w rt e1 e2 he [s]

theorem collectSet_world (c : Ctx) (w : World) (rt : String)
    (e1 e2 : String → Groups × List String → Groups × List String)
    (he : ∀ n acc, e1 n acc = e2 n acc) :
    ∀ (s : SelectionSet) (acc : Groups × List String), collectSet (c.withWorld w) rt e1 s acc = collectSet c rt e2 s acc
  | .mk sels _, acc => collectList_world c w rt e1 e2 he sels acc

theorem expandSpread_world (c : Ctx) (w : World) (rt : String) :
    ∀ (fuel : Nat) (n : String) (acc : Groups × List String),
      expandSpread (c.withWorld w) rt fuel n acc = expandSpread c rt fuel n acc
  | 0, n, acc => by simp only [expandSpread]
  | fuel + 1, n, (g, vis) => by
    simp only [expandSpread, collectSet_world c w rt _ _ (expandSpread_world c w rt fuel)]
    rfl

theorem collect_world (c : Ctx) (w : World) (rt : String) (sel : SelectionSet) (acc : Groups × List String) :
    collect (c.withWorld w) rt sel acc = collect c rt sel acc :=
  collectSet_world c w rt _ _ (expandSpread_world c w rt _) sel acc

theorem collectMerged_world (c : Ctx) (w : World) (rt : String) (nodes : List FieldNode) :
    collectMerged (c.withWorld w) rt nodes = collectMerged c rt nodes := by
  unfold collectMerged
  congr 1
  congr 1
  funext acc n
  split
  · exact collect_world c w rt _ acc
  · rfl

structure AgreeExcept (w1 w2 : World) (id0 : Nat) (f0 : String) : Prop where
  isTypeOf : ∀ t v, w1.isTypeOfAns t v = w2.isTypeOfAns t v
  resolveType : ∀ t v, w1.resolveTypeAns t v = w2.resolveTypeAns t v
  outcome : ∀ src f, ¬(src = .ref id0 ∧ f = f0) → w1.outcome src f = w2.outcome src f

def Touches (id0 : Nat) (f0 : String) (e : LogEntry) : Prop := e.source = .ref id0 ∧ e.fieldName = f0

theorem runtimeTypeOf_world (c : Ctx) (w2 : World) {id0 : Nat} {f0 : String} (ha : AgreeExcept c.world w2 id0 f0)
    (n : String) (v : GoVal) : runtimeTypeOf (c.withWorld w2) n v = runtimeTypeOf c n v := by
  unfold runtimeTypeOf
  simp only [Ctx.withWorld_schema, Ctx.withWorld_world, ha.resolveType, ha.isTypeOf]
  rfl

theorem agreeExcept_of_objects {w1 w2 : World} {id0 : Nat} {f0 : String}
    (hito : w1.isTypeOf = w2.isTypeOf) (hrt : w1.resolveType = w2.resolveType) (hroot : w1.rootFields = w2.rootFields)
    (hty : ∀ id, (w1.obj? id).map (·.typeName) = (w2.obj? id).map (·.typeName))
    (hout : ∀ id f, ¬(id = id0 ∧ f = f0) → w1.outcome (.ref id) f = w2.outcome (.ref id) f) :
    AgreeExcept w1 w2 id0 f0 := by
  refine ⟨fun t v => ?_, fun t v => ?_, fun src f h => ?_⟩
  · cases v with
    | ref id =>
      have := hty id
      simp only [World.isTypeOfAns, hito]
      cases h1 : w1.obj? id <;> cases h2 : w2.obj? id <;> simp only [h1, h2, Option.map_some, Option.map_none] at this
      · rfl
      · cases this
      · cases this
      · simp only [Option.some.inj this]
    | _ => rfl
  · cases v with
    | ref id => simp only [World.resolveTypeAns, hrt, hty]
    | _ => rfl
  · cases src with
    | ref id => exact hout id f fun ⟨h1, h2⟩ => h ⟨by rw [h1], h2⟩
    | _ => simp only [World.outcome, hroot]

structure WP (c : Ctx) (w2 : World) (id0 : Nat) (f0 : String) (fuel : Nat) : Prop where
  groups : ∀ dfr rt src path groups acc st r st',
    execGroups c fuel dfr rt src path groups acc st = (r, st') → (∀ e, e ∈ st'.log → ¬ Touches id0 f0 e) →
    execGroups (c.withWorld w2) fuel dfr rt src path groups acc st = (r, st')
  field : ∀ dfr rt src p fd nodes st r st',
    execField c fuel dfr rt src p fd nodes st = (r, st') → (∀ e, e ∈ st'.log → ¬ Touches id0 f0 e) →
    execField (c.withWorld w2) fuel dfr rt src p fd nodes st = (r, st')
  complete : ∀ dfr t rt fname nodes p v st r st',
    complete c fuel dfr t rt fname nodes p v st = (r, st') → (∀ e, e ∈ st'.log → ¬ Touches id0 f0 e) →
    complete (c.withWorld w2) fuel dfr t rt fname nodes p v st = (r, st')
  items : ∀ dfr item rt fname nodes p xs i acc st r st',
    completeItems c fuel dfr item rt fname nodes p xs i acc st = (r, st') → (∀ e, e ∈ st'.log → ¬ Touches id0 f0 e) →
    completeItems (c.withWorld w2) fuel dfr item rt fname nodes p xs i acc st = (r, st')

variable {c : Ctx} {w2 : World} {id0 : Nat} {f0 : String}

def NoTouch (id0 : Nat) (f0 : String) (l : List LogEntry) : Prop := ∀ e, e ∈ l → ¬ Touches id0 f0 e

theorem NoTouch.mono {l l' : List LogEntry} (h : NoTouch id0 f0 l) (hs : l' ⊆ l) : NoTouch id0 f0 l' :=
  fun e he => h e (hs he)

/-- what a call logs contains what its executed callees log -/
theorem noTouch_inherited : Inherited (fun {_} o => NoTouch id0 f0 o.2.log) where
  head h := h.mono (Run.log_head_subset ..)
  rest hy h := h.mono (Run.log_rest_subset _ hy _)
  absorb h := h
  after h := h.mono (List.subset_append_left _ _)
  nonNull h := by rwa [Run.nonNull_log] at h
  markFail h := by rwa [Run.markFail_log] at h
  mapOk h := h

/-- a run that never invokes the differing resolver is the same run in the second world: both worlds answer the type
questions alike, and a resolver that is invoked is in the log, hence is not the differing one -/
theorem wRun (ha : AgreeExcept c.world w2 id0 f0) :
    ∀ fuel, SimRuns (fun {_} o => NoTouch id0 f0 o.2.log) ArgRel.eq c (c.withWorld w2) fuel fuel
  | 0 => ⟨fun _ _ _ _ _ _ h _ => by cases h; exact runGroups_zero.trans runGroups_zero.symm,
    fun _ _ _ _ _ _ _ h _ => by cases h; exact runField_zero.trans runField_zero.symm,
    fun _ _ _ _ _ _ _ _ h _ => by cases h; exact runComplete_zero.trans runComplete_zero.symm,
    fun _ _ _ _ _ _ _ _ _ h _ => by cases h; exact runItems_zero.trans runItems_zero.symm⟩
  | fuel + 1 => by
    refine simRuns_succ noTouch_inherited (ArgRel.eq_closed rfl rfl (collectMerged_world c w2)) rfl
      (fun n v => runtimeTypeOf_world c w2 ha n v) (fun n v => (ha.isTypeOf n v).symm) ?_ (wRun ha fuel)
    intro dfr rt src p fd nodes hn hq
    refine (ha.outcome src fd.name fun ht => hq (callEntry c dfr rt src p fd nodes) ?_ ht).symm
    cases ho : c.world.outcome src fd.name with
    | fail => rw [runField_fails hn ho]; exact List.mem_cons_self
    | value v => rw [runField_value hn ho]; exact List.mem_append_right _ List.mem_cons_self

theorem wP (ha : AgreeExcept c.world w2 id0 f0) : ∀ fuel, WP c w2 id0 f0 fuel := fun fuel =>
  ⟨fun _ _ _ _ _ _ _ _ _ h hnt => ((wRun ha fuel).exec_groups noTouch_inherited (by rw [h]; exact hnt)).trans h,
    fun _ _ _ _ _ _ _ _ _ h hnt => ((wRun ha fuel).exec_field noTouch_inherited (by rw [h]; exact hnt)).trans h,
    fun _ _ _ _ _ _ _ _ _ _ h hnt => ((wRun ha fuel).exec_complete noTouch_inherited (by rw [h]; exact hnt)).trans h,
    fun _ _ _ _ _ _ _ _ _ _ _ _ h hnt => ((wRun ha fuel).exec_items noTouch_inherited (by rw [h]; exact hnt)).trans h⟩

theorem execGroups_two_worlds (ha : AgreeExcept c.world w2 id0 f0) (fuel : Nat) (dfr : Bool) (rt : String) (src : GoVal)
    (path : Path) (groups : Groups) (st1 st2 st1' st2' : St) (fs1 fs2 : List (String × JVal))
    (hn : groups.keys.Nodup)
    (h1 : execGroups c fuel dfr rt src path groups [] st1 = (.ok fs1, st1'))
    (h2 : execGroups (c.withWorld w2) fuel dfr rt src path groups [] st2 = (.ok fs2, st2'))
    (k : String) (nodes : List FieldNode) (node : FieldNode) (fd : FieldDefS)
    (hm : (k, nodes) ∈ groups) (hnode : nodes.head? = some node) (hfd : fieldDef? c.schema rt node.name = some fd)
    (hnt : ∀ e, e ∈ (execField c fuel dfr rt src (path ++ [.key k]) fd nodes St.empty).2.log → ¬ Touches id0 f0 e) :
    ∀ v, (k, v) ∈ fs1 ↔ (k, v) ∈ fs2 := by
  obtain ⟨v1, hv1, hall1⟩ := execGroups_selected_values c fuel _ _ _ _ _ _ _ _ _ h1 k nodes node fd hm hnode hfd
  obtain ⟨v2, hv2, hall2⟩ :=
    execGroups_selected_values (c.withWorld w2) fuel _ _ _ _ _ _ _ _ _ h2 k nodes node fd hm hnode hfd
  -- the field executed on its own never invokes the differing resolver, so it runs alike in both worlds
  have heq : v1 = v2 :=
    Res.ok.inj ((hall1 St.empty).symm.trans
      ((congrArg Prod.fst ((wP ha fuel).field _ _ _ _ _ _ _ _ _ rfl hnt)).symm.trans (hall2 St.empty)))
  subst heq
  intro v
  constructor
  · intro hv; rw [mem_unique_of_keys_nodup (execGroups_ok_keys_nodup h1 hn) hv hv1]; exact hv2
  · intro hv; rw [mem_unique_of_keys_nodup (execGroups_ok_keys_nodup h2 hn) hv hv2]; exact hv1

theorem execGroups_field_log_subset (c : Ctx) : ∀ fuel dfr rt src path groups acc st fs st',
    execGroups c fuel dfr rt src path groups acc st = (.ok fs, st') →
    ∀ k nodes node fd, (k, nodes) ∈ groups → nodes.head? = some node → fieldDef? c.schema rt node.name = some fd →
      (∃ v, (execField c fuel dfr rt src (path ++ [.key k]) fd nodes St.empty).1 = .ok v) ∧
      ∀ e, e ∈ (execField c fuel dfr rt src (path ++ [.key k]) fd nodes St.empty).2.log → e ∈ st'.log := by
  intro fuel dfr rt src path groups acc st fs st' h k nodes node fd hm hnode hfd
  obtain ⟨m, d, hrun, -, rfl⟩ := execGroups_ok_run h
  obtain ⟨v, df, hf, -, hl⟩ := runGroups_selected c fuel hrun _ _ _ _ hm hnode hfd
  have hf' : execField c fuel dfr rt src (path ++ [.key k]) fd nodes St.empty = (.ok v, df) := hf
  rw [hf']
  exact ⟨⟨v, rfl⟩, fun e he => List.mem_append_left _ (hl he)⟩

theorem requestCtx_world {s : Schema} {doc : Document} {opName : String} {inputs : Vars} {w1 : World}
    {c : Ctx} {root : String} {sel : SelectionSet} (h : requestCtx s doc opName inputs w1 = some (c, root, sel))
    (w2 : World) : requestCtx s doc opName inputs w2 = some (c.withWorld w2, root, sel) ∧ c.world = w1 := by
  obtain ⟨op, nm, varDefs, dirs, loc, vars, hsel, hroot, hv, rfl⟩ := requestCtx_eq_some_iff.mp h
  exact ⟨requestCtx_eq_some_iff.mpr ⟨op, nm, varDefs, dirs, loc, vars, hsel, hroot, hv, rfl⟩, rfl⟩

theorem rootGroups_world (c : Ctx) (w : World) (root : String) (sel : SelectionSet) :
    rootGroups (c.withWorld w) root sel = rootGroups c root sel := by
  unfold rootGroups; rw [collect_world]

end GqlModel.Exec
