import GqlProofs.CoerceSpec
import GqlProofs.CoerceFuel
/-! C05: arguments and variables, compared with the specification through the fuel-free functions. -/
namespace GqlModel.Coerce

def optHasVars : Option Value → Bool
  | none => false
  | some l => hasVars l

theorem hasVarsList_eq_any (ls : List Value) : hasVarsList ls = ls.any hasVars := by
  induction ls with
  | nil => rfl
  | cons v vs ih => simp [hasVarsList, ih]

theorem hasVarsFields_eq_any (fs : List ObjField) : hasVarsFields fs = fs.any (fun f => hasVars f.value) := by
  induction fs with
  | nil => rfl
  | cons f fs ih => cases f; simp [hasVarsFields, ih, ObjField.value]

theorem hasVars_mem_list {x : Value} {ls : List Value} (h : hasVarsList ls = false) (hx : x ∈ ls) : hasVars x = false :=
  Bool.eq_false_iff.mpr (List.any_eq_false.mp (hasVarsList_eq_any ls ▸ h) x hx)

theorem hasVars_litLookup {fs : List ObjField} (h : hasVarsFields fs = false) (k : String) :
    optHasVars (litLookup fs k) = false := by
  cases hl : litLookup fs k with
  | none => rfl
  | some v =>
    obtain ⟨f, hf, rfl⟩ := litLookup_mem hl
    exact Bool.eq_false_iff.mpr (List.any_eq_false.mp (hasVarsFields_eq_any fs ▸ h) f hf)

/-- two variable maps give a literal the same value on every class `P` of literals that is closed under list elements
and looked-up fields, and on whose variables the maps agree -/
theorem valueFromAST_rel (s : Schema) (vars1 vars2 : Vars) (P : Option Value → Prop)
    (hvar : ∀ x loc, P (some (.var x loc)) → lookupD vars1 x = lookupD vars2 x)
    (hlist : ∀ ls loc, P (some (.list ls loc)) → ∀ v ∈ ls, P (some v))
    (hobj : ∀ fs loc, P (some (.obj fs loc)) → ∀ k, P (litLookup fs k)) (t : GType) (l : Option Value) (h : P l) :
    valueFromAST s t l vars1 = valueFromAST s t l vars2 := by
  have : ∀ (n : Nat) t l, P l → valueFromASTF s vars1 n t l = valueFromASTF s vars2 n t l := by
    intro n
    induction n with
    | zero => intro t l _; rfl
    | succ n ih => exact fromASTStep_congr s vars1 vars2 P P hvar hlist hobj _ _ ih
  exact this _ t l h

theorem valueFromAST_novars (s : Schema) (t : GType) (l : Option Value) (vars1 vars2 : Vars)
    (h : optHasVars l = false) : valueFromAST s t l vars1 = valueFromAST s t l vars2 :=
  valueFromAST_rel s vars1 vars2 (optHasVars · = false) (fun _ _ h => by simp [optHasVars, hasVars] at h)
    (fun _ _ h _ hv => hasVars_mem_list (by simpa [optHasVars, hasVars] using h) hv)
    (fun _ _ h k => hasVars_litLookup (by simpa [optHasVars, hasVars] using h) k) t l h

theorem argLookup_novars {asts : List Argument} (h : astHasVariables asts = false) (k : String) :
    optHasVars (argLookup asts k) = false := by
  cases hl : argLookup asts k with
  | none => rfl
  | some v =>
    obtain ⟨a, ha, rfl⟩ := argLookup_mem hl
    exact Bool.eq_false_iff.mpr (List.any_eq_false.mp h a ha)

theorem getArgumentValues_static (s : Schema) (defs : List ArgDef) (asts : List Argument) (vars1 vars2 : Vars)
    (h : astHasVariables asts = false) :
    getArgumentValues s defs asts vars1 = getArgumentValues s defs asts vars2 := by
  unfold getArgumentValues
  congr 1
  apply filterMap_congr'
  intro d _
  simp only [argEntry]
  rw [valueFromAST_novars s d.type _ vars1 vars2 (argLookup_novars h d.name)]

theorem mkObj_nil : mkObj [] = [] := rfl

theorem plannedArgs_eq (s : Schema) (defs : List ArgDef) (asts : List Argument) (vars : Vars) :
    plannedArgs s (planArguments s defs asts) vars = getArgumentValues s defs asts vars := by
  unfold planArguments
  by_cases h0 : (defs.isEmpty && asts.isEmpty) = true
  · simp only [h0, if_true, plannedArgs]
    simp only [Bool.and_eq_true, List.isEmpty_iff] at h0
    simp [getArgumentValues, h0.1, mkObj_nil]
  · simp only [h0, Bool.false_eq_true, if_false]
    by_cases hv : astHasVariables asts = true
    · simp [hv, plannedArgs]
    · have hv' : astHasVariables asts = false := by simpa using hv
      simp only [hv', Bool.false_eq_true, if_false]
      have hst := getArgumentValues_static s defs asts [] vars hv'
      by_cases he : (getArgumentValues s defs asts []).isEmpty = true
      · simp only [he, if_true, plannedArgs]
        rw [← hst]
        exact (List.isEmpty_iff.mp he).symm
      · simp only [he, Bool.false_eq_true, if_false, plannedArgs]
        exact hst

theorem getVariableValuesGo_ok_iff (s : Schema) (inputs : Vars) (defs : List VarDef) (acc : Vars) :
    (∃ m, getVariableValuesGo s inputs defs acc = .ok m) ↔
      ∀ d ∈ defs, ∃ v, getVariableValue s d (lookupD inputs d.var.value) = .ok v := by
  induction defs generalizing acc with
  | nil => simp [getVariableValuesGo]
  | cons d ds ih =>
    simp only [getVariableValuesGo]
    cases h : getVariableValue s d (lookupD inputs d.var.value) with
    | error e =>
      simp only [List.mem_cons, forall_eq_or_imp, h]
      simp
    | ok v =>
      simp only [List.mem_cons, forall_eq_or_imp, h]
      rw [ih]
      simp

theorem getVariableValue_ok_iff (s : Schema) (d : VarDef) (input : JVal) :
    (∃ v, getVariableValue s d input = .ok v) ↔
      ∃ tr, d.type = some tr ∧ isInputType s (typeOfRef tr) = true ∧ isValidInputValue s (typeOfRef tr) input = true := by
  unfold getVariableValue
  cases ht : d.type with
  | none => simp
  | some tr =>
    simp only [Option.some.injEq, exists_eq_left']
    by_cases hi : isInputType s (typeOfRef tr) = true
    · by_cases hv : isValidInputValue s (typeOfRef tr) input = true
      · simp only [hi, hv, Bool.not_true, Bool.false_eq_true, if_false, if_true, and_self, iff_true]
        cases input.isNull <;> cases d.default <;> simp
      · simp only [hi, hv, Bool.not_true, Bool.false_eq_true, if_false]
        cases input.isNull <;> simp
    · simp [hi]

/-- a variable occurs somewhere inside the literal (any depth, any list index, any field position) -/
inductive VarIn : Value → Prop
  | var (x : String) (loc : Loc) : VarIn (.var x loc)
  | list (vs : List Value) (loc : Loc) (v : Value) : v ∈ vs → VarIn v → VarIn (.list vs loc)
  | obj (fs : List ObjField) (loc : Loc) (f : ObjField) : f ∈ fs → VarIn f.value → VarIn (.obj fs loc)

mutual
theorem hasVars_sound : ∀ (l : Value), hasVars l = true → VarIn l
  | .var x loc, _ => .var x loc
  | .list vs loc, h => by
    obtain ⟨v, hm, hv⟩ := hasVarsList_sound vs (by simpa [hasVars] using h)
    exact .list vs loc v hm hv
  | .obj fs loc, h => by
    obtain ⟨f, hm, hv⟩ := hasVarsFields_sound fs (by simpa [hasVars] using h)
    exact .obj fs loc f hm hv
  | .int _ _, h => by simp [hasVars] at h
  | .float _ _, h => by simp [hasVars] at h
  | .str _ _, h => by simp [hasVars] at h
  | .bool _ _, h => by simp [hasVars] at h
  | .enum _ _, h => by simp [hasVars] at h
theorem hasVarsList_sound : ∀ (vs : List Value), hasVarsList vs = true → ∃ v ∈ vs, VarIn v
  | [], h => by simp [hasVarsList] at h
  | v :: vs, h => by
    simp only [hasVarsList, Bool.or_eq_true] at h
    rcases h with h | h
    · exact ⟨v, by simp, hasVars_sound v h⟩
    · obtain ⟨w, hm, hw⟩ := hasVarsList_sound vs h
      exact ⟨w, by simp [hm], hw⟩
theorem hasVarsFields_sound : ∀ (fs : List ObjField), hasVarsFields fs = true → ∃ f ∈ fs, VarIn f.value
  | [], h => by simp [hasVarsFields] at h
  | (.mk n v l) :: fs, h => by
    simp only [hasVarsFields, Bool.or_eq_true] at h
    rcases h with h | h
    · exact ⟨.mk n v l, by simp, hasVars_sound v h⟩
    · obtain ⟨w, hm, hw⟩ := hasVarsFields_sound fs h
      exact ⟨w, by simp [hm], hw⟩
end

theorem hasVars_complete {l : Value} (h : VarIn l) : hasVars l = true := by
  induction h with
  | var x loc => rfl
  | list vs loc v hm _ ih => rw [hasVars, hasVarsList_eq_any]; exact List.any_eq_true.mpr ⟨v, hm, ih⟩
  | obj fs loc f hm _ ih => rw [hasVars, hasVarsFields_eq_any]; exact List.any_eq_true.mpr ⟨f, hm, ih⟩

end GqlModel.Coerce
