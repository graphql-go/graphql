import GqlProofs.PlanExec
import GqlProofs.ExecState
/-! # Phase one of M against the algorithm WITH deferred values (data)

The algorithm S forces a deferred value where it meets it; M wraps it (`PVal.deferred`) and forces it later. `SV x j` relates a
value under construction to the algorithm's finished value: same shape, and a closure stands for `j` when the algorithm's in-place
forcing of what the closure will call yields `j` — or fails under a nullable type, and `j` is null (`Wit`); what the closure calls
may itself yield a func: the algorithm goes on forcing in place, M's dethunk sites loop (`forceLoop`). Outside the known finding
D-04c (no mark added to `kfThunk`) phase one of M (memo-free instance) produces `SV`-related values (`GenP`; `genP` in `PlanSim`).

Fuel: S's witness runs are lifted to the request's fuel `F` (more fuel, same result), because M forces every closure with `F`. -/
namespace GqlModel.Plan
open GqlModel.Exec GqlModel.Coerce

theorem complete_fuel_add (c : Ctx) (fuel : Nat) (dfr : Bool) (t : GType) (rt fname : String) (nodes : List FieldNode) (p : Path)
    (v : GoVal) (st : St) (r : Res JVal) (st' : St) (h : complete c fuel dfr t rt fname nodes p v st = (r, st'))
    (hr : r ≠ .fuelOut) : ∀ k, complete c (fuel + k) dfr t rt fname nodes p v st = (r, st') :=
  fun k => ((fuelRuns c k fuel).exec_complete notOut_inherited (by rw [h]; exact hr)).trans h

theorem complete_fuel_le (c : Ctx) {fuel F : Nat} (hle : fuel ≤ F) (dfr : Bool) (t : GType) (rt fname : String)
    (nodes : List FieldNode) (p : Path) (v : GoVal) (st : St) (r : Res JVal) (st' : St)
    (h : complete c fuel dfr t rt fname nodes p v st = (r, st')) (hr : r ≠ .fuelOut) :
    complete c F dfr t rt fname nodes p v st = (r, st') := by
  obtain ⟨k, rfl⟩ := Nat.exists_eq_add_of_le hle
  exact complete_fuel_add c fuel dfr t rt fname nodes p v st r st' h hr k

def KfExt (a b : St) : Prop := ∃ k, b.kfThunk = k ++ a.kfThunk

theorem KfExt.refl (a : St) : KfExt a a := ⟨[], rfl⟩
theorem KfExt.trans {a b c : St} (h1 : KfExt a b) (h2 : KfExt b c) : KfExt a c := by
  obtain ⟨k1, e1⟩ := h1; obtain ⟨k2, e2⟩ := h2
  exact ⟨k2 ++ k1, by rw [e2, e1, List.append_assoc]⟩

theorem KfExt.same {a b c : St} (h1 : KfExt a b) (h2 : KfExt b c) (h : c.kfThunk = a.kfThunk) :
    b.kfThunk = a.kfThunk ∧ c.kfThunk = b.kfThunk := by
  obtain ⟨k1, e1⟩ := h1; obtain ⟨k2, e2⟩ := h2
  have hl : (k2 ++ (k1 ++ a.kfThunk)).length = a.kfThunk.length := by rw [← e1, ← e2, h]
  simp only [List.length_append] at hl
  have h1 : k1 = [] := List.eq_nil_of_length_eq_zero (by omega)
  have h2 : k2 = [] := List.eq_nil_of_length_eq_zero (by omega)
  subst h1; subst h2
  simp only [List.nil_append] at e1 e2
  exact ⟨e1, e2⟩

theorem kfExt_of_app {d st st' : St} (h : st' = St.app d st) : KfExt st st' := ⟨d.kfThunk, by rw [h]; rfl⟩

theorem sDelta_groups (c : Ctx) (fuel : Nat) {dfr rt src path groups acc st r st'}
    (h : execGroups c fuel dfr rt src path groups acc st = (r, st')) : ∃ d, st' = St.app d st := by
  obtain ⟨r0, d, hd⟩ := (stP c fuel).groups dfr rt src path groups acc
  rw [hd st] at h; exact ⟨d, (Prod.mk.inj h).2.symm⟩
theorem sDelta_field (c : Ctx) (fuel : Nat) {dfr rt src p fd nodes st r st'}
    (h : execField c fuel dfr rt src p fd nodes st = (r, st')) : ∃ d, st' = St.app d st := by
  obtain ⟨r0, d, hd⟩ := (stP c fuel).field dfr rt src p fd nodes
  rw [hd st] at h; exact ⟨d, (Prod.mk.inj h).2.symm⟩
theorem sDelta_complete (c : Ctx) (fuel : Nat) {dfr t rt fname nodes p v st r st'}
    (h : complete c fuel dfr t rt fname nodes p v st = (r, st')) : ∃ d, st' = St.app d st := by
  obtain ⟨r0, d, hd⟩ := (stP c fuel).complete dfr t rt fname nodes p v
  rw [hd st] at h; exact ⟨d, (Prod.mk.inj h).2.symm⟩
theorem sDelta_items (c : Ctx) (fuel : Nat) {dfr item rt fname nodes p xs i acc st r st'}
    (h : completeItems c fuel dfr item rt fname nodes p xs i acc st = (r, st')) : ∃ d, st' = St.app d st := by
  obtain ⟨r0, d, hd⟩ := (stP c fuel).items dfr item rt fname nodes p xs i acc
  rw [hd st] at h; exact ⟨d, (Prod.mk.inj h).2.symm⟩

theorem kfExt_groups (c : Ctx) (fuel : Nat) dfr rt src path groups acc st :
    KfExt st (execGroups c fuel dfr rt src path groups acc st).2 :=
  (sDelta_groups c fuel rfl).elim fun _ => kfExt_of_app
theorem kfExt_field (c : Ctx) (fuel : Nat) dfr rt src p fd nodes st :
    KfExt st (execField c fuel dfr rt src p fd nodes st).2 :=
  (sDelta_field c fuel rfl).elim fun _ => kfExt_of_app
theorem kfExt_complete (c : Ctx) (fuel : Nat) dfr t rt fname nodes p v st :
    KfExt st (complete c fuel dfr t rt fname nodes p v st).2 :=
  (sDelta_complete c fuel rfl).elim fun _ => kfExt_of_app
theorem kfExt_items (c : Ctx) (fuel : Nat) dfr item rt fname nodes p xs i acc st :
    KfExt st (completeItems c fuel dfr item rt fname nodes p xs i acc st).2 :=
  (sDelta_items c fuel rfl).elim fun _ => kfExt_of_app

theorem andThen_inv_kf {α β : Type} {x : Res α × St} {k : α → St → Res β × St} {st stS : St} {rS : Res β}
    (h : andThen x k = (rS, stS)) (hr : rS ≠ .fuelOut) (hkf : stS.kfThunk = st.kfThunk) (hx : KfExt st x.2)
    (hk : ∀ a s, KfExt s (k a s).2) :
    (x = (.fail, stS) ∧ rS = .fail) ∨
      ∃ a s, x = (.ok a, s) ∧ s.kfThunk = st.kfThunk ∧ k a s = (rS, stS) ∧ stS.kfThunk = s.kfThunk := by
  rcases andThen_inv h hr with h1 | ⟨a, s, hxe, hke⟩
  · exact .inl h1
  · have h2 := hk a s
    rw [hxe] at hx
    rw [hke] at h2
    obtain ⟨hA, hB⟩ := KfExt.same hx h2 hkf
    exact .inr ⟨a, s, hxe, hA, hke, hB⟩

theorem execGroups_cons_inv {c : Ctx} {P : FieldNode → Chain → Prop} {fuel : Nat} {dfr : Bool} {rt : String} {src : GoVal}
    {path : Path} {fp : FieldPlan} {rest : List FieldPlan} {accS : List (String × JVal)} {st stS : St}
    {rS : Res (List (String × JVal))} (hfp : FpOK c.schema rt P fp)
    (h : execGroups c (fuel + 1) dfr rt src path (groupsOf (fp :: rest)) accS st = (rS, stS)) (hr : rS ≠ .fuelOut)
    (hkf : stS.kfThunk = st.kfThunk) :
    fp.pred.eval c.schema c.vars = true ∧
    ((fp.fieldDef = none ∧ execGroups c fuel dfr rt src path (groupsOf rest) accS st = (rS, stS)) ∨
      ∃ fd, fp.fieldDef = some fd ∧
        ((execField c fuel dfr rt src (path ++ [.key fp.key]) fd fp.fieldNodes st = (.fail, stS) ∧ rS = .fail) ∨
          ∃ j st1, execField c fuel dfr rt src (path ++ [.key fp.key]) fd fp.fieldNodes st = (.ok j, st1) ∧
            st1.kfThunk = st.kfThunk ∧
            execGroups c fuel dfr rt src path (groupsOf rest) (accS ++ [(fp.key, j)]) st1 = (rS, stS) ∧
            stS.kfThunk = st1.kfThunk)) := by
  obtain ⟨n0, hhead, hdef⟩ := hfp.head_node
  refine ⟨hfp.eval c.vars, ?_⟩
  change execGroups c (fuel + 1) dfr rt src path ((fp.key, fp.fieldNodes) :: groupsOf rest) accS st = _ at h
  cases hfd : fp.fieldDef with
  | none =>
    rw [execGroups_unknown hhead (hdef.symm.trans hfd)] at h
    exact .inl ⟨rfl, h⟩
  | some fd =>
    rw [execGroups_field hhead (hdef.symm.trans hfd)] at h
    exact .inr ⟨fd, rfl, andThen_inv_kf h hr hkf (kfExt_field c fuel dfr rt src _ fd fp.fieldNodes st)
      (fun _ _ => kfExt_groups c fuel dfr rt src path _ _ _)⟩

/-- a mark that leaves the marks as they were is none: the type is nullable -/
theorem kfMark_of_kf_eq {t : GType} {p : Path} {st s : St} (hs : KfExt st s) (h : (kfMark t p s).kfThunk = st.kfThunk) :
    t.isNonNull = false ∧ kfMark t p s = s := by
  cases hnn : t.isNonNull with
  | false => exact ⟨rfl, by simp only [kfMark, hnn, Bool.false_eq_true, if_false]⟩
  | true =>
    obtain ⟨k, hk⟩ := hs
    have := congrArg List.length h
    simp only [kfMark, hnn, if_true, List.length_cons, hk, List.length_append] at this
    omega

theorem kfExt_addErr (st : St) (p : Path) (d : Bool) : KfExt st (addErr st p d) := ⟨[], rfl⟩

theorem fpOK_fieldName {s : Schema} {rt : String} {P : FieldNode → Chain → Prop} {fp : FieldPlan} {fd : FieldDefS}
    (hfp : FpOK s rt P fp) (hfd : fp.fieldDef = some fd) : fd.name = fp.fieldName := by
  obtain ⟨n0, ch0, tl, _, hname, hdef, _⟩ := hfp.head
  rw [hname]
  exact fieldDef?_name (by rw [← hdef]; exact hfd)

section sv
variable (c : Ctx) (pv : Option Vars) (rank : String → Nat) (F : Nat)

/-- the witness run starts from SOME state, because the algorithm meets the value in the middle of a run (`complete_from_empty` moves
it to `St.empty`) -/
def Wit (cl : Closure) (j : JVal) : Prop :=
  (∀ x ∈ cl.fp.nodes, NodeOK c pv rank x.1 x.2) ∧
  match cl.r with
  | some (.ok v) =>
    ∃ st rS stS, complete c F true cl.t cl.rt cl.fp.fieldName cl.fp.fieldNodes cl.path v st = (rS, stS) ∧
      stS.kfThunk = st.kfThunk ∧ (rS = .ok j ∨ (rS = .fail ∧ cl.t.isNonNull = false ∧ j = .null))
  | _ => cl.t.isNonNull = false ∧ j = .null

mutual
inductive SV : PVal → JVal → Prop
  | leaf (j : JVal) : SV (.leaf j) j
  | list {xs : List PVal} {js : List JVal} : SVl xs js → SV (.list xs) (.list js)
  | obj {fs : List (String × PVal)} {gs : List (String × JVal)} : SVf fs gs → SV (.obj fs) (.obj gs)
  | deferred {cl : Closure} {j : JVal} : Wit c pv rank F cl j → SV (.deferred cl) j
inductive SVl : List PVal → List JVal → Prop
  | nil : SVl [] []
  | cons {x : PVal} {j : JVal} {xs : List PVal} {js : List JVal} : SV x j → SVl xs js → SVl (x :: xs) (j :: js)
inductive SVf : List (String × PVal) → List (String × JVal) → Prop
  | nil : SVf [] []
  | cons {k : String} {x : PVal} {j : JVal} {xs : List (String × PVal)} {js : List (String × JVal)} :
      SV x j → SVf xs js → SVf ((k, x) :: xs) ((k, j) :: js)
end

variable {c pv rank F}

theorem svl_append {x : PVal} {j : JVal} (hx : SV c pv rank F x j) : ∀ {xs : List PVal} {js : List JVal},
    SVl c pv rank F xs js → SVl c pv rank F (xs ++ [x]) (js ++ [j])
  | [], _, h => by cases h; exact .cons hx .nil
  | _ :: _, _, h => by
    cases h with
    | cons h1 h2 => exact .cons h1 (svl_append hx h2)

theorem svf_append {k : String} {x : PVal} {j : JVal} (hx : SV c pv rank F x j) :
    ∀ {fs : List (String × PVal)} {gs : List (String × JVal)},
    SVf c pv rank F fs gs → SVf c pv rank F (fs ++ [(k, x)]) (gs ++ [(k, j)])
  | [], _, h => by cases h; exact .cons hx .nil
  | _ :: _, _, h => by
    cases h with
    | cons h1 h2 => exact .cons h1 (svf_append hx h2)

theorem sv_null_iff {x : PVal} {j : JVal} (h : SV c pv rank F x j) (hnd : ∀ cl, x ≠ .deferred cl) :
    x = .leaf .null ↔ j = .null := by
  cases h with
  | leaf j => constructor <;> intro h <;> simp_all
  | list _ => constructor <;> intro h <;> cases h
  | obj _ => constructor <;> intro h <;> cases h
  | deferred _ => exact absurd rfl (hnd _)

end sv

section gen
variable (c : Ctx) (pv : Option Vars) (rank : String → Nat) (F : Nat)

local notation "alt0" => recompute c.schema c.frags pv

/-- outcome of the algorithm's `complete` against M's `mComplete` at one position -/
def CompleteRel (t : GType) (v : GoVal) (rS : Res JVal) (rM : Res PVal) : Prop :=
  match rS with
  | .ok j => ∃ x, rM = .ok x ∧ SV c pv rank F x j
  | .fail => rM = .fail ∨ (∃ cl, rM = .ok (.deferred cl) ∧ funcOf v ≠ none ∧ t.isNonNull = false ∧ Wit c pv rank F cl .null)
  | .fuelOut => False

structure GenP (fuel : Nat) : Prop where
  groups : ∀ dfr rt src path sid fps accS acc st mst rS stS, (∀ fp ∈ fps, FpOK c.schema rt (NodeOK c pv rank) fp) →
    SVf c pv rank F acc accS → execGroups c fuel dfr rt src path (groupsOf fps) accS st = (rS, stS) → rS ≠ .fuelOut →
    stS.kfThunk = st.kfThunk →
    match rS with
    | .ok fs => ∃ pfs, (mGroups c alt0 fuel dfr rt src path sid fps acc mst).1 = .ok pfs ∧ SVf c pv rank F pfs fs
    | .fail => (mGroups c alt0 fuel dfr rt src path sid fps acc mst).1 = .fail
    | .fuelOut => False
  field : ∀ dfr rt src p fid fp fd st mst rS stS, FpOK c.schema rt (NodeOK c pv rank) fp → fp.fieldDef = some fd →
    execField c fuel dfr rt src p fd fp.fieldNodes st = (rS, stS) → rS ≠ .fuelOut → stS.kfThunk = st.kfThunk →
    match rS with
    | .ok j => ∃ x, (mField c alt0 fuel dfr rt src p fid fp fd mst).1 = .ok x ∧ SV c pv rank F x j
    | .fail => (mField c alt0 fuel dfr rt src p fid fp fd mst).1 = .fail
    | .fuelOut => False
  complete : ∀ dfr t rt fid fp p v st mst rS stS, (∀ x ∈ fp.nodes, NodeOK c pv rank x.1 x.2) →
    complete c fuel dfr t rt fp.fieldName fp.fieldNodes p v st = (rS, stS) → rS ≠ .fuelOut → stS.kfThunk = st.kfThunk →
    CompleteRel c pv rank F t v rS (mComplete c alt0 fuel dfr t rt fid fp p v mst).1
  items : ∀ dfr item rt fid fp p xs i accS acc st mst rS stS, (∀ x ∈ fp.nodes, NodeOK c pv rank x.1 x.2) →
    SVl c pv rank F acc accS →
    completeItems c fuel dfr item rt fp.fieldName fp.fieldNodes p xs i accS st = (rS, stS) → rS ≠ .fuelOut → stS.kfThunk = st.kfThunk →
    match rS with
    | .ok js => ∃ ys, (mItems c alt0 fuel dfr item rt fid fp p xs i acc mst).1 = .ok ys ∧ SVl c pv rank F ys js
    | .fail => (mItems c alt0 fuel dfr item rt fid fp p xs i acc mst).1 = .fail
    | .fuelOut => False

end gen

end GqlModel.Plan
