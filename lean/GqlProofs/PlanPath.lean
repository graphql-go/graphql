import GqlProofs.PlanTree
import GqlProofs.PlanStep
/-! # Where M's events happen: every resolver call and thunk call is logged under the response path it belongs to

`PathP`: phase one at response path `p` only logs events under `p`, and every closure it leaves in the value was created for a
position under `p`. Forcing a closure created for a position under `p` logs under `p` again (`force_under`), so do the depth-first
passes. At the root of a mutation this gives one contiguous block of events per top-level field, in plan order
(`mRootMut_serial`). Holds for every instance of the sub-plan oracle `alt`. -/
namespace GqlModel.Plan
open GqlModel.Exec

def Event.path : Event → Path
  | .call e => e.path
  | .force p => p

/-- the closure was created for a position under `p` -/
def Under (p : Path) (cl : Closure) : Prop := p <+: cl.path

/-- the events added from `st` to `st'` (newest first) all lie under `p` -/
def EvExt (p : Path) (st st' : MSt) : Prop := ∃ d, st'.events = d ++ st.events ∧ ∀ e ∈ d, p <+: e.path

theorem EvExt.refl (p : Path) (st : MSt) : EvExt p st st := ⟨[], rfl, fun _ h => by cases h⟩

theorem evExt_trans (p : Path) : ∀ a b c : MSt, EvExt p a b → EvExt p b c → EvExt p a c := by
  intro a b c h1 h2
  obtain ⟨d1, e1, u1⟩ := h1
  obtain ⟨d2, e2, u2⟩ := h2
  refine ⟨d2 ++ d1, by rw [e2, e1, List.append_assoc], ?_⟩
  intro e he
  rcases List.mem_append.1 he with he | he
  · exact u2 e he
  · exact u1 e he

theorem EvExt.weaken {p q : Path} {a b : MSt} (hpq : q <+: p) (h : EvExt p a b) : EvExt q a b := by
  obtain ⟨d, e, u⟩ := h
  exact ⟨d, e, fun x hx => hpq.trans (u x hx)⟩

theorem EvExt.of_events_eq {p : Path} {a b : MSt} (h : b.events = a.events) : EvExt p a b :=
  ⟨[], by simp [h], fun _ h => by cases h⟩

theorem evExt_logEv {p : Path} (st : MSt) (e : Event) (h : p <+: e.path) : EvExt p st (st.logEv e) :=
  ⟨[e], rfl, fun x hx => by simp only [List.mem_singleton] at hx; subst hx; exact h⟩

theorem under_weaken {p q : Path} (hpq : q <+: p) : ∀ cl, Under p cl → Under q cl := fun _ h => hpq.trans h

section path
variable (c : Ctx) (alt : Alt)

/-- every field is `Keeps (EvExt p) (AllCl (Under p)) st (run)` written out -/
structure PathP (fuel : Nat) : Prop where
  groups : ∀ dfr rt src path sid fps acc st, (∀ x ∈ acc, x.2.AllCl (Under path)) →
    EvExt path st (mGroups c alt fuel dfr rt src path sid fps acc st).2 ∧
    ∀ fs, (mGroups c alt fuel dfr rt src path sid fps acc st).1 = .ok fs → ∀ x ∈ fs, x.2.AllCl (Under path)
  field : ∀ dfr rt src p fid fp fd st,
    EvExt p st (mField c alt fuel dfr rt src p fid fp fd st).2 ∧
    ∀ v, (mField c alt fuel dfr rt src p fid fp fd st).1 = .ok v → v.AllCl (Under p)
  complete : ∀ dfr t rt fid fp p v st,
    EvExt p st (mComplete c alt fuel dfr t rt fid fp p v st).2 ∧
    ∀ x, (mComplete c alt fuel dfr t rt fid fp p v st).1 = .ok x → x.AllCl (Under p)
  items : ∀ dfr item rt fid fp p xs i acc st, (∀ x ∈ acc, x.AllCl (Under p)) →
    EvExt p st (mItems c alt fuel dfr item rt fid fp p xs i acc st).2 ∧
    ∀ ys, (mItems c alt fuel dfr item rt fid fp p xs i acc st).1 = .ok ys → ∀ y ∈ ys, y.AllCl (Under p)

variable {c alt}

theorem keeps_under_weaken {α : Type} {p q : Path} (hpq : q <+: p) {Q : (Closure → Prop) → α → Prop}
    (hQ : ∀ a, Q (Under p) a → Q (Under q) a) {st : MSt} {x : Res α × MSt} (h : Keeps (EvExt p) (Q (Under p)) st x) :
    Keeps (EvExt q) (Q (Under q)) st x :=
  h.mono (fun _ h => h.weaken hpq) hQ

theorem pathP : ∀ fuel, PathP c alt fuel
  | 0 => by
    refine ⟨?_, ?_, ?_, ?_⟩
    · intro dfr rt src path sid fps acc st _; rw [mGroups_zero]; exact keeps_fuelOut (.refl _ _)
    · intro dfr rt src p fid fp fd st; rw [mField_zero]; exact keeps_fuelOut (.refl _ _)
    · intro dfr t rt fid fp p v st; rw [mComplete_zero]; exact keeps_fuelOut (.refl _ _)
    · intro dfr item rt fid fp p xs i acc st _; rw [mItems_zero]; exact keeps_fuelOut (.refl _ _)
  | fuel + 1 => by
    have ih := pathP fuel
    refine ⟨?_, ?_, ?_, ?_⟩
    · intro dfr rt src path sid fps acc st hacc
      show Keeps (EvExt path) (fun fs : List (String × PVal) => ∀ x ∈ fs, x.2.AllCl (Under path)) st _
      cases fps with
      | nil => rw [mGroups_nil]; exact keeps_ok (.refl _ _) hacc
      | cons fp rest =>
        cases hp : fp.pred.eval c.schema c.vars with
        | false => rw [mGroups_skip (.inl hp)]; exact ih.groups dfr rt src path sid rest acc st hacc
        | true =>
          cases hfd : fp.fieldDef with
          | none => rw [mGroups_skip (.inr hfd)]; exact ih.groups dfr rt src path sid rest acc st hacc
          | some fd =>
            rw [mGroups_field hp hfd]
            have hf : Keeps (EvExt path) (PVal.AllCl (Under path)) st _ :=
              keeps_under_weaken (Q := PVal.AllCl) (List.prefix_append path [.key fp.key])
                (allCl_imp (under_weaken (List.prefix_append path [.key fp.key]))) (ih.field dfr rt src _ (sid ++ [(rt, fp.key)]) fp fd st)
            exact hf.andThen (evExt_trans path) fun v s hv =>
              ih.groups dfr rt src path sid rest (acc ++ [(fp.key, v)]) s (forall_mem_append_singleton (P := fun (x : String × PVal) => x.2.AllCl (Under path)) hacc hv)
    · intro dfr rt src p fid fp fd st
      show Keeps (EvExt p) (PVal.AllCl (Under p)) st _
      cases hn : fd.name == "__typename" with
      | true => rw [mField_typename hn]; exact keeps_ok (.refl _ _) (allCl_leaf _)
      | false =>
        rw [mField_succ hn]
        have hlog : EvExt p st (st.logEv (callEv c dfr rt src p fp fd)) := evExt_logEv st _ (List.prefix_refl _)
        cases c.world.outcome src fd.name with
        | fail => exact keeps_absorb _ (evExt_trans p _ _ _ hlog (.of_events_eq rfl)) (allCl_leaf _)
        | value v =>
          exact Keeps.after (evExt_trans p) hlog <| Keeps.recover (evExt_trans p) (ih.complete dfr fd.type rt fid fp p v _) fun _ =>
            keeps_absorb _ (.refl _ _) (allCl_leaf _)
    · intro dfr t rt fid fp p v st
      cases hfo : funcOf v with
      | some r => rw [mComplete_func hfo]; exact keeps_ok (.refl _ _) (allCl_deferred.2 (List.prefix_refl _))
      | none =>
        rw [mComplete_succ hfo]
        cases shape c t v with
        | nonNull inner =>
          refine Keeps.andThen (evExt_trans p) (ih.complete dfr inner rt fid fp p v st) fun x s hx => ?_
          unfold nonNullGuard
          cases x.isNull
          · exact keeps_ok (.refl _ _) hx
          · exact keeps_fail (.of_events_eq rfl)
        | null => exact keeps_ok (.refl _ _) (allCl_leaf _)
        | items item xs =>
          exact Keeps.andThen (evExt_trans p) (ih.items dfr item rt fid fp p xs 0 [] st (fun _ h => by cases h)) fun js _ hjs =>
            keeps_ok (.refl _ _) (allCl_list.2 hjs)
        | leaf j => exact keeps_ok (.refl _ _) (allCl_leaf _)
        | object ot =>
          refine Keeps.after (evExt_trans p) (st' := { st with memo := (alt st.memo fid fp ot).2 }) (.of_events_eq rfl) ?_
          exact Keeps.andThen (evExt_trans p) (ih.groups dfr ot v p fid _ [] _ (fun _ h => by cases h)) fun fs _ hfs =>
            keeps_ok (.refl _ _) (allCl_obj.2 hfs)
        | error => exact keeps_fail (.of_events_eq rfl)
    · intro dfr item rt fid fp p xs i acc st hacc
      cases xs with
      | nil => rw [mItems_nil]; exact keeps_ok (.refl _ _) hacc
      | cons x xs =>
        rw [mItems_cons]
        have hc : Keeps (EvExt p) (PVal.AllCl (Under p)) st _ :=
          keeps_under_weaken (Q := PVal.AllCl) (List.prefix_append p [.idx i]) (allCl_imp (under_weaken (List.prefix_append p [.idx i])))
            (ih.complete dfr item rt fid fp _ x st)
        refine (hc.recover (evExt_trans p) fun _ => keeps_absorb _ (.refl _ _) (allCl_leaf _)).andThen (evExt_trans p) ?_
        exact fun j s hj => ih.items dfr item rt fid fp p xs (i + 1) (acc ++ [j]) s (forall_mem_append_singleton hacc hj)

theorem force_under (fuel : Nat) (p : Path) (cl : Closure) (st : MSt) (hcl : Under p cl) :
    EvExt p st (force c alt fuel cl st).2 ∧ ∀ x, (force c alt fuel cl st).1 = .ok x → x.AllCl (Under p) := by
  rw [force_eq]
  have hlog : EvExt p st (st.logEv (.force cl.path)) := evExt_logEv st _ hcl
  cases cl.r with
  | none => exact keeps_absorb _ (.of_events_eq rfl) (allCl_leaf _)
  | some r =>
    cases r with
    | err => exact keeps_absorb _ (evExt_trans p _ _ _ hlog (.of_events_eq rfl)) (allCl_leaf _)
    | ok v =>
      have hc : Keeps (EvExt p) (PVal.AllCl (Under p)) (st.logEv (.force cl.path)) _ :=
        keeps_under_weaken (Q := PVal.AllCl) hcl (allCl_imp (under_weaken hcl))
          ((pathP (c := c) (alt := alt) fuel).complete true cl.t cl.rt cl.fid cl.fp cl.path v _)
      exact Keeps.after (evExt_trans p) hlog <| hc.recover (evExt_trans p) fun _ => keeps_absorb _ (.refl _ _) (allCl_leaf _)

/-- a forcing function that respects positions -/
def FrcUnder (frc : Closure → MSt → Res PVal × MSt) : Prop :=
  ∀ p cl st, Under p cl → EvExt p st (frc cl st).2 ∧ ∀ x, (frc cl st).1 = .ok x → x.AllCl (Under p)

theorem forceLoop_under {frc : Closure → MSt → Res PVal × MSt} (hf : FrcUnder frc) (p : Path) :
    ∀ (n : Nat) (v : PVal) (st : MSt), v.AllCl (Under p) →
    EvExt p st (forceLoop frc n v st).2 ∧ ∀ x, (forceLoop frc n v st).1 = .ok x → x.AllCl (Under p)
  | 0, v, st, _ => by rw [forceLoop_zero]; exact keeps_fuelOut (.refl _ _)
  | n + 1, v, st, hv => by
    cases v with
    | deferred cl =>
      rw [forceLoop_deferred]
      exact Keeps.andThen (evExt_trans p) (hf p cl st (allCl_deferred.1 hv)) fun x s hx => forceLoop_under hf p n x s hx
    | _ => rw [forceLoop_succ]; exact keeps_ok (.refl _ _) hv

theorem forceAll_under (fuel : Nat) (p : Path) (cl : Closure) (st : MSt) (hcl : Under p cl) :
    EvExt p st (forceAll c alt fuel cl st).2 ∧ ∀ x, (forceAll c alt fuel cl st).1 = .ok x → x.AllCl (Under p) :=
  forceLoop_under (fun p cl st h => force_under fuel p cl st h) p (fuel + 2) (.deferred cl) st (allCl_deferred.2 hcl)

end path

structure DfsU (frc : Closure → MSt → Res PVal × MSt) (fuel : Nat) : Prop where
  val : ∀ p v st, v.AllCl (Under p) →
    EvExt p st (dfsVal frc fuel v st).2 ∧ ∀ x, (dfsVal frc fuel v st).1 = .ok x → x.AllCl (Under p)
  fields : ∀ p ks fs st, (∀ x ∈ fs, x.2.AllCl (Under p)) →
    EvExt p st (dfsFields frc fuel ks fs st).2 ∧ ∀ gs, (dfsFields frc fuel ks fs st).1 = .ok gs → ∀ x ∈ gs, x.2.AllCl (Under p)
  items : ∀ p xs acc st, (∀ x ∈ xs, x.AllCl (Under p)) → (∀ x ∈ acc, x.AllCl (Under p)) →
    EvExt p st (dfsItems frc fuel xs acc st).2 ∧ ∀ ys, (dfsItems frc fuel xs acc st).1 = .ok ys → ∀ y ∈ ys, y.AllCl (Under p)

theorem dfsU {frc : Closure → MSt → Res PVal × MSt} (hf : FrcUnder frc) : ∀ fuel, DfsU frc fuel
  | 0 => by
    refine ⟨?_, ?_, ?_⟩
    · intro p v st _; rw [dfsVal_zero]; exact keeps_fuelOut (.refl _ _)
    · intro p ks fs st _; rw [dfsFields_zero]; exact keeps_fuelOut (.refl _ _)
    · intro p xs acc st _ _; rw [dfsItems_zero]; exact keeps_fuelOut (.refl _ _)
  | fuel + 1 => by
    have ih : DfsU frc fuel := dfsU hf fuel
    have descend : ∀ (p : Path) (x : PVal) (st : MSt), x.AllCl (Under p) →
        Keeps (EvExt p) (PVal.AllCl (Under p)) st (dfsDescend frc fuel x st) := by
      intro p x st hx
      cases x with
      | obj fs =>
        exact Keeps.andThen (evExt_trans p) (ih.fields p (sortedKeys fs) fs st (allCl_obj.1 hx)) fun gs _ hgs =>
          keeps_ok (.refl _ _) (allCl_obj.2 hgs)
      | list xs =>
        exact Keeps.andThen (evExt_trans p) (ih.items p xs [] st (allCl_list.1 hx) (fun _ h => by cases h)) fun ys _ hys =>
          keeps_ok (.refl _ _) (allCl_list.2 hys)
      | leaf j => exact keeps_ok (.refl _ _) hx
      | deferred cl => exact keeps_ok (.refl _ _) hx
    refine ⟨?_, ?_, ?_⟩
    · intro p v st hv
      cases v with
      | deferred cl =>
        rw [dfsVal_deferred]
        exact Keeps.andThen (evExt_trans p) (hf p cl st (allCl_deferred.1 hv)) fun x s hx => descend p x s hx
      | leaf j => exact descend p _ st hv
      | list xs => rw [dfsVal_value (v := .list xs) (fun _ => nofun)]; exact descend p _ st hv
      | obj fs => rw [dfsVal_value (v := .obj fs) (fun _ => nofun)]; exact descend p _ st hv
    · intro p ks fs st hfs
      cases ks with
      | nil => rw [dfsFields_nil]; exact keeps_ok (.refl _ _) hfs
      | cons k ks =>
        rw [dfsFields_cons]
        cases hl : lookupF fs k with
        | none => exact ih.fields p ks fs st hfs
        | some v =>
          exact Keeps.andThen (evExt_trans p) (ih.val p v st (hfs _ (lookupF_mem hl))) fun v' s hv' =>
            ih.fields p ks _ s (allCl_setF hfs hv')
    · intro p xs acc st hxs hacc
      cases xs with
      | nil => rw [dfsItems_nil]; exact keeps_ok (.refl _ _) hacc
      | cons x xs =>
        rw [dfsItems_cons]
        exact Keeps.andThen (evExt_trans p) (ih.val p x st (hxs x List.mem_cons_self)) fun x' s hx' =>
          ih.items p xs _ s (fun y hy => hxs y (List.mem_cons_of_mem _ hy)) (forall_mem_append_singleton hacc hx')

/-- the event belongs to the top-level field with response key `k` -/
def evUnderTop (k : String) (e : Event) : Bool := e.path.head? == some (PathSeg.key k)

/-- `evs` (chronological) is the concatenation of one contiguous (possibly empty) segment per key, in key order, the segment of `k`
lying entirely under `k`: no resolver call and no thunk call of a later top-level field happens before everything of an earlier
one — its resolvers, the thunks it deferred, the resolvers run while forcing them — is done -/
def MSerial : List String → List Event → Prop
  | [], evs => evs = []
  | k :: ks, evs => ∃ b rest, evs = b ++ rest ∧ (∀ e ∈ b, evUnderTop k e = true) ∧ MSerial ks rest

theorem mserial_nil_block (k : String) (ks : List String) (evs : List Event) (h : MSerial ks evs) : MSerial (k :: ks) evs :=
  ⟨[], evs, rfl, fun _ hm => absurd hm List.not_mem_nil, h⟩

theorem mserial_all_nil : ∀ ks : List String, MSerial ks []
  | [] => rfl
  | k :: ks => mserial_nil_block k ks [] (mserial_all_nil ks)

theorem evUnderTop_of_prefix {k : String} {e : Event} (h : [PathSeg.key k] <+: e.path) : evUnderTop k e = true := by
  obtain ⟨t, ht⟩ := h
  unfold evUnderTop
  rw [← ht]
  simp

theorem mRootMut_serial (c : Ctx) (alt : Alt) (dfuel : Nat) (rt : String) :
    ∀ (fuel : Nat) (fps : List FieldPlan) (acc : List (String × PVal)) (st : MSt),
    ∃ new, (mRootMut c alt dfuel fuel rt fps acc st).2.events = new ++ st.events ∧
      MSerial (fps.map (·.key)) new.reverse
  | 0, fps, acc, st => ⟨[], by rw [mRootMut_zero, List.nil_append], by simpa using mserial_all_nil _⟩
  | fuel + 1, [], acc, st => ⟨[], by rw [mRootMut_nil, List.nil_append], by simp [MSerial]⟩
  | fuel + 1, fp :: rest, acc, st => by
    have skip : ∃ new, (mRootMut c alt dfuel fuel rt rest acc st).2.events = new ++ st.events ∧
        MSerial ((fp :: rest).map (·.key)) new.reverse := by
      obtain ⟨new, h1, h2⟩ := mRootMut_serial c alt dfuel rt fuel rest acc st
      exact ⟨new, h1, mserial_nil_block _ _ _ h2⟩
    cases hp : fp.pred.eval c.schema c.vars with
    | false => rw [mRootMut_skip (.inl hp)]; exact skip
    | true =>
      cases hfd : fp.fieldDef with
      | none => rw [mRootMut_skip (.inr hfd)]; exact skip
      | some fd =>
        rw [mRootMut_field hp hfd]
        -- a block of events under this field's key, after which the run stops
        have stop : ∀ (d : List Event) (stE : MSt), stE.events = d ++ st.events → (∀ e ∈ d, [PathSeg.key fp.key] <+: e.path) →
            ∃ new, stE.events = new ++ st.events ∧ MSerial ((fp :: rest).map (·.key)) new.reverse := by
          intro d stE he hu
          refine ⟨d, he, d.reverse, [], by simp, ?_, mserial_all_nil _⟩
          intro e hm
          exact evUnderTop_of_prefix (hu e (List.mem_reverse.1 hm))
        have hf := (pathP (c := c) (alt := alt) fuel).field false rt .nil [.key fp.key] [(rt, fp.key)] fp fd st
        generalize mField c alt fuel false rt .nil [.key fp.key] [(rt, fp.key)] fp fd st = z at hf ⊢
        obtain ⟨r1, st1⟩ := z
        obtain ⟨⟨d1, e1, u1⟩, hcl⟩ := hf
        cases r1 with
        | fail => exact stop d1 st1 e1 u1
        | fuelOut => exact stop d1 st1 e1 u1
        | ok v =>
          have hd := (dfsU (frc := forceAll c alt dfuel) (fun p cl st h => forceAll_under dfuel p cl st h) dfuel).val
            [.key fp.key] v st1 (hcl v rfl)
          rw [andThen_ok]
          generalize dfsVal (forceAll c alt dfuel) dfuel v st1 = z2 at hd ⊢
          obtain ⟨r2, st2⟩ := z2
          obtain ⟨⟨d2, e2, u2⟩, _⟩ := hd
          have e12 : st2.events = (d2 ++ d1) ++ st.events := by rw [e2, e1, List.append_assoc]
          have u12 : ∀ e ∈ d2 ++ d1, [PathSeg.key fp.key] <+: e.path := by
            intro e he
            rcases List.mem_append.1 he with he | he
            · exact u2 e he
            · exact u1 e he
          cases r2 with
          | fail => exact stop _ st2 e12 u12
          | fuelOut => exact stop _ st2 e12 u12
          | ok v' =>
            obtain ⟨new, h1, h2⟩ := mRootMut_serial c alt dfuel rt fuel rest (acc ++ [(fp.key, v')]) st2
            refine ⟨new ++ (d2 ++ d1), by rw [andThen_ok, h1, e12]; simp only [List.append_assoc], ?_⟩
            refine ⟨(d2 ++ d1).reverse, new.reverse, by simp, ?_, h2⟩
            intro e hm
            exact evUnderTop_of_prefix (u12 e (List.mem_reverse.1 hm))

end GqlModel.Plan
