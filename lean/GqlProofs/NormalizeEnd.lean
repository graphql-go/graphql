import GqlProofs.ExecSelectOp
import GqlProofs.RequestSim
import GqlProofs.NormalizeRel
/-! C06 (normaliser): the normalised request against the original one. `normalizeDocument` replaces the selected operation
(`QDef`); the walk's relation, the variables and the unchanged fragment table make the two selected operations related, hence
the two requests. -/
namespace GqlModel.Normalize
open GqlModel.Coerce GqlModel.Exec

def QDef (o n d d' : Definition) : Prop := d' = d ∨ (d = o ∧ d' = n)

theorem QDef.kind {o n : Definition} (h : defKind n = defKind o) : ∀ d d', QDef o n d d' → defKind d' = defKind d
  | _, _, .inl rfl => rfl
  | _, _, .inr ⟨rfl, rfl⟩ => h

theorem QDef.all2_refl (o n : Definition) : ∀ defs : List Definition, All2 (QDef o n) defs defs
  | [] => trivial
  | _ :: ds => ⟨Or.inl rfl, QDef.all2_refl o n ds⟩

theorem All2.replaceAt (o n : Definition) : ∀ (defs : List Definition) (i : Nat), defs[i]? = some o →
    All2 (QDef o n) defs (replaceAt defs i n)
  | [], _, h => by simp at h
  | d :: ds, 0, h => by
    cases Option.some.inj (List.getElem?_cons_zero ▸ h)
    exact ⟨Or.inr ⟨rfl, rfl⟩, QDef.all2_refl o n ds⟩
  | d :: ds, i + 1, h => ⟨Or.inl rfl, All2.replaceAt o n ds i (List.getElem?_cons_succ ▸ h)⟩

theorem filterMap_replaceAt {α β : Type} (f : α → Option β) : ∀ (xs : List α) (i : Nat) (x y : α),
    xs[i]? = some x → f x = none → f y = none → (replaceAt xs i y).filterMap f = xs.filterMap f
  | [], _, _, _, h, _, _ => by simp at h
  | a :: as, 0, x, y, h, hx, hy => by
    cases Option.some.inj (List.getElem?_cons_zero ▸ h)
    simp only [replaceAt, List.filterMap_cons, hx, hy]
  | a :: as, i + 1, x, y, h, hx, hy => by
    simp only [replaceAt, List.filterMap_cons, filterMap_replaceAt f as i x y (List.getElem?_cons_succ ▸ h) hx hy]

/-- every operation's field-argument values are well-formed (`Reader.WFValue`; what the parser produces) -/
def DocLex (doc : Document) : Prop :=
  ∀ op name vars dirs sel loc, Definition.operation op name vars dirs sel loc ∈ doc.defs → LexSet sel

theorem walk_names (s : Schema) (keep : List String) (root : String) (sel : SelectionSet) (vars : List VarDef)
    (docNames : List String) :
    (∀ e ∈ (normSet s keep root sel (initState vars docNames)).2.entries,
      e.name ∉ userVarNames vars ∧ e.name ∉ docNames) ∧
    ((normSet s keep root sel (initState vars docNames)).2.entries.map (·.name)).Nodup := by
  have h0 : NamesOK (initState vars docNames) := ⟨fun e he => (nomatch he), List.nodup_nil⟩
  obtain ⟨hnames, htaken⟩ := normSet_namesOK (keep := keep) s sel root _ h0
  refine ⟨fun e he => ?_, hnames.2⟩
  have := (hnames.1 e he).1
  rw [htaken] at this
  simpa only [initState, List.mem_append, not_or] using this

/-- an operation of the document does not read the synthetic inputs made for the normalised one: their names avoid every
variable name of the document -/
theorem getVariableValues_synth (s : Schema) (doc : Document) (root : String) (sel : SelectionSet) (vars : List VarDef)
    (inputs : Vars) {op : OpType} {name : Option Name} {vars2 : List VarDef} {dirs : List Directive} {sel2 : SelectionSet}
    {loc : Loc} (hd : Definition.operation op name vars2 dirs sel2 loc ∈ doc.defs) :
    getVariableValues s vars2 ((normSet s (fragKeys doc) root sel (initState vars (docVarNames doc))).2.synth ++ inputs) =
      getVariableValues s vars2 inputs := by
  apply getVariableValues_extra
  intro vd hvd p hp heq
  unfold NState.synth at hp
  obtain ⟨e, hm, rfl⟩ := List.mem_map.mp hp
  apply ((walk_names s (fragKeys doc) root sel vars (docVarNames doc)).1 e hm).2
  rw [show e.name = vd.var.value from heq]
  apply List.mem_flatMap_of_mem hd
  simp only [defVars, List.mem_append, List.mem_flatMap]
  exact Or.inl (Or.inl ⟨vd, hvd, List.mem_cons_self⟩)

theorem normalised_defs (doc : Document) (i : Nat) (o n : Definition) (hdef : doc.defs[i]? = some o)
    (hk : defKind n = defKind o) (ho : fragOf o = none) (hn : fragOf n = none) :
    (∀ d d', QDef o n d d' → defKind d' = defKind d) ∧
    All2 (QDef o n) doc.defs (Document.mk (replaceAt doc.defs i n) doc.loc).defs ∧
    (Document.mk (replaceAt doc.defs i n) doc.loc).fragments = doc.fragments :=
  ⟨QDef.kind hk, All2.replaceAt o n doc.defs i hdef,
   by rw [fragments_eq, fragments_eq]; exact filterMap_replaceAt fragOf doc.defs i o n hdef ho hn⟩


section Main
variable (s : Schema) (hcc : customLti s) (hsch : SchemaOK s)
include hcc hsch

theorem opSim_normalised (w : World) (keep : List String) (doc : Document) (inputs : Vars) (op : OpType) (name : Option Name)
    (vars : List VarDef) (dirs : List Directive) (sel : SelectionSet) (loc : Loc) (root : String)
    (hroot : s.rootFor op.toString = some root) (hvars : ∀ x ∈ setVars sel, x ∈ docVarNames doc) (hlex : LexSet sel) :
    OpSim s w doc.fragments doc.fragments inputs
      ((normalizeOperation s keep root (docVarNames doc) (.operation op name vars dirs sel loc)).2 ++ inputs)
      (.operation op name vars dirs sel loc)
      (normalizeOperation s keep root (docVarNames doc) (.operation op name vars dirs sel loc)).1 := by
  refine ⟨rfl, fun op' name' vars0 dirs' sel0 loc' hd => ?_⟩
  cases hd
  refine ⟨_, _, _, _, _, rfl, fun root' hroot' => ?_⟩
  cases Option.some.inj (hroot.symm.trans hroot')
  let st := (normSet s keep root sel (initState vars (docVarNames doc))).2
  obtain ⟨hfresh, hnd⟩ := walk_names s keep root sel vars (docVarNames doc)
  cases hv : getVariableValues s vars inputs with
  | error e =>
    exact (getVariableValues_user_first s vars _ st.entries inputs fun e he => (hfresh e he).1).trans (by rw [hv])
  | ok v =>
    have hAg : ∀ x ∈ docVarNames doc, Ag v (extendVars s st.entries v) x := fun x hx =>
      lookupD_extendVars_other s st.entries v x (fun e he heq => (hfresh e he).2 (heq ▸ hx))
    obtain ⟨hrel, hesOK, _⟩ := normSet_rel (keep := keep) s hcc hsch v (extendVars s st.entries v) sel root
      (initState vars (docVarNames doc)) st.entries (fun e he => by cases he) hlex (fun x hx => hAg x (hvars x hx))
      ⟨[], (List.append_nil _).symm⟩ (realises_extendVars s st.entries v hnd)
    have hgv := getVariableValues_normalised s vars st.entries inputs (fun e he => (hfresh e he).1) hnd (fun e he =>
      ⟨hesOK.isInput he, (hesOK.agree hcc he []).1⟩)
    rw [hv] at hgv
    refine ⟨_, hgv, fragsRel_same ⟨s, doc.fragments, v, w⟩ _ fun n tc sel0 hfrag x hx => ?_, rfl, hrel⟩
    obtain ⟨nm, ds, l, _, hd⟩ := frag_mem_doc (c := ⟨s, doc.fragments, v, w⟩) rfl hfrag
    exact hAg x (List.mem_flatMap_of_mem hd (by simp only [defVars, List.mem_append]; exact Or.inr hx))

theorem reqSim_normalised (w : World) (doc doc' : Document) (opName : String) (inputs synth : Vars)
    (hnorm : normalizeDocument s doc opName = .ok doc' synth) (hlex : DocLex doc) :
    ReqSim s w opName doc inputs doc' (synth ++ inputs) := by
  rcases normalizeDocument_ok hnorm with ⟨rfl, rfl⟩ | ⟨i, op, name, vars, dirs, sel, loc, root, hdef, hroot, rfl, rfl⟩
  · exact ReqSim.refl
  · have hmem := List.mem_of_getElem? hdef
    obtain ⟨hk, hall, hfrags⟩ := normalised_defs doc i _
      (normalizeOperation s (fragKeys doc) root (docVarNames doc) (.operation op name vars dirs sel loc)).1 hdef rfl rfl rfl
    refine ReqSim.of_rel hk hall ?_
    rw [hfrags]
    rintro d d' hsel (rfl | ⟨rfl, rfl⟩)
    · -- another operation is the selected one: only the inputs differ, on names no definition uses
      exact OpSim.same fun op2 name2 vars2 dirs2 sel2 loc2 hd =>
        getVariableValues_synth s doc root sel vars inputs (hd ▸ Exec.selectOperation_mem hsel)
    · exact opSim_normalised s hcc hsch w (fragKeys doc) doc inputs op name vars dirs sel loc root hroot
        (fun x hx => List.mem_flatMap_of_mem hmem (by simp only [defVars, List.mem_append]; exact Or.inr hx))
        (hlex op name vars dirs sel loc hmem)

end Main

end GqlModel.Normalize
