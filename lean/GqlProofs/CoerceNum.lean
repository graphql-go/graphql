import GqlProofs.CoerceBasic
/-! C05: text of numbers: what any text that reads as an integer denotes when read as a decimal or as a float literal;
rendering an integer / canonical decimal and reading it back (literal ↔ value agreement). -/
namespace GqlModel.Coerce

theorem isDigit_ne {c d : Char} (hc : c.isDigit = true) (hd : d.isDigit = false) : c ≠ d := by
  intro h; subst h; rw [hc] at hd; cases hd

theorem allDigits_toDigits (n : Nat) : allDigits (Nat.toDigits 10 n) = true := by
  unfold allDigits
  simp only [Bool.and_eq_true, Bool.not_eq_true', List.all_eq_true]
  refine ⟨?_, fun c hc => Nat.isDigit_of_mem_toDigits (by decide) (by decide) hc⟩
  cases h : Nat.toDigits 10 n with
  | nil => exact absurd h Nat.toDigits_ne_nil
  | cons c cs => rfl

theorem natOfDigits_toDigits (n : Nat) : natOfDigits (Nat.toDigits 10 n) = some n := by
  unfold natOfDigits
  simp [allDigits_toDigits, Nat.ofDigitChars_ten_toDigits]

theorem intOfChars_cons {c : Char} (hc : c ≠ '-') (ds : List Char) :
    intOfChars (c :: ds) = (natOfDigits (c :: ds)).map (fun n => (n : Int)) := by
  unfold intOfChars
  split
  · rename_i heq; simp at heq; exact absurd heq.1 hc
  · rfl

theorem intOfChars_digits {cs : List Char} (h : allDigits cs = true) :
    intOfChars cs = (natOfDigits cs).map (fun n => (n : Int)) := by
  cases cs with
  | nil => simp [allDigits] at h
  | cons c cs =>
    simp only [allDigits, Bool.and_eq_true, List.all_eq_true] at h
    exact intOfChars_cons (isDigit_ne (h.2 c (by simp)) (by decide)) cs

theorem intOfChars_intChars (i : Int) : intOfChars (intChars i) = some i := by
  unfold intChars
  split
  · rename_i h
    simp only [intOfChars, natOfDigits_toDigits]
    simp; omega
  · rename_i h
    rw [intOfChars_digits (allDigits_toDigits _), natOfDigits_toDigits]
    simp; omega


theorem splitDot_digits {cs : List Char} (h : ∀ c ∈ cs, c.isDigit = true) : splitDot cs = (cs, none) := by
  induction cs with
  | nil => rfl
  | cons c cs ih =>
    have hc : c ≠ '.' := isDigit_ne (h c (by simp)) (by decide)
    simp only [splitDot, beq_iff_eq, hc, if_false, ih (fun d hd => h d (by simp [hd]))]

theorem splitDot_append_dot {a b : List Char} (h : ∀ c ∈ a, c.isDigit = true) :
    splitDot (a ++ '.' :: b) = (a, some b) := by
  induction a with
  | nil => simp [splitDot]
  | cons c cs ih =>
    have hc : c ≠ '.' := isDigit_ne (h c (by simp)) (by decide)
    simp only [List.cons_append, splitDot, beq_iff_eq, hc, if_false, ih (fun d hd => h d (by simp [hd]))]

def noExpChar (c : Char) : Bool := c != 'e' && c != 'E'

theorem splitExp_noexp {cs : List Char} (h : ∀ c ∈ cs, noExpChar c = true) : splitExp cs = (cs, none) := by
  induction cs with
  | nil => rfl
  | cons c cs ih =>
    have hc := h c (by simp)
    simp only [noExpChar, Bool.and_eq_true, bne_iff_ne, ne_eq] at hc
    simp only [splitExp, ih (fun d hd => h d (by simp [hd]))]
    simp [hc.1, hc.2]

theorem noExp_of_digit {c : Char} (h : c.isDigit = true) : noExpChar c = true := by
  simp only [noExpChar, Bool.and_eq_true, bne_iff_ne, ne_eq]
  exact ⟨isDigit_ne h (by decide), isDigit_ne h (by decide)⟩

theorem digits_of_allDigits {cs : List Char} (h : allDigits cs = true) : ∀ c ∈ cs, c.isDigit = true := by
  simp only [allDigits, Bool.and_eq_true, List.all_eq_true] at h
  exact h.2

theorem parseDec_head_digit {c : Char} {cs : List Char} (hc : c.isDigit = true) :
    parseDec (c :: cs) = (unsignedDec (c :: cs)).map (fun p => ((p.1 : Int), p.2)) := by
  have : c ≠ '-' := isDigit_ne hc (by decide)
  unfold parseDec
  split
  · rename_i heq; simp at heq; exact absurd heq.1 this
  · rfl

theorem parseDec_digits {cs : List Char} (h : allDigits cs = true) :
    parseDec cs = (unsignedDec cs).map (fun p => ((p.1 : Int), p.2)) := by
  cases cs with
  | nil => simp [allDigits] at h
  | cons c cs => exact parseDec_head_digit (digits_of_allDigits h c (by simp))

theorem natOfDigits_allDigits {cs : List Char} {n : Nat} (h : natOfDigits cs = some n) : allDigits cs = true := by
  unfold natOfDigits at h
  split at h
  · assumption
  · cases h

theorem unsignedDec_digits {cs : List Char} {n : Nat} (h : natOfDigits cs = some n) : unsignedDec cs = some (n, 0) := by
  unfold unsignedDec
  rw [splitDot_digits (digits_of_allDigits (natOfDigits_allDigits h))]
  simp [h]

theorem intOfChars_cases {cs : List Char} {i : Int} (h : intOfChars cs = some i) :
    (∃ ds n, cs = '-' :: ds ∧ natOfDigits ds = some n ∧ i = -(n : Int)) ∨
    (∃ n, natOfDigits cs = some n ∧ i = (n : Int) ∧ ∀ ds, cs ≠ '-' :: ds) := by
  cases cs with
  | nil => simp [intOfChars, natOfDigits, allDigits] at h
  | cons c ds =>
    by_cases hc : c = '-'
    · subst hc
      have h' : intOfChars ('-' :: ds) = (natOfDigits ds).map (fun n => -(n : Int)) := rfl
      rw [h'] at h
      cases hn : natOfDigits ds with
      | none => simp [hn] at h
      | some n =>
        simp [hn] at h
        exact Or.inl ⟨ds, n, rfl, hn, by omega⟩
    · rw [intOfChars_cons hc] at h
      cases hn : natOfDigits (c :: ds) with
      | none => simp [hn] at h
      | some n =>
        simp [hn] at h
        exact Or.inr ⟨n, rfl, by omega, fun ds' e => hc (List.cons.inj e).1⟩

/-- an integer token read as a decimal / as a float literal denotes the same integer -/
theorem parseDec_of_int {cs : List Char} {i : Int} (h : intOfChars cs = some i) : parseDec cs = some (i, 0) := by
  rcases intOfChars_cases h with ⟨ds, n, rfl, hn, rfl⟩ | ⟨n, hn, rfl, hne⟩
  · have h' : parseDec ('-' :: ds) = (unsignedDec ds).map (fun p => (-(p.1 : Int), p.2)) := rfl
    rw [h', unsignedDec_digits hn]; rfl
  · rw [parseDec_digits (natOfDigits_allDigits hn), unsignedDec_digits hn]; rfl

theorem noExp_of_int {cs : List Char} {i : Int} (h : intOfChars cs = some i) : ∀ c ∈ cs, noExpChar c = true := by
  rcases intOfChars_cases h with ⟨ds, n, rfl, hn, rfl⟩ | ⟨n, hn, rfl, hne⟩
  · intro x hx
    rcases List.mem_cons.mp hx with rfl | hx
    · decide
    · exact noExp_of_digit (digits_of_allDigits (natOfDigits_allDigits hn) x hx)
  · intro x hx
    exact noExp_of_digit (digits_of_allDigits (natOfDigits_allDigits hn) x hx)

theorem toLower_digit (c : Char) (h : c.isDigit = true) : c.toLower = c := by
  unfold Char.toLower
  unfold Char.isDigit at h
  simp only [Bool.and_eq_true, decide_eq_true_eq] at h
  have h2 : c.val ≤ 57 := h.2
  have : ¬ (c.val ≥ 65 ∧ c.val ≤ 90) := by
    intro hh
    have := hh.1
    have a : c.val.toNat ≤ 57 := h2
    have b : 65 ≤ c.val.toNat := this
    omega
  simp [this]

theorem map_toLower_digits {ds : List Char} (h : ∀ c ∈ ds, c.isDigit = true) : ds.map Char.toLower = ds := by
  rw [List.map_congr_left fun c hc => toLower_digit c (h c hc), List.map_id']

theorem digits_beq_word {ds : List Char} (hne : ds ≠ []) (h : ∀ c ∈ ds, c.isDigit = true) (w : Char) (ws : List Char)
    (hw : w.isDigit = false) : (ds == w :: ws) = false := by
  cases ds with
  | nil => exact absurd rfl hne
  | cons d ds =>
    have : d ≠ w := isDigit_ne (h d (by simp)) hw
    simp [this]

theorem notNonFinite_of_int {raw : String} {i : Int} (h : intOfChars raw.toList = some i) :
    isNonFiniteSpelling raw = false := by
  unfold isNonFiniteSpelling
  rcases intOfChars_cases h with ⟨ds, n, hcs, hn, _⟩ | ⟨n, hn, _, hne⟩
  · have hd := digits_of_allDigits (natOfDigits_allDigits hn)
    have hnil : ds ≠ [] := by
      intro e; subst e; simp [natOfDigits, allDigits] at hn
    rw [hcs]
    simp only [List.map_cons, map_toLower_digits hd]
    have : Char.toLower '-' = '-' := by decide
    rw [this]
    simp [digits_beq_word hnil hd 'i' _ (by decide)]
  · have hd := digits_of_allDigits (natOfDigits_allDigits hn)
    have hnil : raw.toList ≠ [] := by
      intro e; rw [e] at hn; simp [natOfDigits, allDigits] at hn
    rw [map_toLower_digits hd]
    cases hr : raw.toList with
    | nil => exact absurd hr hnil
    | cons c cs =>
      rw [hr] at hd
      have hc : c.isDigit = true := hd c (by simp)
      have h1 : c ≠ '+' := isDigit_ne hc (by decide)
      have h2 : c ≠ '-' := isDigit_ne hc (by decide)
      have h3 : c ≠ 'i' := isDigit_ne hc (by decide)
      have h4 : c ≠ 'n' := isDigit_ne hc (by decide)
      simp [h1, h2, h3, h4]

theorem parseFloatLit_of_int {cs : List Char} {i : Int} (h : intOfChars cs = some i) : parseFloatLit cs = some (.int i) := by
  unfold parseFloatLit
  rw [splitExp_noexp (noExp_of_int h)]
  simp [parseDec_of_int h, normDec]

theorem parseFloatLit_intChars (i : Int) : parseFloatLit (intChars i) = some (.int i) :=
  parseFloatLit_of_int (intOfChars_intChars i)

theorem normDec_canonical (m : Int) (e : Nat) (hm : m % 10 ≠ 0) (he : 0 < e) : normDec m e = .dec m e := by
  cases e with
  | zero => cases he
  | succ e => simp [normDec, hm]

/-- the shape of `decChars m e`: sign, a non-empty run of digits, `.`, `e` digits; the digits are those of `|m|` -/
theorem decChars_shape (m : Int) (e : Nat) :
    ∃ ip fs, decChars m e = (if m < 0 then ['-'] else []) ++ (ip ++ '.' :: fs) ∧ ip ≠ [] ∧
      (∀ c ∈ ip, c.isDigit = true) ∧ fs.length = e ∧ (∀ c ∈ fs, c.isDigit = true) ∧
      Nat.ofDigitChars 10 (ip ++ fs) 0 = m.natAbs := by
  let pad := List.replicate (e + 1 - (Nat.toDigits 10 m.natAbs).length) '0' ++ Nat.toDigits 10 m.natAbs
  have hpad : ∀ c ∈ pad, c.isDigit = true := by
    intro c hc
    rcases List.mem_append.mp hc with h | h
    · rw [(List.mem_replicate.mp h).2]; decide
    · exact Nat.isDigit_of_mem_toDigits (by decide) (by decide) h
  have hlen : e + 1 ≤ pad.length := by
    simp only [pad, List.length_append, List.length_replicate]; omega
  refine ⟨pad.take (pad.length - e), pad.drop (pad.length - e), rfl, ?_, fun c hc => hpad c (List.mem_of_mem_take hc), ?_,
    fun c hc => hpad c (List.mem_of_mem_drop hc), ?_⟩
  · intro h
    have : (pad.take (pad.length - e)).length = 0 := by rw [h]; rfl
    rw [List.length_take] at this
    omega
  · rw [List.length_drop]; omega
  · simp only [List.take_append_drop, pad, Nat.ofDigitChars_append, Nat.ofDigitChars_replicate_zero, Nat.mul_zero]
    exact Nat.ofDigitChars_ten_toDigits

theorem parseFloatLit_decChars (m : Int) (e : Nat) (hm : m % 10 ≠ 0) (he : 0 < e) :
    parseFloatLit (decChars m e) = some (.dec m e) := by
  obtain ⟨ip, fs, heq, hne, ha, hlen, hb, hval⟩ := decChars_shape m e
  have h1 : allDigits ip = true := by
    cases ip with
    | nil => exact absurd rfl hne
    | cons _ _ => simpa [allDigits] using ha
  have h2 : allDigits fs = true := by
    cases fs with
    | nil => rw [← hlen] at he; cases he
    | cons _ _ => simpa [allDigits] using hb
  have huns : unsignedDec (ip ++ '.' :: fs) = some (m.natAbs, e) := by
    unfold unsignedDec
    rw [splitDot_append_dot ha]
    simp only [h1, h2, Bool.and_self, if_true, hval, hlen]
  have hnoexp : ∀ c ∈ decChars m e, noExpChar c = true := by
    intro c hc
    rw [heq] at hc
    simp only [List.mem_append, List.mem_cons] at hc
    rcases hc with h | h | rfl | h
    · split at h
      · rw [List.mem_singleton.mp h]; decide
      · cases h
    · exact noExp_of_digit (ha c h)
    · decide
    · exact noExp_of_digit (hb c h)
  have hdec : parseDec (decChars m e) = some (m, e) := by
    rw [heq]
    by_cases hneg : m < 0
    · simp only [hneg, if_true, List.singleton_append, parseDec]
      rw [huns]; simp; omega
    · simp only [hneg, if_false, List.nil_append]
      obtain ⟨c, cs, rfl⟩ := List.exists_cons_of_ne_nil hne
      rw [List.cons_append, parseDec_head_digit (ha c List.mem_cons_self), ← List.cons_append, huns]
      simp; omega
  unfold parseFloatLit
  rw [splitExp_noexp hnoexp]
  simp [hdec, normDec_canonical m e hm he]

theorem normDec_ne_null (m : Int) (e : Nat) : (normDec m e).isNull = false := by
  induction e generalizing m with
  | zero => rfl
  | succ e ih =>
    simp only [normDec]
    split
    · exact ih _
    · rfl

theorem parseFloatLit_ne_null {cs : List Char} {r : JVal} (h : parseFloatLit cs = some r) : r.isNull = false := by
  unfold parseFloatLit at h
  split at h
  · simp only [Option.map_eq_some_iff] at h
    obtain ⟨p, _, rfl⟩ := h
    exact normDec_ne_null _ _
  · split at h
    · simp only [Option.some.injEq] at h
      subst h
      unfold scale10
      split
      · rfl
      · exact normDec_ne_null _ _
    · cases h

end GqlModel.Coerce
