import GqlProofs.PlanDfsSettle
import GqlProofs.PlanPath
/-! # Mutations: after a top-level field's block nothing of it is left to force -/
namespace GqlModel.Plan
open GqlModel.Exec

/-- every value the per-field phase of a mutation stores is closure-free: everything a top-level field deferred was forced within
its block -/
theorem mRootMut_settled {c : Ctx} {alt : Alt} (ha : AltND alt) (dfuel : Nat) (rt : String) :
    ∀ (fuel : Nat) (fps : List FieldPlan) (acc : List (String × PVal)) (st : MSt), (∀ x ∈ acc, NoDef x.2) →
    ∀ fs, (mRootMut c alt dfuel fuel rt fps acc st).1 = .ok fs → ∀ x ∈ fs, NoDef x.2
  | 0, fps, acc, st, _ => by rw [mRootMut_zero]; exact yields_fuelOut
  | fuel + 1, [], acc, st, hacc => by rw [mRootMut_nil]; exact yields_ok hacc
  | fuel + 1, fp :: rest, acc, st, hacc => by
    cases hp : fp.pred.eval c.schema c.vars with
    | false => rw [mRootMut_skip (.inl hp)]; exact mRootMut_settled ha dfuel rt fuel rest acc st hacc
    | true =>
      cases hfd : fp.fieldDef with
      | none => rw [mRootMut_skip (.inr hfd)]; exact mRootMut_settled ha dfuel rt fuel rest acc st hacc
      | some fd =>
        rw [mRootMut_field hp hfd]
        refine Yields.andThen ((nodupP (c := c) (alt := alt) ha fuel).field false rt .nil [.key fp.key] [(rt, fp.key)] fp fd st)
          fun v st1 hv => ?_
        refine Yields.andThen ((dfsS (frcFlat_forceAll (c := c) (alt := alt) ha dfuel) dfuel).val v st1 hv) fun v' st2 hv' => ?_
        exact mRootMut_settled ha dfuel rt fuel rest _ st2 (forall_mem_append_singleton hacc hv')

/-- the walk of a MUTATION plan: the events are one contiguous block per top-level field in plan order, the data is closure-free
and the final `dethunkMapDepthFirst` pass does nothing -/
theorem runPlan_mutation {c : Ctx} {alt : Alt} (q : Plan) (hmut : q.isMutation = true) (fuel : Nat) (st0 : MSt)
    (ha : AltND alt) (r : Res (List (String × PVal))) (st : MSt)
    (h : runPlan c alt q fuel st0 = (r, st)) (hr : r ≠ .fuelOut) :
    (∃ new, st.events = new ++ st0.events ∧ MSerial (q.root.map (·.key)) new.reverse) ∧
    ∀ fs, r = .ok fs → ∀ x ∈ fs, NoDef x.2 := by
  rw [runPlan_eq, if_pos hmut] at h
  have hser := mRootMut_serial c alt fuel q.rootType fuel q.root [] st0
  have hset := mRootMut_settled (c := c) (alt := alt) ha fuel q.rootType fuel q.root [] st0 (fun _ h => by cases h)
  rcases andThen_inv h hr with ⟨hx, rfl⟩ | ⟨fs, st1, hx, hk⟩
  · rw [hx] at hser
    exact ⟨hser, fun _ h => by cases h⟩
  · rw [hx] at hser hset
    have hnd := hset fs rfl
    rcases (dfsId (frc := forceAll c alt fuel) fuel).fields (sortedKeys fs) fs st1 hnd with h2 | h2 <;> rw [h2] at hk
    · exact absurd (Prod.mk.inj hk).1.symm hr
    · obtain ⟨rfl, rfl⟩ := Prod.mk.inj hk
      exact ⟨hser, fun gs hg => by cases hg; exact hnd⟩

end GqlModel.Plan
