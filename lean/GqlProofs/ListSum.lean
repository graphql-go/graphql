/-! # Sums and maxima of natural numbers over a list, compared term by term; loops and conditionals -/
namespace GqlModel

variable {α β : Type}

theorem ite_ind {c : Prop} [Decidable c] {x y : α} (P : α → Prop) (hx : P x) (hy : P y) : P (if c then x else y) := by
  split <;> assumption

theorem ite_cases (b : Bool) (x y r : α) (h : (if b = true then x else y) = r) : x = r ∨ y = r := by
  cases b
  · exact Or.inr h
  · exact Or.inl h

theorem forall_mem_append_singleton {P : α → Prop} {xs : List α} {y : α} (h : ∀ x ∈ xs, P x) (hy : P y) :
    ∀ x ∈ xs ++ [y], P x := by
  intro x hx
  rcases List.mem_append.1 hx with hx | hx
  · exact h x hx
  · rw [List.mem_singleton.1 hx]; exact hy

theorem le_sum_map_of_mem (g : α → Nat) {l : List α} {x : α} (h : x ∈ l) : g x ≤ (l.map g).sum := by
  induction l with
  | nil => cases h
  | cons y ys ih =>
    rw [List.map_cons, List.sum_cons]
    rcases List.mem_cons.1 h with rfl | h
    · exact Nat.le_add_right _ _
    · exact Nat.le_trans (ih h) (Nat.le_add_left _ _)

theorem sum_map_le_sum_map {g h : α → Nat} {l : List α} (hle : ∀ x ∈ l, g x ≤ h x) :
    (l.map g).sum ≤ (l.map h).sum := by
  induction l with
  | nil => exact Nat.le_refl _
  | cons x xs ih =>
    rw [List.map_cons, List.map_cons, List.sum_cons, List.sum_cons]
    exact Nat.add_le_add (hle x List.mem_cons_self) (ih fun y hy => hle y (List.mem_cons_of_mem _ hy))

theorem sum_map_add (g h : α → Nat) (l : List α) :
    (l.map fun x => g x + h x).sum = (l.map g).sum + (l.map h).sum := by
  induction l with
  | nil => rfl
  | cons x xs ih => simp only [List.map_cons, List.sum_cons, ih]; omega

theorem sum_map_const (B : Nat) (l : List α) : (l.map fun _ => B).sum = l.length * B := by
  rw [List.map_const', List.sum_replicate_nat]

theorem sum_map_mul_left (k : Nat) (g : α → Nat) (l : List α) : (l.map fun x => k * g x).sum = k * (l.map g).sum := by
  induction l with
  | nil => rfl
  | cons x xs ih => rw [List.map_cons, List.map_cons, List.sum_cons, List.sum_cons, ih, Nat.mul_add]

theorem sum_map_mul_right (g : α → Nat) (k : Nat) (l : List α) : (l.map fun x => g x * k).sum = (l.map g).sum * k := by
  induction l with
  | nil => exact (Nat.zero_mul k).symm
  | cons x xs ih => rw [List.map_cons, List.map_cons, List.sum_cons, List.sum_cons, ih, Nat.add_mul]

theorem length_le_sum_map {g : α → Nat} {l : List α} (h : ∀ x ∈ l, 1 ≤ g x) : l.length ≤ (l.map g).sum :=
  Nat.mul_one l.length ▸ sum_map_const 1 l ▸ sum_map_le_sum_map h

theorem sum_map_le_mul {g : α → Nat} {l : List α} {B : Nat} (hle : ∀ x ∈ l, g x ≤ B) : (l.map g).sum ≤ l.length * B :=
  sum_map_const B l ▸ sum_map_le_sum_map hle

theorem sum_map_le_mul_add {g h : α → Nat} {l : List α} {B : Nat} (hle : ∀ x ∈ l, g x ≤ B + h x) :
    (l.map g).sum ≤ l.length * B + (l.map h).sum := by
  rw [← sum_map_const B l, ← sum_map_add]
  exact sum_map_le_sum_map hle

theorem foldl_proj {σ τ : Type} (π : σ → τ) {f : σ → α → σ} {g : τ → α → τ} (h : ∀ s a, π (f s a) = g (π s) a)
    (l : List α) (s : σ) : π (l.foldl f s) = l.foldl g (π s) :=
  (List.foldl_hom π fun s a => (h s a).symm).symm

theorem foldl_max_ge (l : List Nat) (a : Nat) : a ≤ l.foldl max a ∧ ∀ x, x ∈ l → x ≤ l.foldl max a :=
  have h := (List.max?_eq_some_iff.1 (List.max?_cons' (x := a) (xs := l))).2
  ⟨h a List.mem_cons_self, fun x hx => h x (List.mem_cons_of_mem _ hx)⟩

/-! A function on lists defined by `h (a :: l) = max (g a) (h l)` is the maximum of `g` over the list. -/

theorem le_of_max_rec {h : List α → Nat} {g : α → Nat} (hc : ∀ a l, h (a :: l) = max (g a) (h l)) {l : List α} {x : α}
    (hx : x ∈ l) : g x ≤ h l := by
  induction l with
  | nil => cases hx
  | cons a l ih =>
    rw [hc]
    rcases List.mem_cons.1 hx with rfl | hx
    · exact Nat.le_max_left _ _
    · exact Nat.le_trans (ih hx) (Nat.le_max_right _ _)

theorem max_rec_le {h : List α → Nat} {g : α → Nat} (h0 : h [] = 0) (hc : ∀ a l, h (a :: l) = max (g a) (h l))
    {l : List α} {B : Nat} (hB : ∀ x ∈ l, g x ≤ B) : h l ≤ B := by
  induction l with
  | nil => rw [h0]; exact Nat.zero_le _
  | cons a l ih =>
    rw [hc]
    exact Nat.max_le.2 ⟨hB a List.mem_cons_self, ih fun x hx => hB x (List.mem_cons_of_mem _ hx)⟩

theorem sum_map_filterMap_le {f : α → Option β} {g : β → Nat} {h : α → Nat} {l : List α}
    (hle : ∀ x ∈ l, ∀ y, f x = some y → g y ≤ h x) : ((l.filterMap f).map g).sum ≤ (l.map h).sum := by
  induction l with
  | nil => exact Nat.le_refl _
  | cons x xs ih =>
    have ih := ih fun z hz => hle z (List.mem_cons_of_mem _ hz)
    rw [List.map_cons, List.sum_cons]
    cases hx : f x with
    | none => rw [List.filterMap_cons_none hx]; exact Nat.le_trans ih (Nat.le_add_left _ _)
    | some y =>
      rw [List.filterMap_cons_some hx, List.map_cons, List.sum_cons]
      exact Nat.add_le_add (hle x List.mem_cons_self y hx) ih

end GqlModel
