import GqlProofs.OverlapAdm
import GqlProofs.Validate
/-! # Bridge C02 → C06: a decidable check for `SchemaCov` -/
namespace GqlModel.OverlapExec
open GqlModel.Validate

def implB (s : Schema) : Bool :=
  s.types.all (fun tI => match tI with
    | .interface I fs _ _ =>
      (s.possibleTypes I).all (fun rt => fs.all (fun fdI =>
        match (s.objectFields rt).find? (fun f => f.name == fdI.name) with
        | some fd => fd.type.namedName == fdI.type.namedName ||
            (s.isObject fd.type.namedName && s.isPossibleType fdI.type.namedName fd.type.namedName)
        | none => false))
    | _ => true)

def declaredB (s : Schema) : Bool :=
  s.types.all (fun t => (s.objectFields t.name).all (fun fd => !s.objectT fd.type.namedName || s.isObject fd.type.namedName))

def noTypenameB (s : Schema) : Bool :=
  (s.types ++ introspectionTypes).all (fun t => (s.fieldsOf t.name).all (fun fd => fd.name != "__typename"))

def schemaCovB (s : Schema) : Bool :=
  implB s && declaredB s && noTypenameB s && !s.objectT "String" && !s.isInterface "String"

theorem objectFields_nonempty_mem {s : Schema} {P : String} {fd : FieldDefS} (h : fd ∈ s.objectFields P) :
    ∃ td, td ∈ s.types ∧ td.name = P := by
  unfold Schema.objectFields at h
  cases hf : s.find? P with
  | none => rw [hf] at h; cases h
  | some td => exact ⟨td, find?_name hf⟩

theorem fieldsOf_nonempty_mem {s : Schema} {P : String} {fd : FieldDefS} (h : fd ∈ s.fieldsOf P) :
    ∃ td, td ∈ s.types ++ introspectionTypes ∧ td.name = P := by
  unfold Schema.fieldsOf Schema.lookup at h
  cases hf : s.find? P with
  | none =>
    rw [hf] at h
    simp only at h
    cases hi : introspectionTypes.find? (fun t => t.name == P) with
    | none => rw [hi] at h; cases h
    | some td =>
      exact ⟨td, List.mem_append_right _ (List.mem_of_find?_eq_some hi), by simpa using List.find?_some hi⟩
  | some td => exact ⟨td, List.mem_append_left _ (find?_name hf).1, (find?_name hf).2⟩

theorem schemaCov_of_check (s : Schema) (h : schemaCovB s = true) : SchemaCov s := by
  simp only [schemaCovB, Bool.and_eq_true, Bool.not_eq_true'] at h
  obtain ⟨⟨⟨⟨himpl, hdecl⟩, hnt⟩, hso⟩, hsi⟩ := h
  refine ⟨?_, ?_, ?_, ⟨hso, hsi⟩⟩
  · intro I rt name fdI hI hposs hfind
    unfold Schema.isInterface at hI
    cases hfI : s.find? I with
    | none => rw [hfI] at hI; cases hI
    | some td =>
      rw [hfI] at hI
      cases td with
      | interface n fs b dsc =>
        have hm := find?_name hfI
        simp only [TypeDef.name] at hm
        obtain ⟨hmem, rfl⟩ := hm
        simp only [implB, List.all_eq_true] at himpl
        have h1 := himpl _ hmem
        simp only [List.all_eq_true] at h1
        have hfo : s.fieldsOf n = fs := by
          have : s.fieldsOf n = s.objectFields n :=
            fieldsOf_eq_objectFields (by rw [hfI]; rfl)
          rw [this]; simp [Schema.objectFields, hfI]
        rw [hfo] at hfind
        have hfdI := List.mem_of_find?_eq_some hfind
        have hnm : fdI.name = name := by simpa using List.find?_some hfind
        have h2 := h1 rt (by simpa [Schema.isPossibleType] using hposs) fdI hfdI
        rw [hnm] at h2
        cases hfd : (s.objectFields rt).find? (fun f => f.name == name) with
        | none => rw [hfd] at h2; cases h2
        | some fd =>
          rw [hfd] at h2
          refine ⟨fd, rfl, ?_⟩
          simp only [Bool.or_eq_true, Bool.and_eq_true, beq_iff_eq] at h2
          exact h2
      | _ => simp at hI
  · intro P name fd hfind hobj
    have hmem := List.mem_of_find?_eq_some hfind
    rcases objectFields_nonempty_mem hmem with ⟨td, htd, rfl⟩
    simp only [declaredB, List.all_eq_true, Bool.or_eq_true, Bool.not_eq_true'] at hdecl
    rcases hdecl td htd fd hmem with h' | h'
    · rw [hobj] at h'; cases h'
    · exact h'
  · intro P fd hmem
    rcases fieldsOf_nonempty_mem hmem with ⟨td, htd, rfl⟩
    simp only [noTypenameB, List.all_eq_true, bne_iff_ne, ne_eq] at hnt
    exact hnt td htd fd hmem

end GqlModel.OverlapExec
