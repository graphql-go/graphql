import GqlProofs.LexerToken
import GqlProofs.LexerMunch
import GqlProofs.LexerStrChars
/-! `Spec.token` is the maximal-munch recogniser of the lexical grammar. `Lexeme k l v rest` lists the lexemes `l` of kind
`k` with their value `v` and what may follow them, one rule per token class; `token_sound` walks through `token` once and
`token_complete` is the converse, so `token_munch`. What holds of every token (it is not EOF, not empty, inside the input,
found again when its bytes are scanned alone) is read off `Lexeme`. -/
namespace GqlModel.Lexer
open GqlModel.Lexer.Spec

inductive Lexeme : TokenKind → Bytes → Bytes → Bytes → Prop
  | punct {c : UInt8} {k : TokenKind} (rest : Bytes) : punctuatorByte c = some k → Lexeme k [c] [] rest
  | spread (rest : Bytes) : Lexeme .spread [46, 46, 46] [] rest
  | name {c : UInt8} {l rest : Bytes} : isNameStartByte c → (∀ x ∈ l, isNameContByte x) → NextNot isNameContByte rest →
      Lexeme .name (c :: l) (c :: l) rest
  | number {k : TokenKind} {l rest : Bytes} : NumberG k l rest → Lexeme k l l rest
  /-- `""` followed by a quote would open a block string -/
  | string {body v rest : Bytes} : StrChars body v → (body = [] → rest.head? ≠ some 34) →
      Lexeme .string (34 :: (body ++ [34])) v rest
  | block {l raw : Bytes} (rest : Bytes) : BlockLex l raw →
      Lexeme .blockString (34 :: 34 :: 34 :: l) (Spec.blockStringValue raw) rest

theorem Spec.StrChars.head_ne_quote {body v : Bytes} (h : StrChars body v) (rest : Bytes) (hne : body ≠ []) :
    (body ++ rest).head? ≠ some 34 := by
  cases h with
  | nil => exact absurd rfl hne
  | cons hc _ =>
    cases hc with
    | plain c h1 => exact fun h => h1 (Option.some.inj h)
    | esc => exact fun h => absurd (Option.some.inj h) (by decide)
    | uni => exact fun h => absurd (Option.some.inj h) (by decide)

theorem NumberG.head {k : TokenKind} {l rest : Bytes} (h : NumberG k l rest) :
    ∃ c l', l = c :: l' ∧ (c = 45 ∨ isDigitByte c) := by
  obtain ⟨li, lf, lx, rfl, gi, -⟩ := h
  rcases gi with ⟨⟨rfl | ⟨d, ds, rfl, hd, -⟩, -⟩, -⟩ | ⟨c, l', rfl, rfl, -⟩
  · exact ⟨48, _, rfl, .inr (by decide)⟩
  · exact ⟨d, _, rfl, .inr hd⟩
  · exact ⟨45, _, rfl, .inl rfl⟩

def NatOk (x : Except (Nat × ErrKind) Nat) (lo n : Nat) : Prop :=
  match x with
  | .ok i => lo ≤ i ∧ i ≤ n
  | .error (_, k) => k ≠ .fuel

@[simp] theorem NatOk_ok (i lo n : Nat) : NatOk (.ok i) lo n ↔ lo ≤ i ∧ i ≤ n := Iff.rfl

/-- An accepted lexeme lies inside the input and is not empty: read off the munch relation. A failure is not `fuel`. -/
theorem integerPart_bound (bs : Bytes) : NatOk (integerPart bs) 1 bs.length := by
  match h : integerPart bs with
  | .ok i =>
    obtain ⟨hle, hg⟩ := integerPart_munch.elim h
    refine ⟨?_, hle⟩
    have hl : 1 ≤ (bs.take i).length := by
      rcases hg with ⟨⟨e | ⟨d, ds, e, -⟩, -⟩, -⟩ | ⟨c, l', e, -⟩ <;> simp [e]
    simp only [List.length_take] at hl; omega
  | .error (o, k) => exact integerPart_noFuel bs o k h

theorem number_bound (bs : Bytes) :
    match number bs with
    | .ok (_, len) => 1 ≤ len ∧ len ≤ bs.length
    | .error (_, k) => k ≠ .fuel := by
  match h : number bs with
  | .ok (k, len) =>
    obtain ⟨hle, hg⟩ := (number_munch k).elim h
    obtain ⟨c, l', e, -⟩ := hg.head
    have := congrArg List.length e
    simp only [List.length_take, List.length_cons] at this
    exact ⟨by omega, hle⟩
  | .error (o, k) => exact number_noFuel bs o k h

theorem token_complete {k : TokenKind} {l v rest : Bytes} (h : Lexeme k l v rest) : token (l ++ rest) = .ok (k, l.length, v) := by
  cases h with
  | punct _ hp => exact token_punct _ _ (punct_not_ctrl hp) hp
  | spread => exact (token_dot _).trans (if_pos ⟨rfl, rfl⟩)
  | @name c l _ hs hall hn =>
    obtain ⟨h1, h2, h3⟩ := nameStartByte_facts hs
    have : nameLen (c :: l ++ rest) = (c :: l).length :=
      nameLen_munch.intro ⟨fun x hx => (List.mem_cons.1 hx).elim (· ▸ .inl hs) (hall x), hn⟩
    rw [List.cons_append, token_name c _ h1 h2 h3 hs, ← List.cons_append, this, List.take_left]
  | number hg =>
    obtain ⟨c, l', rfl, hc⟩ := hg.head
    obtain ⟨h1, h2, h3, h4⟩ := numStart_facts hc
    have := (number_munch k).intro hg
    rw [List.cons_append, token_number c _ h1 h2 h3 h4 hc, ← List.cons_append, this]
    simp only; rw [List.take_left]
  | @string body v _ hd hne =>
    rw [List.cons_append, token_quote, List.append_assoc, List.singleton_append, if_neg, stringBody_complete hd]
    · simp only [List.length_cons, List.length_append, List.length_nil]
    · intro h
      by_cases hb : body = []
      · subst hb; exact hne rfl h.2
      · exact hd.head_ne_quote _ hb h.1
  | @block l raw _ hl =>
    show token (34 :: (34 :: 34 :: (l ++ rest))) = _
    rw [token_quote, if_pos ⟨rfl, rfl⟩]
    show (match blockBody (l ++ rest) with | .ok (len, raw) => _ | .error (o, e) => _) = _
    rw [blockBody_complete hl rest]; rfl

theorem token_sound (c : UInt8) (r : Bytes) :
    match token (c :: r) with
    | .ok (k, len, v) => ∃ l rest, c :: r = l ++ rest ∧ len = l.length ∧ Lexeme k l v rest
    | .error (_, k) => k ≠ .fuel := by
  by_cases hctl : isCtrl c
  · rw [token_ctrl c r hctl]; exact nofun
  cases hp : punctuatorByte c with
  | some k => rw [token_punct c r hctl hp]; exact ⟨[c], r, rfl, rfl, .punct r hp⟩
  | none =>
    by_cases hdot : c = 46
    · subst hdot
      rw [token_dot]
      by_cases hd : r.head? = some 46 ∧ (r.drop 1).head? = some 46
      · rw [if_pos hd]
        match r, hd with
        | d1 :: d2 :: r', hd =>
          simp only [List.head?_cons, Option.some.injEq, List.drop_succ_cons, List.drop_zero] at hd
          rw [hd.1, hd.2]; exact ⟨[46, 46, 46], r', rfl, rfl, .spread r'⟩
      · rw [if_neg hd]; exact nofun
    by_cases hns : isNameStartByte c
    · rw [token_name c r hctl hp hdot hns]
      obtain ⟨l, rest, e, hl, hall, hn⟩ := (nameLen_munch.iff (c :: r) _).1 rfl
      match l, e, hl with
      | [], _, hl => rw [nameLen_cons, if_pos (.inl hns)] at hl; cases hl
      | d :: l, e, hl =>
        rw [hl, e, List.take_left]; cases e
        exact ⟨c :: l, rest, rfl, rfl, .name hns (fun x hx => hall x (List.mem_cons_of_mem _ hx)) hn⟩
    by_cases hnum : c = 45 ∨ isDigitByte c
    · rw [token_number c r hctl hp hdot hns hnum]
      match hn : number (c :: r) with
      | .ok (k, len) =>
        obtain ⟨l, rest, e, rfl, hg⟩ := ((number_munch k).iff _ _).1 hn
        show ∃ l' rest', _ ∧ _ ∧ Lexeme k l' ((c :: r).take l.length) rest'
        rw [e, List.take_left]; exact ⟨l, rest, rfl, rfl, .number hg⟩
      | .error (o, e) => exact number_noFuel _ o e hn
    by_cases hq : c = 34
    · subst hq
      rw [token_quote]
      by_cases hb : r.head? = some 34 ∧ (r.drop 1).head? = some 34
      · rw [if_pos hb]
        match r, hb with
        | q1 :: q2 :: r3, hb =>
          simp only [List.head?_cons, Option.some.injEq, List.drop_succ_cons, List.drop_zero] at hb ⊢
          rw [hb.1, hb.2]
          have hbd := blockBody_bound _ r3 (Nat.le_refl _)
          match hbb : blockBody r3, hbd with
          | .ok (len, raw), _ =>
            obtain ⟨l, rest, rfl, rfl, hl⟩ := blockBody_sound hbb
            exact ⟨34 :: 34 :: 34 :: l, rest, rfl, rfl, .block rest hl⟩
          | .error (o, e), hbd => exact hbd
      · rw [if_neg hb]
        have hsd := stringBody_bound r
        match hs : stringBody r, hsd with
        | .ok (len, v), _ =>
          obtain ⟨body, rest, rfl, rfl, hd⟩ := stringBody_sound _ r (Nat.le_refl _) _ _ hs
          refine ⟨34 :: (body ++ [34]), rest, by simp only [List.cons_append, List.append_assoc, List.nil_append],
            by simp only [List.length_cons, List.length_append, List.length_nil], .string hd ?_⟩
          rintro rfl hr
          exact hb ⟨rfl, hr⟩
        | .error (o, e), hsd => exact hsd
    · rw [token_other c r hctl hp hdot hns hnum hq]; exact nofun

theorem token_munch (k : TokenKind) (v : Bytes) :
    Munch (fun bs n => token bs = .ok (k, n, v)) (fun l rest => Lexeme k l v rest) where
  iff bs n := by
    constructor
    · intro h
      match bs, h with
      | c :: r, h => have := token_sound c r; rw [h] at this; exact this
    · rintro ⟨l, rest, rfl, rfl, hl⟩; exact token_complete hl
  mono l r r' h := by
    intro hl
    cases hl with
    | punct _ hp => exact .punct _ hp
    | spread => exact .spread _
    | name hs hall hn => exact .name hs hall (hn.mono h)
    | number hg => exact .number ((number_munch k).mono _ _ _ h hg)
    | string hd hne => exact .string hd fun e hr => hne e (h _ hr)
    | block _ hl => exact .block _ hl

theorem token_take (c : UInt8) (r : Bytes) {k : TokenKind} {len : Nat} {v : Bytes} (h : token (c :: r) = .ok (k, len, v)) :
    token ((c :: r).take len) = .ok (k, len, v) :=
  (token_munch k v).take h

theorem Lexeme.ne_eof {k : TokenKind} {l v rest : Bytes} (h : Lexeme k l v rest) : k ≠ .eof := by
  cases h with
  | punct _ hp => exact fun hk => punctuatorByte_ne _ (x := .eof) (by decide) (hk ▸ hp)
  | number hg => obtain ⟨_, lf, lx, -, -, -, -, rfl⟩ := hg; split <;> decide
  | _ => decide

theorem token_ne_eof {bs : Bytes} {k : TokenKind} {len : Nat} {v : Bytes} (h : token bs = .ok (k, len, v)) : k ≠ .eof :=
  ((token_munch k v).elim h).2.ne_eof

theorem Lexeme.length_pos {k : TokenKind} {l v rest : Bytes} (h : Lexeme k l v rest) : 1 ≤ l.length := by
  cases h with
  | number hg => obtain ⟨c, l', rfl, -⟩ := hg.head; exact Nat.le_add_left 1 _
  | _ => exact Nat.le_add_left 1 _

def TokOk (x : Except (Nat × ErrKind) (TokenKind × Nat × Bytes)) (n : Nat) : Prop :=
  match x with
  | .ok (_, len, _) => 1 ≤ len ∧ len ≤ n
  | .error (_, k) => k ≠ .fuel

@[simp] theorem TokOk_ok (k : TokenKind) (len : Nat) (v : Bytes) (n : Nat) : TokOk (.ok (k, len, v)) n ↔ 1 ≤ len ∧ len ≤ n := Iff.rfl
@[simp] theorem TokOk_error (o : Nat) (k : ErrKind) (n : Nat) : TokOk (.error (o, k)) n ↔ k ≠ .fuel := Iff.rfl

theorem token_bound (c : UInt8) (r : Bytes) : TokOk (token (c :: r)) (c :: r).length := by
  have := token_sound c r
  match token (c :: r), this with
  | .ok (k, len, v), ⟨l, rest, e, hl, hlex⟩ =>
    exact ⟨hl ▸ hlex.length_pos, by rw [hl, e, List.length_append]; exact Nat.le_add_right _ _⟩
  | .error (o, k), h => exact h

/-- `k ≠ .name`: a NAME would carry the rune cursor -/
theorem readTokenAt_lexeme (f p rp : Nat) {k : TokenKind} {l v rest : Bytes} (hl : Lexeme k l v rest) (hk : k ≠ .name)
    (hf : (l ++ rest).length < f) : readTokenAt f (l ++ rest) p rp = .ok (makeToken k p (p + l.length) v) := by
  obtain ⟨c, r, e⟩ : ∃ c r, l ++ rest = c :: r := by
    match l, hl.length_pos with
    | c :: l', _ => exact ⟨c, l' ++ rest, rfl⟩
  have := (readTokenAt_agrees f c r p rp (e ▸ hf)).ok (e ▸ token_complete hl)
  rwa [if_neg hk, ← e] at this

end GqlModel.Lexer
