import GqlModel.Grammar
import GqlModel.DescLoc
/-! # The description child of a described node is the node's first token

For every production with `Description?` in front (`GqlModel/Grammar.lean`): if the node has a description, the token
the node starts with is a STRING / BLOCK_STRING token carrying exactly that value, and the node's `loc.start` is that
token's start.  `parser.go` gives the description's `StringValue` the location `[t.start, t.stop)` of that token
(`parseStringLiteral`), which is what `GqlModel.descLoc` computes (`description_loc_is_token_extent`, Props/C03Parser). -/
namespace GqlModel.Parser
open GqlModel.Grammar

/-- the description of a node derived from position `p` and located at `l` is the node's FIRST token -/
def DescriptionIsFirstToken (p : Pos) (desc : Option String) (l : Loc) : Prop :=
  ∀ s, desc = some s → ∃ t r, p.ts = t :: r ∧ (t.kind = .string ∨ t.kind = .blockString) ∧ t.value = s ∧ l.start = t.start

theorem ddescription_first {p : Pos} {desc : Option String} {p' : Pos} (h : DDescription p desc p') (l : Loc)
    (hl : l.start = p.start) : DescriptionIsFirstToken p desc l := by
  intro s hs
  cases h with
  | none => cases hs
  | string ht =>
    cases ht
    cases hs
    exact ⟨_, _, rfl, Or.inl ‹_›, rfl, hl⟩
  | blockString ht =>
    cases ht
    cases hs
    exact ⟨_, _, rfl, Or.inr ‹_›, rfl, hl⟩

theorem dobjectDef_desc {p : Pos} {d : ObjectDef} {p' : Pos} (h : DObjectDef p d p') :
    DescriptionIsFirstToken p d.description d.loc := by
  cases h with | mk hde => exact ddescription_first hde _ rfl

/-- looking the node's start offset up in the whole token list finds the description token, provided no EARLIER token
starts at the same offset (true of every lexer output: start offsets increase) -/
theorem tokenExtentAt_first (pre : List Token) (t : Token) (r : List Token) (hd : ∀ u ∈ pre, u.start ≠ t.start) :
    tokenExtentAt (pre ++ t :: r) t.start = some ⟨t.start, t.stop⟩ := by
  rw [tokenExtentAt, List.find?_append, List.find?_eq_none.mpr (by simpa using hd)]
  simp

/-- `scalar Date "the doc" type T { "field doc" a: Int }` with its EOF token -/
def descSample : List Token :=
  [⟨.name, 0, 6, "scalar"⟩, ⟨.name, 7, 11, "Date"⟩, ⟨.string, 12, 21, "the doc"⟩, ⟨.name, 22, 26, "type"⟩, ⟨.name, 27, 28, "T"⟩,
   ⟨.braceL, 29, 30, ""⟩, ⟨.string, 31, 42, "field doc"⟩, ⟨.name, 43, 44, "a"⟩, ⟨.colon, 44, 45, ""⟩, ⟨.name, 46, 49, "Int"⟩,
   ⟨.braceR, 50, 51, ""⟩, ⟨.eof, 51, 51, ""⟩]

end GqlModel.Parser
