import GqlModel.Introspection
import GqlProofs.ListCount
/-! # Helper lemmas for C10 (introspection)

Sorting by name commutes with maps that keep the name, so description → rebuild is the normal form, piece by piece.
The depth-first type-map traversal `visit` (model of `typeMapReducer`) is monotone, duplicate-free, closed under
reference once the fuel exceeds the number of names not yet seen, and sound for reachability. (This model walks a
`Schema` by type NAMES; schema construction has a model of its own, over a `Config` by type objects, and shares no
definition with it: `Good`/`ClosedAt`/`Reachable`/`miss` here correspond to `StepsSpec`/`ClosedE`/`Reach`/`unregistered`
in SchemaBuild, SchemaClosure.) Possible types: one entry per implementing object when interface lists are
duplicate-free. -/
namespace GqlModel.Introspection

/-! ## rebuild ∘ describe = normalise, piecewise -/

theorem insertOn_map {α β : Type} (k : α → String) (k' : β → String) (g : α → β) (h : ∀ x, k' (g x) = k x)
    (x : α) (ys : List α) : (insertOn k x ys).map g = insertOn k' (g x) (ys.map g) := by
  induction ys with
  | nil => rfl
  | cons y ys ih =>
    simp only [insertOn, List.map_cons, h]
    split <;> simp [ih]

theorem sortOn_map {α β : Type} (k : α → String) (k' : β → String) (g : α → β) (h : ∀ x, k' (g x) = k x)
    (l : List α) : (sortOn k l).map g = sortOn k' (l.map g) := by
  induction l with
  | nil => rfl
  | cons x xs ih =>
    simp only [sortOn, List.foldr_cons, List.map_cons] at *
    rw [insertOn_map k k' g h, ih]

theorem map_sortOn_map {α β γ : Type} (k : β → String) (k' : γ → String) (g : β → γ) (hk : ∀ x, k' (g x) = k x)
    (f : α → β) (f' : α → γ) (h : ∀ a, g (f a) = f' a) (l : List α) :
    (sortOn k (l.map f)).map g = sortOn k' (l.map f') := by
  rw [sortOn_map k k' g hk, List.map_map, show g ∘ f = f' from funext h]

theorem rebuildRef_describeRef (all : List TypeDef) (t : GType) : rebuildRef (describeRef all t) = t := by
  induction t with
  | named n => rfl
  | list t ih => simp [describeRef, rebuildRef, ih]
  | nonNull t ih => simp [describeRef, rebuildRef, ih]

theorem name_describeRef_named (all : List TypeDef) (o : String) : (describeRef all (.named o)).name = o := rfl

theorem rebuildArg_argI (all : List TypeDef) (a : ArgDef) : rebuildArg (argI all a) = normArg all a := by
  simp [rebuildArg, argI, normArg, rebuildRef_describeRef]

theorem rebuildInput_inputI (all : List TypeDef) (f : InputFieldS) : rebuildInput (inputI all f) = normInput all f := by
  simp [rebuildInput, inputI, normInput, rebuildRef_describeRef]

theorem deprecationOf_reasonOf (d : String) : deprecationOf (d != "") (reasonOf d) = d := by
  unfold deprecationOf reasonOf
  by_cases h : d = "" <;> simp [h]

theorem rebuildArgs_argI (all : List TypeDef) (as : List ArgDef) :
    (sortOn (·.name) (as.map (argI all))).map rebuildArg = sortOn (·.name) (as.map (normArg all)) :=
  map_sortOn_map (·.name) (·.name) rebuildArg (fun _ => rfl) _ _ (rebuildArg_argI all) as

theorem rebuildField_fieldI (all : List TypeDef) (f : FieldDefS) : rebuildField (fieldI all f) = normField all f := by
  simp only [rebuildField, fieldI, normField, rebuildRef_describeRef, deprecationOf_reasonOf, rebuildArgs_argI]

theorem rebuildEnumValue_enumValueI (ev : EnumValueS) : rebuildEnumValue (enumValueI ev) = normEnumValue ev := by
  simp [rebuildEnumValue, enumValueI, normEnumValue, deprecationOf_reasonOf]

theorem rebuildType_describeType (all defs : List TypeDef) (td : TypeDef) :
    rebuildType (describeType all defs td) = normType all td := by
  have hf := map_sortOn_map (·.name) (·.name) rebuildField (fun _ => rfl) _ _ (rebuildField_fieldI all)
  have hv := map_sortOn_map (·.name) (·.name) rebuildEnumValue (fun _ => rfl) _ _ rebuildEnumValue_enumValueI
  have hi := map_sortOn_map (·.name) (·.name) rebuildInput (fun _ => rfl) _ _ (rebuildInput_inputI all)
  cases td <;> simp [describeType, rebuildType, normType, hf, hv, hi, Function.comp_def, name_describeRef_named]

theorem rebuildDirective_directiveI (all : List TypeDef) (d : DirectiveDefS) :
    rebuildDirective (directiveI all d) = normDirective all d := by
  simp only [rebuildDirective, directiveI, normDirective, rebuildArgs_argI]


/-! ## the type map is the reachable closure -/

/-- number of declared names not yet in the map -/
def miss (all : List TypeDef) (seen : List String) : Nat :=
  (all.map (·.name)).countP (fun u => !seen.contains u)

theorem miss_mono (all : List TypeDef) {seen seen' : List String} (h : ∀ x ∈ seen, x ∈ seen') :
    miss all seen' ≤ miss all seen := by
  apply List.countP_mono_left
  intro x _ hx
  simp only [Bool.not_eq_eq_eq_not, Bool.not_true, List.contains_eq_mem, decide_eq_false_iff_not] at hx ⊢
  exact fun hm => hx (h x hm)

theorem findType_name {all : List TypeDef} {n : String} {td : TypeDef} (h : findType all n = some td) : td.name = n := by
  have := List.find?_some h
  simpa using this

theorem findType_name_mem {all : List TypeDef} {n : String} {td : TypeDef} (h : findType all n = some td) :
    n ∈ all.map (·.name) := by
  have hm := List.mem_of_find?_eq_some h
  have := findType_name h
  exact List.mem_map.mpr ⟨td, hm, this⟩

theorem miss_lt (all : List TypeDef) {seen : List String} {n : String} {td : TypeDef}
    (h : findType all n = some td) (hn : n ∉ seen) : miss all (n :: seen) < miss all seen := by
  apply countP_lt
  · intro x _ hx
    simp only [Bool.not_eq_eq_eq_not, Bool.not_true, List.contains_eq_mem, decide_eq_false_iff_not, List.mem_cons, not_or] at hx ⊢
    exact hx.2
  · exact ⟨n, findType_name_mem h, by simpa using hn, by simp⟩

theorem visit_mono (all : List TypeDef) : ∀ (fuel : Nat) (seen : List String) (n : String), ∀ x ∈ seen, x ∈ visit all fuel seen n := by
  intro fuel
  induction fuel with
  | zero => intro seen n x hx; simpa [visit] using hx
  | succ fuel ih =>
    intro seen n x hx
    simp only [visit]
    split
    · exact hx
    · split
      · exact hx
      · exact foldl_preserves _ (x ∈ ·) (fun acc c => ih acc c x) _ _ (List.mem_cons_of_mem _ hx)

theorem foldl_visit_mono (all : List TypeDef) (fuel : Nat) (cs : List String) (acc : List String) :
    ∀ x ∈ acc, x ∈ cs.foldl (visit all fuel) acc :=
  fun x => foldl_preserves _ (x ∈ ·) (fun acc c => visit_mono all fuel acc c x) cs acc

/-- `m`'s references that resolve are in `R` -/
def ClosedAt (all : List TypeDef) (R : List String) (m : String) : Prop :=
  ∀ td, findType all m = some td → ∀ c ∈ typeRefs td, (findType all c).isSome → c ∈ R

theorem ClosedAt.mono {all : List TypeDef} {R R' : List String} {m : String} (h : ClosedAt all R m) (hs : ∀ x ∈ R, x ∈ R') :
    ClosedAt all R' m := fun td htd c hc hr => hs c (h td htd c hc hr)

/-- the result `R` of a traversal from `seen` towards `targets`: every name entered since `seen` is closed in `R`, and
the targets that resolve are in `R` -/
def Good (all : List TypeDef) (seen R : List String) (targets : List String) : Prop :=
  (∀ m ∈ R, m ∉ seen → ClosedAt all R m) ∧ (∀ c ∈ targets, (findType all c).isSome → c ∈ R)

theorem foldl_good (all : List TypeDef) (fuel : Nat)
    (ih : ∀ seen n, miss all seen < fuel → Good all seen (visit all fuel seen n) [n]) :
    ∀ (cs : List String) (seen : List String), miss all seen < fuel → Good all seen (cs.foldl (visit all fuel) seen) cs := by
  intro cs
  induction cs with
  | nil => intro seen _; exact ⟨fun m hm hn => absurd (by simpa using hm) hn, fun c hc => by simp at hc⟩
  | cons c cs ihc =>
    intro seen hmiss
    simp only [List.foldl_cons]
    have h1 := ih seen c hmiss
    have hsub1 : ∀ x ∈ seen, x ∈ visit all fuel seen c := visit_mono all fuel seen c
    have hmiss1 : miss all (visit all fuel seen c) < fuel := Nat.lt_of_le_of_lt (miss_mono all hsub1) hmiss
    have h2 := ihc (visit all fuel seen c) hmiss1
    have hsub2 := foldl_visit_mono all fuel cs (visit all fuel seen c)
    refine ⟨fun m hm hn => ?_, fun c' hc' hr => ?_⟩
    · by_cases hm1 : m ∈ visit all fuel seen c
      · exact (h1.1 m hm1 hn).mono hsub2
      · exact h2.1 m hm hm1
    · rcases List.mem_cons.mp hc' with rfl | hc''
      · exact hsub2 _ (h1.2 _ (by simp) hr)
      · exact h2.2 c' hc'' hr

theorem visit_good (all : List TypeDef) : ∀ (fuel : Nat) (seen : List String) (n : String),
    miss all seen < fuel → Good all seen (visit all fuel seen n) [n] := by
  intro fuel
  induction fuel with
  | zero => intro seen n h; omega
  | succ fuel ih =>
    intro seen n hmiss
    simp only [visit]
    split
    · rename_i hc
      refine ⟨fun m hm hn => absurd hm hn, fun c hc' _ => ?_⟩
      have : c = n := by simpa using hc'
      subst this
      simpa using hc
    · rename_i hc
      split
      · rename_i hnone
        refine ⟨fun m hm hn => absurd hm hn, fun c hc' hr => ?_⟩
        have : c = n := by simpa using hc'
        subst this
        simp [hnone] at hr
      · rename_i td htd
        have hnot : n ∉ seen := by simpa using hc
        have hmiss' : miss all (n :: seen) < fuel := by
          have := miss_lt all htd hnot
          omega
        have hf := foldl_good all fuel ih (typeRefs td) (n :: seen) hmiss'
        have hsub := foldl_visit_mono all fuel (typeRefs td) (n :: seen)
        refine ⟨fun m hm hn => ?_, fun c hc' _ => ?_⟩
        · by_cases hmn : m = n
          · subst hmn
            intro td' htd' c hcm hr
            rw [htd] at htd'
            cases htd'
            exact hf.2 c hcm hr
          · exact hf.1 m hm (by simp [hmn, hn])
        · have : c = n := by simpa using hc'
          subst this
          exact hsub _ (by simp)

/-- reachability: the least set containing the (resolving) initial names and closed under (resolving) references -/
inductive Reachable (all : List TypeDef) (init : List String) : String → Prop
  | init {n : String} : n ∈ init → (findType all n).isSome → Reachable all init n
  | step {m n : String} {td : TypeDef} : Reachable all init m → findType all m = some td → n ∈ typeRefs td →
      (findType all n).isSome → Reachable all init n

theorem visit_sound (all : List TypeDef) (Q : String → Prop)
    (hstep : ∀ m td c, Q m → findType all m = some td → c ∈ typeRefs td → (findType all c).isSome → Q c) :
    ∀ (fuel : Nat) (seen : List String) (n : String), (∀ x ∈ seen, Q x) → ((findType all n).isSome → Q n) →
      ∀ x ∈ visit all fuel seen n, Q x := by
  intro fuel
  induction fuel with
  | zero => intro seen n hs _ x hx; exact hs x (by simpa [visit] using hx)
  | succ fuel ih =>
    intro seen n hs hn x hx
    simp only [visit] at hx
    split at hx
    · exact hs x hx
    · split at hx
      · exact hs x hx
      · rename_i td htd
        have hQn : Q n := hn (by simp [htd])
        exact List.foldlRecOn (motive := fun acc => ∀ y ∈ acc, Q y) _ _ (List.forall_mem_cons.mpr ⟨hQn, hs⟩)
          (fun acc ha c hc => ih acc c ha (hstep n td c hQn htd hc)) x hx

theorem miss_nil (all : List TypeDef) : miss all [] = all.length := by
  simp [miss]

theorem mem_reach_iff (s : Schema) (supplied : List String) (n : String) :
    n ∈ reach s supplied ↔ Reachable (allTypes s) (initialNames s supplied) n := by
  constructor
  · intro h
    exact List.foldlRecOn (motive := fun acc => ∀ y ∈ acc, Reachable (allTypes s) (initialNames s supplied) y) _ _
      (fun _ hy => by cases hy) (fun acc ha c hc => visit_sound (allTypes s) _
        (fun m td c hm htd hc hr => Reachable.step hm htd hc hr) _ acc c ha (Reachable.init hc)) n h
  · intro h
    have hg := foldl_good (allTypes s) ((allTypes s).length + 1)
      (fun seen n hm => visit_good (allTypes s) _ seen n hm) (initialNames s supplied) []
      (by rw [miss_nil]; omega)
    induction h with
    | init hi hr => exact hg.2 _ hi hr
    | step _ htd hc hr ih => exact hg.1 _ ih (by simp) _ htd _ hc hr

theorem Reachable.resolves {all : List TypeDef} {init : List String} {n : String} (h : Reachable all init n) :
    (findType all n).isSome := by
  cases h with
  | init _ hr => exact hr
  | step _ _ _ hr => exact hr

theorem insertOn_perm {α : Type} (k : α → String) (x : α) : ∀ l : List α, (insertOn k x l).Perm (x :: l) := by
  intro l
  induction l with
  | nil => exact List.Perm.refl _
  | cons y ys ih =>
    simp only [insertOn]
    split
    · exact (List.Perm.cons y ih).trans (List.Perm.swap x y ys)
    · exact List.Perm.refl _

theorem sortOn_perm {α : Type} (k : α → String) : ∀ l : List α, (sortOn k l).Perm l := by
  intro l
  induction l with
  | nil => exact List.Perm.refl _
  | cons x xs ih => exact (insertOn_perm k x _).trans (List.Perm.cons x ih)

theorem mem_sortOn {α : Type} (k : α → String) (y : α) (l : List α) : y ∈ sortOn k l ↔ y ∈ l :=
  (sortOn_perm k l).mem_iff

theorem mem_typesClosure_iff (s : Schema) (supplied : List String) (n : String) :
    n ∈ typesClosure s supplied ↔ Reachable (allTypes s) (initialNames s supplied) n := by
  unfold typesClosure
  rw [mem_sortOn, mem_reach_iff]

theorem filterMap_findType_names (all : List TypeDef) (l : List String) (h : ∀ n ∈ l, (findType all n).isSome) :
    (l.filterMap (findType all)).map (·.name) = l := by
  rw [filterMap_map_eq (findType all) (·.name) id l fun n hn => ?_, List.map_id]
  obtain ⟨td, hf⟩ := Option.isSome_iff_exists.mp (h n hn)
  exact ⟨td, hf, findType_name hf⟩

theorem describeType_name (all defs : List TypeDef) (td : TypeDef) : (describeType all defs td).name = td.name := by
  cases td <;> rfl

theorem closureDefs_names (s : Schema) (supplied : List String) :
    (closureDefs s supplied).map (·.name) = typesClosure s supplied :=
  filterMap_findType_names _ _ (fun n hn => ((mem_typesClosure_iff s supplied n).mp hn).resolves)

theorem introspect_type_names (s : Schema) (supplied : List String) :
    (introspect s supplied).types.map (·.name) = typesClosure s supplied := by
  simp only [introspect, List.map_map]
  exact (List.map_congr_left fun td _ => describeType_name _ _ td).trans (closureDefs_names s supplied)

theorem nodup_sortOn {α : Type} (k : α → String) (l : List α) (hl : l.Nodup) : (sortOn k l).Nodup :=
  (sortOn_perm k l).nodup_iff.mpr hl

theorem visit_nodup (all : List TypeDef) : ∀ (fuel : Nat) (seen : List String) (n : String), seen.Nodup → (visit all fuel seen n).Nodup := by
  intro fuel
  induction fuel with
  | zero => intro seen n h; simpa [visit] using h
  | succ fuel ih =>
    intro seen n h
    simp only [visit]
    split
    · exact h
    · rename_i hc
      split
      · exact h
      · exact foldl_preserves _ List.Nodup ih _ _ (List.nodup_cons.mpr ⟨by simpa using hc, h⟩)

theorem reach_nodup (s : Schema) (supplied : List String) : (reach s supplied).Nodup :=
  foldl_preserves _ List.Nodup (visit_nodup _ _) _ _ List.nodup_nil

theorem typesClosure_nodup (s : Schema) (supplied : List String) : (typesClosure s supplied).Nodup :=
  nodup_sortOn _ _ (reach_nodup s supplied)

theorem filter_eq_nodup (l : List String) (a : String) (h : l.Nodup) : l.filter (· == a) = [] ∨ l.filter (· == a) = [a] := by
  rw [List.filter_beq]
  rcases Nat.le_one_iff_eq_zero_or_eq_one.mp (List.nodup_iff_count.mp h a) with h0 | h1
  · left; rw [h0]; rfl
  · right; rw [h1]; rfl

theorem flatMap_sublist_map {α β : Type} (f : α → List β) (g : α → β) (l : List α) (hf : ∀ x ∈ l, f x = [] ∨ f x = [g x]) :
    (l.flatMap f).Sublist (l.map g) := by
  induction l with
  | nil => exact .slnil
  | cons a l ih =>
    have ih := ih fun x hx => hf x (List.mem_cons_of_mem _ hx)
    rw [List.flatMap_cons, List.map_cons]
    rcases hf a List.mem_cons_self with h0 | h1
    · rw [h0]; exact .cons _ ih
    · rw [h1]; exact .cons_cons _ ih

theorem metaTypes_membersOnce : metaTypes.all membersOnce = true := by decide

theorem findType_mem_all {all : List TypeDef} {n : String} {td : TypeDef} (h : findType all n = some td) : td ∈ all :=
  List.mem_of_find?_eq_some h

theorem mem_closureDefs {s : Schema} {supplied : List String} {td : TypeDef} (h : td ∈ closureDefs s supplied) :
    td ∈ allTypes s := by
  simp only [closureDefs, List.mem_filterMap] at h
  obtain ⟨n, _, hn⟩ := h
  exact findType_mem_all hn

theorem mem_implementers (defs : List TypeDef) (iface o : String) :
    o ∈ implementers defs iface ↔ ∃ ifaces fs ito d, TypeDef.object o ifaces fs ito d ∈ defs ∧ iface ∈ ifaces := by
  unfold implementers
  simp only [List.mem_flatMap]
  constructor
  · rintro ⟨td, htd, hm⟩
    cases td with
    | object n ifaces fs ito d =>
      simp only [List.mem_map, List.mem_filter, beq_iff_eq] at hm
      obtain ⟨i, ⟨hi, rfl⟩, rfl⟩ := hm
      exact ⟨ifaces, fs, ito, d, htd, hi⟩
    | _ => simp at hm
  · rintro ⟨ifaces, fs, ito, d, htd, hi⟩
    refine ⟨_, htd, ?_⟩
    exact List.mem_map.mpr ⟨iface, List.mem_filter.mpr ⟨hi, by simp⟩, rfl⟩

end GqlModel.Introspection
