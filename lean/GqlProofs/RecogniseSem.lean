import GqlProofs.RecogniseRun
/-! The grammar data `G` read in a family of relations `S : NT → Pos → Pos → Prop` (`Sem S g p p'`; a nonterminal means
`S`).  `run_sem`: what `Run` matches lies in every family closed under the rules.  The recursion through the nonterminals
is done there, once; a nonterminal then needs one step `Sem S (rule X) p p' → S X p p'`, whose hypothesis unfolds by `rfl`
into the positions, tokens and sub-derivations of its production. -/
namespace GqlModel.Grammar

inductive Iter (R : Pos → Pos → Prop) : Pos → Pos → Prop
  | nil {p} : Iter R p p
  | cons {p p1 p'} : R p p1 → Iter R p1 p' → Iter R p p'

inductive IterIf (c : Look) (R : Pos → Pos → Prop) : Pos → Pos → Prop
  | done {p} : c.holds p.ts = false → IterIf c R p p
  | more {p p1 p'} : c.holds p.ts = true → R p p1 → IterIf c R p1 p' → IterIf c R p p'
  | stuck {p p'} : R p p' → ¬ p'.ts.length < p.ts.length → IterIf c R p p'

/-- the failures the interpreter went through (`alt`, `opt`) stay as `Run … .no` facts -/
def Sem (S : NT → Pos → Pos → Prop) : G → Pos → Pos → Prop
  | .tok k => fun p p' => ∃ t, Tok k p t p'
  | .kw s => fun p p' => Kw s p p'
  | .nameBut ex => fun p p' => ∃ t, Tok .name p t p' ∧ ¬ t.value ∈ ex
  | .eps => fun p p' => p' = p
  | .seq a b => fun p p' => ∃ p1, Sem S a p p1 ∧ Sem S b p1 p'
  | .alt a b => fun p p' => Sem S a p p' ∨ (Run a p.ts .no ∧ Sem S b p p')
  | .opt a => fun p p' => Sem S a p p' ∨ (Run a p.ts .no ∧ p' = p)
  | .star a => fun p p' => Iter (Sem S a) p p'
  | .optIf c a => fun p p' => (c.holds p.ts = true ∧ Sem S a p p') ∨ (c.holds p.ts = false ∧ p' = p)
  | .starIf c a => fun p p' => IterIf c (Sem S a) p p'
  | .nt x => fun p p' => S x p p'

theorem run_sem {S : NT → Pos → Pos → Prop} (hS : ∀ X p p', Sem S (rule X) p p' → S X p p') :
    ∀ {g : G} {ts : List Token} {o : Out}, Run g ts o → ∀ r, o = .rest r → ∀ e, ∃ e', Sem S g ⟨e, ts⟩ ⟨e', r⟩ := by
  intro g ts o h
  induction h with
  | tok_ok hk => intro r ho e; cases ho; exact ⟨_, _, .mk e _ _ hk⟩
  | kw_ok hk => intro r ho e; cases ho; exact ⟨_, .mk (.mk e _ _ hk.1) hk.2⟩
  | nb_ok hk => intro r ho e; cases ho; exact ⟨_, _, .mk e _ _ hk.1, hk.2⟩
  | eps => intro r ho e; cases ho; exact ⟨e, rfl⟩
  | seq_ok _ _ ih1 ih2 =>
    intro r ho e
    obtain ⟨e1, s1⟩ := ih1 _ rfl e
    obtain ⟨e2, s2⟩ := ih2 r ho e1
    exact ⟨e2, _, s1, s2⟩
  | alt_l _ ih => intro r ho e; obtain ⟨e1, s⟩ := ih r ho e; exact ⟨e1, .inl s⟩
  | alt_r hno _ _ ih => intro r ho e; obtain ⟨e1, s⟩ := ih r ho e; exact ⟨e1, .inr ⟨hno, s⟩⟩
  | opt_some _ ih => intro r ho e; obtain ⟨e1, s⟩ := ih r ho e; exact ⟨e1, .inl s⟩
  | opt_none hno _ => intro r ho e; cases ho; exact ⟨e, .inr ⟨hno, rfl⟩⟩
  | star_done _ _ => intro r ho e; cases ho; exact ⟨e, .nil⟩
  | star_more _ _ _ ih1 ih2 =>
    intro r ho e
    obtain ⟨e1, s1⟩ := ih1 _ rfl e
    obtain ⟨e2, s2⟩ := ih2 r ho e1
    exact ⟨e2, .cons s1 s2⟩
  | star_stuck _ _ ih => intro r ho e; cases ho; obtain ⟨e1, s⟩ := ih _ rfl e; exact ⟨e1, .cons s .nil⟩
  | optIf_yes hc _ ih => intro r ho e; obtain ⟨e1, s⟩ := ih r ho e; exact ⟨e1, .inl ⟨hc, s⟩⟩
  | optIf_no hc => intro r ho e; cases ho; exact ⟨e, .inr ⟨hc, rfl⟩⟩
  | starIf_done hc => intro r ho e; cases ho; exact ⟨e, .done hc⟩
  | starIf_more hc _ _ _ ih1 ih2 =>
    intro r ho e
    obtain ⟨e1, s1⟩ := ih1 _ rfl e
    obtain ⟨e2, s2⟩ := ih2 r ho e1
    exact ⟨e2, .more hc s1 s2⟩
  | starIf_stuck _ _ hnlt ih => intro r ho e; cases ho; obtain ⟨e1, s⟩ := ih _ rfl e; exact ⟨e1, .stuck s hnlt⟩
  | nt _ ih => intro r ho e; obtain ⟨e1, s⟩ := ih r ho e; exact ⟨e1, hS _ _ _ s⟩
  | _ => intro r ho; cases ho

theorem Iter.many {α : Type} {D : Pos → α → Pos → Prop} {p p' : Pos} (h : Iter (fun p p' => ∃ x, D p x p') p p') :
    ∃ xs, Many D p xs p' := by
  induction h with
  | nil => exact ⟨[], .nil⟩
  | cons hx _ ih => obtain ⟨x, hx⟩ := hx; obtain ⟨xs, hxs⟩ := ih; exact ⟨x :: xs, .cons hx hxs⟩

end GqlModel.Grammar
