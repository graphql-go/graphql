import GqlModel.Plan
import GqlProofs.ExecProgram
import GqlProofs.ListSum
/-! # The plan executor's functions as programs over runs

`andThen`, `recover`, `absorbAt` and `shape` are those of the algorithm's description (`GqlProofs/ExecProgram.lean`). The unfolding
equations below say how every function of phase one and every dethunk loop of M is built from them, one per function and kind of
argument; an invariant of the executor needs a rule for `andThen`, one for `recover`, and one line per equation. -/
namespace GqlModel.Plan
open GqlModel.Exec GqlModel.Coerce

/-! ### what a run keeps

`Keeps E Q st x`: the run `x` started in `st` ends in a state `E`-related to `st`, and a value it yields satisfies `Q`. For a
transitive `E` this is closed under `andThen` and `recover`. -/

section keeps
variable {α β σ : Type} {E : σ → σ → Prop} {Q : α → Prop} {Q' : β → Prop} {st st' : σ}

def Keeps (E : σ → σ → Prop) (Q : α → Prop) (st : σ) (x : Res α × σ) : Prop := E st x.2 ∧ ∀ a, x.1 = .ok a → Q a

theorem keeps_ok {a : α} (h : E st st') (ha : Q a) : Keeps E Q st (.ok a, st') :=
  ⟨h, fun _ e => by cases e; exact ha⟩

theorem keeps_fail (h : E st st') : Keeps E Q st (.fail, st') := ⟨h, nofun⟩

theorem keeps_fuelOut (h : E st st') : Keeps E Q st (.fuelOut, st') := ⟨h, nofun⟩

theorem Keeps.mono {E' : σ → σ → Prop} {Q' : α → Prop} {x : Res α × σ} (h : Keeps E Q st x) (hE : ∀ s, E st s → E' st s)
    (hQ : ∀ a, Q a → Q' a) : Keeps E' Q' st x :=
  ⟨hE _ h.1, fun a e => hQ a (h.2 a e)⟩

variable (htr : ∀ a b c : σ, E a b → E b c → E a c)
include htr

theorem Keeps.after {x : Res α × σ} (h0 : E st st') (h : Keeps E Q st' x) : Keeps E Q st x := ⟨htr _ _ _ h0 h.1, h.2⟩

theorem Keeps.andThen {x : Res α × σ} {k : α → σ → Res β × σ} (h : Keeps E Q st x)
    (hk : ∀ a s, Q a → Keeps E Q' s (k a s)) : Keeps E Q' st (andThen x k) := by
  obtain ⟨r, s⟩ := x
  cases r with
  | ok a => exact (hk a s (h.2 a rfl)).after htr h.1
  | fail => exact keeps_fail h.1
  | fuelOut => exact keeps_fuelOut h.1

theorem Keeps.recover {x : Res α × σ} {f : σ → Res α × σ} (h : Keeps E Q st x) (hf : ∀ s, Keeps E Q s (f s)) :
    Keeps E Q st (recover x f) := by
  obtain ⟨r, s⟩ := x
  cases r with
  | ok a => exact h
  | fail => exact (hf s).after htr h.1
  | fuelOut => exact keeps_fuelOut h.1

end keeps

section yields
variable {α β σ : Type} {Q : α → Prop} {Q' : β → Prop}

def Yields (Q : α → Prop) (x : Res α × σ) : Prop := ∀ a, x.1 = .ok a → Q a

theorem yields_ok {a : α} {st : σ} (ha : Q a) : Yields Q ((.ok a : Res α), st) := fun _ e => by cases e; exact ha

theorem yields_fail {st : σ} : Yields Q ((.fail : Res α), st) := nofun

theorem yields_fuelOut {st : σ} : Yields Q ((.fuelOut : Res α), st) := nofun

theorem Yields.andThen {x : Res α × σ} {k : α → σ → Res β × σ} (h : Yields Q x) (hk : ∀ a s, Q a → Yields Q' (k a s)) :
    Yields Q' (andThen x k) := by
  obtain ⟨r, s⟩ := x
  cases r with
  | ok a => exact hk a s (h a rfl)
  | fail => exact yields_fail
  | fuelOut => exact yields_fuelOut

theorem Yields.recover {x : Res α × σ} {f : σ → Res α × σ} (h : Yields Q x) (hf : ∀ s, Yields Q (f s)) :
    Yields Q (recover x f) := by
  obtain ⟨r, s⟩ := x
  cases r with
  | ok a => exact h
  | fail => exact hf s
  | fuelOut => exact yields_fuelOut

theorem yields_absorb (b : Bool) {null : α} {st : σ} (hn : Q null) : Yields Q (absorbAt b null st) := by
  cases b
  · exact yields_ok hn
  · exact yields_fail

end yields

theorem keeps_absorb {α σ : Type} {E : σ → σ → Prop} {Q : α → Prop} {st st' : σ} (b : Bool) {null : α} (h : E st st')
    (hn : Q null) : Keeps E Q st (absorbAt b null st') := by
  cases b
  · exact keeps_ok h hn
  · exact keeps_fail h

def PVal.isNull : PVal → Bool
  | .leaf .null => true
  | _ => false

theorem PVal.isNull_iff {x : PVal} : x.isNull = true ↔ x = .leaf .null := by
  cases x with
  | leaf j => cases j <;> simp [PVal.isNull]
  | _ => simp [PVal.isNull]

/-- "Cannot return null for non-nullable field" -/
def nonNullGuard (p : Path) (dfr : Bool) (x : PVal) (st : MSt) : Res PVal × MSt :=
  if x.isNull then (.fail, st.addErr p dfr) else (.ok x, st)

section phaseOne
variable {c : Ctx} {alt : Alt} {fuel : Nat} {dfr : Bool} {t item : GType} {rt : String} {src v : GoVal} {path p : Path}
  {sid fid : FpId} {fp : FieldPlan} {fd : FieldDefS} {rest : List FieldPlan} {acc : List (String × PVal)} {st : MSt}
  {x : GoVal} {xs : List GoVal} {i : Nat} {ys : List PVal}

theorem mGroups_zero {fps : List FieldPlan} : mGroups c alt 0 dfr rt src path sid fps acc st = (.fuelOut, st) := by
  simp only [mGroups]
theorem mField_zero : mField c alt 0 dfr rt src p fid fp fd st = (.fuelOut, st) := by simp only [mField]
theorem mComplete_zero : mComplete c alt 0 dfr t rt fid fp p v st = (.fuelOut, st) := by simp only [mComplete]
theorem mItems_zero : mItems c alt 0 dfr item rt fid fp p xs i ys st = (.fuelOut, st) := by simp only [mItems]

theorem mGroups_nil :
    mGroups c alt (fuel + 1) dfr rt src path sid [] acc st = (.ok acc, st) := by
  simp only [mGroups]

theorem mGroups_skip (h : fp.pred.eval c.schema c.vars = false ∨ fp.fieldDef = none) :
    mGroups c alt (fuel + 1) dfr rt src path sid (fp :: rest) acc st = mGroups c alt fuel dfr rt src path sid rest acc st := by
  simp only [mGroups]
  rcases h with h | h
  · simp only [h, Bool.not_false, if_true]
  · simp only [h, ite_self]

theorem mGroups_field (hp : fp.pred.eval c.schema c.vars = true) (hfd : fp.fieldDef = some fd) :
    mGroups c alt (fuel + 1) dfr rt src path sid (fp :: rest) acc st =
      andThen (mField c alt fuel dfr rt src (path ++ [.key fp.key]) (sid ++ [(rt, fp.key)]) fp fd st)
        fun v st => mGroups c alt fuel dfr rt src path sid rest (acc ++ [(fp.key, v)]) st := by
  simp only [mGroups, hp, hfd, Bool.not_true, Bool.false_eq_true, if_false]
  rcases mField c alt fuel dfr rt src _ _ fp fd st with ⟨_ | _ | _, _⟩ <;> rfl

/-- the event `resolvePlannedField` logs before it calls the resolver -/
def callEv (c : Ctx) (dfr : Bool) (rt : String) (src : GoVal) (p : Path) (fp : FieldPlan) (fd : FieldDefS) : Event :=
  .call { path := p, parentType := rt, fieldName := fd.name, args := plannedArgs c.schema fp.args c.vars, source := src,
          occurrences := fp.nodes.length, deferred := dfr }

theorem mField_typename (h : (fd.name == "__typename") = true) :
    mField c alt (fuel + 1) dfr rt src p fid fp fd st = (.ok (.leaf (.str rt)), st) := by
  simp only [mField, h, if_true]

theorem mField_succ (h : (fd.name == "__typename") = false) :
    mField c alt (fuel + 1) dfr rt src p fid fp fd st =
      match c.world.outcome src fd.name with
      | .fail => absorbAt fd.type.isNonNull (.leaf .null) ((st.logEv (callEv c dfr rt src p fp fd)).addErr p dfr)
      | .value v =>
        recover (mComplete c alt fuel dfr fd.type rt fid fp p v (st.logEv (callEv c dfr rt src p fp fd)))
          (absorbAt fd.type.isNonNull (.leaf .null)) := by
  simp only [mField, h, Bool.false_eq_true, if_false, callEv]
  cases c.world.outcome src fd.name with
  | fail => rfl
  | value v => simp only; rcases mComplete c alt fuel dfr fd.type rt fid fp p v _ with ⟨_ | _ | _, _⟩ <;> rfl

theorem mItems_nil :
    mItems c alt (fuel + 1) dfr item rt fid fp p [] i ys st = (.ok ys, st) := by
  simp only [mItems]

theorem mItems_cons :
    mItems c alt (fuel + 1) dfr item rt fid fp p (x :: xs) i ys st =
      andThen (recover (mComplete c alt fuel dfr item rt fid fp (p ++ [.idx i]) x st) (absorbAt item.isNonNull (.leaf .null)))
        fun j st => mItems c alt fuel dfr item rt fid fp p xs (i + 1) (ys ++ [j]) st := by
  simp only [mItems]
  rcases mComplete c alt fuel dfr item rt fid fp _ x st with ⟨_ | _ | _, _⟩
  · rfl
  · cases item.isNonNull <;> rfl
  · rfl

theorem mComplete_func {r : Option ThunkRes} (h : funcOf v = some r) :
    mComplete c alt (fuel + 1) dfr t rt fid fp p v st =
      (.ok (.deferred { t := t, rt := rt, fid := fid, fp := fp, path := p, r := r }), st) := by
  simp only [mComplete, h]

theorem mComplete_succ (h : funcOf v = none) :
    mComplete c alt (fuel + 1) dfr t rt fid fp p v st =
      match shape c t v with
      | .nonNull inner => andThen (mComplete c alt fuel dfr inner rt fid fp p v st) (nonNullGuard p dfr)
      | .null => (.ok (.leaf .null), st)
      | .items item xs => andThen (mItems c alt fuel dfr item rt fid fp p xs 0 [] st) fun js st => (.ok (.list js), st)
      | .leaf j => (.ok (.leaf j), st)
      | .object ot =>
        andThen (mGroups c alt fuel dfr ot v p fid (alt st.memo fid fp ot).1 [] { st with memo := (alt st.memo fid fp ot).2 })
          fun fs st => (.ok (.obj fs), st)
      | .error => (.fail, st.addErr p dfr) := by
  simp only [mComplete, h]
  refine Eq.trans (shape_elim c t v _ _ _ _ _ _ _ fun _ => rfl) ?_
  cases shape c t v with
  | nonNull inner =>
    simp only
    rcases mComplete c alt fuel dfr inner rt fid fp p v st with ⟨x | _ | _, st1⟩
    · simp only [andThen_ok, nonNullGuard]
      cases hx : x.isNull with
      | true => rw [PVal.isNull_iff.1 hx]; rfl
      | false =>
        have hx' : x ≠ .leaf .null := fun e => by rw [PVal.isNull_iff.2 e] at hx; cases hx
        simp only [Bool.false_eq_true, if_false]
        split
        · rename_i heq; simp only [Prod.mk.injEq, Res.ok.injEq] at heq; exact absurd heq.1 hx'
        · rfl
    · rfl
    · rfl
  | null => rfl
  | items item xs => simp only; rcases mItems c alt fuel dfr item rt fid fp p xs 0 [] st with ⟨_ | _ | _, _⟩ <;> rfl
  | leaf j => rfl
  | object ot => simp only; rcases mGroups c alt fuel dfr ot v p fid _ [] _ with ⟨_ | _ | _, _⟩ <;> rfl
  | error => rfl

end phaseOne

section phaseTwo
variable {c : Ctx} {alt : Alt} {frc : Closure → MSt → Res PVal × MSt} {fuel dfuel n : Nat} {st : MSt} {cl : Closure}
  {v x : PVal} {p : Path} {seg : PathSeg} {segs : List PathSeg} {root : PVal} {q : List Path}
  {k : String} {ks : List String} {fs acc : List (String × PVal)} {xs ys : List PVal}
  {rt : String} {fp : FieldPlan} {fd : FieldDefS} {rest : List FieldPlan}

theorem force_eq :
    force c alt fuel cl st =
      match cl.r with
      | none => absorbAt cl.t.isNonNull (.leaf .null) (st.addErr cl.path true)
      | some .err => absorbAt cl.t.isNonNull (.leaf .null) ((st.logEv (.force cl.path)).addErr cl.path true)
      | some (.ok v) =>
        recover (mComplete c alt fuel true cl.t cl.rt cl.fid cl.fp cl.path v (st.logEv (.force cl.path)))
          (absorbAt cl.t.isNonNull (.leaf .null)) := by
  unfold force
  cases cl.r with
  | none => rfl
  | some r =>
    cases r with
    | err => rfl
    | ok v => simp only; rcases mComplete c alt fuel true cl.t cl.rt cl.fid cl.fp cl.path v _ with ⟨_ | _ | _, _⟩ <;> rfl

theorem forceLoop_zero : forceLoop frc 0 v st = (.fuelOut, st) := by simp only [forceLoop]

theorem forceLoop_succ :
    forceLoop frc (n + 1) v st = match v with
      | .deferred cl => andThen (frc cl st) (forceLoop frc n)
      | v => (.ok v, st) := by
  cases v with
  | deferred cl => simp only [forceLoop]; rcases frc cl st with ⟨_ | _ | _, _⟩ <;> rfl
  | _ => simp only [forceLoop]

theorem forceLoop_deferred : forceLoop frc (n + 1) (.deferred cl) st = andThen (frc cl st) (forceLoop frc n) :=
  forceLoop_succ

theorem bfsEntries_nil : bfsEntries frc p [] root q st = (.ok (root, q), st) := by simp only [bfsEntries]

theorem bfsEntries_cons :
    bfsEntries frc p (seg :: segs) root q st =
      match root.getAt (p ++ [seg]) with
      | some (.deferred cl) =>
        andThen (frc cl st) fun v st =>
          bfsEntries frc p segs (root.setAt (p ++ [seg]) v) (if v.isContainer then q ++ [p ++ [seg]] else q) st
      | some v => bfsEntries frc p segs root (if v.isContainer then q ++ [p ++ [seg]] else q) st
      | none => bfsEntries frc p segs root q st := by
  simp only [bfsEntries]
  cases root.getAt (p ++ [seg]) with
  | none => rfl
  | some v =>
    cases v with
    | deferred cl => simp only; rcases frc cl st with ⟨_ | _ | _, _⟩ <;> rfl
    | _ => rfl

theorem bfsLoop_zero : bfsLoop frc 0 root q st = (.fuelOut, st) := by simp only [bfsLoop]
theorem bfsLoop_nil : bfsLoop frc (fuel + 1) root [] st = (.ok root, st) := by simp only [bfsLoop]

theorem bfsLoop_cons :
    bfsLoop frc (fuel + 1) root (p :: q) st =
      match root.getAt p with
      | some cont => andThen (bfsEntries frc p (childSegs cont) root q st) fun r st => bfsLoop frc fuel r.1 r.2 st
      | none => bfsLoop frc fuel root q st := by
  simp only [bfsLoop]
  cases root.getAt p with
  | none => rfl
  | some cont => simp only; rcases bfsEntries frc p (childSegs cont) root q st with ⟨⟨_, _⟩ | _ | _, _⟩ <;> rfl

/-- `dethunkValueDepthFirst` once the value is no closure: descend into a map or list -/
def dfsDescend (frc : Closure → MSt → Res PVal × MSt) (fuel : Nat) (x : PVal) (st : MSt) : Res PVal × MSt :=
  match x with
  | .obj fs => andThen (dfsFields frc fuel (sortedKeys fs) fs st) fun fs st => (.ok (.obj fs), st)
  | .list xs => andThen (dfsItems frc fuel xs [] st) fun xs st => (.ok (.list xs), st)
  | x => (.ok x, st)

theorem dfsVal_zero : dfsVal frc 0 v st = (.fuelOut, st) := by simp only [dfsVal]
theorem dfsFields_zero : dfsFields frc 0 ks fs st = (.fuelOut, st) := by simp only [dfsFields]
theorem dfsItems_zero : dfsItems frc 0 xs ys st = (.fuelOut, st) := by simp only [dfsItems]

theorem dfsVal_deferred : dfsVal frc (fuel + 1) (.deferred cl) st = andThen (frc cl st) (dfsDescend frc fuel) := by
  simp only [dfsVal]
  rcases frc cl st with ⟨x | _ | _, st1⟩
  · cases x with
    | obj fs => simp only [andThen_ok, dfsDescend]; rcases dfsFields frc fuel (sortedKeys fs) fs st1 with ⟨_ | _ | _, _⟩ <;> rfl
    | list xs => simp only [andThen_ok, dfsDescend]; rcases dfsItems frc fuel xs [] st1 with ⟨_ | _ | _, _⟩ <;> rfl
    | _ => rfl
  · rfl
  · rfl

theorem dfsVal_value (h : ∀ cl, v ≠ .deferred cl) : dfsVal frc (fuel + 1) v st = dfsDescend frc fuel v st := by
  cases v with
  | deferred cl => exact absurd rfl (h cl)
  | obj fs => simp only [dfsVal, dfsDescend]; rcases dfsFields frc fuel (sortedKeys fs) fs st with ⟨_ | _ | _, _⟩ <;> rfl
  | list xs => simp only [dfsVal, dfsDescend]; rcases dfsItems frc fuel xs [] st with ⟨_ | _ | _, _⟩ <;> rfl
  | leaf j => rfl

theorem dfsFields_nil : dfsFields frc (fuel + 1) [] fs st = (.ok fs, st) := by simp only [dfsFields]

theorem dfsFields_cons :
    dfsFields frc (fuel + 1) (k :: ks) fs st =
      match lookupF fs k with
      | none => dfsFields frc fuel ks fs st
      | some v => andThen (dfsVal frc fuel v st) fun v' st => dfsFields frc fuel ks (setF fs k v') st := by
  simp only [dfsFields]
  cases lookupF fs k with
  | none => rfl
  | some v => simp only; rcases dfsVal frc fuel v st with ⟨_ | _ | _, _⟩ <;> rfl

theorem dfsItems_nil : dfsItems frc (fuel + 1) [] ys st = (.ok ys, st) := by simp only [dfsItems]

theorem dfsItems_cons :
    dfsItems frc (fuel + 1) (x :: xs) ys st =
      andThen (dfsVal frc fuel x st) fun x' st => dfsItems frc fuel xs (ys ++ [x']) st := by
  simp only [dfsItems]
  rcases dfsVal frc fuel x st with ⟨_ | _ | _, _⟩ <;> rfl

theorem mRootMut_zero {fps : List FieldPlan} : mRootMut c alt dfuel 0 rt fps acc st = (.fuelOut, st) := by simp only [mRootMut]

theorem mRootMut_nil : mRootMut c alt dfuel (fuel + 1) rt [] acc st = (.ok acc, st) := by simp only [mRootMut]

theorem mRootMut_skip (h : fp.pred.eval c.schema c.vars = false ∨ fp.fieldDef = none) :
    mRootMut c alt dfuel (fuel + 1) rt (fp :: rest) acc st = mRootMut c alt dfuel fuel rt rest acc st := by
  simp only [mRootMut]
  rcases h with h | h
  · simp only [h, Bool.not_false, if_true]
  · simp only [h, ite_self]

theorem mRootMut_field (hp : fp.pred.eval c.schema c.vars = true) (hfd : fp.fieldDef = some fd) :
    mRootMut c alt dfuel (fuel + 1) rt (fp :: rest) acc st =
      andThen (mField c alt fuel false rt .nil [.key fp.key] [(rt, fp.key)] fp fd st) fun v st =>
        andThen (dfsVal (forceAll c alt dfuel) dfuel v st) fun v' st =>
          mRootMut c alt dfuel fuel rt rest (acc ++ [(fp.key, v')]) st := by
  simp only [mRootMut, hp, hfd, Bool.not_true, Bool.false_eq_true, if_false]
  rcases mField c alt fuel false rt .nil [.key fp.key] [(rt, fp.key)] fp fd st with ⟨v | _ | _, st1⟩
  · simp only [andThen_ok]; rcases dfsVal (forceAll c alt dfuel) dfuel v st1 with ⟨_ | _ | _, _⟩ <;> rfl
  · rfl
  · rfl

theorem runPlan_eq (q : Plan) :
    runPlan c alt q fuel st =
      if q.isMutation then
        andThen (mRootMut c alt fuel fuel q.rootType q.root [] st) fun fs st =>
          dfsFields (forceAll c alt fuel) fuel (sortedKeys fs) fs st
      else
        andThen (mGroups c alt fuel false q.rootType .nil [] [] q.root [] st) fun fs st =>
          andThen (bfsLoop (forceAll c alt fuel) fuel (.obj fs) [[]] st) fun root st => (.ok root.fields, st) := by
  unfold runPlan
  cases q.isMutation with
  | true => simp only [if_true]; rcases mRootMut c alt fuel fuel q.rootType q.root [] st with ⟨_ | _ | _, _⟩ <;> rfl
  | false =>
    simp only [Bool.false_eq_true, if_false]
    rcases mGroups c alt fuel false q.rootType .nil [] [] q.root [] st with ⟨fs | _ | _, st1⟩
    · simp only [andThen_ok]; rcases bfsLoop (forceAll c alt fuel) fuel (.obj fs) [[]] st1 with ⟨_ | _ | _, _⟩ <;> rfl
    · rfl
    · rfl

end phaseTwo

end GqlModel.Plan
