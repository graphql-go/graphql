import GqlProofs.VisitorParallel
/-! # C19: how many callbacks one traversal makes (on top of C14's model of `visitor.Visit`)

`countV pol` is a visitor whose state is the number of times it has been called and whose decisions
(continue / skip / break) are given by an arbitrary policy — an abstraction of a validation rule as far as the
NUMBER of its callbacks is concerned. -/
namespace GqlModel.Visitor

def countV (pol : Policy) : Visitor Nat where
  enter := fun n id _ => (n + 1, pol id .enter)
  leave := fun n id _ => (n + 1, pol id .leave)

theorem fold_countV (pol : Policy) (evs : List Ev) (st : Nat) :
    evs.foldl (applyEv (countV pol)) st = st + evs.length := by
  have : applyEv (countV pol) = fun n _ => n + 1 := by funext n ⟨ph, _, _⟩; cases ph <;> rfl
  rw [this, List.foldl_add_const, Nat.one_mul]

theorem CallsWithin.count_le {pol : Policy} {l : List Ev} {st n : Nat} {r : Nat × Bool}
    (h : CallsWithin (countV pol) l st r) (hl : l.length = n) : r.1 ≤ st + n := by
  obtain ⟨evs, hs, hq⟩ := h
  rw [hq, fold_countV, ← hl]
  exact Nat.add_le_add_left hs.length_le st

theorem events_len_all : WalkAll idle fun l p _ _ => l.length = 2 * p.length := by
  refine walk_induct rfl (fun h₁ h₂ => ?_) (fun id slots c ih => ?_)
  · rw [List.length_append, List.length_append, h₁, h₂, Nat.mul_add]
  · simp only [Node.events, Node.pre, List.length_cons, List.length_append, List.length_nil, ih]
    omega

theorem events_len_slots : ∀ (ss : List Slot) (pid : Nat) (path : List Key) (anc : List (Option Nat)),
    (Slot.eventsList pid path anc ss).length = 2 * (Slot.preList ss).length :=
  events_len_all.slots

theorem events_len_elems : ∀ (ns : List Node) (i : Nat) (path : List Key) (anc : List (Option Nat)),
    (Node.eventsElems path anc ns i).length = 2 * (Node.preList ns).length :=
  events_len_all.elems

theorem count_slots (pol : Policy) : ∀ (ss : List Slot) (pid : Nat) (path : List Key) (anc : List (Option Nat)) (st : Nat),
    (visitSlots (countV pol) pid path anc ss st).1 ≤ st + 2 * (Slot.preList ss).length :=
  fun ss pid path anc st => ((callsWithin_all _).slots ss pid path anc st).count_le (events_len_slots ss pid path anc)

theorem count_elems (pol : Policy) : ∀ (ns : List Node) (i : Nat) (path : List Key) (anc : List (Option Nat)) (st : Nat),
    (visitElems (countV pol) path anc ns i st).1 ≤ st + 2 * (Node.preList ns).length :=
  fun ns i path anc st => ((callsWithin_all _).elems ns i path anc st).count_le (events_len_elems ns i path anc)

/-- one traversal calls a visitor at most twice per node, whatever it skips or breaks -/
theorem walk_count_le (pol : Policy) (root : Node) : (walk (countV pol) root 0).1 ≤ 2 * root.pre.length := by
  simpa [walk] using ((callsWithin_all _).node root ⟨none, none, [], []⟩ 0).count_le (events_len_all.node root _)

/-- … and exactly twice per node when it always continues -/
theorem walk_count_allCont (root : Node) : (walk (countV (fun _ _ => .cont)) root 0).1 = 2 * root.pre.length := by
  rw [walk, (fold_all _ ⟨fun _ _ _ => rfl, fun _ _ _ => rfl⟩).node, fold_countV, events_len_all.node, Nat.zero_add]

end GqlModel.Visitor
