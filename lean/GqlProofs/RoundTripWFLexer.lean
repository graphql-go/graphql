import GqlProofs.PrinterNumberText
import GqlProofs.RoundTripWFGrammar
import GqlProofs.RoundTripLexName
import GqlProofs.LexerLoop
/-! C08 `parse_ok_WF`, lexer half: every successful `readToken` of M (whatever the input — D-03a included: each call
scans one lexeme of the spec's `token` at the position it was resumed at) returns a NAME whose value is a GraphQL name,
an INT / FLOAT whose value is a number text of the grammar.  Through `LTok.toToken` (ASCII bytes ↦ the same characters)
this is `TokWF`. -/
namespace GqlModel.RoundTrip
open GqlModel.Lexer GqlModel.Lexer.Spec GqlModel.Reader

/-- byte to character on ASCII, the way back from `byteOf` (RoundTripLexName) -/
def charOf (b : UInt8) : Char := Char.ofNat b.toNat

theorem charOf_toNat (b : UInt8) (h : b.toNat < 128) : (charOf b).toNat = b.toNat := by
  have t : ∀ k : Fin 128, (Char.ofNat k.val).toNat = k.val := by decide +kernel
  exact t ⟨b.toNat, h⟩

theorem enc_charOf (b : UInt8) (h : b.toNat < 128) : String.utf8EncodeChar (charOf b) = [b] := by
  rw [enc_ascii _ (by rw [charOf_toNat b h]; exact h), charOf_toNat b h]
  simp

theorem utf8_map_charOf : ∀ bs : List UInt8, (∀ b ∈ bs, b.toNat < 128) → utf8 (bs.map charOf) = bs
  | [], _ => rfl
  | b :: bs, h => by
    simp only [List.map_cons, utf8_cons, enc_charOf b (h b (by simp)),
      utf8_map_charOf bs (fun x hx => h x (by simp [hx]))]
    rfl

theorem chars_of_ascii (bs : List UInt8) (h : ∀ b ∈ bs, b.toNat < 128) : (bytesToString bs).toList = bs.map charOf := by
  have := bytesToString_utf8 (bs.map charOf)
  rw [utf8_map_charOf bs h] at this
  rw [this, String.toList_ofList]

theorem nameStart_char {b : UInt8} (h : isNameStartByte b) : b.toNat < 128 ∧ Reader.isNameStart (charOf b) = true := by
  unfold isNameStartByte at h
  bnorm at h
  have hl : b.toNat < 128 := by omega
  refine ⟨hl, ?_⟩
  simp only [Reader.isNameStart, charOf_toNat b hl, Bool.or_eq_true, Bool.and_eq_true, decide_eq_true_eq]
  omega

theorem digit_char {b : UInt8} (h : isDigitByte b) : b.toNat < 128 ∧ Reader.isDigit (charOf b) = true := by
  unfold isDigitByte at h
  have hl : b.toNat < 128 := by omega
  refine ⟨hl, ?_⟩
  simp only [Reader.isDigit, charOf_toNat b hl, Bool.and_eq_true, decide_eq_true_eq]
  omega

theorem nameCont_char {b : UInt8} (h : isNameContByte b) : b.toNat < 128 ∧ Reader.isNameCont (charOf b) = true := by
  rcases h with h | h
  · exact ⟨(nameStart_char h).1, by simp [Reader.isNameCont, (nameStart_char h).2]⟩
  · exact ⟨(digit_char h).1, by simp [Reader.isNameCont, (digit_char h).2]⟩

theorem allDigits_char {ds : List UInt8} (h : AllDigits ds) :
    (∀ b ∈ ds, b.toNat < 128) ∧ (ds.map charOf).all Reader.isDigit = true := by
  refine ⟨fun b hb => (digit_char (h b hb)).1, ?_⟩
  rw [List.all_eq_true]
  intro c hc
  obtain ⟨b, hb, rfl⟩ := List.mem_map.mp hc
  exact (digit_char (h b hb)).2

theorem intPart_char {l : List UInt8} (h : IsIntegerPart l) :
    (∀ b ∈ l, b.toNat < 128) ∧ isIntLit (l.map charOf) = true := by
  obtain ⟨sign, body, rfl, hsign, hbody⟩ := h
  have hb : (∀ b ∈ body, b.toNat < 128) ∧ isIntBody (body.map charOf) = true := by
    rcases hbody with rfl | ⟨d, ds, rfl, hd, h0, hds⟩
    · exact ⟨by intro b hb; simp at hb; subst hb; decide, by decide⟩
    · obtain ⟨hdl, hdc⟩ := digit_char hd
      obtain ⟨hdsl, hdsc⟩ := allDigits_char hds
      refine ⟨?_, isIntBody_iff.mpr (Or.inr ⟨charOf d, ds.map charOf, rfl, hdc, ?_, hdsc⟩)⟩
      · intro b hb
        rcases List.mem_cons.mp hb with rfl | hb
        · exact hdl
        · exact hdsl b hb
      · intro e
        have : d.toNat = '0'.toNat := by rw [← e, charOf_toNat d hdl]
        apply h0; bnorm; exact this
  refine ⟨?_, isIntLit_iff.mpr ⟨sign.map charOf, body.map charOf, by simp, ?_, hb.2⟩⟩
  · intro b hb'
    rcases List.mem_append.mp hb' with h | h
    · rcases hsign with rfl | rfl <;> simp at h
      subst h; decide
    · exact hb.1 b h
  · rcases hsign with rfl | rfl
    · exact Or.inl rfl
    · exact Or.inr (by decide)

theorem fracPart_char {l : List UInt8} (h : IsFractionalPart l) :
    (∀ b ∈ l, b.toNat < 128) ∧ isFracPart (l.map charOf) = true ∧ l ≠ [] := by
  obtain ⟨ds, rfl, hne, hds⟩ := h
  obtain ⟨hl, hc⟩ := allDigits_char hds
  refine ⟨?_, isFracPart_iff.mpr ⟨ds.map charOf, by rw [List.map_cons]; rfl, by simpa using hne, hc⟩, by simp⟩
  intro b hb
  rcases List.mem_cons.mp hb with rfl | hb
  · decide
  · exact hl b hb

theorem expPart_char {l : List UInt8} (h : IsExponentPart l) :
    (∀ b ∈ l, b.toNat < 128) ∧ isExpPart (l.map charOf) = true ∧ l ≠ [] := by
  obtain ⟨e, sign, ds, rfl, he, hsign, hne, hds⟩ := h
  obtain ⟨hl, hc⟩ := allDigits_char hds
  refine ⟨?_, isExpPart_iff.mpr ⟨charOf e, sign.map charOf, ds.map charOf, by simp, ?_, ?_, by simpa using hne, hc⟩,
    by simp⟩
  · intro b hb
    rcases List.mem_cons.mp hb with rfl | hb
    · rcases he with rfl | rfl <;> decide
    · rcases List.mem_append.mp hb with hb | hb
      · rcases hsign with rfl | rfl | rfl <;> simp at hb <;> subst hb <;> decide
      · exact hl b hb
  · rcases he with rfl | rfl
    · exact Or.inr (by decide)
    · exact Or.inl (by decide)
  · rcases hsign with rfl | rfl | rfl
    · exact Or.inl rfl
    · exact Or.inr (Or.inl (by decide))
    · exact Or.inr (Or.inr (by decide))

theorem int_value_wf {l : List UInt8} (h : IsIntValue l) : isIntLit (bytesToString l).toList = true := by
  obtain ⟨hl, hc⟩ := intPart_char h
  rw [chars_of_ascii l hl]; exact hc

theorem float_value_wf {l : List UInt8} (h : IsFloatValue l) : IsFloatLit (bytesToString l).toList := by
  obtain ⟨i, f, x, rfl, hi, hfx⟩ := h
  obtain ⟨hil, hic⟩ := intPart_char hi
  have key : (∀ b ∈ f, b.toNat < 128) ∧ (∀ b ∈ x, b.toNat < 128) ∧
      (f.map charOf = [] ∨ isFracPart (f.map charOf) = true) ∧ (x.map charOf = [] ∨ isExpPart (x.map charOf) = true) ∧
      (f.map charOf ≠ [] ∨ x.map charOf ≠ []) := by
    rcases hfx with ⟨hf, rfl⟩ | ⟨rfl, hx⟩ | ⟨hf, hx⟩
    · obtain ⟨h1, h2, h3⟩ := fracPart_char hf
      exact ⟨h1, by simp, Or.inr h2, Or.inl rfl, Or.inl (by simpa using h3)⟩
    · obtain ⟨h1, h2, h3⟩ := expPart_char hx
      exact ⟨by simp, h1, Or.inl rfl, Or.inr h2, Or.inr (by simpa using h3)⟩
    · obtain ⟨h1, h2, h3⟩ := fracPart_char hf
      obtain ⟨g1, g2, g3⟩ := expPart_char hx
      exact ⟨h1, g1, Or.inr h2, Or.inr g2, Or.inl (by simpa using h3)⟩
  obtain ⟨hfl, hxl, hfc, hxc, hne⟩ := key
  have hall : ∀ b ∈ i ++ f ++ x, b.toNat < 128 := by
    intro b hb
    simp only [List.mem_append] at hb
    rcases hb with (hb | hb) | hb
    · exact hil b hb
    · exact hfl b hb
    · exact hxl b hb
  rw [chars_of_ascii _ hall]
  exact ⟨i.map charOf, f.map charOf, x.map charOf, by simp, hic, hfc, hxc, hne⟩

/-- `TokWF` of the token a lexer token with this kind and value becomes (`LTok.toToken`) -/
def LTokWF (k : TokenKind) (v : List UInt8) : Prop := TokWF ⟨k, 0, 0, bytesToString v⟩

theorem lexeme_wf {k : TokenKind} {l v rest : List UInt8} (h : Lexeme k l v rest) : LTokWF k v := by
  cases h with
  | @punct c k _ hp =>
    have h1 := punctuatorByte_ne_name hp
    have h2 : k ≠ .int ∧ k ≠ .float :=
      ⟨fun e => punctuatorByte_ne c (x := .int) (by decide) (e ▸ hp), fun e => punctuatorByte_ne c (x := .float) (by decide) (e ▸ hp)⟩
    cases k <;> first | trivial | exact absurd rfl h1 | exact absurd rfl h2.1 | exact absurd rfl h2.2
  | @name c l _ hs hall _ =>
    have hasc : ∀ b ∈ c :: l, b.toNat < 128 := fun b hb =>
      (List.mem_cons.1 hb).elim (· ▸ (nameStart_char hs).1) fun hb => (nameCont_char (hall b hb)).1
    show isNameC (bytesToString (c :: l)).toList = true
    rw [chars_of_ascii _ hasc]
    simp only [List.map_cons, isNameC, Bool.and_eq_true, List.all_eq_true]
    exact ⟨(nameStart_char hs).2, fun x hx => by
      obtain ⟨b, hb, rfl⟩ := List.mem_map.mp hx; exact (nameCont_char (hall b hb)).2⟩
  | @number k l _ hg =>
    have hn := (number_munch k).intro hg
    rcases number_sound hn with ⟨rfl, hv⟩ | ⟨rfl, hv⟩ <;> rw [List.take_left] at hv
    · exact int_value_wf hv
    · exact float_value_wf hv
  | _ => trivial

theorem readToken_wf (body : List UInt8) (off : Nat) (t : LTok) (h : readToken body off = .ok t) : LTokWF t.kind t.value := by
  obtain ⟨k, _, _, hm⟩ := readToken_spec body off
  match hd : (body.drop off).drop (ignoredLen false (body.drop off)) with
  | [] =>
    rw [hd] at hm; simp only at hm
    rw [hm] at h; cases h; trivial
  | c :: r =>
    rw [hd] at hm; simp only at hm
    match ht : token (c :: r) with
    | .ok (kind, len, v) =>
      rw [ht] at hm; simp only at hm
      rw [hm] at h; cases h
      exact lexeme_wf ((token_munch kind v).elim ht).2
    | .error (o, ek) =>
      rw [ht] at hm; simp only at hm
      obtain ⟨q, hq, _⟩ := hm
      rw [hq] at h; cases h

theorem lexLoop_wf (body : List UInt8) : ∀ (f p : Nat), ∀ t ∈ (lexLoop f body p).tokens, LTokWF t.kind t.value
  | 0, p, t, ht => by simp [lexLoop] at ht
  | f + 1, p, t, ht => by
    simp only [lexLoop] at ht
    match hr : readToken body p with
    | .error e => rw [hr] at ht; simp at ht
    | .ok t0 =>
      rw [hr] at ht; simp only at ht
      by_cases hk : t0.kind = .eof
      · simp only [hk, if_true, List.mem_cons, List.mem_nil_iff, or_false] at ht
        subst ht; exact readToken_wf body p _ hr
      · simp only [hk, if_false, List.mem_cons] at ht
        rcases ht with rfl | ht
        · exact readToken_wf body p _ hr
        · exact lexLoop_wf body f _ t ht

theorem lexAll_tokWF (src : List UInt8) : ∀ t ∈ (Lexer.lexAll src).tokens.map LTok.toToken, TokWF t := by
  intro t ht
  obtain ⟨lt, hlt, rfl⟩ := List.mem_map.mp ht
  exact lexLoop_wf src _ 0 lt hlt

end GqlModel.RoundTrip
