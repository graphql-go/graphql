import GqlProofs.CostSize
/-! # C19: what ONE collection can put into the field plans — a counting argument

Every selection set is entered at most once per collection (inline fragments syntactically, fragment bodies by the
visited set), and a field node is appended to exactly one group when its set is entered. Hence any additive measure
of the appended field ASTs is bounded by the same measure of the syntax that was entered: the sets handed to the
collection plus every fragment definition once. Two instances: the NUMBER of merged field ASTs (`astCount`) and the
total number of selection sets at or below the merged sub-selections (`fieldsW`). No notion of node identity is
needed. -/
namespace GqlModel.Cost

/-- an additive measure of field plans: appending a field AST with sub-selection `sub` adds `φ sub` -/
structure Meas (c : Ctx) where
  M : List FieldPlan → Nat
  φ : Option SelectionSet → Nat
  add : ∀ (key name : String) (sub : Option SelectionSet) (ch : Chain) (fields : List FieldPlan),
    M (addField c key name (sub.map (·, ch)) fields) = M fields + φ sub

mutual
/-- the measure of the field nodes DIRECTLY in a selection (through inline fragments, not through spreads or fields) -/
def bSel (φ : Option SelectionSet → Nat) : Selection → Nat
  | .field _ _ _ _ sub _ => φ sub
  | .spread _ _ _ => 0
  | .inline _ _ ss _ => bSet φ ss
def bSet (φ : Option SelectionSet → Nat) : SelectionSet → Nat
  | .mk sels _ => bSels φ sels
def bSels (φ : Option SelectionSet → Nat) : List Selection → Nat
  | [] => 0
  | s :: rest => bSel φ s + bSels φ rest
end

variable {c : Ctx}

def pot (m : Meas c) (v : List String) : Nat := potential (fun f => bSet m.φ f.2.2) c.frags v

/-- `b` holds at most `budget` more than `a`, counting what the unvisited fragment definitions could still add -/
def WRel (m : Meas c) (a b : St) (budget : Nat) : Prop :=
  m.M b.fields + pot m b.visited ≤ m.M a.fields + pot m a.visited + budget

def RecW (m : Meas c) (rec : Chain → SelectionSet → St → St) : Prop :=
  ∀ ch body st, WRel m st (rec ch body st) (bSet m.φ body)

theorem WRel.trans {m : Meas c} {a b d : St} {x y : Nat} (h1 : WRel m a b x) (h2 : WRel m b d y) :
    WRel m a d (x + y) :=
  Nat.le_trans h2 (Nat.add_assoc _ x y ▸ Nat.add_le_add_right h1 y)

mutual
theorem collectSel_weight (m : Meas c) {rec} (hrec : RecW m rec) (ch : Chain) :
    ∀ (sel : Selection) (st : St), WRel m st (collectSel c rec ch sel st) (bSel m.φ sel)
  | .field alias name args dirs sub loc, st => by
    rcases collectSel_field c rec ch dirs loc st alias name args sub with e | e
    · rw [e]; exact Nat.le_add_right _ _
    · rw [e]
      show m.M (addField c _ _ (sub.map (·, ch)) st.fields) + pot m st.visited ≤
        m.M st.fields + pot m st.visited + m.φ sub
      rw [m.add]
      exact Nat.le_of_eq (Nat.add_right_comm _ _ _)
  | .inline tc dirs ss loc, st => by
    rcases collectSel_inline c rec ch dirs loc st tc ss with e | e
    · rw [e]; exact Nat.le_add_right _ _
    · rw [e]; exact collectSet_weight m hrec ch ss st
  | .spread name dirs loc, st => by
    rcases collectSel_spread c rec ch dirs loc st name with e | ⟨f, hnv, _, hl, ⟨_, e⟩ | ⟨_, e⟩⟩
    · rw [e]; exact Nat.le_add_right _ _
    · have hp : pot m (name.value :: st.visited) + bSet m.φ f.2.2 ≤ pot m st.visited :=
        potential_visit _ c.frags st.visited name.value f hl hnv
      rw [e]
      exact Nat.add_le_add_left (Nat.le_trans (Nat.le_add_right _ _) hp) (m.M st.fields)
    · have hp : pot m (name.value :: st.visited) + bSet m.φ f.2.2 ≤ pot m st.visited :=
        potential_visit _ c.frags st.visited name.value f hl hnv
      have h : _ + _ ≤ m.M st.fields + pot m (name.value :: st.visited) + _ :=
        hrec (name.value :: ch) f.2.2
          { st with visited := name.value :: st.visited, entered := name.value :: st.entered }
      rw [e]
      exact Nat.le_trans h (Nat.add_assoc _ _ _ ▸ Nat.add_le_add_left hp _)
theorem collectSet_weight (m : Meas c) {rec} (hrec : RecW m rec) (ch : Chain) :
    ∀ (ss : SelectionSet) (st : St), WRel m st (collectSet c rec ch ss st) (bSet m.φ ss)
  | .mk sels _, st => collectSels_weight m hrec ch sels { st with collect := st.collect + 1 }
theorem collectSels_weight (m : Meas c) {rec} (hrec : RecW m rec) (ch : Chain) :
    ∀ (sels : List Selection) (st : St), WRel m st (collectSels c rec ch sels st) (bSels m.φ sels)
  | [], _ => Nat.le_refl _
  | s :: rest, st =>
    (collectSel_weight m hrec ch s st).trans (collectSels_weight m hrec ch rest (collectSel c rec ch s st))
end

theorem collectFuel_weight (m : Meas c) : ∀ n, RecW m (collectFuel c n)
  | 0 => fun _ _ _ => Nat.le_add_right _ _
  | n + 1 => fun ch body st => collectSet_weight m (collectFuel_weight m n) ch body st

/-- one `planMergedSelectionsForType`: the measure of the resulting field plans is at most the measure of the merged
sub-selections' direct fields plus that of every fragment definition once -/
theorem planMerged_weight (m : Meas c) : ∀ (subs : List (SelectionSet × Chain)) (st : St),
    WRel m st (planMerged c subs st) ((subs.map (fun s => bSet m.φ s.1)).sum)
  | [], _ => Nat.le_refl _
  | (ss, ch) :: rest, st =>
    WRel.trans (collectFuel_weight m (fuelFor c) ch ss st) (planMerged_weight m rest (collectTop c ch ss st))

/-! ## the number of merged field ASTs -/

def astCount (fields : List FieldPlan) : Nat := (fields.map (·.nAsts)).sum

theorem astCount_addField (c : Ctx) (key name : String) (sub : Option (SelectionSet × Chain)) :
    ∀ fields : List FieldPlan, astCount (addField c key name sub fields) = astCount fields + 1
  | [] => rfl
  | fp :: rest => by
    rw [addField_cons]
    by_cases hk : (fp.key == key) = true
    · rw [if_pos hk]
      show fp.nAsts + 1 + astCount rest = fp.nAsts + astCount rest + 1
      omega
    · rw [if_neg hk]
      show fp.nAsts + astCount (addField c key name sub rest) = fp.nAsts + astCount rest + 1
      rw [astCount_addField c key name sub rest]
      omega

def countMeas (c : Ctx) : Meas c where
  M := astCount
  φ := fun _ => 1
  add := fun key name _ _ fields => astCount_addField c key name _ fields

/-! ## selection sets at or below the merged sub-selections -/

def subsW (subs : List (SelectionSet × Chain)) : Nat := (subs.map (fun s => setsSet s.1)).sum
def fieldsW (fields : List FieldPlan) : Nat := (fields.map (fun fp => subsW fp.subs)).sum

/-- the prime tells it from `Validate.Graph.setsOpt`, the validator's count -/
def setsOpt' : Option SelectionSet → Nat
  | none => 0
  | some ss => setsSet ss

theorem subsW_append (a b : List (SelectionSet × Chain)) : subsW (a ++ b) = subsW a + subsW b := by
  rw [subsW, List.map_append, List.sum_append_nat]; rfl

theorem subsW_toList (sub : Option SelectionSet) (ch : Chain) : subsW (sub.map (·, ch)).toList = setsOpt' sub := by
  cases sub with
  | none => rfl
  | some ss => exact Nat.add_zero _

theorem fieldsW_addField (c : Ctx) (key name : String) (sub : Option SelectionSet) (ch : Chain) :
    ∀ fields : List FieldPlan, fieldsW (addField c key name (sub.map (·, ch)) fields) = fieldsW fields + setsOpt' sub
  | [] => by
    show subsW (sub.map (·, ch)).toList + 0 = 0 + setsOpt' sub
    rw [subsW_toList]
    omega
  | fp :: rest => by
    rw [addField_cons]
    by_cases hk : (fp.key == key) = true
    · rw [if_pos hk]
      show subsW (fp.subs ++ (sub.map (·, ch)).toList) + fieldsW rest = subsW fp.subs + fieldsW rest + setsOpt' sub
      rw [subsW_append, subsW_toList]
      omega
    · rw [if_neg hk]
      show subsW fp.subs + fieldsW (addField c key name (sub.map (·, ch)) rest) = subsW fp.subs + fieldsW rest + setsOpt' sub
      rw [fieldsW_addField c key name sub ch rest]
      omega

def setsMeas (c : Ctx) : Meas c where
  M := fieldsW
  φ := setsOpt'
  add := fun key name sub ch fields => fieldsW_addField c key name sub ch fields

mutual
theorem bSel_sets_le : ∀ s : Selection, bSel setsOpt' s ≤ setsSel s
  | .field _ _ _ _ none _ => Nat.le_refl _
  | .field _ _ _ _ (some _) _ => Nat.le_refl _
  | .spread _ _ _ => Nat.le_refl _
  | .inline _ _ ss _ => Nat.le_of_succ_le (bSet_sets_le ss)
theorem bSet_sets_le : ∀ ss : SelectionSet, bSet setsOpt' ss + 1 ≤ setsSet ss
  | .mk sels _ => by
    show bSels setsOpt' sels + 1 ≤ 1 + setsSels sels
    have := bSels_sets_le sels
    omega
theorem bSels_sets_le : ∀ sels : List Selection, bSels setsOpt' sels ≤ setsSels sels
  | [] => Nat.le_refl _
  | s :: rest => Nat.add_le_add (bSel_sets_le s) (bSels_sets_le rest)
end

def fragSetsTbl (frags : List (String × String × SelectionSet)) : Nat := ((frags.map (fun f => setsSet f.2.2))).sum

theorem pot_sets_le (c : Ctx) (v : List String) : pot (setsMeas c) v ≤ fragSetsTbl c.frags := by
  refine Nat.le_trans (potential_le_total _ c.frags v) ?_
  rw [potential_nil_eq]
  exact sum_map_le_sum_map fun f _ => Nat.le_of_succ_le (bSet_sets_le f.2.2)

theorem bSet_sum_le (subs : List (SelectionSet × Chain)) :
    (subs.map (fun s => bSet setsOpt' s.1)).sum + subs.length ≤ subsW subs := by
  have h : (subs.map fun s => bSet setsOpt' s.1 + 1).sum ≤ subsW subs :=
    sum_map_le_sum_map fun s _ => bSet_sets_le s.1
  rw [sum_map_add, sum_map_const, Nat.mul_one] at h
  exact h

/-- the sub-selections of the field plans one `planMergedSelectionsForType` produces hold at most the selection sets
strictly below the merged ones plus those of every fragment definition once -/
theorem planMerged_fieldsW (c : Ctx) (subs : List (SelectionSet × Chain)) :
    fieldsW (planMerged c subs {}).fields + subs.length ≤ subsW subs + fragSetsTbl c.frags := by
  have h : fieldsW (planMerged c subs {}).fields + pot (setsMeas c) (planMerged c subs {}).visited ≤
      fieldsW [] + pot (setsMeas c) [] + (subs.map (fun s => bSet setsOpt' s.1)).sum :=
    planMerged_weight (setsMeas c) subs {}
  have hp := pot_sets_le c []
  have hb := bSet_sum_le subs
  have h0 : fieldsW [] = 0 := rfl
  omega

theorem rootPlan_fieldsW (e : Env) (root : String) (ss : SelectionSet) :
    fieldsW (rootPlan e root ss).fields + 1 ≤ setsSet ss + fragSetsTbl e.frags := by
  have h : fieldsW (rootPlan e root ss).fields + pot (setsMeas (e.ctx root)) (rootPlan e root ss).visited ≤
      fieldsW [] + pot (setsMeas (e.ctx root)) [] + bSet setsOpt' ss :=
    collectFuel_weight (setsMeas (e.ctx root)) (fuelFor (e.ctx root)) [] ss {}
  have hp : pot (setsMeas (e.ctx root)) [] ≤ fragSetsTbl e.frags := pot_sets_le (e.ctx root) []
  have hb := bSet_sets_le ss
  have h0 : fieldsW [] = 0 := rfl
  omega

/-! ## along an execution: what one lazily planned sub-selection can cost -/

mutual
theorem execW_cost (e : Env) (B0 : Nat) : ∀ (w : World) (fields : List FieldPlan) (path : Path) (st : ESt),
    fieldsW fields ≤ B0 + path.length * fragSetsTbl e.frags →
    (∀ en ∈ st.log, en.cost ≤ B0 + en.id.length * fragSetsTbl e.frags) →
    ∀ en ∈ (execW e fields path w st).log, en.cost ≤ B0 + en.id.length * fragSetsTbl e.frags
  | .node cs, fields, path, st => execCs_cost e B0 cs fields path st
theorem execCs_cost (e : Env) (B0 : Nat) : ∀ (cs : Comps) (fields : List FieldPlan) (path : Path) (st : ESt),
    fieldsW fields ≤ B0 + path.length * fragSetsTbl e.frags →
    (∀ en ∈ st.log, en.cost ≤ B0 + en.id.length * fragSetsTbl e.frags) →
    ∀ en ∈ (execCs e fields path cs st).log, en.cost ≤ B0 + en.id.length * fragSetsTbl e.frags
  | .nil, fields, path, st => fun _ h => h
  | .cons k rt child rest, fields, path, st => by
    intro hW hst
    rw [execCs_cons]
    apply execCs_cost e B0 rest fields path _ hW
    cases hp : plannedAt e fields k rt with
    | none => exact hst
    | some fp =>
      have h1 : subsW fp.subs ≤ fieldsW fields := le_sum_map_of_mem (fun fp => subsW fp.subs) (plannedAt_mem hp)
      have h2 : fieldsW _ + _ ≤ _ + fragSetsTbl e.frags := planMerged_fieldsW (e.ctx rt) fp.subs
      have h3 : _ ≤ _ + fragsSize e.frags := planMerged_collect_le (e.ctx rt) fp.subs
      have h4 : (fp.subs.map fun ss => 1 + inlSet ss.1).sum ≤ subsW fp.subs :=
        sum_map_le_sum_map fun s _ => inlSet_le s.1
      have h5 : fragsSize e.frags ≤ fragSetsTbl e.frags := by
        rw [fragsSize, potential_nil_eq]
        exact sum_map_le_sum_map fun f _ => inlSet_le f.2.2
      have hlen : (path ++ [(k, rt)]).length = path.length + 1 := List.length_append
      have hmul : (path.length + 1) * fragSetsTbl e.frags = path.length * fragSetsTbl e.frags + fragSetsTbl e.frags :=
        Nat.succ_mul _ _
      apply execW_cost e B0 child
      · rw [hlen, hmul]; omega
      · by_cases hhas : st.has (path ++ [(k, rt)]) = true
        · rw [if_pos hhas]; exact hst
        · rw [if_neg hhas]
          intro en hen
          rcases List.mem_cons.1 hen with rfl | hen
          · show (planMerged (e.ctx rt) fp.subs {}).collect ≤ B0 + (path ++ [(k, rt)]).length * _
            rw [hlen, hmul]; omega
          · exact hst en hen
end

/-- a sub-selection planned lazily at response path `p` costs at most the sets of the operation and `|p| + 1` times the
sets of the fragment table: `fieldsW` grows by at most the table's sets per level of descent -/
theorem execW_entry_cost (e : Env) (root : String) (ss : SelectionSet) (world : World) :
    ∀ en ∈ (execW e (rootPlan e root ss).fields [] world {}).log,
      en.cost ≤ setsSet ss + (en.id.length + 1) * fragSetsTbl e.frags := by
  intro en hen
  have hroot := rootPlan_fieldsW e root ss
  have := execW_cost e (setsSet ss + fragSetsTbl e.frags) world (rootPlan e root ss).fields [] {}
    (by simp only [List.length_nil, Nat.zero_mul]; omega) (fun _ h => by simp at h) en hen
  rw [Nat.succ_mul]
  omega

theorem fragSetsTbl_le (doc : Document) : fragSetsTbl (fragTable doc) ≤ fragSets doc.defs :=
  fragTable_sum_le _ _ (fun _ _ _ _ _ => Nat.le_refl _) doc

end GqlModel.Cost
