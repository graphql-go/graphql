import GqlProofs.PlanCollect
import GqlProofs.PlanStep
/-! # Phase one of M (memo-free instance) against the algorithm S, on worlds without func values

With no func value anywhere in the world the algorithm never forces anything and M never wraps anything: the four functions
`mGroups / mField / mComplete / mItems` (instance `recompute`) and `execGroups / execField / complete / completeItems` produce the same
results, the same error list and the same invocation log WITH THE SAME FUEL, provided the planned field lists stand for the
algorithm's groups (`FpOK`, from `GqlProofs/PlanCollect.lean`). -/
namespace GqlModel.Plan
open GqlModel.Exec GqlModel.Coerce

mutual
/-- no `func` value (deferred value or a func of another signature) anywhere inside -/
def funcFree : GoVal → Bool
  | .thunk _ => false
  | .badFunc => false
  | .list xs => funcFreeList xs
  | _ => true
def funcFreeList : List GoVal → Bool
  | [] => true
  | x :: xs => funcFree x && funcFreeList xs
end

def outcomeFuncFree : Outcome → Bool
  | .value v => funcFree v
  | .fail => true

def worldFuncFree (w : World) : Bool :=
  w.objects.all (fun o => o.2.fields.all (fun f => outcomeFuncFree f.2)) && w.rootFields.all (fun f => outcomeFuncFree f.2)

theorem funcFreeList_iff {xs : List GoVal} : funcFreeList xs = true ↔ ∀ x ∈ xs, funcFree x = true := by
  induction xs with
  | nil => simp [funcFreeList]
  | cons x xs ih => simp [funcFreeList, ih]

theorem funcFree_funcOf {v : GoVal} (h : funcFree v = true) : funcOf v = none := by
  cases v <;> simp [funcFree, funcOf] at h ⊢

theorem outcome_funcFree {w : World} (hw : worldFuncFree w = true) (src : GoVal) (f : String) :
    outcomeFuncFree (w.outcome src f) = true := by
  unfold worldFuncFree at hw
  simp only [Bool.and_eq_true, List.all_eq_true] at hw
  have key : ∀ tbl : List (String × Outcome), (∀ e ∈ tbl, outcomeFuncFree e.2 = true) →
      outcomeFuncFree (match tbl.find? (fun (p : String × Outcome) => p.1 == f) with
        | some (_, o) => o
        | none => Outcome.value GoVal.nil) = true := by
    intro tbl htbl
    cases hf : tbl.find? (fun p => p.1 == f) with
    | none => rfl
    | some e => obtain ⟨k, o⟩ := e; exact htbl _ (List.mem_of_find?_eq_some hf)
  unfold World.outcome
  apply key
  intro e he
  cases src with
  | ref id =>
    simp only at he
    cases ho : w.obj? id with
    | none => simp [ho] at he
    | some o =>
      simp only [ho] at he
      unfold World.obj? at ho
      cases hfo : w.objects.find? (fun p => p.1 == id) with
      | none => simp [hfo] at ho
      | some x =>
        simp only [hfo, Option.map_some, Option.some.injEq] at ho
        subst ho
        exact hw.1 x (List.mem_of_find?_eq_some hfo) e he
  | _ => exact hw.2 e he

theorem toJ?_leaf (j : JVal) : (PVal.leaf j).toJ? = some j := by simp [PVal.toJ?]

theorem toJ?_null {v : PVal} (h : v.toJ? = some .null) : v = .leaf .null := by
  cases v with
  | leaf j => simp only [PVal.toJ?, Option.some.injEq] at h; rw [h]
  | list xs => simp only [PVal.toJ?] at h; cases hx : PVal.listToJ? xs <;> simp [hx] at h
  | obj fs => simp only [PVal.toJ?] at h; cases hx : PVal.fieldsToJ? fs <;> simp [hx] at h
  | deferred cl => simp [PVal.toJ?] at h

theorem toJ?_list {xs : List PVal} {js : List JVal} (h : PVal.listToJ? xs = some js) : (PVal.list xs).toJ? = some (.list js) := by
  simp [PVal.toJ?, h]

theorem toJ?_obj {fs : List (String × PVal)} {js : List (String × JVal)} (h : PVal.fieldsToJ? fs = some js) :
    (PVal.obj fs).toJ? = some (.obj js) := by
  simp [PVal.toJ?, h]

theorem listToJ?_append {xs : List PVal} {js : List JVal} {v : PVal} {j : JVal} (h : PVal.listToJ? xs = some js)
    (hv : v.toJ? = some j) : PVal.listToJ? (xs ++ [v]) = some (js ++ [j]) := by
  induction xs generalizing js with
  | nil => simp only [PVal.listToJ?, Option.some.injEq] at h; subst h; simp [PVal.listToJ?, hv]
  | cons x xs ih =>
    simp only [PVal.listToJ?] at h
    cases hx : x.toJ? with
    | none => simp [hx] at h
    | some jx =>
      cases hxs : PVal.listToJ? xs with
      | none => simp [hx, hxs] at h
      | some jxs =>
        simp only [hx, hxs, Option.some.injEq] at h
        subst h
        simp [PVal.listToJ?, hx, ih hxs]

theorem fieldsToJ?_append {fs : List (String × PVal)} {js : List (String × JVal)} {k : String} {v : PVal} {j : JVal}
    (h : PVal.fieldsToJ? fs = some js) (hv : v.toJ? = some j) :
    PVal.fieldsToJ? (fs ++ [(k, v)]) = some (js ++ [(k, j)]) := by
  induction fs generalizing js with
  | nil => simp only [PVal.fieldsToJ?, Option.some.injEq] at h; subst h; simp [PVal.fieldsToJ?, hv]
  | cons x xs ih =>
    obtain ⟨kx, x⟩ := x
    simp only [PVal.fieldsToJ?] at h
    cases hx : x.toJ? with
    | none => simp [hx] at h
    | some jx =>
      cases hxs : PVal.fieldsToJ? xs with
      | none => simp [hx, hxs] at h
      | some jxs =>
        simp only [hx, hxs, Option.some.injEq] at h
        subst h
        simp [PVal.fieldsToJ?, hx, ih hxs]

/-- same errors, same invocations (M additionally logs thunk calls: none here) -/
def SRel (st : St) (mst : MSt) : Prop := mst.errs = st.errs ∧ mst.events = st.log.map Event.call

inductive ResRel {α β : Type} (R : α → β → Prop) : Res α → Res β → Prop
  | ok {a : α} {b : β} : R a b → ResRel R (.ok a) (.ok b)
  | fail : ResRel R .fail .fail
  | fuelOut : ResRel R .fuelOut .fuelOut

def Corr {α β : Type} (R : α → β → Prop) (x : Res α × St) (y : Res β × MSt) : Prop := ResRel R x.1 y.1 ∧ SRel x.2 y.2

theorem SRel.addErr {st : St} {mst : MSt} (h : SRel st mst) (p : Path) (d : Bool) : SRel (addErr st p d) (mst.addErr p d) := by
  unfold SRel Exec.addErr MSt.addErr at *; simp [h.1, h.2]

theorem corr_fuelOut {α β : Type} {R : α → β → Prop} {st : St} {mst : MSt} (h : SRel st mst) :
    Corr R ((.fuelOut : Res α), st) ((.fuelOut : Res β), mst) := ⟨.fuelOut, h⟩
theorem corr_fail {α β : Type} {R : α → β → Prop} {st : St} {mst : MSt} (h : SRel st mst) :
    Corr R ((.fail : Res α), st) ((.fail : Res β), mst) := ⟨.fail, h⟩
theorem corr_ok {α β : Type} {R : α → β → Prop} {st : St} {mst : MSt} (h : SRel st mst) {a : α} {b : β} (hab : R a b) :
    Corr R ((.ok a : Res α), st) ((.ok b : Res β), mst) := ⟨.ok hab, h⟩

theorem shape_items_funcFree {c : Ctx} {t item : GType} {v : GoVal} {xs : List GoVal} (hs : shape c t v = .items item xs)
    (hv : funcFree v = true) : funcFreeList xs = true := by
  obtain ⟨_, hl⟩ := shape_items hs
  cases v <;> simp only [listOf, Option.some.injEq, reduceCtorEq] at hl
  subst hl
  simpa only [funcFree] using hv

theorem corr_absorb {α β : Type} {R : α → β → Prop} (b : Bool) {st : St} {mst : MSt} (h : SRel st mst) {a : α} {a' : β}
    (hab : R a a') : Corr R (absorbAt b a st) (absorbAt b a' mst) := by
  cases b
  · exact corr_ok h hab
  · exact corr_fail h

theorem Corr.andThen {α β γ δ : Type} {R : α → β → Prop} {R' : γ → δ → Prop} {x : Res α × St} {y : Res β × MSt}
    {k : α → St → Res γ × St} {k' : β → MSt → Res δ × MSt} (h : Corr R x y)
    (hk : ∀ a b st mst, R a b → SRel st mst → Corr R' (k a st) (k' b mst)) : Corr R' (andThen x k) (andThen y k') := by
  obtain ⟨rS, st⟩ := x
  obtain ⟨rM, mst⟩ := y
  obtain ⟨hr, hst⟩ := h
  cases hr with
  | ok hab => exact hk _ _ st mst hab hst
  | fail => exact corr_fail hst
  | fuelOut => exact corr_fuelOut hst

theorem Corr.recover {α β : Type} {R : α → β → Prop} {x : Res α × St} {y : Res β × MSt}
    {f : St → Res α × St} {f' : MSt → Res β × MSt} (h : Corr R x y)
    (hf : ∀ st mst, SRel st mst → Corr R (f st) (f' mst)) : Corr R (recover x f) (recover y f') := by
  obtain ⟨rS, st⟩ := x
  obtain ⟨rM, mst⟩ := y
  obtain ⟨hr, hst⟩ := h
  cases hr with
  | ok hab => exact corr_ok hst hab
  | fail => exact hf st mst hst
  | fuelOut => exact corr_fuelOut hst

/-- M logs the invocation the algorithm logs: the planned arguments are the first node's -/
theorem fpOK_callEv {c : Ctx} {dfr : Bool} {rt : String} {src : GoVal} {p : Path} {P : FieldNode → Chain → Prop} {fp : FieldPlan}
    {fd : FieldDefS} (hfp : FpOK c.schema rt P fp) (hfd : fp.fieldDef = some fd) :
    callEv c dfr rt src p fp fd = .call (callEntry c dfr rt src p fd fp.fieldNodes) := by
  obtain ⟨n0, ch0, tl, hnodes, hname, hdef, hargs⟩ := hfp.head
  simp only [callEv, callEntry, FieldPlan.fieldNodes, hnodes, List.map_cons, List.head?_cons, List.length_cons, List.length_map,
    hargs, ← hdef, hfd]
  rw [plannedArgs_eq]

section exec
variable (c : Ctx) (pv : Option Vars) (rank : String → Nat)

local notation "alt0" => recompute c.schema c.frags pv

structure ExecP (fuel : Nat) : Prop where
  groups : ∀ dfr rt src path sid fps accS acc st mst, (∀ fp ∈ fps, FpOK c.schema rt (NodeOK c pv rank) fp) →
    PVal.fieldsToJ? acc = some accS → SRel st mst →
    Corr (fun fs pfs => PVal.fieldsToJ? pfs = some fs)
      (execGroups c fuel dfr rt src path (groupsOf fps) accS st) (mGroups c alt0 fuel dfr rt src path sid fps acc mst)
  field : ∀ dfr rt src p fid fp fd st mst, FpOK c.schema rt (NodeOK c pv rank) fp → fp.fieldDef = some fd → SRel st mst →
    Corr (fun j v => v.toJ? = some j)
      (execField c fuel dfr rt src p fd fp.fieldNodes st) (mField c alt0 fuel dfr rt src p fid fp fd mst)
  complete : ∀ dfr t rt fname fid fp p v st mst, (∀ x ∈ fp.nodes, NodeOK c pv rank x.1 x.2) → funcFree v = true → SRel st mst →
    Corr (fun j v => v.toJ? = some j)
      (complete c fuel dfr t rt fname fp.fieldNodes p v st) (mComplete c alt0 fuel dfr t rt fid fp p v mst)
  items : ∀ dfr item rt fname fid fp p xs i accS acc st mst, (∀ x ∈ fp.nodes, NodeOK c pv rank x.1 x.2) →
    funcFreeList xs = true → PVal.listToJ? acc = some accS → SRel st mst →
    Corr (fun js vs => PVal.listToJ? vs = some js)
      (completeItems c fuel dfr item rt fname fp.fieldNodes p xs i accS st) (mItems c alt0 fuel dfr item rt fid fp p xs i acc mst)

variable {c pv rank}

theorem execP (hw : worldFuncFree c.world = true) (hac : Acyclic c.frags rank) (hfr : FragsOK c pv) :
    ∀ fuel, ExecP c pv rank fuel
  | 0 => by
    refine ⟨?_, ?_, ?_, ?_⟩
    · intro dfr rt src path sid fps accS acc st mst _ _ h; rw [execGroups_zero, mGroups_zero]; exact corr_fuelOut h
    · intro dfr rt src p fid fp fd st mst _ _ h; rw [execField_zero, mField_zero]; exact corr_fuelOut h
    · intro dfr t rt fname fid fp p v st mst _ _ h; rw [complete_zero, mComplete_zero]; exact corr_fuelOut h
    · intro dfr item rt fname fid fp p xs i accS acc st mst _ _ _ h; rw [completeItems_zero, mItems_zero]; exact corr_fuelOut h
  | fuel + 1 => by
    have ih := execP hw hac hfr fuel
    refine ⟨?_, ?_, ?_, ?_⟩
    · intro dfr rt src path sid fps accS acc st mst hok hacc h
      cases fps with
      | nil => rw [mGroups_nil]; exact corr_ok h hacc
      | cons fp rest =>
        have hfp := hok fp List.mem_cons_self
        have hrest : ∀ fp' ∈ rest, FpOK c.schema rt (NodeOK c pv rank) fp' := fun fp' hm => hok fp' (List.mem_cons_of_mem _ hm)
        obtain ⟨n0, hhead, hdef⟩ := hfp.head_node
        have hp := hfp.eval c.vars
        show Corr _ (execGroups c (fuel + 1) dfr rt src path ((fp.key, fp.fieldNodes) :: groupsOf rest) accS st) _
        cases hfd : fp.fieldDef with
        | none =>
          rw [execGroups_unknown hhead (hdef.symm.trans hfd), mGroups_skip (.inr hfd)]
          exact ih.groups dfr rt src path sid rest accS acc st mst hrest hacc h
        | some fd =>
          rw [execGroups_field hhead (hdef.symm.trans hfd), mGroups_field hp hfd]
          exact (ih.field dfr rt src _ (sid ++ [(rt, fp.key)]) fp fd st mst hfp hfd h).andThen fun j v s ms hab h =>
            ih.groups dfr rt src path sid rest (accS ++ [(fp.key, j)]) (acc ++ [(fp.key, v)]) s ms hrest (fieldsToJ?_append hacc hab) h
    · intro dfr rt src p fid fp fd st mst hfp hfd h
      cases hn : fd.name == "__typename" with
      | true => rw [execField_typename hn, mField_typename hn]; exact corr_ok h (toJ?_leaf _)
      | false =>
        rw [execField_succ hn, mField_succ hn]
        -- both sides log the same invocation: the planned arguments are the first node's
        have hev := fpOK_callEv (dfr := dfr) (src := src) (p := p) hfp hfd
        have h' : SRel { st with log := callEntry c dfr rt src p fd fp.fieldNodes :: st.log } (mst.logEv (callEv c dfr rt src p fp fd)) := by
          rw [hev]; unfold SRel MSt.logEv at *; simp [h.1, h.2]
        have hof := outcome_funcFree hw src fd.name
        cases hout : c.world.outcome src fd.name with
        | fail => exact corr_absorb _ (h'.addErr p dfr) (toJ?_leaf _)
        | value v =>
          rw [hout] at hof
          exact (ih.complete dfr fd.type rt fd.name fid fp p v _ _ hfp.nodes hof h').recover fun _ _ h => corr_absorb _ h (toJ?_leaf _)
    · intro dfr t rt fname fid fp p v st mst hn hv h
      rw [complete_succ (funcFree_funcOf hv), mComplete_succ (funcFree_funcOf hv)]
      cases hs : shape c t v with
      | nonNull inner =>
        refine (ih.complete dfr inner rt fname fid fp p v st mst hn hv h).andThen fun j x st mst hx h => ?_
        unfold nonNullGuardS nonNullGuard
        cases hj : j.isNull with
        | true =>
          have : j = .null := by cases j <;> first | rfl | cases hj
          subst this
          rw [toJ?_null hx]
          exact corr_fail (h.addErr p dfr)
        | false =>
          cases hxn : x.isNull with
          | true => rw [PVal.isNull_iff.1 hxn, toJ?_leaf, Option.some.injEq] at hx; subst hx; cases hj
          | false => exact corr_ok h hx
      | null => exact corr_ok h (toJ?_leaf _)
      | items item xs =>
        exact (ih.items dfr item rt fname fid fp p xs 0 [] [] st mst hn (shape_items_funcFree hs hv) rfl h).andThen fun _ _ _ _ hab h =>
          corr_ok h (toJ?_list hab)
      | leaf j => exact corr_ok h (toJ?_leaf _)
      | object ot =>
        -- the sub-selection planned for `ot` stands for the groups the algorithm collects
        obtain ⟨hgo, hfps⟩ := planMerged_sim (rt := ot) hac hfr fp.nodes hn
        show Corr _ (andThen (execGroups c fuel dfr ot v p (collectMerged c ot (fp.nodes.map (·.1))) [] st) _) _
        rw [← hgo]
        exact (ih.groups dfr ot v p fid _ [] [] st _ hfps rfl h).andThen fun _ _ _ _ hab h => corr_ok h (toJ?_obj hab)
      | error => exact corr_fail (h.addErr p dfr)
    · intro dfr item rt fname fid fp p xs i accS acc st mst hn hxs hacc h
      cases xs with
      | nil => rw [completeItems_nil, mItems_nil]; exact corr_ok h hacc
      | cons x xs =>
        simp only [funcFreeList, Bool.and_eq_true] at hxs
        rw [completeItems_cons, mItems_cons]
        refine ((ih.complete dfr item rt fname fid fp (p ++ [.idx i]) x st mst hn hxs.1 h).recover fun _ _ h => corr_absorb _ h (toJ?_leaf _)).andThen ?_
        exact fun j v s ms hab h => ih.items dfr item rt fname fid fp p xs (i + 1) (accS ++ [j]) (acc ++ [v]) s ms hn hxs.2 (listToJ?_append hacc hab) h

end exec

end GqlModel.Plan
