import GqlProofs.ValidateGraph
import GqlProofs.ListSum
/-! # NoFragmentCycles: the frame of the DFS, on the run with the step counters

`detectC` / `cycleRunC` are `detect` / `cycleRun` with counters. `CEff` says what a stretch of `detectCycleRecursive`
leaves behind, whatever the spread graph; termination (`cycleRun_no_oof`: C02, C09), the frame facts the exactness proof
needs (`detect_frame`) and the step counts (C19) are read off. -/
namespace GqlModel.Validate.Graph

theorem stepSpreadC_erase (tbl : List Frag) {recC : Frag → CState × CCnt → CState × CCnt} {rec : Frag → CState → CState}
    (h : ∀ g sc, (recC g sc).1 = rec g sc.1) (sc : CState × CCnt) (sp : Spread) :
    (stepSpreadC tbl recC sc sp).1 = stepSpread tbl rec sc.1 sp := by
  unfold stepSpreadC stepSpread
  simp only
  cases hl : sc.1.index.lookup sp.name with
  | some ci => simp only
  | none =>
    simp only
    by_cases hv : sp.name ∈ sc.1.visited
    · simp only [hv, if_true]
    · simp only [hv, if_false]
      cases hf : lookupFrag tbl sp.name with
      | none => simp only
      | some g => simp only [h]

theorem detectBodyC_erase (tbl : List Frag) {recC : Frag → CState × CCnt → CState × CCnt} {rec : Frag → CState → CState}
    (h : ∀ g sc, (recC g sc).1 = rec g sc.1) (f : Frag) (sc : CState × CCnt) :
    (detectBodyC tbl recC f sc).1 = detectBody tbl rec f sc.1 := by
  unfold detectBodyC detectBody
  simp only
  split
  · rfl
  · simp only
    rw [foldl_proj Prod.fst (stepSpreadC_erase tbl h)]

theorem detectC_erase (tbl : List Frag) : ∀ (fuel : Nat) (f : Frag) (sc : CState × CCnt),
    (detectC tbl fuel f sc).1 = detect tbl fuel f sc.1
  | 0, f, sc => rfl
  | fuel + 1, f, sc => by
    simp only [detectC, detect]
    exact detectBodyC_erase tbl (detectC_erase tbl fuel) f sc

theorem cycleRunC_erase (tbl : List Frag) : (cycleRunC tbl).1 = cycleRun tbl := by
  refine foldl_proj Prod.fst (fun sc f => ?_) tbl _
  show (if f.name.value ∈ sc.1.visited then sc else detectC tbl (tbl.length + 1) f sc).1 = _
  split
  · rfl
  · exact detectC_erase tbl _ f sc

/-- the counters of a stretch that made `dc` calls, `di` loop iterations inside them and copied `de` spreads into errors -/
structure CSpent (tbl : List Frag) (B extra : Nat) (sc r : CState × CCnt) (dc di de : Nat) : Prop where
  calls : r.2.calls = sc.2.calls + dc
  iters : r.2.iters = sc.2.iters + extra + di
  errLen : r.2.errLen = sc.2.errLen + de
  fresh : dc + unc (fragNames tbl) r.1.visited ≤ unc (fragNames tbl) sc.1.visited
  itersLe : di ≤ dc * maxSpreads tbl
  errLe : de ≤ (extra + di) * (B + 1)

/-- `extra` counts the loop iterations of the stretch itself, outside any call (it adds up along `CEff.trans`); `B` bounds
the length of the path, so one iteration copies at most `B + 1` spreads (the path from the repeated fragment on, and the
spread at hand). -/
structure CEff (tbl : List Frag) (B : Nat) (extra : Nat) (sc r : CState × CCnt) : Prop where
  path : r.1.path = sc.1.path
  oof : r.1.oof = sc.1.oof
  mono : ∀ x, x ∈ sc.1.visited → x ∈ r.1.visited
  cost : ∃ dc di de, CSpent tbl B extra sc r dc di de

/-- what the frame asks of the call `rec` that enters a fragment, run with fuel `k` -/
def CGood (tbl : List Frag) (B k : Nat) (rec : Frag → CState × CCnt → CState × CCnt) : Prop :=
  ∀ g sc, g ∈ tbl → g.name.value ∉ sc.1.visited → sc.1.path.length + k ≤ B → unc (fragNames tbl) sc.1.visited < k →
    CEff tbl B 0 sc (rec g sc) ∧ g.name.value ∈ (rec g sc).1.visited

/-- a step that makes no call -/
theorem CEff.local {tbl : List Frag} {B extra : Nat} {sc r : CState × CCnt} (de : Nat)
    (hp : r.1.path = sc.1.path) (ho : r.1.oof = sc.1.oof) (hv : r.1.visited = sc.1.visited)
    (hc : r.2.calls = sc.2.calls) (hi : r.2.iters = sc.2.iters + extra) (hl : r.2.errLen = sc.2.errLen + de)
    (hde : de ≤ extra * (B + 1)) : CEff tbl B extra sc r :=
  ⟨hp, ho, fun _ h => hv ▸ h, 0, 0, de, hc, hi, hl, by rw [hv, Nat.zero_add]; exact Nat.le_refl _, Nat.zero_le _, hde⟩

theorem CEff.refl (tbl : List Frag) (B : Nat) (sc : CState × CCnt) : CEff tbl B 0 sc sc :=
  CEff.local (de := 0) (hp := rfl) (hde := Nat.zero_le _) rfl rfl rfl rfl rfl

theorem CEff.trans {tbl : List Frag} {B e1 e2 : Nat} {a b c : CState × CCnt}
    (h1 : CEff tbl B e1 a b) (h2 : CEff tbl B e2 b c) : CEff tbl B (e1 + e2) a c := by
  obtain ⟨p1, o1, m1, dc1, di1, de1, s1⟩ := h1
  obtain ⟨p2, o2, m2, dc2, di2, de2, s2⟩ := h2
  refine ⟨p2.trans p1, o2.trans o1, fun x hx => m2 x (m1 x hx), dc1 + dc2, di1 + di2, de1 + de2,
    by rw [s2.calls, s1.calls, Nat.add_assoc], by rw [s2.iters, s1.iters]; ac_rfl,
    by rw [s2.errLen, s1.errLen, Nat.add_assoc], ?_, ?_, ?_⟩
  · refine Nat.le_trans ?_ s1.fresh
    rw [Nat.add_assoc]
    exact Nat.add_le_add_left s2.fresh dc1
  · rw [Nat.add_mul]; exact Nat.add_le_add s1.itersLe s2.itersLe
  · have h : e1 + e2 + (di1 + di2) = (e1 + di1) + (e2 + di2) := by ac_rfl
    rw [h, Nat.add_mul]; exact Nat.add_le_add s1.errLe s2.errLe

theorem stepSpreadC_eff {tbl : List Frag} {B k : Nat} {rec : Frag → CState × CCnt → CState × CCnt}
    (hrec : CGood tbl B k rec) (sc : CState × CCnt) (sp : Spread) (hp : sc.1.path.length + k + 1 ≤ B)
    (hu : unc (fragNames tbl) sc.1.visited < k) : CEff tbl B 1 sc (stepSpreadC tbl rec sc sp) := by
  unfold stepSpreadC
  cases hl : sc.1.index.lookup sp.name with
  | none =>
    -- not on the current path: push, maybe recurse, pop
    by_cases hv : sp.name ∈ sc.1.visited
    · simp only [hl, hv, if_true]
      exact CEff.local (de := 0) (hp := List.dropLast_concat) (hde := Nat.zero_le _) rfl rfl rfl rfl rfl
    · simp only [hl, hv, if_false]
      cases hf : lookupFrag tbl sp.name with
      | none => exact CEff.local (de := 0) (hp := List.dropLast_concat) (hde := Nat.zero_le _) rfl rfl rfl rfl rfl
      | some g =>
        simp only
        have hg := lookupFrag_some hf
        obtain ⟨⟨p, o, m, dc, di, de, hs⟩, _⟩ :=
          hrec g ({ sc.1 with path := sc.1.path ++ [sp] }, { sc.2 with iters := sc.2.iters + 1 }) hg.1
            (hg.2 ▸ hv) (by rw [List.length_append, Nat.add_right_comm]; exact hp) hu
        refine ⟨?_, o, m, dc, di, de, hs.calls, hs.iters, hs.errLen, hs.fresh, hs.itersLe, ?_⟩
        · show List.dropLast _ = sc.1.path
          rw [p]; exact List.dropLast_concat
        · rw [Nat.add_mul, Nat.one_mul]
          exact Nat.le_trans (Nat.zero_add di ▸ hs.errLe) (Nat.le_add_left _ _)
  | some ci =>
    -- on the path: one error, the tail of the path is copied
    simp only [hl]
    refine CEff.local (de := (List.drop ci sc.1.path ++ [sp]).length) (hp := rfl) (hde := ?_) rfl rfl rfl rfl rfl
    have : (List.drop ci sc.1.path).length ≤ sc.1.path.length := by rw [List.length_drop]; exact Nat.sub_le _ _
    rw [List.length_append, Nat.one_mul]
    show _ + 1 ≤ B + 1
    omega

theorem foldC_eff {tbl : List Frag} {B k : Nat} {rec : Frag → CState × CCnt → CState × CCnt}
    (hrec : CGood tbl B k rec) (l : List Spread) (sc : CState × CCnt) (hp : sc.1.path.length + k + 1 ≤ B)
    (hu : unc (fragNames tbl) sc.1.visited < k) : CEff tbl B l.length sc (l.foldl (stepSpreadC tbl rec) sc) := by
  induction l generalizing sc with
  | nil => exact CEff.refl tbl B sc
  | cons sp rest ih =>
    simp only [List.foldl_cons, List.length_cons]
    have h1 := stepSpreadC_eff hrec sc sp hp hu
    have h2 := ih (stepSpreadC tbl rec sc sp) (by rw [h1.path]; exact hp) (Nat.lt_of_le_of_lt (unc_mono _ h1.mono) hu)
    have := h1.trans h2
    rwa [Nat.add_comm] at this

theorem detectBodyC_good {tbl : List Frag} {B k : Nat} {rec : Frag → CState × CCnt → CState × CCnt}
    (hrec : CGood tbl B k rec) : CGood tbl B (k + 1) (detectBodyC tbl rec) := by
  intro f sc hf hnv hp hu
  have hunc := unc_cons_lt (fragNames tbl) sc.1.visited f.name.value (List.mem_map.2 ⟨f, hf, rfl⟩) hnv
  unfold detectBodyC
  by_cases hemp : (fragmentSpreads f.sel).isEmpty = true
  · simp only [hemp, if_true]
    exact ⟨⟨rfl, rfl, fun x hx => List.mem_cons_of_mem _ hx, 1, 0, 0, rfl, rfl, rfl, by rw [Nat.add_comm]; exact hunc,
      Nat.zero_le _, Nat.zero_le _⟩, List.mem_cons_self⟩
  · simp only [hemp, Bool.false_eq_true, if_false]
    obtain ⟨p, o, m, dc, di, de, hs⟩ := foldC_eff hrec (fragmentSpreads f.sel)
      ({ sc.1 with visited := f.name.value :: sc.1.visited,
                   index := (f.name.value, sc.1.path.length) :: sc.1.index },
       { sc.2 with calls := sc.2.calls + 1 }) (Nat.add_assoc _ k 1 ▸ hp)
      (Nat.lt_of_lt_of_le hunc (Nat.le_of_lt_succ hu))
    have hL : (fragmentSpreads f.sel).length ≤ maxSpreads tbl := by
      rw [(fragmentSpreads_run f.sel).2.2.length_eq]; exact le_of_max_rec (h := maxSpreads) (fun _ _ => rfl) hf
    refine ⟨⟨p, o, fun x hx => m x (List.mem_cons_of_mem _ hx), 1 + dc, (fragmentSpreads f.sel).length + di, de,
      hs.calls.trans (Nat.add_assoc _ 1 dc), hs.iters.trans (Nat.add_assoc _ _ di), hs.errLen, ?_, ?_, ?_⟩,
      m _ List.mem_cons_self⟩
    · refine Nat.le_trans ?_ hunc
      rw [Nat.add_assoc, Nat.add_comm]
      exact Nat.succ_le_succ hs.fresh
    · rw [Nat.add_mul, Nat.one_mul]
      exact Nat.add_le_add hL hs.itersLe
    · rw [Nat.zero_add]; exact hs.errLe

theorem detectC_good (tbl : List Frag) (B : Nat) : ∀ k, CGood tbl B k (detectC tbl k)
  | 0 => fun _ _ _ _ _ h => nomatch h
  | k + 1 => detectBodyC_good (detectC_good tbl B k)

/-- the loop of the `FragmentDefinition` visitor -/
theorem cycleLoopC_eff (tbl : List Frag) : ∀ (defs : List Frag) (sc : CState × CCnt), (∀ f, f ∈ defs → f ∈ tbl) →
    sc.1.path = [] → CEff tbl (tbl.length + 1) 0 sc
      (defs.foldl (fun sc f => if f.name.value ∈ sc.1.visited then sc else detectC tbl (tbl.length + 1) f sc) sc)
  | [], sc, _, _ => CEff.refl tbl _ sc
  | f :: rest, sc, hsub, hp => by
    have h1 : CEff tbl (tbl.length + 1) 0 sc
        (if f.name.value ∈ sc.1.visited then sc else detectC tbl (tbl.length + 1) f sc) := by
      split
      · exact CEff.refl tbl _ sc
      · rename_i hv
        exact (detectC_good tbl (tbl.length + 1) (tbl.length + 1) f sc (hsub f List.mem_cons_self) hv
          (by rw [hp]; exact Nat.le_of_eq (Nat.zero_add _)) (unc_lt_fuel tbl _)).1
    exact h1.trans (cycleLoopC_eff tbl rest _ (fun g hg => hsub g (List.mem_cons_of_mem _ hg)) (h1.path.trans hp))

theorem cycleRunC_eff (tbl : List Frag) : CEff tbl (tbl.length + 1) 0 (CState.init, ⟨0, 0, 0⟩) (cycleRunC tbl) :=
  cycleLoopC_eff tbl tbl _ (fun _ h => h) rfl

/-- **termination** of the cycle DFS on arbitrary fragment tables: the fuel `|table| + 1` is never exhausted -/
theorem cycleRun_no_oof (tbl : List Frag) : (cycleRun tbl).oof = false :=
  cycleRunC_erase tbl ▸ (cycleRunC_eff tbl).oof

theorem detect_frame (tbl : List Frag) (fuel : Nat) (g : Frag) (st : CState) (hg : g ∈ tbl)
    (hfresh : g.name.value ∉ st.visited) (hfuel : unc (fragNames tbl) st.visited < fuel) :
    (detect tbl fuel g st).oof = st.oof ∧ (∀ x, x ∈ st.visited → x ∈ (detect tbl fuel g st).visited) ∧
      g.name.value ∈ (detect tbl fuel g st).visited := by
  obtain ⟨h, hs⟩ := detectC_good tbl (st.path.length + fuel) fuel g (st, ⟨0, 0, 0⟩) hg hfresh (Nat.le_refl _) hfuel
  have he : (detectC tbl fuel g (st, ⟨0, 0, 0⟩)).1 = detect tbl fuel g st := detectC_erase tbl fuel g _
  rw [he] at hs
  exact ⟨he ▸ h.oof, fun x hx => he ▸ h.mono x hx, hs⟩

end GqlModel.Validate.Graph
