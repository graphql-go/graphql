import GqlProofs.GetAt
import GqlProofs.ExecWorlds
/-! C04 two-world theorem, first invariant: the same call in two worlds that agree except on ONE resolver, which the
first world invokes only at position `p = pos ++ rel` (`TouchAt`). If both calls succeed, their values and state deltas
agree outside a position on the way to `p` that is `p` itself or holds `null` in one of them (`Good`). `PairP` states
this of the four functions; `pairP` in `ExecMix` proves it. -/
namespace GqlModel.Exec

section basics

theorem execField_canon (c : Ctx) (fuel : Nat) (dfr : Bool) (rt : String) (src : GoVal) (p : Path) (fd : FieldDefS)
    (nodes : List FieldNode) (s : St) :
    execField c fuel dfr rt src p fd nodes s =
      ((execField c fuel dfr rt src p fd nodes St.empty).1,
       (execField c fuel dfr rt src p fd nodes St.empty).2.app s) :=
  execField_eq_run

/-- the `comparable a r` of the header of `GqlModel/TwoWorlds.lean`; the C04 statements spell its negation as
`¬ q <+: r → ¬ r <+: q` -/
def Cmp (a r : Path) : Prop := a <+: r ∨ r <+: a

theorem cmp_cons_iff (s : PathSeg) (a r : Path) : Cmp (s :: a) (s :: r) ↔ Cmp a r := by
  simp [Cmp, List.cons_prefix_cons]

theorem not_cmp_cons_of_ne {s s' : PathSeg} (h : s ≠ s') (a r : Path) : ¬ Cmp (s :: a) (s' :: r) := by
  simp [Cmp, List.cons_prefix_cons, h, Ne.symm h]

theorem errsOutside_append (a : Path) (l1 l2 : List (Path × Bool)) :
    errsOutside a (l1 ++ l2) = errsOutside a l1 ++ errsOutside a l2 := List.filter_append _ _
theorem logOutside_append (a : Path) (l1 l2 : List LogEntry) :
    logOutside a (l1 ++ l2) = logOutside a l1 ++ logOutside a l2 := List.filter_append _ _

theorem errsOutside_reverse (a : Path) (l : List (Path × Bool)) : errsOutside a l.reverse = (errsOutside a l).reverse :=
  List.filter_reverse ..
theorem logOutside_reverse (a : Path) (l : List LogEntry) : logOutside a l.reverse = (logOutside a l).reverse :=
  List.filter_reverse ..

/-- `errsOutside` and `logOutside` are filters of this form -/
theorem filter_outside_eq_nil {α : Type} {f : α → Path} {a : Path} {l : List α} (h : ∀ e, e ∈ l → a <+: f e) :
    l.filter (fun e => !(a.isPrefixOf (f e))) = [] := by
  rw [List.filter_eq_nil_iff]
  intro e he
  simp [List.isPrefixOf_iff_prefix.mpr (h e he)]

/-- the two values `j1 j2` produced at position `pos` (with `p = pos ++ rel` the divergent position) and the two state
deltas agree outside some position `pos ++ arel` on the way to `p`, which is `p` itself or holds `null` in one of them -/
def Good (pos rel : Path) (j1 j2 : JVal) (d1 d2 : St) : Prop :=
  ∃ arel, arel <+: rel ∧ (∀ r, ¬ Cmp arel r → j1.getAt r = j2.getAt r) ∧
    (arel = rel ∨ j1.getAt arel = some .null ∨ j2.getAt arel = some .null) ∧
    errsOutside (pos ++ arel) d1.errs = errsOutside (pos ++ arel) d2.errs ∧
    logOutside (pos ++ arel) d1.log = logOutside (pos ++ arel) d2.log

variable {pos rel : Path} {j1 j2 : JVal} {d1 d2 : St}

theorem Good.same {j : JVal} {d : St} : Good pos rel j j d d :=
  ⟨rel, List.prefix_refl _, fun _ _ => rfl, Or.inl rfl, rfl, rfl⟩

theorem Good.absorb (he1 : ∀ e, e ∈ d1.errs → pos <+: e.1) (he2 : ∀ e, e ∈ d2.errs → pos <+: e.1)
    (hl1 : ∀ e, e ∈ d1.log → pos <+: e.path) (hl2 : ∀ e, e ∈ d2.log → pos <+: e.path)
    (h : rel = [] ∨ j1 = .null ∨ j2 = .null) : Good pos rel j1 j2 d1 d2 := by
  refine ⟨[], List.nil_prefix, fun r hr => absurd (Or.inl List.nil_prefix) hr, ?_, ?_, ?_⟩
  · rw [getAt_nil, getAt_nil]
    exact h.imp Eq.symm (Or.imp (congrArg some) (congrArg some))
  · rw [List.append_nil]
    exact (filter_outside_eq_nil he1).trans (filter_outside_eq_nil he2).symm
  · rw [List.append_nil]
    exact (filter_outside_eq_nil hl1).trans (filter_outside_eq_nil hl2).symm

theorem Good.after (h : Good pos rel j1 j2 d1 d2) (d : St) : Good pos rel j1 j2 (d1.app d) (d2.app d) := by
  obtain ⟨arel, h1, h2, h3, h4, h5⟩ := h
  refine ⟨arel, h1, h2, h3, ?_, ?_⟩
  · simp only [St.app, errsOutside_append, h4]
  · simp only [St.app, logOutside_append, h5]

theorem Good.before (h : Good pos rel j1 j2 d1 d2) (d : St) : Good pos rel j1 j2 (d.app d1) (d.app d2) := by
  obtain ⟨arel, h1, h2, h3, h4, h5⟩ := h
  refine ⟨arel, h1, h2, h3, ?_, ?_⟩
  · simp only [St.app, errsOutside_append, h4]
  · simp only [St.app, logOutside_append, h5]

theorem Good.cons {s : PathSeg} {v1 v2 : JVal} (h : Good (pos ++ [s]) rel v1 v2 d1 d2)
    (hs1 : ∀ r, j1.getAt (s :: r) = v1.getAt r) (hs2 : ∀ r, j2.getAt (s :: r) = v2.getAt r)
    (hne : ∀ s' r, s' ≠ s → j1.getAt (s' :: r) = j2.getAt (s' :: r)) : Good pos (s :: rel) j1 j2 d1 d2 := by
  obtain ⟨arel, h1, h2, h3, h4, h5⟩ := h
  rw [← List.append_cons] at h4 h5
  refine ⟨s :: arel, List.cons_prefix_cons.mpr ⟨rfl, h1⟩, ?_, ?_, h4, h5⟩
  · intro r hr
    cases r with
    | nil => exact absurd (Or.inr List.nil_prefix) hr
    | cons s' r =>
      by_cases hs : s' = s
      · subst hs
        rw [hs1, hs2]
        exact h2 r fun hc => hr ((cmp_cons_iff _ _ _).mpr hc)
      · exact hne s' r hs
  · rw [hs1, hs2]
    exact h3.imp_left (congrArg (s :: ·))

/-- the entry on the way to `p` in front of identical remainders -/
theorem Good.obj_cons_on_way {k0 : String} {v1 v2 : JVal} {m : List (String × JVal)}
    (h : Good (pos ++ [.key k0]) rel v1 v2 d1 d2) :
    Good pos (.key k0 :: rel) (.obj ((k0, v1) :: m)) (.obj ((k0, v2) :: m)) d1 d2 := by
  refine h.cons (getAt_obj_cons_self k0 v1 m) (getAt_obj_cons_self k0 v2 m) fun s r hs => ?_
  cases s with
  | idx i => rfl
  | key k =>
    have hk : k0 ≠ k := fun hk => hs (hk ▸ rfl)
    rw [getAt_obj_cons_other hk, getAt_obj_cons_other hk]

/-- the list item on the way to `p` between identical neighbours -/
theorem Good.list_on_way {i : Nat} {y1 y2 : JVal} {pre m : List JVal}
    (h : Good (pos ++ [.idx i]) rel y1 y2 d1 d2) (hi : pre.length = i) :
    Good pos (.idx i :: rel) (.list (pre ++ y1 :: m)) (.list (pre ++ y2 :: m)) d1 d2 := by
  subst hi
  refine h.cons (getAt_list_pre_self pre y1 m) (getAt_list_pre_self pre y2 m) fun s r hs => ?_
  cases s with
  | key k => rfl
  | idx n =>
    have hn : n ≠ pre.length := fun hn => hs (hn ▸ rfl)
    rw [getAt_list_idx, getAt_list_idx, List.getElem?_append, List.getElem?_append, List.getElem?_cons,
      List.getElem?_cons]
    split
    · rfl
    · rename_i hlt
      have h0 : n - pre.length ≠ 0 := Nat.sub_ne_zero_of_lt (Nat.lt_of_le_of_ne (Nat.le_of_not_lt hlt) hn.symm)
      rw [if_neg h0, if_neg h0]

/-- prepending the same entry (key other than the one on the way to `p`); an object value is never `null`, so the
divergence point of two objects lies strictly inside -/
theorem Good.obj_cons_beside {k0 k : String} {v : JVal} {m1 m2 : List (String × JVal)}
    (h : Good pos (.key k0 :: rel) (.obj m1) (.obj m2) d1 d2) (hk : k ≠ k0) :
    Good pos (.key k0 :: rel) (.obj ((k, v) :: m1)) (.obj ((k, v) :: m2)) d1 d2 := by
  obtain ⟨arel, h1, h2, h3, h4, h5⟩ := h
  cases arel with
  | nil => simp [getAt_nil] at h3
  | cons s arel' =>
    cases (List.cons_prefix_cons.mp h1).1
    refine ⟨.key k0 :: arel', h1, ?_, ?_, h4, h5⟩
    · intro r hr
      cases r with
      | nil => exact absurd (Or.inr List.nil_prefix) hr
      | cons s r' =>
        cases s with
        | idx i => rfl
        | key k' =>
          rw [getAt_obj_cons, getAt_obj_cons]
          split
          · rfl
          · exact h2 _ hr
    · rw [getAt_obj_cons_other hk, getAt_obj_cons_other hk]
      exact h3

end basics

section paired

def TouchAt (id0 : Nat) (f0 : String) (p : Path) (l : List LogEntry) : Prop :=
  ∀ e, e ∈ l → Touches id0 f0 e → e.path = p

theorem TouchAt.mono {id0 : Nat} {f0 : String} {q : Path} {l l' : List LogEntry} (h : TouchAt id0 f0 q l)
    (hs : l' ⊆ l) : TouchAt id0 f0 q l' := fun e he => h e (hs he)

structure PairP (c : Ctx) (w2 : World) (id0 : Nat) (f0 : String) (fuel : Nat) : Prop where
  groups : ∀ dfr rt src path groups rel r1 d1 r2 d2, groups.keys.Nodup →
    execGroups c fuel dfr rt src path groups [] St.empty = (r1, d1) →
    execGroups (c.withWorld w2) fuel dfr rt src path groups [] St.empty = (r2, d2) →
    TouchAt id0 f0 (path ++ rel) d1.log →
    ∀ fs1 fs2, r1 = .ok fs1 → r2 = .ok fs2 → Good path rel (.obj fs1) (.obj fs2) d1 d2
  field : ∀ dfr rt src pf fd nodes rel r1 d1 r2 d2,
    execField c fuel dfr rt src pf fd nodes St.empty = (r1, d1) →
    execField (c.withWorld w2) fuel dfr rt src pf fd nodes St.empty = (r2, d2) →
    TouchAt id0 f0 (pf ++ rel) d1.log →
    ∀ j1 j2, r1 = .ok j1 → r2 = .ok j2 → Good pf rel j1 j2 d1 d2
  complete : ∀ dfr t rt fname nodes pos v rel r1 d1 r2 d2,
    complete c fuel dfr t rt fname nodes pos v St.empty = (r1, d1) →
    complete (c.withWorld w2) fuel dfr t rt fname nodes pos v St.empty = (r2, d2) →
    TouchAt id0 f0 (pos ++ rel) d1.log →
    ∀ j1 j2, r1 = .ok j1 → r2 = .ok j2 → Good pos rel j1 j2 d1 d2
  items : ∀ dfr item rt fname nodes pl xs i rel r1 d1 r2 d2,
    completeItems c fuel dfr item rt fname nodes pl xs i [] St.empty = (r1, d1) →
    completeItems (c.withWorld w2) fuel dfr item rt fname nodes pl xs i [] St.empty = (r2, d2) →
    TouchAt id0 f0 (pl ++ rel) d1.log →
    ∀ js1 js2, r1 = .ok js1 → r2 = .ok js2 → ∀ pre : List JVal, pre.length = i →
      Good pl rel (.list (pre ++ js1)) (.list (pre ++ js2)) d1 d2

end paired

end GqlModel.Exec
