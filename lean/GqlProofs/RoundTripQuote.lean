import GqlProofs.RoundTripUtf8
import GqlModel.Printer
import GqlModel.LexerQuote
import GqlProofs.PrinterQuoteText
/-! # C08 byte level — the printer's character-level `quoteString` is the byte-level one on the UTF-8 encoding

`Printer.quoteC` (characters; what `print` uses) and `Lexer.quoteString` (bytes; what C03's `unquote_quote` is about)
agree through `utf8`: ASCII characters are escaped identically (128 cases, by evaluation), and every byte of a
non-ASCII character is ≥ 0x80 and copied unchanged by either. -/
namespace GqlModel.RoundTrip
open GqlModel.Lexer GqlModel.Printer

theorem esc_ascii_table : ∀ n : Fin 128, utf8 (escC (Char.ofNat n.val)) = quoteByte (UInt8.ofNat n.val) := by
  decide +kernel

theorem quoteByte_high (b : UInt8) (h : 128 ≤ b.toNat) : quoteByte b = [b] := by
  unfold quoteByte
  rw [if_neg (by bnorm; omega), if_neg (by bnorm; omega), if_neg (by bnorm; omega), if_neg (by bnorm; omega),
    if_neg (by bnorm; omega), if_neg (by bnorm; omega), if_neg (by bnorm; omega), if_neg (by bnorm; omega)]

theorem quoteBody_high : ∀ bs : Bytes, (∀ b ∈ bs, 128 ≤ b.toNat) → quoteBody bs = bs
  | [], _ => rfl
  | b :: bs, h => by
    simp only [quoteBody, quoteByte_high b (h b (by simp)), quoteBody_high bs (fun x hx => h x (by simp [hx]))]
    rfl

theorem quoteBody_append (a b : Bytes) : quoteBody (a ++ b) = quoteBody a ++ quoteBody b := by
  induction a with
  | nil => rfl
  | cons x xs ih => simp [quoteBody, ih]

theorem escC_high (c : Char) (h : 128 ≤ c.toNat) : escC c = [c] := by
  rcases Reader.escC_cases c with ⟨_, _, _, hc, _⟩ | ⟨_, hc⟩ | ⟨he, _⟩
  · omega
  · omega
  · exact he

theorem utf8_escC (c : Char) : utf8 (escC c) = quoteBody (String.utf8EncodeChar c) := by
  by_cases h : c.toNat < 128
  · have := esc_ascii_table ⟨c.toNat, h⟩
    simp only [Char.ofNat_toNat] at this
    rw [this, enc_ascii c h]
    simp [quoteBody]
  · have h' : 128 ≤ c.toNat := by omega
    rw [escC_high c h', quoteBody_high _ (enc_high c h')]
    simp

theorem utf8_quoteBodyC : ∀ cs : Chars, utf8 (quoteBodyC cs) = quoteBody (utf8 cs)
  | [] => rfl
  | c :: cs => by
    simp only [quoteBodyC, utf8_append, utf8_cons, quoteBody_append, utf8_escC, utf8_quoteBodyC cs]

/-- **the bridge for string tokens**: the printed form of a string value, as bytes, is the byte-level `quoteString` of the
UTF-8 encoding of the value -/
theorem utf8_quoteC (cs : Chars) : utf8 (quoteC cs) = Lexer.quoteString (utf8 cs) := by
  simp only [quoteC, utf8_cons, utf8_append, utf8_nil, utf8_quoteBodyC, Lexer.quoteString, enc_quote]
  simp

end GqlModel.RoundTrip
