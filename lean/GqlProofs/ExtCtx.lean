import GqlProofs.ExtReported
/-! Helper lemmas for C17: requests whose context is done. The log of the caller's goroutine with the
resolve events removed is the log of a request that fails at execution with one request error (`ctxReq`), and the
resolve events of the complete log are those of the live run. -/
namespace GqlModel.Ext

variable {xs : List ExtBehaviour} {b : ExtBehaviour} {req : RequestOutcomeClass}

theorem splitAfterResolver_append (j : Nat) (t : Trace) :
    (splitAfterResolver j t).1 ++ (splitAfterResolver j t).2 = t := by
  induction t with
  | nil => rfl
  | cons e t ih =>
    simp only [splitAfterResolver]
    split
    · rfl
    · simp [ih]

theorem ctxSplit_append (fs : List FieldOutcome) (c : CtxAt) :
    (ctxSplit xs fs c).1 ++ (ctxSplit xs fs c).2 = (executeFields xs 0 fs).1 := by
  cases c with
  | before => rfl
  | inResolver j => exact splitAfterResolver_append j _

theorem allResolve_ctxSplit (fs : List FieldOutcome) (c : CtxAt) :
    AllResolve (ctxSplit xs fs c).1 ∧ AllResolve (ctxSplit xs fs c).2 := by
  have h := allResolve_executeFields (xs := xs) 0 fs
  rw [← ctxSplit_append fs c] at h
  exact ⟨fun e he => h e (List.mem_append_left _ he), fun e he => h e (List.mem_append_right _ he)⟩

theorem pre_snd (t : Trace) (r : Trace × ResultSummary) : (pre t r).2 = r.2 := rfl

theorem guard_snd {k k' : Trace × ResultSummary} (h : k.2 = k'.2) (t : Trace) (errs : List ErrClass) :
    (guard t errs k).2 = (guard t errs k').2 := by
  rw [guard, guard]
  cases !errs.isEmpty
  · exact h
  · rfl

theorem phase_snd {k k' : Trace × ResultSummary} (h : k.2 = k'.2) (hs he : Hook)
    (fails : Prop) [Decidable fails] : (phase xs hs he fails k).2 = (phase xs hs he fails k').2 := by
  rw [phase, phase]
  cases !(didStart hs 0 xs).errs.isEmpty
  · show (if fails then _ else guard _ _ k).2 = (if fails then _ else guard _ _ k').2
    by_cases hf : fails
    · rw [if_pos hf, if_pos hf]
    · rw [if_neg hf, if_neg hf]; exact guard_snd h _ _
  · rfl

theorem runB_snd (ev ev' : Trace) (errs : List ErrClass)
    (d : Bool) : (runB xs req (ev, errs, d)).2 = (runB xs req (ev', errs, d)).2 := by
  rw [runB_eq, runB_eq, executeB_eq, executeB_eq]
  refine guard_snd (phase_snd (phase_snd ?_ ..) ..) ..
  by_cases hr : req = .operationErr
  · rw [if_pos hr, if_pos hr]
  · rw [if_neg hr, if_neg hr]
    simp only [executePlanB]
    cases !(didStart .execStart 0 xs).errs.isEmpty <;> rfl

theorem runB_exec_eq_variableErr (xs : List ExtBehaviour) (fs : List FieldOutcome) (body : Body) :
    runB xs (.exec fs) body = runB xs .variableErr body := rfl

theorem runCtx_toplevel (hnd : NodupNames xs) (fs : List FieldOutcome) (c : CtxAt) :
    topLevel (runCtx xs fs c).1 = (run xs ctxReq).1 := by
  have e1 : (runCtx xs fs c).1 = script xs (.exec fs) (ctxSplit xs fs c).1 .err := runB_trace hnd _
  have e2 : (run xs ctxReq).1 = script xs .variableErr [] .err := runB_trace hnd _
  rw [e1, e2, topLevel_script _ _ (allResolve_ctxSplit fs c).1]
  rfl

theorem runCtx_summary (fs : List FieldOutcome) (c : CtxAt) :
    (runCtx xs fs c).2 = (run xs ctxReq).2 := by
  simp only [runCtx, ctxBody, runB_exec_eq_variableErr]
  exact runB_snd _ [] [.request] false

theorem runCtx_resolveOnly (hnd : NodupNames xs) (fs : List FieldOutcome) (c : CtxAt) :
    resolveOnly ((runCtx xs fs c).1 ++ ctxLate xs fs c)
      = if reachesBody xs (.exec fs) then (executeFields xs 0 fs).1 else [] := by
  have e1 : (runCtx xs fs c).1 = script xs (.exec fs) (ctxSplit xs fs c).1 .err := runB_trace hnd _
  rw [resolveOnly_append, e1, resolveOnly_script _ _ (allResolve_ctxSplit fs c).1]
  simp only [ctxLate]
  by_cases h : reachesBody xs (.exec fs) = true
  · simp only [h, if_true, resolveOnly_allResolve (allResolve_ctxSplit fs c).2, ctxSplit_append]
  · simp only [if_neg h]; rfl

theorem ctx_resolvePhases (hnd : NodupNames xs) (fs : List FieldOutcome) (c : CtxAt)
    (hb : b ∈ xs) :
    resolvePhasesFor (.exec fs) b.name ((runCtx xs fs c).1 ++ ctxLate xs fs c) = true := by
  rw [resolvePhasesFor, runCtx_resolveOnly hnd fs c]
  by_cases h : reachesBody xs (.exec fs) = true
  · rw [if_pos h, proj_executeFields hnd hb 0 fs, show vFields b 0 fs = vBody b (.exec fs) from rfl, nest_vBody,
      bal_vBody _ fun _ => rfl]
    rcases po_vBody (.saw .execStart 0) (.inl ⟨0, rfl⟩) with ⟨j, hj⟩ | ⟨j, hj⟩ <;> rw [hj] <;> rfl
  · rw [if_neg h]; rfl

end GqlModel.Ext
