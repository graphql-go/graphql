import GqlProofs.PlanFuelBfs
import GqlProofs.PlanRootSim
/-! # Fuel: the request level

When the algorithm (`execute`) answers with data `fs` from fuel `fuelS`, M (`run`) answers from every fuel `F ≥ fuelS` that also
covers the two measures of the response: `jdep (.obj fs)` (depth-first pass: per nesting level the number of entries + 2, summed
along the deepest path) and `jcont (.obj fs) + 1` (breadth-first pass: the number of maps and lists). The fuel of the algorithm
alone does not suffice (`Props/C01Plan.fuel_is_not_shared_witness`). When a MUTATION fails at the root (`data: null`) the values
that were forced before the failing field are not part of the response, so no bound in terms of the response exists there. -/
namespace GqlModel.Plan
open GqlModel.Exec GqlModel.Coerce

section roots
variable {c : Ctx} {pv : Option Vars} {rank : String → Nat} {F : Nat}

theorem mRootMut_nf (hac : Acyclic c.frags rank) (hfr : FragsOK c pv) (rt : String) :
    ∀ (fuel : Nat), fuel ≤ F → ∀ (fps : List FieldPlan) (accS : List (String × JVal)) (acc : List (String × PVal))
    (st : St) (mst : MSt) (fs : List (String × JVal)) (stS : St),
    (∀ fp ∈ fps, FpOK c.schema rt (NodeOK c pv rank) fp) →
    execGroups c fuel false rt .nil [] (groupsOf fps) accS st = (.ok fs, stS) → stS.kfThunk = st.kfThunk →
    jmaxF fs ≤ F → (mRootMut c (recompute c.schema c.frags pv) F fuel rt fps acc mst).1 ≠ .fuelOut
  | 0, _, fps, accS, acc, st, mst, fs, stS, _, h, _, _ => by
    rw [execGroups_zero] at h; cases h
  | fuel + 1, hle, [], accS, acc, st, mst, fs, stS, _, h, _, _ => by
    rw [mRootMut_nil]; nofun
  | fuel + 1, hle, fp :: rest, accS, acc, st, mst, fs, stS, hok, h, hkf, hb => by
    have hle' : fuel ≤ F := Nat.le_of_succ_le hle
    have hfp := hok fp List.mem_cons_self
    have hrest : ∀ fp' ∈ rest, FpOK c.schema rt (NodeOK c pv rank) fp' := fun fp' hm => hok fp' (List.mem_cons_of_mem _ hm)
    obtain ⟨hp, ⟨hfd, h⟩ | ⟨fd, hfd, ⟨_, hne⟩ | ⟨j, st1, hS, hkA, h, hkB⟩⟩⟩ := execGroups_cons_inv hfp h (by simp) hkf
    · rw [mRootMut_skip (.inr hfd)]
      exact mRootMut_nf hac hfr rt fuel hle' rest accS acc st mst fs stS hrest h hkf hb
    · cases hne
    · obtain ⟨x, hx, hsv⟩ := (genP (F := F) hac hfr fuel hle').field false rt .nil [.key fp.key] [(rt, fp.key)] fp fd st mst _ _
        hfp hfd hS (by simp) hkA
      rw [mRootMut_field hp hfd, andThen_of_ok hx]
      -- the field's value is part of the response
      obtain ⟨more, _, _, hmore, _⟩ := execGroups_ok_run h
      have hmem : (fp.key, j) ∈ fs := by rw [hmore]; simp
      have hjb : jdep j ≤ F := Nat.le_trans (jmaxF_mem hmem) hb
      have hfS := forceAll_forced (c := c) (pv := pv) (rank := rank) (F := F) hac hfr
      have hfN := frcNF_forceAll (c := c) (pv := pv) (rank := rank) (F := F) hac hfr
      have hd2 := (dfsNF hfS hfN F).val x j
        (mField c (recompute c.schema c.frags pv) fuel false rt .nil [.key fp.key] [(rt, fp.key)] fp fd mst).2 hsv hjb
      generalize dfsVal (forceAll c (recompute c.schema c.frags pv) F) F x _ = z at hd2 ⊢
      obtain ⟨r2, mst2⟩ := z
      cases r2 with
      | fail => simp
      | fuelOut => exact absurd rfl hd2
      | ok x' => exact mRootMut_nf hac hfr rt fuel hle' rest _ _ st1 mst2 fs stS hrest h hkB hb

theorem runPlan_nf (hac : Acyclic c.frags rank) (hfr : FragsOK c pv) (q : Plan)
    (sel : SelectionSet) (hroot : q.root = planSelectionSet c.schema c.frags pv q.rootType sel)
    (hreg : Regime pv c.vars (setDynamic sel)) (fs : List (String × JVal)) (stS : St)
    (h : execGroups c F false q.rootType .nil [] (collect c q.rootType sel ([], [])).1 [] St.empty = (.ok fs, stS))
    (hkf : stS.kfThunk = []) (hb1 : jdep (.obj fs) ≤ F) (hb2 : jcont (.obj fs) + 1 ≤ F) (mst : MSt) :
    (runPlan c (recompute c.schema c.frags pv) q F mst).1 ≠ .fuelOut := by
  have hfS := forceAll_forced (c := c) (pv := pv) (rank := rank) (F := F) hac hfr
  have hfN := frcNF_forceAll (c := c) (pv := pv) (rank := rank) (F := F) hac hfr
  obtain ⟨hgo, hfps⟩ := planSelectionSet_sim (rt := q.rootType) hac hfr sel hreg
  rw [← hgo, ← hroot] at h
  rw [← hroot] at hfps
  simp only [jdep] at hb1
  rw [runPlan_eq]
  cases q.isMutation with
  | true =>
    rw [if_pos rfl]
    have hm := mRootMut_sim (F := F) hac hfr q.rootType F (Nat.le_refl _) q.root [] [] St.empty mst hfps .nil rfl
    rw [h] at hm
    replace hm := hm (by simp) hkf
    refine andThen_ne_fuelOut
      (mRootMut_nf (F := F) hac hfr q.rootType F (Nat.le_refl _) q.root [] [] St.empty mst fs stS hfps h hkf (by omega))
      fun pfs s hz => ?_
    rw [hz] at hm
    rcases hm with hm | ⟨⟨pfs', hp, hsv, _⟩, _⟩
    · cases hm
    · cases hp
      have hlen : (sortedKeys pfs).length = fs.length := by
        rw [sortedKeys_length]
        have := congrArg List.length (svf_keys hsv)
        simpa using this
      exact (dfsNF hfS hfN F).fields (sortedKeys pfs) pfs fs s hsv (by omega)
  | false =>
    rw [if_neg Bool.false_ne_true]
    obtain ⟨pfs, hp, hsv⟩ := (genP (F := F) hac hfr F (Nat.le_refl _)).groups false q.rootType .nil [] [] q.root [] [] St.empty mst
      (.ok fs) stS hfps .nil h (by simp) hkf
    refine andThen_ne_fuelOut (by rw [hp]; nofun) fun pfs' s hz => andThen_ne_fuelOut ?_ fun _ _ _ => by simp
    rw [hz] at hp
    cases hp
    have hkn : KeysNodup q.root := by rw [hroot]; exact keysNodup_planSelectionSet _ _ _ _ _
    have hnd1 := (nodupP (c := c) (alt := (recompute c.schema c.frags pv)) (altND_recompute _ _ _) F).groups false q.rootType .nil
      [] [] q.root [] mst (by simpa [KeysNodup] using hkn) (fun _ h => by cases h) pfs (by rw [hz])
    have hpot : potQ (.obj fs) [[]] = jcont (.obj fs) := by
      simp only [potQ, List.map_cons, List.map_nil, List.sum_cons, List.sum_nil, pot, Exec.getAt_nil, kidsO, jcont]
      omega
    exact bfsLoop_nf hfS hfN (frcFlat_forceAll (c := c) (alt := (recompute c.schema c.frags pv)) (altND_recompute _ _ _) F)
      (.obj fs) F (.obj pfs) [[]] s (.obj hsv) (ndv_obj.2 hnd1) (by rw [hpot]; exact hb2)

end roots

/-- the fuel that the dethunk passes of M need for a response with data `fs` -/
def dethunkFuel (fs : List (String × JVal)) : Nat := max (jdep (.obj fs)) (jcont (.obj fs) + 1)

end GqlModel.Plan
