import GqlModel.Location
/-! For C18: the match list of `location.GetLocation` is the list of terminator starts of the specification, each with its
end (`terms_eq`), and the loop over it leaves the specified line and column (`goLoop_prefix`, `goLoop_all_ge`); facts about
`specLine` / `specLineStart`; `RPath.asArray` of a path built by `withKey`, and `Tree.get?` along the path of a frame list. -/
namespace GqlModel.Location

theorem drop_cons_getElem? {α} {full : List α} {i : Nat} {c : α} {rest : List α}
    (h : full.drop i = c :: rest) : full[i]? = some c := by
  have := congrArg List.head? h
  simpa [List.head?_drop] using this

theorem drop_cons_drop {α} {full : List α} {i : Nat} {c : α} {rest : List α}
    (h : full.drop i = c :: rest) : full.drop (i + 1) = rest := by
  have := congrArg List.tail h
  simpa [List.tail_drop] using this

theorem startsTerm_of_getElem? {full : List UInt8} {i : Nat} {c : UInt8} (h0 : full[i]? = some c)
    (hn : ¬ insideCRLF full i) : startsTerm full i = (c == 13 || c == 10) := by
  unfold insideCRLF at hn
  unfold startsTerm
  rw [h0] at hn ⊢
  by_cases h13 : c = 13
  · simp [h13]
  · by_cases h10 : c = 10
    · subst h10
      simp at hn ⊢
      by_cases hi : i = 0
      · exact Or.inl hi
      · exact Or.inr (hn (by omega))
    · have e13 : (c == 13) = false := by simpa using h13
      have e10 : (c == 10) = false := by simpa using h10
      simp [e13, e10]

theorem startsTerm_second {full : List UInt8} {i : Nat} (h0 : full[i]? = some 13)
    (h1 : full[i + 1]? = some 10) : startsTerm full (i + 1) = false := by
  simp [startsTerm, h0, h1]

theorem termEnd_of_getElem? {full : List UInt8} {i : Nat} {c : UInt8} (h0 : full[i]? = some c) :
    termEnd full i = if c = 13 ∧ full[i + 1]? = some 10 then i + 2 else i + 1 := by
  simp [termEnd, h0]

theorem termEnd_gt (b : List UInt8) (i : Nat) : i < termEnd b i := by
  unfold termEnd; split <;> omega

theorem termEnd_le (b : List UInt8) (i : Nat) : termEnd b i ≤ i + 2 := by
  unfold termEnd; split <;> omega

theorem startsTerm_ge_length (b : List UInt8) (j : Nat) (h : b.length ≤ j) : startsTerm b j = false := by
  have : b[j]? = none := List.getElem?_eq_none h
  simp [startsTerm, this]

theorem termStartsBefore_succ (b : List UInt8) (p : Nat) :
    termStartsBefore b (p + 1) = termStartsBefore b p ++ (if startsTerm b p then [p] else []) := by
  simp [termStartsBefore, List.range_succ, List.filter_append, List.filter_cons]

theorem specLine_zero (b : List UInt8) : specLine b 0 = 1 := by
  simp [specLine, termStartsBefore]

theorem specLineStart_zero (b : List UInt8) : specLineStart b 0 = 0 := by
  simp [specLineStart, termStartsBefore]

theorem specLine_succ (b : List UInt8) (p : Nat) :
    specLine b (p + 1) = specLine b p + (if startsTerm b p then 1 else 0) := by
  simp only [specLine, termStartsBefore_succ]
  split <;> simp <;> omega

theorem specLineStart_succ (b : List UInt8) (p : Nat) :
    specLineStart b (p + 1) = if startsTerm b p then termEnd b p else specLineStart b p := by
  simp only [specLineStart, termStartsBefore_succ]
  by_cases hp : startsTerm b p = true
  · simp [hp]
  · simp [hp]

theorem termStartsBefore_ge_length (b : List UInt8) (k : Nat) :
    termStartsBefore b (b.length + k) = termStartsBefore b b.length := by
  induction k with
  | zero => rfl
  | succ k ih =>
    rw [← Nat.add_assoc, termStartsBefore_succ, ih, startsTerm_ge_length b _ (by omega)]
    simp

theorem termStartsBefore_min (b : List UInt8) (pos : Nat) :
    termStartsBefore b (min pos b.length) = termStartsBefore b pos := by
  by_cases h : pos ≤ b.length
  · rw [Nat.min_eq_left h]
  · have h' : b.length ≤ pos := by omega
    obtain ⟨k, rfl⟩ := Nat.exists_eq_add_of_le h'
    rw [Nat.min_eq_right h', termStartsBefore_ge_length]

theorem specLine_min (b : List UInt8) (pos : Nat) : specLine b (min pos b.length) = specLine b pos := by
  simp [specLine, termStartsBefore_min]

theorem specLineStart_min (b : List UInt8) (pos : Nat) :
    specLineStart b (min pos b.length) = specLineStart b pos := by
  simp [specLineStart, termStartsBefore_min]

theorem specLine_mono (b : List UInt8) {p q : Nat} (h : p ≤ q) : specLine b p ≤ specLine b q :=
  Nat.add_le_add_left ((List.range_sublist.2 h).filter _).length_le 1

/-- the line start never lies beyond `pos + 1`, and beyond `pos` only between the bytes of a CR LF -/
theorem specLineStart_le (b : List UInt8) : ∀ pos,
    specLineStart b pos ≤ pos + 1 ∧ (¬ insideCRLF b pos → specLineStart b pos ≤ pos) := by
  intro pos
  induction pos with
  | zero => simp [specLineStart_zero]
  | succ p ih =>
    rw [specLineStart_succ]
    by_cases hp : startsTerm b p = true
    · simp only [hp, if_true]
      refine ⟨termEnd_le b p, fun hn => ?_⟩
      unfold termEnd
      split
      · rename_i h
        exact absurd ⟨by omega, by simpa using h.1, h.2⟩ hn
      · omega
    · simp only [hp]
      exact ⟨by have := ih.1; simp; omega, fun _ => by have := ih.1; simp; omega⟩

/-- `FindAllIndex` yields exactly the terminator starts of the specification, each with its end. -/
theorem terms_eq : ∀ (b : List UInt8) (i : Nat) (full : List UInt8), full.drop i = b → ¬ insideCRLF full i →
    terms b i = ((List.range' i b.length).filter (startsTerm full)).map (fun j => (j, termEnd full j)) := by
  intro b i
  fun_induction terms b i with
  | case1 i => intro full h hn; simp   -- end of input
  | case2 c i hc =>   -- last byte, a CR or LF
    intro full h hn
    have h0 := drop_cons_getElem? h
    have h1 := List.getElem?_eq_none (List.drop_eq_nil_iff.mp (drop_cons_drop h))
    have hs := startsTerm_of_getElem? h0 hn
    have he := termEnd_of_getElem? h0
    rcases hc with rfl | rfl <;> simp [hs, he, h1]
  | case3 c i hc =>   -- last byte, no terminator
    intro full h hn
    have h0 := drop_cons_getElem? h
    have hs := startsTerm_of_getElem? h0 hn
    simp only [not_or] at hc
    simp [hs, hc.1, hc.2]
  | case4 c d rest i hcd ih =>   -- CR LF: one terminator of two bytes
    intro full h hn
    obtain ⟨rfl, rfl⟩ := hcd
    have h0 := drop_cons_getElem? h
    have h' := drop_cons_drop h
    have h1 := drop_cons_getElem? h'
    have h'' := drop_cons_drop h'
    have hs := startsTerm_of_getElem? h0 hn
    have he := termEnd_of_getElem? h0
    have hs2 := startsTerm_second h0 h1
    have hn2 : ¬ insideCRLF full (i + 2) := by
      intro ⟨_, hx, _⟩
      simp [h1] at hx
    rw [ih full h'' hn2]
    simp [List.range', hs, he, h1, hs2]
  | case5 c d rest i hcd hc ih =>   -- a CR or LF that is not the start of CR LF
    intro full h hn
    have h0 := drop_cons_getElem? h
    have h' := drop_cons_drop h
    have h1 := drop_cons_getElem? h'
    have hs := startsTerm_of_getElem? h0 hn
    have he := termEnd_of_getElem? h0
    have hn2 : ¬ insideCRLF full (i + 1) := by
      intro ⟨_, hx, hy⟩
      simp [h0, h1] at hx hy
      exact hcd ⟨hx, hy⟩
    rw [ih full h' hn2]
    have hc' : (c == 13 || c == 10) = true := by simpa using hc
    have : ¬ (c = 13 ∧ full[i + 1]? = some 10) := by
      rw [h1]; simpa using hcd
    simp [List.range', hs, he, hc', this]
  | case6 c d rest i hcd hc ih =>   -- any other byte
    intro full h hn
    have h0 := drop_cons_getElem? h
    have h' := drop_cons_drop h
    have h1 := drop_cons_getElem? h'
    have hs := startsTerm_of_getElem? h0 hn
    have hn2 : ¬ insideCRLF full (i + 1) := by
      intro ⟨_, hx, hy⟩
      simp [h0, h1] at hx hy
      exact hcd ⟨hx, hy⟩
    rw [ih full h' hn2]
    have hc' : (c == 13 || c == 10) = false := by simpa using hc
    simp [List.range', hs, hc']

theorem goLoop_all_ge (pos : Nat) (l : List (Nat × Nat)) (acc : Nat × Nat)
    (h : ∀ x ∈ l, pos ≤ x.1) : goLoop pos l acc = acc := by
  cases l with
  | nil => rfl
  | cons x xs =>
    obtain ⟨m0, m1⟩ := x
    obtain ⟨line, col⟩ := acc
    have := h (m0, m1) (by simp)
    simp only [goLoop]
    rw [if_neg (by simpa using this)]

theorem goLoop_prefix (b : List UInt8) (pos : Nat) : ∀ (m : Nat), m ≤ pos → ∀ (rest : List (Nat × Nat)),
    goLoop pos (((List.range' 0 m).filter (startsTerm b)).map (fun j => (j, termEnd b j)) ++ rest) (1, pos + 1)
      = goLoop pos rest (specLine b m, pos + 1 - specLineStart b m) := by
  intro m
  induction m with
  | zero => intro _ rest; simp [specLine, specLineStart, termStartsBefore]
  | succ m ih =>
    intro hm rest
    rw [List.range'_concat, List.filter_append, List.map_append, List.append_assoc, ih (by omega)]
    rw [specLine_succ, specLineStart_succ]
    by_cases hp : startsTerm b m = true
    · have := termEnd_gt b m
      simp only [List.filter_cons, Nat.zero_add, Nat.one_mul, hp, if_true, List.filter_nil, List.map_cons, List.map_nil,
        List.cons_append, List.nil_append, goLoop]
      rw [if_pos (by omega)]
      congr 2
      omega
    · simp [hp]

/-- no CR and no LF between the line start and `pos` -/
theorem specLineStart_no_terminator (b : List UInt8) : ∀ pos j,
    specLineStart b pos ≤ j → j < pos → b[j]? ≠ some 13 ∧ b[j]? ≠ some 10 := by
  intro pos
  induction pos with
  | zero => intro j _ h; omega
  | succ p ih =>
    intro j h1 h2
    rw [specLineStart_succ] at h1
    by_cases hp : startsTerm b p = true
    · simp only [hp, if_true] at h1
      have := termEnd_gt b p
      omega
    · simp only [hp] at h1
      by_cases hj : j < p
      · exact ih j (by simpa using h1) hj
      · have hjp : j = p := by omega
        subst hjp
        simp only [Bool.not_eq_true] at hp
        simp only [Bool.false_eq_true, if_false] at h1
        unfold startsTerm at hp
        simp only [Bool.or_eq_false_iff, Bool.and_eq_false_iff, beq_eq_false_iff_ne, ne_eq, Bool.not_eq_false',
          Bool.and_eq_true, decide_eq_true_eq, beq_iff_eq] at hp
        refine ⟨hp.1, fun h10 => ?_⟩
        rcases hp.2 with h | ⟨hj1, hprev⟩
        · exact h h10
        · -- LF preceded by CR: then the CR LF pair starting at j-1 ends at j+1 > j
          obtain ⟨q, rfl⟩ : ∃ q, j = q + 1 := ⟨j - 1, by omega⟩
          simp only [Nat.add_sub_cancel] at hprev
          have hs : startsTerm b q = true := by simp [startsTerm, hprev]
          rw [specLineStart_succ] at h1
          simp only [hs, if_true] at h1
          have : termEnd b q = q + 2 := by simp [termEnd, hprev, h10]
          omega

/-- the line start is the beginning of the text or directly follows a terminator byte, and is never the LF of a CR LF -/
theorem specLineStart_after_terminator (b : List UInt8) : ∀ pos,
    (specLineStart b pos = 0 ∨
      (1 ≤ specLineStart b pos ∧ (b[specLineStart b pos - 1]? = some 13 ∨ b[specLineStart b pos - 1]? = some 10)))
    ∧ ¬ insideCRLF b (specLineStart b pos) := by
  intro pos
  induction pos with
  | zero =>
    rw [specLineStart_zero]
    exact ⟨Or.inl rfl, by intro ⟨h, _⟩; omega⟩
  | succ p ih =>
    rw [specLineStart_succ]
    by_cases hp : startsTerm b p = true
    · simp only [hp, if_true]
      have hb : b[p]? = some 13 ∨ b[p]? = some 10 := by
        unfold startsTerm at hp
        simp only [Bool.or_eq_true, beq_iff_eq, Bool.and_eq_true] at hp
        rcases hp with h | h
        · exact Or.inl h
        · exact Or.inr h.1
      unfold termEnd
      split
      · rename_i h
        refine ⟨Or.inr ⟨by omega, Or.inr (by simpa using h.2)⟩, ?_⟩
        intro ⟨_, hx, _⟩
        simp only [show p + 2 - 1 = p + 1 from rfl] at hx
        rw [h.2] at hx
        simp at hx
      · rename_i h
        refine ⟨Or.inr ⟨by omega, by simpa using hb⟩, ?_⟩
        intro ⟨_, hx, hy⟩
        simp only [Nat.add_sub_cancel] at hx
        exact h ⟨hx, hy⟩
    · simpa [hp] using ih

theorem specLineStart_eq_of_specLine_eq (b : List UInt8) (p : Nat) : ∀ k,
    specLine b (p + k) = specLine b p → specLineStart b (p + k) = specLineStart b p := by
  intro k h
  have hs : (termStartsBefore b p).Sublist (termStartsBefore b (p + k)) :=
    (List.range_sublist.2 (Nat.le_add_right p k)).filter _
  rw [specLineStart, specLineStart, hs.eq_of_length (Nat.add_left_cancel h).symm]

theorem foldl_withKey_asArray (ks : List Key) (p : RPath) :
    (ks.foldl RPath.withKey p).asArray = p.asArray ++ ks := by
  induction ks generalizing p with
  | nil => simp
  | cons k ks ih => simp [ih, RPath.withKey, RPath.asArray]

theorem pathOf_asArray (fs : List Frame) : (pathOf fs).asArray = fs.map Frame.key := by
  have := foldl_withKey_asArray (fs.map Frame.key) .nil
  rwa [List.foldl_map] at this

theorem lookup_append_of_none (k : String) (t : Tree) (before after : List (String × Tree))
    (h : lookup k before = none) : lookup k (before ++ (k, t) :: after) = some t := by
  induction before with
  | nil => simp [lookup]
  | cons x xs ih =>
    obtain ⟨k', t'⟩ := x
    simp only [lookup] at h
    split at h
    · cases h
    · rename_i hne
      simp [lookup, hne, ih h]

theorem get?_cons_of_step {t t' : Tree} {k : Key} (ks : List Key) (h : t.step k = some t') :
    t.get? (k :: ks) = t'.get? ks := by
  simp [Tree.get?, h]

theorem step_fill (f : Frame) (t : Tree) (h : f.wf) : (f.fill t).step f.key = some t := by
  cases f with
  | field before k after => exact lookup_append_of_none k t before after h
  | item before after => simp [Frame.fill, Frame.key, Tree.step]

end GqlModel.Location
