import GqlProofs.SchemaBuiltType
/-! C11: the errors that the constructors, the lazily evaluated members, the directive checks and the interface
assertions produce are ordinary ones (never `Err.panic`, a nil dereference, nor `Err.fuel`), and the steps of a type object
are parked ordinary errors or visits of types that end in a named type; built types never end in a nil pointer. -/
namespace GqlModel.SchemaBuild

variable {cfg : Config}

theorem enumErr_noCrash {vs : List (String × Bool)} {e : Err} (h : enumErr vs = some e) : e.isCrash = false := by
  unfold enumErr at h
  cases vs with
  | nil => simp at h; subst h; rfl
  | cons v rest =>
    simp only at h
    refine findSome?_pred (P := fun e => e.isCrash = false) ?_ _ e h
    intro x b hb
    split at hb
    · cases hb; rfl
    · split at hb
      · cases hb; rfl
      · split at hb
        · cases hb; rfl
        · cases hb

theorem ctorErrT_noCrash {t : TypeCfg} {e : Err} (h : ctorErrT t = some e) : e.isCrash = false := by
  unfold ctorErrT at h
  split at h
  · cases h; rfl
  · split at h
    · split at h
      · cases h; rfl
      · split at h
        · cases h; rfl
        · cases h
    · exact enumErr_noCrash h
    · cases h

theorem ctorErr_noCrash {i : Nat} {e : Err} (h : ctorErr cfg i = some e) : e.isCrash = false := by
  unfold ctorErr at h
  cases hc : ctorErrT (cfg.get i) with
  | some e' => simp only [hc, Option.some.injEq] at h; subst h; exact ctorErrT_noCrash hc
  | none =>
    simp only [hc, parkedOf] at h
    split at h
    · rename_i e' _
      split at h
      · cases h
      · rename_i hne
        cases h
        simpa using hne
    · cases h

theorem build_strip_ne_nilPtr : ∀ (x : TRef) (k : Kind), x.build.strip ≠ .nilPtr k := by
  intro x
  induction x with
  | nil => intro k; simp [TRef.build, TRef.strip]
  | nilPtr _ => intro k; simp [TRef.build, TRef.strip]
  | ref _ => intro k; simp [TRef.build, TRef.strip]
  | list a ih =>
    intro k
    simp only [TRef.build, TRef.strip]
    cases h : a.build.strip with
    | nilPtr k' => exact absurd h (ih k')
    | nil => simp
    | named _ => simp
    | badList => simp
    | badNonNull => simp
  | nonNull a ih =>
    intro k
    simp only [TRef.build]
    split
    · simp [TRef.strip]
    · simp [TRef.strip]
    · rename_i b hb1 hb2
      simp only [TRef.strip]
      cases h : a.build.strip with
      | nilPtr k' => exact absurd h (ih k')
      | nil => simp
      | named _ => simp
      | badList => simp
      | badNonNull => simp

theorem topErr_build_noCrash {t : TRef} {e : Err} (h : topErr cfg t.build = some e) : e.isCrash = false := by
  cases hb : t.build with
  | nil => simp [hb, topErr] at h
  | nilPtr k => exact absurd (hb ▸ rfl) (build_strip_ne_nilPtr t k)
  | ref i => rw [hb] at h; exact ctorErr_noCrash h
  | list a =>
    rw [hb] at h
    cases a <;> simp [topErr] at h <;> (subst h; rfl)
  | nonNull a =>
    rw [hb] at h
    cases a <;> simp [topErr] at h <;> (subst h; rfl)

/-! an error of one of the loops is a constant written in the loop, the error of an inner call, or (fields) the parked
error of a built type -/

theorem defineArgs_noCrash {as : List ArgCfg} {e : Err} (h : defineArgs cfg as = .error e) : e.isCrash = false := by
  fun_induction defineArgs cfg as <;> simp_all
  all_goals (subst h; rfl)

theorem defineFieldsLoop_noCrash {fs : List FieldCfg} {e : Err} (h : defineFieldsLoop cfg fs = .error e) :
    e.isCrash = false := by
  fun_induction defineFieldsLoop cfg fs <;> simp_all
  all_goals subst h
  all_goals first | rfl | exact topErr_build_noCrash ‹_› | exact defineArgs_noCrash ‹_›

theorem defineInputLoop_noCrash {fs : List ArgCfg} {e : Err} (h : defineInputLoop cfg fs = .error e) :
    e.isCrash = false := by
  fun_induction defineInputLoop cfg fs <;> simp_all
  all_goals (subst h; rfl)

theorem fieldsOf_noCrash {i : Nat} {e : Err} (h : fieldsOf cfg i = .error e) : e.isCrash = false := by
  rw [fieldsOf_eq] at h
  split at h
  · cases h; rfl
  · exact defineFieldsLoop_noCrash h

theorem inputFieldsOf_noCrash {i : Nat} {e : Err} (h : inputFieldsOf cfg i = .error e) : e.isCrash = false := by
  rw [inputFieldsOf_eq] at h
  split at h
  · cases h; rfl
  · exact defineInputLoop_noCrash h

theorem ifaceLoop_noCrash {l : List (Option Nat)} {seen : List String} {e : Err}
    (h : ifaceLoop cfg seen l = .error e) : e.isCrash = false := by
  fun_induction ifaceLoop cfg seen l <;> simp_all
  all_goals (subst h; rfl)

theorem interfacesOf_noCrash {i : Nat} {e : Err} (h : interfacesOf cfg i = .error e) : e.isCrash = false := by
  unfold interfacesOf at h
  simp only at h
  split at h
  · cases h; rfl
  · cases h
  · exact ifaceLoop_noCrash h

theorem unionLoop_noCrash {rt : Bool} {l : List (Option Nat)} {seen : List String} {e : Err}
    (h : unionLoop cfg rt seen l = .error e) : e.isCrash = false := by
  fun_induction unionLoop cfg rt seen l <;> simp_all
  all_goals (subst h; rfl)

theorem membersOf_noCrash {i : Nat} {e : Err} (h : membersOf cfg i = .error e) : e.isCrash = false := by
  unfold membersOf at h
  simp only at h
  split at h
  · cases h; rfl
  · cases h; rfl
  · split at h
    · cases h; rfl
    · exact unionLoop_noCrash h

def StepOk (s : Step) : Prop :=
  match s with
  | .fail e => e.isCrash = false
  | .visit t => ∃ j, t.strip = .named j

theorem memberSteps_stepOk : ∀ (ms : List Nat), ∀ s ∈ memberSteps cfg ms, StepOk s := by
  intro ms
  induction ms with
  | nil => intro s hs; cases hs
  | cons m rest ih =>
    intro s hs
    simp only [memberSteps] at hs
    cases hc : ctorErr cfg m with
    | some e =>
      simp only [hc, List.mem_singleton] at hs
      subst hs
      exact ctorErr_noCrash hc
    | none =>
      simp only [hc, List.mem_cons] at hs
      rcases hs with rfl | hs
      · exact ⟨m, rfl⟩
      · exact ih s hs

theorem fieldSteps_stepOk {fs : List BField}
    (h : ∀ b ∈ fs, isOutputType cfg b.type = true ∧ ∀ a ∈ b.args, isInputType cfg a.type = true) :
    ∀ s ∈ fieldSteps fs, StepOk s := by
  intro s hs
  obtain ⟨f, hf, rfl | ⟨a, ha, rfl⟩⟩ := mem_fieldSteps.mp hs
  · obtain ⟨j, hj, _⟩ := isOutputType_named (h f hf).1
    exact ⟨j, hj⟩
  · obtain ⟨j, hj, _⟩ := isInputType_named ((h f hf).2 a ha)
    exact ⟨j, hj⟩

theorem exceptSteps_stepOk {α : Type} {r : Except Err α} {k : α → List Step}
    (herr : ∀ e, r = .error e → e.isCrash = false) (hok : ∀ a, r = .ok a → ∀ s ∈ k a, StepOk s) :
    ∀ s ∈ exceptSteps r k, StepOk s := by
  intro s hs
  cases r with
  | error e => cases List.mem_singleton.mp hs; exact herr e rfl
  | ok a => exact hok a rfl s hs

theorem stepsOf_stepOk (i : Nat) : ∀ s ∈ stepsOf cfg i, StepOk s := by
  intro s hs
  have hfields := exceptSteps_stepOk (r := fieldsOf cfg i) (k := fieldSteps) (fun e => fieldsOf_noCrash)
    (fun fs hf => fieldSteps_stepOk (fieldsOf_spec hf))
  cases hk : kindOf cfg i with
  | object =>
    rw [stepsOf_object hk] at hs
    exact exceptSteps_stepOk (fun e => interfacesOf_noCrash)
      (fun is _ s hs => (List.mem_append.mp hs).elim (memberSteps_stepOk is s) (hfields s)) s hs
  | interface => simp only [stepsOf, hk] at hs; exact hfields s hs
  | union =>
    simp only [stepsOf, hk] at hs
    exact exceptSteps_stepOk (fun e => membersOf_noCrash) (fun ms _ => memberSteps_stepOk ms) s hs
  | inputObject =>
    simp only [stepsOf, hk] at hs
    refine exceptSteps_stepOk (fun e => inputFieldsOf_noCrash) (fun fs hf s hs => ?_) s hs
    obtain ⟨a, ha, rfl⟩ := List.mem_map.mp hs
    obtain ⟨j, hj, _⟩ := isInputType_named (inputFieldsOf_spec hf a ha)
    exact ⟨j, hj⟩
  | scalar => simp [stepsOf, hk] at hs
  | enum => simp [stepsOf, hk] at hs
  | list => simp [stepsOf, hk] at hs
  | nonNull => simp [stepsOf, hk] at hs

theorem dirArgTypes_built : ∀ t ∈ dirArgTypes cfg, ∃ x : TRef, t = x.build := by
  intro t ht
  rcases mem_dirArgTypes ht with rfl | rfl | ⟨_, a, _, _, rfl⟩
  · exact ⟨.nonNull (.ref idBoolean), rfl⟩
  · exact ⟨.ref idString, rfl⟩
  · exact ⟨a.type, rfl⟩

theorem rootRefs_built (more : List TRef) : ∀ t ∈ rootRefs cfg more, ∃ x : TRef, t = x.build := by
  intro t ht
  simp only [rootRefs, List.mem_append, List.mem_map, List.mem_singleton] at ht
  have ofRoot : ∀ (o : Option Nat), t ∈ optRoot o → ∃ x : TRef, t = x.build := by
    intro o h
    cases o with
    | none => cases h
    | some i => simp only [optRoot, List.mem_singleton] at h; exact ⟨.ref i, by rw [h]; rfl⟩
  rcases ht with ((((h | h) | h) | h) | h) | h
  · exact ofRoot _ h
  · exact ofRoot _ h
  · exact ofRoot _ h
  · exact ⟨.ref idSchema, by rw [h]; rfl⟩
  · obtain ⟨x, _, rfl⟩ := h; exact ⟨x, rfl⟩
  · exact dirArgTypes_built t h

theorem dirArgsErr_noCrash {as : List ArgCfg} {e : Err} (h : dirArgsErr cfg as = some e) : e.isCrash = false := by
  fun_induction dirArgsErr cfg as <;> simp_all
  all_goals (subst h; rfl)

theorem dirErr_noCrash {d : Option DirCfg} {e : Err} (h : dirErr cfg d = some e) : e.isCrash = false := by
  cases d with
  | none => simp [dirErr] at h; subst h; rfl
  | some d =>
    simp only [dirErr, dirCtorErr] at h
    split at h
    · cases h; rfl
    · split at h
      · cases h; rfl
      · exact dirArgsErr_noCrash h

theorem fieldConforms_noCrash {k : Nat → Kind} {p : Nat → Nat → Bool} {ofs : List BField} {f : BField} {e : Err}
    (h : fieldConforms k p ofs f = some e) : e.isCrash = false := by
  unfold fieldConforms at h
  split at h
  · cases h; rfl
  · split at h
    · cases h; rfl
    · split at h
      · rename_i e' he'
        cases h
        refine findSome?_pred (P := fun e => e.isCrash = false) ?_ _ _ he'
        intro x b hb
        unfold argConforms at hb
        split at hb
        · cases hb; rfl
        · split at hb
          · cases hb
          · cases hb; rfl
      · refine findSome?_pred (P := fun e => e.isCrash = false) ?_ _ _ h
        intro x b hb
        unfold extraArgOk at hb
        split at hb
        · cases hb
        · split at hb
          · cases hb; rfl
          · cases hb

theorem assertAll_noCrash {tm : TM} {e : Err} (h : assertAll cfg tm = some e) : e.isCrash = false := by
  unfold assertAll at h
  refine findSome?_pred (P := fun e => e.isCrash = false) ?_ _ _ h
  intro o b hb
  refine findSome?_pred (P := fun e => e.isCrash = false) ?_ _ _ hb
  intro i b' hb'
  unfold conformsTo at hb'
  refine findSome?_pred (P := fun e => e.isCrash = false) ?_ _ _ hb'
  intro f b'' hb''
  exact fieldConforms_noCrash hb''

end GqlModel.SchemaBuild
