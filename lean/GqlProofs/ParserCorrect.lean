import GqlProofs.ParserBasics
import GqlProofs.ParserDerivs
/-! Correctness of the parser model M w.r.t. the grammar S (C03), production by production after `GqlModel/Parser.lean`.
Soundness (`SndN`; `Snd`, under `σ'.bad = false`, for the actions that call `parseType`): whatever an action returns is
derivable, and the only thing it changes in the state is the position.  Completeness (`Cmp`): every derivation is found,
with its AST, without touching the flag. -/

namespace GqlModel.Parser
open GqlModel.Grammar

def SndN {α} (m : P α) (D : Pos → α → Pos → Prop) : Prop :=
  ∀ σ a σ', m σ = .ok (a, σ') → D σ.pos a σ'.pos ∧ σ' = σ.at σ'.pos

def Snd {α} (m : P α) (D : Pos → α → Pos → Prop) : Prop :=
  ∀ σ a σ', m σ = .ok (a, σ') → σ'.bad = false → D σ.pos a σ'.pos ∧ σ' = σ.at σ'.pos

def Cmp {α} (m : P α) (D : Pos → α → Pos → Prop) : Prop :=
  ∀ σ a p', D σ.pos a p' → m σ = .ok (a, σ.at p')

/-- what a fuelled recursion has of itself for its items -/
def CmpB {α} (B : Nat) (m : P α) (D : Pos → α → Pos → Prop) : Prop :=
  ∀ σ a p', σ.toks.length ≤ B → D σ.pos a p' → m σ = .ok (a, σ.at p')

theorem SndN.snd {α} {m : P α} {D : Pos → α → Pos → Prop} (h : SndN m D) : Snd m D :=
  fun σ a σ' hm _ => h σ a σ' hm

theorem at_trans {σ σ1 σ2 : PState} (h1 : σ1 = σ.at σ1.pos) (h2 : σ2 = σ1.at σ2.pos) : σ2 = σ.at σ2.pos := by
  rw [h2, h1]; rfl

theorem bad_of_at {σ σ1 : PState} (h1 : σ1 = σ.at σ1.pos) : σ1.bad = σ.bad := by rw [h1]; rfl

theorem tok_cur {k : TokenKind} {σ : PState} {t : Token} {p' : Pos} (h : Tok k σ.pos t p') :
    σ.cur = t ∧ σ.pos.start = t.start ∧ σ.cur.kind = k := by
  obtain ⟨hk, hts, _⟩ := tok_iff.mp h
  have hc : σ.cur = t := cur_cons hts
  exact ⟨hc, (pos_start_eq (by rw [hts]; exact List.cons_ne_nil _ _)).trans (congrArg Token.start hc), by rw [hc]; exact hk⟩

theorem adv_tok {k : TokenKind} (hk : k ≠ .eof) {σ : PState} (h : σ.cur.kind = k) :
    Tok k σ.pos σ.cur σ.adv.pos ∧ σ.adv = σ.at σ.adv.pos :=
  (expect_ok hk).mp (expect_of_kind h)

theorem cur_bind {β} (f : Token → P β) (σ : PState) : (cur >>= f) σ = f σ.cur σ := rfl

theorem peek_bind {β} (k : TokenKind) (f : Bool → P β) (σ : PState) : (peek k >>= f) σ = f (decide (σ.cur.kind = k)) σ := rfl

theorem loopFuel_bind {β} (f : Nat → P β) (σ : PState) : (loopFuel >>= f) σ = f (σ.toks.length + 1) σ := rfl

theorem bind_run {α β} (m : P α) (f : α → P β) (σ : PState) :
    (m >>= f) σ = (match m σ with | .error e => .error e | .ok (a, σ1) => f a σ1) := bind_run' m f σ

theorem peek_of_kind {k : TokenKind} {σ : PState} (h : σ.pos.kind = k) : peek k σ = .ok (true, σ) := by
  rw [pos_kind_eq] at h; simp [peek_run, h]

theorem peek_of_not {k : TokenKind} {σ : PState} (h : σ.pos.kind ≠ k) : peek k σ = .ok (false, σ) := by
  rw [pos_kind_eq] at h; simp [peek_run, h]

theorem cur_kind_of_tok {k : TokenKind} {σ : PState} {t : Token} {p' : Pos} (h : Tok k σ.pos t p') : σ.cur.kind = k :=
  (tok_cur h).2.2

theorem cur_of_tok {k : TokenKind} {σ : PState} {t : Token} {p' : Pos} (h : Tok k σ.pos t p') : σ.cur = t := (tok_cur h).1

theorem adv_of_tok {k : TokenKind} {σ : PState} {t : Token} {p' : Pos} (h : Tok k σ.pos t p') : σ.adv = σ.at p' := by
  obtain ⟨_, hts, he⟩ := tok_iff.mp h
  rw [adv_cons hts]
  obtain ⟨e', ts'⟩ := p'
  simp_all [PState.at]

theorem SndN.bind_ok {α β} {m : P α} {D : Pos → α → Pos → Prop} (hm : SndN m D) {f : α → P β} {σ : PState} {r : β × PState}
    (h : (m >>= f) σ = .ok r) : ∃ a p1, D σ.pos a p1 ∧ f a (σ.at p1) = .ok r := by
  obtain ⟨a, σ1, h1, h2⟩ := Parser.bind_ok.mp h
  obtain ⟨hD, hat⟩ := hm _ _ _ h1
  exact ⟨a, σ1.pos, hD, hat ▸ h2⟩

/-- for an action that may raise the flag: its derivation is available once the flag is known to be down after it.  A
proof peels the whole `do` block first, keeping these implications, and feeds them `σ'.bad = false` after the final
`cases h`, the last one first: by then each intermediate flag is `σ'.bad` by computation. -/
theorem Snd.bind_ok {α β} {m : P α} {D : Pos → α → Pos → Prop} (hm : Snd m D) {f : α → P β} {σ : PState} {r : β × PState}
    (h : (m >>= f) σ = .ok r) : ∃ a σ1, (σ1.bad = false → ∃ p1, D σ.pos a p1 ∧ σ1 = σ.at p1) ∧ f a σ1 = .ok r := by
  obtain ⟨a, σ1, h1, h2⟩ := Parser.bind_ok.mp h
  exact ⟨a, σ1, fun hb => ⟨σ1.pos, hm _ _ _ h1 hb⟩, h2⟩

theorem skip_bind_ok {β} {k : TokenKind} (hk : k ≠ .eof) {f : Bool → P β} {σ : PState} {r : β × PState}
    (h : (skip k >>= f) σ = .ok r) :
    (σ.pos.kind ≠ k ∧ f false σ = .ok r) ∨ ∃ t p1, Tok k σ.pos t p1 ∧ f true (σ.at p1) = .ok r := by
  obtain ⟨b, σ1, hs, h2⟩ := Parser.bind_ok.mp h
  cases b
  · obtain ⟨hne, rfl⟩ := skip_false.mp hs
    exact .inl ⟨hne, h2⟩
  · obtain ⟨t, ht, hat⟩ := (skip_true hk).mp hs
    exact .inr ⟨t, σ1.pos, ht, hat ▸ h2⟩

theorem peek_optional {α} {k : TokenKind} {m : P α} {d : α} {σ : PState} {r : α × PState}
    (h : (do if (← peek k) then m else pure d : P α) σ = .ok r) : m σ = .ok r ∨ (σ.pos.kind ≠ k ∧ (d, σ) = r) := by
  rw [peek_bind] at h
  split at h
  · exact .inl h
  · rename_i hk
    refine .inr ⟨?_, by cases h; rfl⟩
    rw [pos_kind_eq]
    exact fun hc => hk (decide_eq_true hc)

theorem expect_snd {k : TokenKind} (hk : k ≠ .eof) : SndN (expect k) (Tok k) := fun _ _ _ h => (expect_ok hk).mp h

theorem many_sndN {α} {close : TokenKind} (hc : close ≠ .eof) {item : P α} {D : Pos → α → Pos → Prop}
    {L : Pos → List α → Pos → Prop} (hnil : ∀ {p}, L p [] p)
    (hcons : ∀ {p x p1 xs p2}, D p x p1 → L p1 xs p2 → L p (x :: xs) p2) (hitem : SndN item D) :
    ∀ k σ xs σ', many close item k σ = .ok (xs, σ') →
      ∃ p cl, L σ.pos xs p ∧ Tok close p cl σ'.pos ∧ σ' = σ.at σ'.pos := by
  intro k
  induction k with
  | zero => intro σ xs σ' h; cases h
  | succ k ih =>
    intro σ xs σ' h
    simp only [many] at h
    rcases skip_bind_ok hc h with ⟨_, h⟩ | ⟨t, p1, ht, h⟩
    · simp only [Bool.false_eq_true, if_false] at h
      obtain ⟨x, p1, hD, h⟩ := hitem.bind_ok h
      obtain ⟨xs', σ3, hm, h⟩ := bind_ok.mp h
      cases h
      obtain ⟨p, cl, hL, ht, h3⟩ := ih _ _ _ hm
      exact ⟨p, cl, hcons hD hL, ht, h3⟩
    · cases h
      exact ⟨σ.pos, t, hnil, ht, rfl⟩

theorem many_snd {α} {close : TokenKind} (hc : close ≠ .eof) {item : P α} {D : Pos → α → Pos → Prop}
    (hitem : Snd item D) :
    ∀ k σ xs σ', many close item k σ = .ok (xs, σ') → σ'.bad = false →
      ∃ p cl, Many D σ.pos xs p ∧ Tok close p cl σ'.pos ∧ σ' = σ.at σ'.pos := by
  intro k
  induction k with
  | zero => intro σ xs σ' h; cases h
  | succ k ih =>
    intro σ xs σ' h hb
    simp only [many] at h
    rcases skip_bind_ok hc h with ⟨_, h⟩ | ⟨t, p1, ht, h⟩
    · simp only [Bool.false_eq_true, if_false] at h
      obtain ⟨x, σ2, hD, h⟩ := hitem.bind_ok h
      obtain ⟨xs', σ3, hm, h⟩ := bind_ok.mp h
      cases h
      obtain ⟨p, cl, hL, ht, h3⟩ := ih _ _ _ hm hb
      obtain ⟨p1, hD', rfl⟩ := hD (by rw [← bad_of_at h3]; exact hb)
      exact ⟨p, cl, .cons hD' hL, ht, h3⟩
    · cases h
      exact ⟨σ.pos, t, .nil, ht, rfl⟩

/-- the loop of `reverse` finds every `Many D`; the item parser is only asked about states with at most `B` tokens -/
theorem many_cmp {α} {close : TokenKind} {item : P α} {D : Pos → α → Pos → Prop} {B : Nat}
    (hitem : CmpB B item D)
    (hnc : ∀ p x p1, D p x p1 → p.kind ≠ close) (hle : ∀ p x p1, D p x p1 → p1.ts.length ≤ p.ts.length)
    {p : Pos} {xs : List α} {p1 : Pos} (h : Many D p xs p1) :
    ∀ (σ : PState) (cl : Token) (p2 : Pos) (k : Nat), σ.pos = p → p.ts.length ≤ B → Tok close p1 cl p2 → xs.length < k →
      many close item k σ = .ok (xs, σ.at p2) := by
  induction h with
  | nil =>
    intro σ cl p2 k hσ _ hc hk
    subst hσ
    obtain ⟨k', rfl⟩ : ∃ k', k = k' + 1 := ⟨k - 1, by omega⟩
    simp only [many, bind_run, skip_of_tok hc, if_true, pure_run]
  | cons hx _ ih =>
    intro σ cl p2 k hσ hB hc hk
    subst hσ
    obtain ⟨k', rfl⟩ : ∃ k', k = k' + 1 := ⟨k - 1, by omega⟩
    have hk' := Nat.lt_of_succ_lt_succ hk
    simp only [many, bind_run, skip_of_not (hnc _ _ _ hx), Bool.false_eq_true, if_false, hitem σ _ _ hB hx,
      ih (σ.at _) cl p2 k' rfl (Nat.le_trans (hle _ _ _ hx) hB) hc hk', pure_run, PState.at_at]

theorem reverse_ok {α} {opn close : TokenKind} (ho : opn ≠ .eof) {item : P α} {z : Bool} {σ : PState} {xs : List α}
    {σ' : PState} (h : reverse opn item close z σ = .ok (xs, σ')) :
    ∃ o p1, Tok opn σ.pos o p1 ∧ many close item (p1.ts.length + 1) (σ.at p1) = .ok (xs, σ') ∧ (z = true → xs ≠ []) := by
  unfold reverse at h
  obtain ⟨o, p1, hO, h⟩ := (expect_snd ho).bind_ok h
  rw [cur_bind] at h
  split at h
  · cases h
  rw [loopFuel_bind] at h
  obtain ⟨nodes, σ2, hm, h⟩ := bind_ok.mp h
  split at h
  · cases h
  · rename_i hz
    cases h
    exact ⟨o, p1, hO, hm, fun hzt he => by subst hzt he; simp at hz⟩

theorem reverse_of_many {α} {opn close : TokenKind} {item : P α} {z : Bool} {σ : PState} {o : Token} {p1 : Pos}
    {xs : List α} {p3 : Pos} (hO : Tok opn σ.pos o p1)
    (hm : many close item (p1.ts.length + 1) (σ.at p1) = .ok (xs, σ.at p3))
    (hz : z = true → xs ≠ [] ∧ p1.kind ≠ close) : reverse opn item close z σ = .ok (xs, σ.at p3) := by
  have hc : ¬ (z = true ∧ (σ.at p1).cur.kind = close) := by
    rintro ⟨hz1, hk⟩
    have := (hz hz1).2
    rw [← PState.at_pos σ p1, pos_kind_eq] at this
    exact this hk
  have he : (z && xs.isEmpty) = false := by
    cases z
    · rfl
    · cases xs with
      | nil => exact absurd rfl (hz rfl).1
      | cons _ _ => rfl
  simp only [reverse, bind_run, expect_of_tok hO, cur_run, if_neg hc, loopFuel_run, PState.at_toks, hm, he,
    Bool.false_eq_true, if_false, pure_run]

theorem reverse_sndN {α} {opn close : TokenKind} (ho : opn ≠ .eof) (hc : close ≠ .eof) {item : P α}
    {D : Pos → α → Pos → Prop} {L : Pos → List α → Pos → Prop} (hnil : ∀ {p}, L p [] p)
    (hcons : ∀ {p x p1 xs p2}, D p x p1 → L p1 xs p2 → L p (x :: xs) p2) (hitem : SndN item D) {z : Bool}
    {σ : PState} {xs : List α} {σ' : PState} (h : reverse opn item close z σ = .ok (xs, σ')) :
    ∃ o p1 p2 cl, Tok opn σ.pos o p1 ∧ L p1 xs p2 ∧ Tok close p2 cl σ'.pos ∧ σ' = σ.at σ'.pos ∧ (z = true → xs ≠ []) := by
  obtain ⟨o, p1, hO, hm, hne⟩ := reverse_ok ho h
  obtain ⟨p, cl, hL, hC, h2⟩ := many_sndN hc hnil hcons hitem _ _ _ _ hm
  exact ⟨o, p1, p, cl, hO, hL, hC, h2, hne⟩

theorem reverse_snd {α} {opn close : TokenKind} (ho : opn ≠ .eof) (hc : close ≠ .eof) {item : P α}
    {D : Pos → α → Pos → Prop} (hitem : Snd item D) {z : Bool}
    {σ : PState} {xs : List α} {σ' : PState} (h : reverse opn item close z σ = .ok (xs, σ')) (hb : σ'.bad = false) :
    ∃ o p1 p2 cl, Tok opn σ.pos o p1 ∧ Many D p1 xs p2 ∧ Tok close p2 cl σ'.pos ∧ σ' = σ.at σ'.pos ∧ (z = true → xs ≠ []) := by
  obtain ⟨o, p1, hO, hm, hne⟩ := reverse_ok ho h
  obtain ⟨p, cl, hL, hC, h2⟩ := many_snd hc hitem _ _ _ _ hm hb
  exact ⟨o, p1, p, cl, hO, hL, hC, h2, hne⟩

theorem reverse_cmp {α} {opn close : TokenKind} {item : P α} {D : Pos → α → Pos → Prop} (hitem : Cmp item D)
    (hnc : ∀ p x p1, D p x p1 → p.kind ≠ close) (hlt : ∀ p x p', D p x p' → p'.ts.length < p.ts.length)
    {σ : PState} {o : Token} {p1 : Pos} {xs : List α} {p2 : Pos} {cl : Token} {p3 : Pos} {z : Bool}
    (hO : Tok opn σ.pos o p1) (hM : Many D p1 xs p2) (hC : Tok close p2 cl p3) (hz : z = true → xs ≠ []) :
    reverse opn item close z σ = .ok (xs, σ.at p3) := by
  have hle := many_le hlt hM
  have e2 := many_cmp (B := p1.ts.length) (fun σ a p' _ h => hitem σ a p' h) hnc (fun _ _ _ h => Nat.le_of_lt (hlt _ _ _ h)) hM
    (σ.at p1) cl p3 (p1.ts.length + 1) rfl (Nat.le_refl _) hC (by omega)
  refine reverse_of_many hO (by simpa using e2) (fun hz1 => ⟨hz hz1, ?_⟩)
  cases hM with
  | nil => exact absurd rfl (hz hz1)
  | cons hx _ => exact hnc _ _ _ hx

theorem braced_snd {α} {item : P α} {D : Pos → α → Pos → Prop} (hitem : Snd item D) :
    Snd (reverse .braceL item .braceR false) (Braced D) := by
  intro σ xs σ' h hb
  obtain ⟨o, p1, p2, cl, hO, hL, hC, h1, _⟩ := reverse_snd (by decide) (by decide) hitem h hb
  exact ⟨.mk hO hL hC, h1⟩

theorem braced_sndN {α} {item : P α} {D : Pos → α → Pos → Prop} (hitem : SndN item D) :
    SndN (reverse .braceL item .braceR false) (Braced D) := by
  intro σ xs σ' h
  obtain ⟨o, p1, p2, cl, hO, hL, hC, h1, _⟩ :=
    reverse_sndN (by decide) (by decide) (L := Many D) .nil .cons hitem h
  exact ⟨.mk hO hL hC, h1⟩

theorem braced_cmp {α} {item : P α} {D : Pos → α → Pos → Prop} (hitem : Cmp item D)
    (hnc : ∀ p x p1, D p x p1 → p.kind ≠ .braceR) (hlt : ∀ p x p', D p x p' → p'.ts.length < p.ts.length)
    {σ : PState} {xs : List α} {p' : Pos} (h : Braced D σ.pos xs p') :
    reverse .braceL item .braceR false σ = .ok (xs, σ.at p') := by
  cases h with
  | mk ho hm hc => exact reverse_cmp hitem hnc hlt ho hm hc (fun hf => by cases hf)

theorem sepLoop_snd {α} {item : P α} {D : Pos → α → Pos → Prop} (hitem : SndN item D) {sep : TokenKind} (hsep : sep ≠ .eof) :
    ∀ k, SndN (sepLoop item sep k) (SepBy sep D) := by
  intro k
  induction k with
  | zero => intro σ ts σ' h; cases h
  | succ k ih =>
    intro σ ts σ' h
    simp only [sepLoop] at h
    obtain ⟨t, p1, hT, h⟩ := hitem.bind_ok h
    rcases skip_bind_ok hsep h with ⟨hk, h⟩ | ⟨sp, p2, hS, h⟩
    · cases h
      exact ⟨.one hT hk, rfl⟩
    · simp only [if_true] at h
      obtain ⟨ts', p3, hR, h⟩ := SndN.bind_ok ih h
      cases h
      exact ⟨.cons hT hS hR, rfl⟩

theorem sepLoop_cmp {α} {item : P α} {D : Pos → α → Pos → Prop} (hitem : Cmp item D) {sep : TokenKind} {p : Pos} {xs : List α}
    {p' : Pos} (h : SepBy sep D p xs p') :
    ∀ (σ : PState) (k : Nat), σ.pos = p → xs.length ≤ k → sepLoop item sep k σ = .ok (xs, σ.at p') := by
  induction h with
  | one hx hk =>
    intro σ k hσ hlen
    subst hσ
    obtain ⟨k', rfl⟩ : ∃ k', k = k' + 1 := ⟨k - 1, by simp at hlen; omega⟩
    simp only [sepLoop, bind_run, hitem σ _ _ hx, skip_of_not (σ := σ.at _) hk, Bool.false_eq_true, if_false, pure_run]
  | cons hx hs _ ih =>
    intro σ k hσ hlen
    subst hσ
    obtain ⟨k', rfl⟩ : ∃ k', k = k' + 1 := ⟨k - 1, by simp at hlen; omega⟩
    simp only [sepLoop, bind_run, hitem σ _ _ hx, skip_of_tok (σ := σ.at _) hs, if_true, PState.at_at,
      ih (σ.at _) k' rfl (by simp at hlen; omega), pure_run]

/-- the grammar writes the start of a node as `p.start`, M as the start of its current token; the two agree when a token
is ahead, which a strict step from `p` says.  This is what the `▸` in the last line of a `…_snd` and the `…_start`
rewrites of a `…_cmp` are for. -/
theorem start_of_steps {σ : PState} {p' : Pos} (h : Steps true σ.pos p') : σ.pos.start = σ.cur.start :=
  pos_start_eq h.ne

theorem tok_start {k : TokenKind} {σ : PState} {t : Token} {p' : Pos} (h : Tok k σ.pos t p') : σ.pos.start = σ.cur.start :=
  start_of_steps (tok_steps h)

theorem kw_start {s : String} {σ : PState} {p' : Pos} (h : Kw s σ.pos p') : σ.pos.start = σ.cur.start :=
  start_of_steps (kw_steps h)

theorem dname_start {σ : PState} {n : Name} {p' : Pos} (h : DName σ.pos n p') : σ.pos.start = σ.cur.start :=
  start_of_steps (dname_steps h)

theorem tok_ne {k : TokenKind} {p : Pos} {t : Token} {p' : Pos} (h : Tok k p t p') : p.ts ≠ [] := (tok_steps h).ne

theorem kw_ne {s : String} {p p' : Pos} (h : Kw s p p') : p.ts ≠ [] := (kw_steps h).ne

theorem parseName_snd : SndN parseName DName := by
  intro σ n σ' h
  obtain ⟨t, p1, ht, h⟩ := (expect_snd (by decide)).bind_ok h
  cases h
  exact ⟨(tok_cur ht).2.1 ▸ .mk ht, rfl⟩

theorem parseName_cmp : Cmp parseName DName := by
  intro σ n p' h
  cases h with
  | mk ht =>
    have e1 := expect_of_tok ht
    simp only [parseName, bind_run, e1, loc_run, pure_run]
    rw [(tok_cur ht).2.1]
    rfl

theorem parseVariable_snd : SndN parseVariable DVariable := by
  intro σ r σ' h
  unfold parseVariable at h
  rw [cur_bind] at h
  obtain ⟨d, p1, hd, h⟩ := (expect_snd (by decide)).bind_ok h
  obtain ⟨n, p2, hN, h⟩ := parseName_snd.bind_ok h
  cases h
  exact ⟨tok_start hd ▸ .mk hd hN, rfl⟩

theorem parseVariable_cmp : Cmp parseVariable DVariable := by
  intro σ r p' h
  cases h with
  | mk hd hn =>
    rename_i d p1 n
    have e1 := expect_of_tok hd
    have e2 := parseName_cmp (σ.at p1) _ _ hn
    simp only [parseVariable, bind_run, cur_run, e1, e2, loc_run, pure_run, PState.at_at, tok_start hd]
    rfl

theorem parseObjectFieldWith_snd {c : Bool} {value : P Value} (hv : SndN value (DValue c)) :
    SndN (parseObjectFieldWith value) (DObjField c) := by
  intro σ f σ' h
  unfold parseObjectFieldWith at h
  rw [cur_bind] at h
  obtain ⟨n, p1, hN, h⟩ := parseName_snd.bind_ok h
  obtain ⟨cl, p2, hc, h⟩ := (expect_snd (by decide)).bind_ok h
  obtain ⟨v, p3, hV, h⟩ := hv.bind_ok h
  cases h
  exact ⟨dname_start hN ▸ .mk hN hc hV, rfl⟩

theorem parseObjectFieldWith_cmp {c : Bool} {value : P Value} {B : Nat} (hv : CmpB B value (DValue c)) :
    CmpB B (parseObjectFieldWith value) (DObjField c) := by
  intro σ f p' hB h
  cases h with
  | mk hn hc hval =>
    rename_i n p1 cl p2 v
    have e1 := parseName_cmp σ _ _ hn
    have e2 := expect_of_tok (σ := σ.at p1) hc
    have := dname_lt hn
    have := tok_lt hc
    have e3 := hv (σ.at p2) _ _ (by simp only [PState.at_toks, PState.pos_ts] at *; omega) hval
    simp only [parseObjectFieldWith, bind_run, cur_run, e1, e2, e3, loc_run, pure_run, PState.at_at, dname_start hn]
    rfl

theorem parseValueLiteral_snd (c : Bool) : ∀ n, SndN (parseValueLiteral c n) (DValue c) := by
  intro n
  induction n with
  | zero => intro σ v σ' h; cases h
  | succ n ih =>
    intro σ v σ' h
    rw [parseValueLiteral, cur_bind] at h
    cases hk : σ.cur.kind <;> simp only [hk] at h
    case bracketL =>
      simp only [bind_ok, loc_run, pure_ok, Except.ok.injEq, Prod.mk.injEq] at h
      obtain ⟨vs, σ1, hr, l, σ2, ⟨rfl, rfl⟩, rfl, rfl⟩ := h
      obtain ⟨o, p1, p2, cl, hO, hL, hC, h1, _⟩ :=
        reverse_sndN (by decide) (by decide) (L := DValues c) .nil .cons ih hr
      refine ⟨?_, h1⟩
      exact tok_start hO ▸ DValue.list hO hL hC
    case braceL =>
      simp only [bind_ok, loc_run, loopFuel_run, expect_ok (by decide : TokenKind.braceL ≠ .eof), pure_ok,
        Except.ok.injEq, Prod.mk.injEq] at h
      obtain ⟨o, σ1, ⟨hO, h1⟩, k, _, ⟨rfl, rfl⟩, fs, σ2, hm, l, σ3, ⟨rfl, rfl⟩, rfl, rfl⟩ := h
      obtain ⟨p, cl, hL, hC, h2⟩ := many_sndN (by decide) (L := DObjFields c) .nil .cons
        (parseObjectFieldWith_snd ih) _ _ _ _ hm
      refine ⟨?_, at_trans h1 h2⟩
      exact tok_start hO ▸ DValue.obj hO hL hC
    case int =>
      cases h
      obtain ⟨ht, h1⟩ := adv_tok (by decide) hk
      exact ⟨tok_start ht ▸ .int ht, h1⟩
    case float =>
      cases h
      obtain ⟨ht, h1⟩ := adv_tok (by decide) hk
      exact ⟨tok_start ht ▸ .float ht, h1⟩
    case string =>
      cases h
      obtain ⟨ht, h1⟩ := adv_tok (by decide) hk
      exact ⟨tok_start ht ▸ .string ht, h1⟩
    case blockString =>
      cases h
      obtain ⟨ht, h1⟩ := adv_tok (by decide) hk
      exact ⟨tok_start ht ▸ .blockString ht, h1⟩
    case name =>
      obtain ⟨ht, h1⟩ := adv_tok (by decide) hk
      split at h
      · rename_i hv
        cases h
        exact ⟨tok_start ht ▸ .tru (Kw.mk ht hv), h1⟩
      · split at h
        · rename_i hv
          cases h
          exact ⟨tok_start ht ▸ .fls (Kw.mk ht hv), h1⟩
        · split at h
          · cases h
          · rename_i h1' h2' h3'
            cases h
            exact ⟨tok_start ht ▸ .enum ht h1' h2' h3', h1⟩
    case dollar =>
      split at h
      · cases h
      · rename_i hc
        simp only [bind_ok, pure_ok] at h
        obtain ⟨⟨n, l⟩, σ1, hv, rfl, rfl⟩ := h
        obtain ⟨hV, h1⟩ := parseVariable_snd _ _ _ hv
        have hcf : c = false := by
          cases c with
          | false => rfl
          | true => exact absurd rfl hc
        subst hcf
        exact ⟨DValue.var hV, h1⟩
    all_goals cases h

theorem parseValue_snd (c : Bool) : SndN (parseValue c) (DValue c) :=
  fun σ v σ' h => parseValueLiteral_snd c _ σ v σ' h

/-- by induction on the fuel, which bounds the tokens ahead; the lists of a `[…]` or `{…}` go through `many_cmp` with
the induction hypothesis for their items -/
theorem DValue.cmp : ∀ {c p v p'}, DValue c p v p' → ∀ (σ : PState) (n : Nat), σ.pos = p → p.ts.length ≤ n →
    parseValueLiteral c n σ = .ok (v, σ.at p') := by
  intro c p v p' h σ n
  induction n generalizing p v p' σ with
  | zero => intro _ hn; have := DValue.lt h; omega
  | succ m ih =>
    intro hσ hn
    subst hσ
    have ih' : CmpB m (parseValueLiteral c m) (DValue c) := fun σ v p' hB h => ih h σ rfl hB
    cases h with
    | var h =>
      have hk : σ.cur.kind = .dollar := by cases h with | mk hd _ => exact cur_kind_of_tok hd
      simp only [parseValueLiteral, bind_run, cur_run, hk, Bool.false_eq_true, if_false, parseVariable_cmp σ _ _ h, pure_run]
    | int h | float h | string h | blockString h =>
      obtain ⟨rfl, hst, hkind⟩ := tok_cur h
      simp only [parseValueLiteral, bind_run, cur_run, hkind, advance_run, adv_of_tok h, loc_run, pure_run, hst]
      rfl
    | tru h =>
      cases h with
      | mk ht hv =>
        rw [← cur_of_tok ht] at hv
        simp only [parseValueLiteral, bind_run, cur_run, cur_kind_of_tok ht, hv, if_true, advance_run, adv_of_tok ht, loc_run,
          pure_run, (tok_start ht)]
        rfl
    | fls h =>
      cases h with
      | mk ht hv =>
        rw [← cur_of_tok ht] at hv
        have hne : ¬ ("false" = "true") := by decide
        simp only [parseValueLiteral, bind_run, cur_run, cur_kind_of_tok ht, hv, hne, if_true, if_false, advance_run,
          adv_of_tok ht, loc_run, pure_run, (tok_start ht)]
        rfl
    | enum h h1 h2 h3 =>
      obtain ⟨rfl, hst, hkind⟩ := tok_cur h
      simp only [parseValueLiteral, bind_run, cur_run, hkind, h1, h2, h3, if_false, advance_run,
        adv_of_tok h, loc_run, pure_run, hst]
      rfl
    | list ho hvs hc =>
      rename_i o p1 vs p2 cl
      have hlen := tok_len ho
      have hle := DValues.le hvs
      have e2 := many_cmp ih' (fun _ _ _ h => (DValue.kind h).1) (fun _ _ _ h => Nat.le_of_lt (DValue.lt h)) (DValues.toMany hvs)
        (σ.at p1) cl _ (p1.ts.length + 1) rfl (by simp only [PState.pos_ts] at hn hlen; omega) hc (by omega)
      have e3 := reverse_of_many (item := parseValueLiteral _ m) (z := false) ho e2 (fun h => by cases h)
      simp only [parseValueLiteral, bind_run, cur_run, cur_kind_of_tok ho, e3, pure_run, loc_run, PState.at_prevEnd,
        tok_start ho]
    | obj ho hfs hc =>
      rename_i o p1 fs p2 cl
      have hlen := tok_len ho
      have hle := DObjFields.le hfs
      have e2 := many_cmp (parseObjectFieldWith_cmp ih') (fun _ _ _ h => by rw [DObjField.kind h]; decide)
        (fun _ _ _ h => Nat.le_of_lt (DObjField.lt h)) (DObjFields.toMany hfs)
        (σ.at p1) cl _ (p1.ts.length + 1) rfl (by simp only [PState.pos_ts] at hn hlen; omega) hc (by omega)
      simp only [parseValueLiteral, bind_run, cur_run, cur_kind_of_tok ho, expect_of_tok ho, loopFuel_run,
        PState.at_toks, e2, pure_run, loc_run, PState.at_prevEnd, tok_start ho]
      rfl

theorem DValues.cmp : ∀ {c p vs p1}, DValues c p vs p1 → ∀ (σ : PState) (n k : Nat) (cl : Token) (p2 : Pos), σ.pos = p →
    p.ts.length ≤ n → Tok .bracketR p1 cl p2 → vs.length < k →
    many .bracketR (parseValueLiteral c n) k σ = .ok (vs, σ.at p2) :=
  fun h σ n k cl p2 hσ hn hc hk =>
    many_cmp (fun σ _ _ hB h => DValue.cmp h σ n rfl hB) (fun _ _ _ h => (DValue.kind h).1)
      (fun _ _ _ h => Nat.le_of_lt (DValue.lt h)) (DValues.toMany h) σ cl p2 k hσ hn hc hk

theorem DObjField.cmp : ∀ {c p f p'}, DObjField c p f p' → ∀ (σ : PState) (n : Nat), σ.pos = p → p.ts.length ≤ n →
    parseObjectFieldWith (parseValueLiteral c n) σ = .ok (f, σ.at p') :=
  fun h σ n hσ hn => by
    subst hσ
    exact parseObjectFieldWith_cmp (fun σ _ _ hB h => DValue.cmp h σ n rfl hB) σ _ _ hn h

theorem DObjFields.cmp : ∀ {c p fs p1}, DObjFields c p fs p1 → ∀ (σ : PState) (n k : Nat) (cl : Token) (p2 : Pos), σ.pos = p →
    p.ts.length ≤ n → Tok .braceR p1 cl p2 → fs.length < k →
    many .braceR (parseObjectFieldWith (parseValueLiteral c n)) k σ = .ok (fs, σ.at p2) :=
  fun h σ n k cl p2 hσ hn hc hk =>
    many_cmp (fun σ _ _ hB h => DObjField.cmp h σ n rfl hB) (fun _ _ _ h => by rw [DObjField.kind h]; decide)
      (fun _ _ _ h => Nat.le_of_lt (DObjField.lt h)) (DObjFields.toMany h) σ cl p2 k hσ hn hc hk

theorem parseValue_cmp (c : Bool) : Cmp (parseValue c) (DValue c) := by
  intro σ v p' h
  exact DValue.cmp h σ _ rfl (by simp)

theorem parseArgument_snd : SndN parseArgument DArgument := by
  intro σ a σ' h
  unfold parseArgument at h
  rw [cur_bind] at h
  obtain ⟨n, p1, hN, h⟩ := parseName_snd.bind_ok h
  obtain ⟨cl, p2, hc, h⟩ := (expect_snd (by decide)).bind_ok h
  obtain ⟨v, p3, hV, h⟩ := (parseValue_snd false).bind_ok h
  cases h
  exact ⟨dname_start hN ▸ .mk hN hc hV, rfl⟩

theorem parseArgument_cmp : Cmp parseArgument DArgument := by
  intro σ a p' h
  cases h with
  | mk hN hC hV =>
    rename_i n p1 cl p2 v
    have e1 := parseName_cmp σ _ _ hN
    have e2 := expect_of_tok (σ := σ.at p1) hC
    have e3 := parseValue_cmp false (σ.at p2) _ _ hV
    simp only [parseArgument, bind_run, cur_run, e1, e2, e3, loc_run, pure_run, PState.at_at, dname_start hN]
    rfl

theorem parseArguments_snd : SndN parseArguments DArguments := by
  intro σ as σ' h
  rcases peek_optional h with h | ⟨hk, h⟩
  · obtain ⟨o, p1, p2, cl, hO, hL, hC, h1, hne⟩ :=
      reverse_sndN (by decide) (by decide) (L := Many DArgument) .nil .cons parseArgument_snd h
    exact ⟨.some hO hL (hne rfl) hC, h1⟩
  · cases h
    exact ⟨.none hk, rfl⟩

theorem parseArguments_cmp : Cmp parseArguments DArguments := by
  intro σ as p' h
  cases h with
  | none hk =>
    simp only [parseArguments, bind_run, peek_of_not hk, Bool.false_eq_true, if_false, pure_run, PState.at_self]
  | some ho hm hne hc =>
    simp only [parseArguments, bind_run, peek_of_kind (tok_kind ho), if_true]
    exact reverse_cmp parseArgument_cmp (fun _ _ _ h => by rw [dargument_kind h]; decide)
      (fun _ _ _ => dargument_lt) ho hm hc (fun _ => hne)

theorem parseDirective_snd : SndN parseDirective DDirective := by
  intro σ d σ' h
  unfold parseDirective at h
  rw [cur_bind] at h
  obtain ⟨a, p1, ha, h⟩ := (expect_snd (by decide)).bind_ok h
  obtain ⟨n, p2, hN, h⟩ := parseName_snd.bind_ok h
  obtain ⟨args, p3, hA, h⟩ := parseArguments_snd.bind_ok h
  cases h
  exact ⟨tok_start ha ▸ .mk ha hN hA, rfl⟩

theorem parseDirective_cmp : Cmp parseDirective DDirective := by
  intro σ d p' h
  cases h with
  | mk hA hN hArgs =>
    rename_i a p1 n p2 args
    have e1 := expect_of_tok hA
    have e2 := parseName_cmp (σ.at p1) _ _ hN
    have e3 := parseArguments_cmp (σ.at p2) _ _ hArgs
    simp only [parseDirective, bind_run, cur_run, e1, e2, e3, loc_run, pure_run, PState.at_at, tok_start hA]
    rfl

theorem parseDirectivesLoop_snd : ∀ k, SndN (parseDirectivesLoop k) DDirectives := by
  intro k
  induction k with
  | zero => intro σ ds σ' h; cases h
  | succ k ih =>
    intro σ ds σ' h
    rcases peek_optional h with h | ⟨hk, h⟩
    · obtain ⟨d, p1, hD, h⟩ := parseDirective_snd.bind_ok h
      obtain ⟨ds', p2, hL, h⟩ := SndN.bind_ok ih h
      cases h
      exact ⟨.cons hD hL, rfl⟩
    · cases h
      exact ⟨.nil hk, rfl⟩

theorem parseDirectivesLoop_cmp {p : Pos} {ds : List Directive} {p' : Pos} (h : DDirectives p ds p') :
    ∀ (σ : PState) (k : Nat), σ.pos = p → ds.length < k → parseDirectivesLoop k σ = .ok (ds, σ.at p') := by
  induction h with
  | nil hk =>
    intro σ k hσ hlen
    subst hσ
    obtain ⟨k', rfl⟩ : ∃ k', k = k' + 1 := ⟨k - 1, by omega⟩
    simp only [parseDirectivesLoop, bind_run, peek_of_not hk, Bool.false_eq_true, if_false, pure_run, PState.at_self]
  | cons hd _ ih =>
    intro σ k hσ hlen
    subst hσ
    obtain ⟨k', rfl⟩ : ∃ k', k = k' + 1 := ⟨k - 1, by omega⟩
    have hk : σ.pos.kind = .at := by cases hd with | mk ha _ _ => exact tok_kind ha
    simp only [parseDirectivesLoop, bind_run, peek_of_kind hk, if_true, parseDirective_cmp σ _ _ hd,
      ih (σ.at _) k' rfl (by simp at hlen; omega), pure_run, PState.at_at]

theorem parseDirectives_snd : SndN parseDirectives DDirectives :=
  fun σ ds σ' h => parseDirectivesLoop_snd _ σ ds σ' h

theorem parseDirectives_cmp : Cmp parseDirectives DDirectives := by
  intro σ ds p' h
  have hle := ddirectives_le h
  simp only [parseDirectives, bind_run, loopFuel_run]
  exact parseDirectivesLoop_cmp h σ _ rfl (by simp at hle ⊢; omega)

theorem parseNamed_snd : SndN parseNamed DNamedType := by
  intro σ t σ' h
  unfold parseNamed at h
  rw [cur_bind] at h
  obtain ⟨n, p1, hN, h⟩ := parseName_snd.bind_ok h
  cases h
  exact ⟨dname_start hN ▸ .mk hN, rfl⟩

theorem parseNamed_cmp : Cmp parseNamed DNamedType := by
  intro σ t p' h
  cases h with
  | mk hN =>
    simp only [parseNamed, bind_run, cur_run, parseName_cmp σ _ _ hN, loc_run, pure_run, dname_start hN]
    rfl

@[simp] theorem adv_bad (σ : PState) : σ.adv.bad = σ.bad := by
  cases h : σ.toks <;> simp [PState.adv, h]

theorem parseTypeFuel_snd : ∀ n σ ot σ', parseTypeFuel n σ = .ok (ot, σ') → σ'.bad = false →
    ∃ t, ot = some t ∧ DType σ.pos t σ'.pos ∧ σ' = σ.at σ'.pos := by
  intro n
  induction n with
  | zero => intro σ t σ' h; cases h
  | succ n ih =>
    intro σ t σ' h hb
    simp only [parseTypeFuel] at h
    rw [bind_ok] at h
    obtain ⟨tok, σ0, hcur, h⟩ := h
    simp only [cur_run, Except.ok.injEq, Prod.mk.injEq] at hcur
    obtain ⟨rfl, rfl⟩ := hcur
    rw [bind_ok] at h
    obtain ⟨base, σ1, hbase, h⟩ := h
    have htail : σ1.bad = false ∧ ((t = base ∧ σ' = σ1 ∧ σ1.pos.kind ≠ .bang) ∨
        (∃ b, Tok .bang σ1.pos b σ'.pos ∧ σ' = σ1.at σ'.pos ∧
          t = some (.nonNull (base.getD nilType) ⟨σ.cur.start, σ'.prevEnd⟩))) := by
      rw [bind_ok] at h
      obtain ⟨b, σ2, hs, h⟩ := h
      cases b
      · simp only [Bool.false_eq_true, if_false, pure_ok] at h
        obtain ⟨rfl, rfl⟩ := h
        obtain ⟨hk, rfl⟩ := skip_false.mp hs
        exact ⟨hb, .inl ⟨rfl, rfl, hk⟩⟩
      · simp only [if_true, bind_ok, loc_run, pure_ok, Except.ok.injEq, Prod.mk.injEq] at h
        obtain ⟨l, _, ⟨rfl, rfl⟩, rfl, rfl⟩ := h
        obtain ⟨b, hB, h2⟩ := (skip_true (by decide)).mp hs
        exact ⟨by rw [← bad_of_at h2]; exact hb, .inr ⟨b, hB, h2, rfl⟩⟩
    obtain ⟨hb1, htail⟩ := htail
    have hbaseD : ∃ bt, base = some bt ∧ DBaseType σ.pos bt σ1.pos ∧ σ1 = σ.at σ1.pos := by
      by_cases hL : σ.cur.kind = .bracketL
      · rw [parseTypeBaseWith_bracketL hL, bind_eq_of_ok (advance_run σ)] at hbase
        obtain ⟨hO, h0⟩ := adv_tok (by decide) hL
        obtain ⟨inner, σ2, hin, hbase⟩ := bind_ok.mp hbase
        rw [cur_bind] at hbase
        split at hbase
        · rename_i hcl
          cases hbase
          obtain ⟨hC, h2⟩ := adv_tok (by decide) hcl
          obtain ⟨it, rfl, hI, h1⟩ := ih _ _ _ hin (by simpa using hb1)
          exact ⟨_, rfl, tok_start hO ▸ .list hO hI hC, at_trans (at_trans h0 h1) h2⟩
        · cases hbase
          simp at hb1
      by_cases hR : σ.cur.kind = .bracketR
      · rw [parseTypeBaseWith_bracketR hR] at hbase
        cases hbase
        simp at hb1
      by_cases hN : σ.cur.kind = .name
      · rw [parseTypeBaseWith_name hN] at hbase
        obtain ⟨nt, p1, hNT, hbase⟩ := parseNamed_snd.bind_ok hbase
        cases hbase
        exact ⟨_, rfl, .named hNT, rfl⟩
      · rw [parseTypeBaseWith_other hL hR hN] at hbase
        cases hbase
        simp at hb1
    obtain ⟨bt, rfl, hB, h1⟩ := hbaseD
    rcases htail with ⟨rfl, rfl, hk⟩ | ⟨b, hBang, h2, rfl⟩
    · exact ⟨_, rfl, .plain hB hk, h1⟩
    · refine ⟨_, rfl, ?_, at_trans h1 h2⟩
      have := DType.nonNull hB hBang
      have hs : σ.pos.start = σ.cur.start := by
        cases hB with
        | named hN => cases hN with | mk hN => exact dname_start hN
        | list hO _ _ => exact tok_start hO
      rw [hs] at this
      exact this

theorem parseTypeOpt_snd {σ : PState} {ot : Option TypeRef} {σ' : PState} (h : parseTypeOpt σ = .ok (ot, σ'))
    (hb : σ'.bad = false) : ∃ t, ot = some t ∧ DType σ.pos t σ'.pos ∧ σ' = σ.at σ'.pos :=
  parseTypeFuel_snd _ σ ot σ' h hb

theorem parseType_snd : Snd parseType DType := by
  intro σ t σ' h hb
  simp only [parseType, bind_ok, pure_ok] at h
  obtain ⟨ot, σ1, ht, rfl, rfl⟩ := h
  obtain ⟨t, rfl, hT, h1⟩ := parseTypeOpt_snd ht hb
  exact ⟨hT, h1⟩

/-- the `switch` of `parseType`, given a parser for the inner type that finds every type starting at a state with at
most `B` tokens -/
theorem parseTypeBaseWith_cmp {inner : P (Option TypeRef)} {B : Nat}
    (hin : ∀ (σ : PState) t p', σ.toks.length ≤ B → DType σ.pos t p' → inner σ = .ok (some t, σ.at p'))
    (σ : PState) (t : TypeRef) (p' : Pos) (hB : σ.toks.length ≤ B + 1) (h : DBaseType σ.pos t p') :
    parseTypeBaseWith inner σ.cur σ = .ok (some t, σ.at p') := by
  cases h with
  | named h =>
    have hk : σ.cur.kind = .name := by rw [← pos_kind_eq]; exact dnamedType_kind h
    simp only [parseTypeBaseWith, hk, bind_run, parseNamed_cmp σ _ _ h, pure_run]
  | list ho ht hc =>
    rename_i o p1 t p2 cl
    have hlen := tok_len ho
    have e1 := hin (σ.at p1) _ _ (by simp only [PState.at_toks, PState.pos_ts] at *; omega) ht
    have hk2 : (σ.at p2).cur.kind = .bracketR := cur_kind_of_tok (σ := σ.at p2) hc
    simp only [parseTypeBaseWith, cur_kind_of_tok ho, bind_run, advance_run, adv_of_tok ho, e1, cur_run, hk2, if_true,
      pure_run, adv_of_tok (σ := σ.at p2) hc, PState.at_at, loc_run, Option.getD_some, tok_start ho]
    rfl

theorem DType.cmp : ∀ {p t p'}, DType p t p' → ∀ (σ : PState) (n : Nat), σ.pos = p → p.ts.length ≤ n →
    parseTypeFuel n σ = .ok (some t, σ.at p') := by
  intro p t p' h σ n
  induction n generalizing p t p' σ with
  | zero => intro _ hn; have := DType.lt h; omega
  | succ m ih =>
    intro hσ hn
    subst hσ
    have base := parseTypeBaseWith_cmp (inner := parseTypeFuel m) (fun σ _ _ hB h => ih h σ rfl hB) σ
    cases h with
    | plain hb hk =>
      simp only [parseTypeFuel, bind_run, cur_run, base _ _ hn hb, skip_of_not (σ := σ.at _) hk, Bool.false_eq_true, if_false,
        pure_run]
    | nonNull hb hbang =>
      rename_i t p1 b
      have hs : σ.pos.start = σ.cur.start := pos_start_eq (by
        intro he; have := DBaseType.lt hb; simp [PState.pos, he] at this)
      simp only [parseTypeFuel, bind_run, cur_run, base _ _ hn hb, skip_of_tok (σ := σ.at p1) hbang, if_true, loc_run, pure_run,
        PState.at_at, Option.getD_some, hs]
      rfl

theorem DBaseType.cmp : ∀ {p t p'}, DBaseType p t p' → ∀ (σ : PState) (n : Nat), σ.pos = p → p.ts.length ≤ n + 1 →
    parseTypeBaseWith (parseTypeFuel n) σ.cur σ = .ok (some t, σ.at p') :=
  fun h σ n hσ hn => by
    subst hσ
    exact parseTypeBaseWith_cmp (fun σ _ _ hB h => DType.cmp h σ n rfl hB) σ _ _ hn h

theorem parseTypeOpt_cmp {σ : PState} {t : TypeRef} {p' : Pos} (h : DType σ.pos t p') :
    parseTypeOpt σ = .ok (some t, σ.at p') :=
  DType.cmp h σ _ rfl (by simp)

theorem parseType_cmp : Cmp parseType DType := by
  intro σ t p' h
  simp only [parseType, bind_run, parseTypeOpt_cmp h, pure_run, Option.getD_some]

theorem isName_cur {σ : PState} {s : String} (h : σ.pos.isName s) : σ.cur.kind = .name ∧ σ.cur.value = s := by
  cases ht : σ.toks with
  | nil => simp [Pos.isName, PState.pos, ht] at h
  | cons t r => simpa [Pos.isName, PState.pos, ht, cur_cons ht] using h

theorem isName_of_cur {σ : PState} {s : String} (hk : σ.cur.kind = .name) (hv : σ.cur.value = s) : σ.pos.isName s := by
  obtain ⟨r, hr⟩ := toks_of_cur_kind (by decide) hk
  simp only [Pos.isName, PState.pos, hr]
  exact ⟨hk, hv⟩

theorem parseFragmentName_snd : SndN parseFragmentName DFragmentName := by
  intro σ n σ' h
  simp only [parseFragmentName, bind_ok, cur_run, Except.ok.injEq, Prod.mk.injEq] at h
  obtain ⟨_, _, ⟨rfl, rfl⟩, h⟩ := h
  split at h
  · cases h
  · rename_i hv
    obtain ⟨hN, h1⟩ := parseName_snd _ _ _ h
    refine ⟨.mk hN ?_, h1⟩
    cases hN with
    | mk ht => rw [← cur_of_tok ht]; exact hv

theorem parseFragmentName_cmp : Cmp parseFragmentName DFragmentName := by
  intro σ n p' h
  cases h with
  | mk hN hne =>
    have hv : σ.cur.value ≠ "on" := by
      cases hN with
      | mk ht => rw [cur_of_tok ht]; exact hne
    simp only [parseFragmentName, bind_run, cur_run, hv, if_false, parseName_cmp σ _ _ hN]

theorem parseFieldRest_snd {selSet : P SelectionSet} (hs : SndN selSet DSelectionSet) {start : Nat} {alias : Option Name}
    {name : Name} {σ : PState} {s : Selection} {σ' : PState} (h : parseFieldRest selSet start alias name σ = .ok (s, σ')) :
    ∃ args p2 dirs p3 sel, DArguments σ.pos args p2 ∧ DDirectives p2 dirs p3 ∧ DOptSelectionSet p3 sel σ'.pos ∧
      s = .field alias name args dirs sel ⟨start, σ'.prevEnd⟩ ∧ σ' = σ.at σ'.pos := by
  unfold parseFieldRest at h
  obtain ⟨args, p1, hA, h⟩ := parseArguments_snd.bind_ok h
  obtain ⟨dirs, p2, hD, h⟩ := parseDirectives_snd.bind_ok h
  rw [peek_bind] at h
  split at h
  · obtain ⟨ss, p3, hS, h⟩ := hs.bind_ok h
    cases h
    exact ⟨args, _, dirs, _, some ss, hA, hD, .some hS, rfl, rfl⟩
  · rename_i hk
    cases h
    refine ⟨args, _, dirs, _, none, hA, hD, .none ?_, rfl, rfl⟩
    rw [← PState.at_pos σ p2, pos_kind_eq]
    exact fun hc => hk (decide_eq_true hc)

theorem parseFieldWith_snd {selSet : P SelectionSet} (hs : SndN selSet DSelectionSet) :
    SndN (parseFieldWith selSet) DSelection := by
  intro σ s σ' h
  unfold parseFieldWith at h
  rw [cur_bind] at h
  obtain ⟨first, p1, hF, h⟩ := parseName_snd.bind_ok h
  have hst := dname_start hF
  rcases skip_bind_ok (by decide) h with ⟨hk, h⟩ | ⟨cl, p2, hC, h⟩
  · obtain ⟨args, p2, dirs, p3, sel, hA, hD, hS, rfl, h2⟩ := parseFieldRest_snd hs h
    exact ⟨hst ▸ .field hF hk hA hD hS, h2⟩
  · obtain ⟨name, p3, hN, h⟩ := parseName_snd.bind_ok h
    obtain ⟨args, p4, dirs, p5, sel, hA, hD, hS, rfl, h4⟩ := parseFieldRest_snd hs h
    exact ⟨hst ▸ .aliased hF hC hN hA hD hS, h4⟩

theorem parseInlineRest_snd {selSet : P SelectionSet} (hs : SndN selSet DSelectionSet) {start : Nat} {tc : Option TypeRef}
    {σ : PState} {s : Selection} {σ' : PState} (h : parseInlineRest selSet start tc σ = .ok (s, σ')) :
    ∃ dirs p2 sel, DDirectives σ.pos dirs p2 ∧ DSelectionSet p2 sel σ'.pos ∧
      s = .inline tc dirs sel ⟨start, σ'.prevEnd⟩ ∧ σ' = σ.at σ'.pos := by
  obtain ⟨dirs, p1, hD, h⟩ := parseDirectives_snd.bind_ok h
  obtain ⟨ss, p2, hS, h⟩ := hs.bind_ok h
  cases h
  exact ⟨dirs, _, ss, hD, hS, rfl, rfl⟩

theorem parseFragmentWith_snd {selSet : P SelectionSet} (hs : SndN selSet DSelectionSet) :
    SndN (parseFragmentWith selSet) DSelection := by
  intro σ s σ' h
  unfold parseFragmentWith at h
  rw [cur_bind] at h
  obtain ⟨sp, p1, hSp, h⟩ := (expect_snd (by decide)).bind_ok h
  rw [cur_bind] at h
  have hst := tok_start hSp
  split at h
  · obtain ⟨n, p2, hN, h⟩ := parseFragmentName_snd.bind_ok h
    obtain ⟨dirs, p3, hD, h⟩ := parseDirectives_snd.bind_ok h
    cases h
    exact ⟨hst ▸ .spread hSp hN hD, rfl⟩
  · split at h
    · rename_i _ hon
      obtain ⟨hOn, h2⟩ := adv_tok (by decide) hon.1
      rw [bind_eq_of_ok (advance_run _), h2] at h
      obtain ⟨tc, p3, hT, h⟩ := parseNamed_snd.bind_ok h
      obtain ⟨dirs, p4, sel, hD, hS, rfl, h4⟩ := parseInlineRest_snd hs h
      exact ⟨hst ▸ .inline hSp (.some (Kw.mk hOn hon.2) hT) hD hS, h4⟩
    · rename_i _ hn2
      obtain ⟨dirs, p2, sel, hD, hS, rfl, h4⟩ := parseInlineRest_snd hs h
      exact ⟨hst ▸ .inline hSp (.none fun hi => hn2 (isName_cur (σ := σ.at p1) hi)) hD hS, h4⟩

theorem parseSelectionWith_snd {selSet : P SelectionSet} (hs : SndN selSet DSelectionSet) :
    SndN (parseSelectionWith selSet) DSelection := by
  intro σ s σ' h
  rw [parseSelectionWith, peek_bind] at h
  split at h
  · exact parseFragmentWith_snd hs _ _ _ h
  · exact parseFieldWith_snd hs _ _ _ h

theorem parseSelectionSetFuel_snd : ∀ n, SndN (parseSelectionSetFuel n) DSelectionSet := by
  intro n
  induction n with
  | zero => intro σ s σ' h; cases h
  | succ n ih =>
    intro σ s σ' h
    simp only [parseSelectionSetFuel, bind_ok, cur_run, loc_run, pure_ok, Except.ok.injEq, Prod.mk.injEq] at h
    obtain ⟨_, _, ⟨rfl, rfl⟩, sels, σ1, hr, l, _, ⟨rfl, rfl⟩, rfl, rfl⟩ := h
    obtain ⟨o, p1, p2, cl, hO, hL, hC, h1, hne⟩ :=
      reverse_sndN (by decide) (by decide) (L := DSelections) .nil .cons
        (parseSelectionWith_snd ih) hr
    refine ⟨?_, h1⟩
    exact tok_start hO ▸ DSelectionSet.mk hO hL (hne rfl) hC

theorem parseSelectionSet_snd : SndN parseSelectionSet DSelectionSet :=
  fun σ s σ' h => parseSelectionSetFuel_snd _ σ s σ' h

/-- what the optional selection set of a field evaluates to -/
def OptSelRun (selSet : P SelectionSet) (σ : PState) (sel : Option SelectionSet) (p' : Pos) : Prop :=
  match sel with
  | none => σ.pos.kind ≠ .braceL ∧ p' = σ.pos
  | some s => σ.pos.kind = .braceL ∧ selSet σ = .ok (s, σ.at p')

theorem parseFieldRest_cmp {selSet : P SelectionSet} {start : Nat} {alias : Option Name} {name : Name} {σ : PState}
    {args : List Argument} {p2 : Pos} {dirs : List Directive} {p3 : Pos} {sel : Option SelectionSet} {p4 : Pos}
    (hA : DArguments σ.pos args p2) (hD : DDirectives p2 dirs p3) (hS : OptSelRun selSet (σ.at p3) sel p4) :
    parseFieldRest selSet start alias name σ = .ok (.field alias name args dirs sel ⟨start, p4.e⟩, σ.at p4) := by
  have e1 := parseArguments_cmp σ _ _ hA
  have e2 := parseDirectives_cmp (σ.at p2) _ _ hD
  cases sel with
  | none =>
    obtain ⟨hk, rfl⟩ := hS
    simp only [parseFieldRest, bind_run, e1, e2, PState.at_at, peek_of_not hk, Bool.false_eq_true, if_false, loc_run, pure_run]
    rfl
  | some s =>
    obtain ⟨hk, hs⟩ := hS
    simp only [PState.at_at] at hs
    simp only [parseFieldRest, bind_run, e1, e2, PState.at_at, peek_of_kind hk, if_true, hs, loc_run, pure_run]
    rfl

theorem parseInlineRest_cmp {selSet : P SelectionSet} {start : Nat} {tc : Option TypeRef} {σ : PState}
    {dirs : List Directive} {p2 : Pos} {sel : SelectionSet} {p3 : Pos}
    (hD : DDirectives σ.pos dirs p2) (hS : selSet (σ.at p2) = .ok (sel, σ.at p3)) :
    parseInlineRest selSet start tc σ = .ok (.inline tc dirs sel ⟨start, p3.e⟩, σ.at p3) := by
  have e1 := parseDirectives_cmp σ _ _ hD
  simp only [parseInlineRest, bind_run, e1, hS, loc_run, pure_run]
  rfl

theorem optSelRun_of {selSet : P SelectionSet} {B : Nat} (hs : CmpB B selSet DSelectionSet) {σ : PState} {sel : Option SelectionSet}
    {p' : Pos} (hB : σ.toks.length ≤ B) (h : DOptSelectionSet σ.pos sel p') : OptSelRun selSet σ sel p' := by
  cases h with
  | none hk => exact ⟨hk, rfl⟩
  | some h => exact ⟨by cases h with | mk ho _ _ _ => exact tok_kind ho, hs σ _ _ hB h⟩

theorem parseSelectionWith_cmp {selSet : P SelectionSet} {B : Nat} (hs : CmpB B selSet DSelectionSet) :
    CmpB (B + 1) (parseSelectionWith selSet) DSelection := by
  intro σ s p' hB h
  simp only [← PState.pos_ts] at hB
  cases h with
  | field hN hk hA hD hS =>
    rename_i nm p1 args p2 dirs p3 sel
    have := dname_lt hN; have := darguments_le hA; have := ddirectives_le hD
    have e4 := optSelRun_of hs (σ := σ.at p3) (by simp only [PState.at_toks]; omega) hS
    have e3 := parseFieldRest_cmp (selSet := selSet) (start := σ.cur.start) (alias := none) (name := nm)
      (σ := σ.at p1) hA hD e4
    have hks : σ.pos.kind ≠ .spread := by rw [dname_kind hN]; decide
    simp only [PState.at_at] at e3
    simp only [parseSelectionWith, bind_run, peek_of_not hks, Bool.false_eq_true, if_false, parseFieldWith, cur_run,
      parseName_cmp σ _ _ hN, skip_of_not (σ := σ.at p1) hk, e3, dname_start hN]
  | aliased hAl hC hN hA hD hS =>
    rename_i al p1 cl p2 nm p3 args p4 dirs p5 sel
    have := dname_lt hAl; have := tok_lt hC; have := dname_lt hN; have := darguments_le hA; have := ddirectives_le hD
    have e4 := optSelRun_of hs (σ := σ.at p5) (by simp only [PState.at_toks]; omega) hS
    have e3 := parseFieldRest_cmp (selSet := selSet) (start := σ.cur.start) (alias := some al) (name := nm)
      (σ := σ.at p3) hA hD e4
    have hks : σ.pos.kind ≠ .spread := by rw [dname_kind hAl]; decide
    simp only [PState.at_at] at e3
    simp only [parseSelectionWith, bind_run, peek_of_not hks, Bool.false_eq_true, if_false, parseFieldWith, cur_run,
      parseName_cmp σ _ _ hAl, skip_of_tok (σ := σ.at p1) hC, if_true, parseName_cmp (σ.at p2) _ _ hN, PState.at_at,
      e3, dname_start hAl]
  | spread hSp hN hD =>
    rename_i sp p1 n p2 dirs
    have hc : (σ.at p1).cur.kind = .name ∧ (σ.at p1).cur.value ≠ "on" := by
      cases hN with
      | mk hN' hne =>
        cases hN' with
        | mk ht => exact ⟨cur_kind_of_tok (σ := σ.at p1) ht, by rw [cur_of_tok (σ := σ.at p1) ht]; exact hne⟩
    simp only [parseSelectionWith, bind_run, peek_of_kind (tok_kind hSp), if_true, parseFragmentWith, cur_run,
      expect_of_tok hSp, if_pos hc, parseFragmentName_cmp (σ.at p1) _ _ hN, parseDirectives_cmp (σ.at p2) _ _ hD,
      PState.at_at, loc_run, pure_run, tok_start hSp]
    rfl
  | inline hSp hT hD hS =>
    rename_i sp p1 tc p2 dirs p3 sel
    have := tok_lt hSp; have := (dtypeCondition_steps hT).le; have := ddirectives_le hD
    have e4 := hs (σ.at p3) _ _ (by simp only [PState.at_toks]; omega) hS
    cases hT with
    | none hno =>
      have e3 := parseInlineRest_cmp (selSet := selSet) (start := σ.cur.start) (tc := none)
        (σ := σ.at p1) hD (by simpa using e4)
      have hc1 : ¬ ((σ.at p1).cur.kind = .name ∧ (σ.at p1).cur.value ≠ "on") := by
        intro hc
        -- the next token would have to start directives or a selection set
        have hk : p1.kind = .name := by rw [← pos_kind_eq (σ.at p1)] at hc; exact hc.1
        cases hD with
        | nil _ => cases hS with | mk ho _ _ _ => rw [tok_kind ho] at hk; exact absurd hk (by decide)
        | cons hd _ => cases hd with | mk ha _ _ => rw [tok_kind ha] at hk; exact absurd hk (by decide)
      have hc2 : ¬ ((σ.at p1).cur.kind = .name ∧ (σ.at p1).cur.value = "on") := fun hc => hno (isName_of_cur (σ := σ.at p1) hc.1 hc.2)
      simp only [PState.at_at] at e3
      simp only [parseSelectionWith, bind_run, peek_of_kind (tok_kind hSp), if_true, parseFragmentWith, cur_run,
        expect_of_tok hSp, if_neg hc1, if_neg hc2, e3, tok_start hSp]
    | some hOn hNT =>
      rename_i q tc
      cases hOn with
      | mk hOnT hv =>
        have hcur := tok_cur (σ := σ.at p1) hOnT
        have hv' : (σ.at p1).cur.value = "on" := by rw [hcur.1]; exact hv
        have hc1 : ¬ ((σ.at p1).cur.kind = .name ∧ (σ.at p1).cur.value ≠ "on") := fun hc => hc.2 hv'
        have hc2 : (σ.at p1).cur.kind = .name ∧ (σ.at p1).cur.value = "on" := ⟨hcur.2.2, hv'⟩
        have e3 := parseInlineRest_cmp (selSet := selSet) (start := σ.cur.start) (tc := some tc)
          (σ := σ.at p2) hD (by simpa using e4)
        simp only [PState.at_at] at e3
        simp only [parseSelectionWith, bind_run, peek_of_kind (tok_kind hSp), if_true, parseFragmentWith, cur_run,
          expect_of_tok hSp, if_neg hc1, if_pos hc2, advance_run, adv_of_tok (σ := σ.at p1) hOnT, PState.at_at,
          parseNamed_cmp (σ.at q) _ _ hNT, e3, tok_start hSp]

theorem DSelectionSet.cmp : ∀ {p s p'}, DSelectionSet p s p' → ∀ (σ : PState) (n : Nat), σ.pos = p → p.ts.length ≤ n →
    parseSelectionSetFuel n σ = .ok (s, σ.at p') := by
  intro p s p' h σ n
  induction n generalizing p s p' σ with
  | zero => intro _ hn; have := DSelectionSet.lt h; omega
  | succ m ih =>
    intro hσ hn
    subst hσ
    have ih' : CmpB m (parseSelectionSetFuel m) DSelectionSet := fun σ _ _ hB h => ih h σ rfl hB
    cases h with
    | mk ho hs hne hc =>
      rename_i o p1 sels p2 cl
      have hlen := tok_len ho
      have hle := DSelections.le hs
      have e2 := many_cmp (parseSelectionWith_cmp ih')
        (fun _ _ _ h => DSelection.kind h) (fun _ _ _ h => Nat.le_of_lt (DSelection.lt h)) (DSelections.toMany hs)
        (σ.at p1) cl _ (p1.ts.length + 1) rfl (by simp only [PState.pos_ts] at hn hlen; omega) hc (by omega)
      have hk1 : p1.kind ≠ .braceR := by
        cases hs with
        | nil => exact absurd rfl hne
        | cons hx _ => exact DSelection.kind hx
      have e3 := reverse_of_many (item := parseSelectionWith (parseSelectionSetFuel m)) (z := true) ho e2
        (fun _ => ⟨hne, hk1⟩)
      simp only [parseSelectionSetFuel, bind_run, cur_run, e3, pure_run, loc_run, PState.at_prevEnd, tok_start ho]

theorem DSelection.cmp : ∀ {p s p'}, DSelection p s p' → ∀ (σ : PState) (n : Nat), σ.pos = p → p.ts.length ≤ n + 1 →
    parseSelectionWith (parseSelectionSetFuel n) σ = .ok (s, σ.at p') :=
  fun h σ n hσ hn => by
    subst hσ
    exact parseSelectionWith_cmp (fun σ _ _ hB h => DSelectionSet.cmp h σ n rfl hB) σ _ _ hn h

theorem DSelections.cmp : ∀ {p ss p1}, DSelections p ss p1 → ∀ (σ : PState) (n k : Nat) (cl : Token) (p2 : Pos), σ.pos = p →
    p.ts.length ≤ n + 1 → Tok .braceR p1 cl p2 → ss.length < k →
    many .braceR (parseSelectionWith (parseSelectionSetFuel n)) k σ = .ok (ss, σ.at p2) :=
  fun h σ n k cl p2 hσ hn hc hk =>
    many_cmp (fun σ _ _ hB h => DSelection.cmp h σ n rfl hB) (fun _ _ _ h => DSelection.kind h)
      (fun _ _ _ h => Nat.le_of_lt (DSelection.lt h)) (DSelections.toMany h) σ cl p2 k hσ hn hc hk

theorem DOptSelectionSet.cmp : ∀ {p sel p'}, DOptSelectionSet p sel p' → ∀ (σ : PState) (n : Nat), σ.pos = p → p.ts.length ≤ n →
    OptSelRun (parseSelectionSetFuel n) σ sel p' :=
  fun h σ n hσ hn => by
    subst hσ
    exact optSelRun_of (fun σ _ _ hB h => DSelectionSet.cmp h σ n rfl hB) hn h

theorem parseSelectionSet_cmp : Cmp parseSelectionSet DSelectionSet := by
  intro σ s p' h
  exact DSelectionSet.cmp h σ _ rfl (by simp)

theorem expectKeyword_snd (s : String) : SndN (expectKeyword s) (fun p _ p' => Kw s p p') := by
  intro σ t σ' h
  obtain ⟨he, hv⟩ := expectKeyword_ok_iff.mp h
  obtain ⟨ht, h1⟩ := (expect_ok (by decide)).mp he
  exact ⟨Kw.mk ht hv, h1⟩

theorem expectKeyword_of_kw {s : String} {σ : PState} {p' : Pos} (h : Kw s σ.pos p') :
    expectKeyword s σ = .ok (σ.cur, σ.at p') := by
  cases h with
  | mk ht hv => exact cur_of_tok ht ▸ expectKeyword_ok_iff.mpr ⟨expect_of_tok ht, hv⟩

theorem parseOperationType_snd : SndN parseOperationType DOpType := by
  intro σ op σ' h
  simp only [parseOperationType, bind_ok, cur_run, Except.ok.injEq, Prod.mk.injEq] at h
  obtain ⟨_, _, ⟨rfl, rfl⟩, h⟩ := h
  split at h
  · cases h
  · rename_i hc
    simp only [bind_ok, expect_ok (by decide : TokenKind.name ≠ .eof)] at h
    obtain ⟨t, σ1, ⟨ht, h1⟩, h⟩ := h
    obtain ⟨hcur, _, hk⟩ := tok_cur ht
    have hv : σ.cur.value = "query" ∨ σ.cur.value = "mutation" ∨ σ.cur.value = "subscription" :=
      Decidable.not_not.mp (fun hn => hc ⟨hk, hn⟩)
    rw [hcur] at hv h
    split at h
    · rename_i hq
      obtain ⟨rfl, rfl⟩ := pure_ok.mp h
      exact ⟨.query (Kw.mk ht hq), h1⟩
    · split at h
      · rename_i hm
        obtain ⟨rfl, rfl⟩ := pure_ok.mp h
        exact ⟨.mutation (Kw.mk ht hm), h1⟩
      · rename_i hq hm
        obtain ⟨rfl, rfl⟩ := pure_ok.mp h
        rcases hv with hv | hv | hv
        · exact absurd hv hq
        · exact absurd hv hm
        · exact ⟨.subscription (Kw.mk ht hv), h1⟩

theorem parseOperationType_cmp : Cmp parseOperationType DOpType := by
  intro σ op p' h
  have key : ∀ {s : String}, Kw s σ.pos p' → (s = "query" ∨ s = "mutation" ∨ s = "subscription") →
      parseOperationType σ = .ok (if s = "query" then OpType.query else if s = "mutation" then .mutation else .subscription,
        σ.at p') := by
    intro s hk hs
    cases hk with
    | mk ht hv =>
      obtain ⟨hcur, _, _⟩ := tok_cur ht
      have hv' : σ.cur.value = s := by rw [hcur]; exact hv
      simp only [parseOperationType, bind_run, cur_run, hv']
      rcases hs with rfl | rfl | rfl <;> simp [bind_run, expect_of_tok ht]
  cases h with
  | query hk => simpa using key hk (.inl rfl)
  | mutation hk => simpa using key hk (.inr (.inl rfl))
  | subscription hk => simpa using key hk (.inr (.inr rfl))

theorem parseDefaultValue_snd : SndN parseDefaultValue DDefault := by
  intro σ d σ' h
  rcases skip_bind_ok (by decide) h with ⟨hk, h⟩ | ⟨q, p1, hQ, h⟩
  · cases h
    exact ⟨.none hk, rfl⟩
  · obtain ⟨v, p2, hV, h⟩ := (parseValue_snd true).bind_ok h
    cases h
    exact ⟨.some hQ hV, rfl⟩

theorem parseDefaultValue_cmp : Cmp parseDefaultValue DDefault := by
  intro σ d p' h
  cases h with
  | none hk =>
    simp only [parseDefaultValue, bind_run, skip_of_not hk, Bool.false_eq_true, if_false, pure_run, PState.at_self]
  | some hQ hV =>
    rename_i q p1 v
    simp only [parseDefaultValue, bind_run, skip_of_tok hQ, if_true, parseValue_cmp true (σ.at p1) _ _ hV, pure_run,
      PState.at_at]

theorem parseVariableDefinition_snd : Snd parseVariableDefinition DVarDef := by
  intro σ vd σ' h hb
  unfold parseVariableDefinition at h
  rw [cur_bind] at h
  obtain ⟨⟨n, vl⟩, p1, hV, h⟩ := parseVariable_snd.bind_ok h
  have hst := start_of_steps (dvariable_steps hV)
  obtain ⟨cl, p2, hC, h⟩ := (expect_snd (by decide)).bind_ok h
  obtain ⟨ot, σ3, hty, h⟩ := bind_ok.mp h
  rcases skip_bind_ok (by decide) h with ⟨hk, h⟩ | ⟨q, p4, hQ, h⟩
  · cases h
    obtain ⟨t, rfl, hT, h3⟩ := parseTypeOpt_snd hty hb
    rw [h3] at hk
    exact ⟨hst ▸ .mk hV hC hT (.none hk), h3⟩
  · obtain ⟨d, p5, hDv, h⟩ := (parseValue_snd true).bind_ok h
    cases h
    obtain ⟨t, rfl, hT, h3⟩ := parseTypeOpt_snd hty hb
    rw [h3] at hQ
    exact ⟨hst ▸ .mk hV hC hT (.some hQ hDv), by rw [h3]; rfl⟩

theorem parseVariableDefinition_cmp : Cmp parseVariableDefinition DVarDef := by
  intro σ vd p' h
  cases h with
  | @mk n vl p1 cl p2 t p3 d _ hV hC hT hD =>
    have e1 := parseVariable_cmp σ _ _ hV
    have e2 := expect_of_tok (σ := σ.at p1) hC
    have e3 := parseTypeOpt_cmp (σ := σ.at p2) hT
    cases d with
    | none =>
      have hd : p' = p3 ∧ p3.kind ≠ .equals := by
        cases hD with
        | none hk => exact ⟨rfl, hk⟩
      obtain ⟨rfl, hk⟩ := hd
      have e5 := skip_of_not (σ := σ.at p') hk
      simp only [parseVariableDefinition, bind_run, cur_run, e1, e2, e3, PState.at_at, e5,
        Bool.false_eq_true, if_false, loc_run, pure_run, start_of_steps (dvariable_steps hV)]
      rfl
    | some v =>
      cases hD with
      | some hQ hVal =>
        rename_i q p4
        have e5 := skip_of_tok (σ := σ.at p3) hQ
        have e6 := parseValue_cmp true (σ.at p4) _ _ hVal
        simp only [parseVariableDefinition, bind_run, cur_run, e1, e2, e3, PState.at_at, e5, if_true, e6, loc_run, pure_run,
          start_of_steps (dvariable_steps hV)]
        rfl

theorem parseVariableDefinitions_snd : Snd parseVariableDefinitions DVarDefs := by
  intro σ vs σ' h hb
  rcases peek_optional h with h | ⟨hk, h⟩
  · obtain ⟨o, p1, p2, cl, hO, hL, hC, h1, hne⟩ := reverse_snd (by decide) (by decide) parseVariableDefinition_snd h hb
    exact ⟨.some hO hL (hne rfl) hC, h1⟩
  · cases h
    exact ⟨.none hk, rfl⟩

theorem parseVariableDefinitions_cmp : Cmp parseVariableDefinitions DVarDefs := by
  intro σ vs p' h
  cases h with
  | none hk =>
    simp only [parseVariableDefinitions, bind_run, peek_of_not hk, Bool.false_eq_true, if_false, pure_run, PState.at_self]
  | some ho hm hne hc =>
    simp only [parseVariableDefinitions, bind_run, peek_of_kind (tok_kind ho), if_true]
    exact reverse_cmp parseVariableDefinition_cmp (fun _ _ _ h => by rw [dvarDef_kind h]; decide)
      (fun _ _ _ => dvarDef_lt) ho hm hc (fun _ => hne)

theorem parseOptName_snd : SndN parseOptName DOptName := by
  intro σ name σ' h
  rcases peek_optional h with h | ⟨hk, h⟩
  · obtain ⟨n, p1, hN, h⟩ := parseName_snd.bind_ok h
    cases h
    exact ⟨.some hN, rfl⟩
  · cases h
    exact ⟨.none hk, rfl⟩

theorem parseOptName_cmp : Cmp parseOptName DOptName := by
  intro σ n p' h
  cases h with
  | none hk =>
    simp only [parseOptName, bind_run, peek_of_not hk, Bool.false_eq_true, if_false, pure_run, PState.at_self]
  | some hn =>
    simp only [parseOptName, bind_run, peek_of_kind (dname_kind hn), if_true, parseName_cmp σ _ _ hn, pure_run]

theorem parseOperationDefinition_snd : Snd parseOperationDefinition DDefinition := by
  intro σ d σ' h hb
  simp only [parseOperationDefinition, bind_ok, cur_run, peek_run, Except.ok.injEq, Prod.mk.injEq] at h
  obtain ⟨_, _, ⟨rfl, rfl⟩, b, _, ⟨rfl, rfl⟩, h⟩ := h
  split at h
  · obtain ⟨sel, p1, hS, h⟩ := parseSelectionSet_snd.bind_ok h
    cases h
    exact ⟨start_of_steps hS.steps ▸ .query hS, rfl⟩
  · obtain ⟨op, p1, hOp, h⟩ := parseOperationType_snd.bind_ok h
    obtain ⟨name, p2, hName, h⟩ := parseOptName_snd.bind_ok h
    obtain ⟨vars, σ3, hVars, h⟩ := parseVariableDefinitions_snd.bind_ok h
    obtain ⟨dirs, p4, hDirs, h⟩ := parseDirectives_snd.bind_ok h
    obtain ⟨sel, p5, hSel, h⟩ := parseSelectionSet_snd.bind_ok h
    cases h
    obtain ⟨p3, hVars', rfl⟩ := hVars hb
    exact ⟨start_of_steps (dopType_steps hOp) ▸ .operation hOp hName hVars' hDirs hSel, rfl⟩

theorem parseOperationDefinition_cmp {σ : PState} {d : Definition} {p' : Pos}
    (h : DDefinition σ.pos d p') (hd : ∃ op n vs ds s l, d = .operation op n vs ds s l) :
    parseOperationDefinition σ = .ok (d, σ.at p') := by
  cases h with
  | query hS =>
    have hk : σ.pos.kind = .braceL := by cases hS with | mk ho _ _ _ => exact tok_kind ho
    simp only [parseOperationDefinition, bind_run, cur_run, peek_of_kind hk, if_true, parseSelectionSet_cmp σ _ _ hS,
      loc_run, pure_run, start_of_steps hS.steps]
    rfl
  | operation hOp hN hV hD hS =>
    rename_i op p1 n p2 vs p3 dirs p4 s
    have hk : σ.pos.kind ≠ .braceL := by rw [dopType_kind hOp]; decide
    have eN := parseOptName_cmp (σ.at p1) _ _ hN
    simp only [parseOperationDefinition, bind_run, cur_run, peek_of_not hk, Bool.false_eq_true, if_false,
      parseOperationType_cmp σ _ _ hOp, eN, parseVariableDefinitions_cmp (σ.at p2) _ _ hV,
      parseDirectives_cmp (σ.at p3) _ _ hD, parseSelectionSet_cmp (σ.at p4) _ _ hS, PState.at_at, loc_run, pure_run,
      start_of_steps (dopType_steps hOp)]
    rfl
  | _ => obtain ⟨_, _, _, _, _, _, hd⟩ := hd; cases hd

theorem parseFragmentDefinition_snd : SndN parseFragmentDefinition DDefinition := by
  intro σ d σ' h
  unfold parseFragmentDefinition at h
  rw [cur_bind] at h
  obtain ⟨_, p1, hK1, h⟩ := (expectKeyword_snd _).bind_ok h
  obtain ⟨n, p2, hN, h⟩ := parseFragmentName_snd.bind_ok h
  obtain ⟨_, p3, hK2, h⟩ := (expectKeyword_snd _).bind_ok h
  obtain ⟨tc, p4, hT, h⟩ := parseNamed_snd.bind_ok h
  obtain ⟨dirs, p5, hD, h⟩ := parseDirectives_snd.bind_ok h
  obtain ⟨sel, p6, hS, h⟩ := parseSelectionSet_snd.bind_ok h
  cases h
  exact ⟨kw_start hK1 ▸ .fragment hK1 hN hK2 hT hD hS, rfl⟩

theorem parseFragmentDefinition_cmp {σ : PState} {d : Definition} {p' : Pos}
    (h : DDefinition σ.pos d p') (hd : ∃ n tc ds s l, d = .fragment n tc ds s l) :
    parseFragmentDefinition σ = .ok (d, σ.at p') := by
  cases h with
  | fragment hK1 hN hK2 hT hD hS =>
    rename_i p1 n p2 p3 tc p4 dirs p5 s
    simp only [parseFragmentDefinition, bind_run, cur_run, expectKeyword_of_kw hK1, parseFragmentName_cmp (σ.at p1) _ _ hN,
      expectKeyword_of_kw (σ := σ.at p2) hK2, parseNamed_cmp (σ.at p3) _ _ hT, parseDirectives_cmp (σ.at p4) _ _ hD,
      parseSelectionSet_cmp (σ.at p5) _ _ hS, PState.at_at, loc_run, pure_run, kw_start hK1]
    rfl
  | _ => obtain ⟨_, _, _, _, _, hd⟩ := hd; cases hd

theorem parseDescription_snd : SndN parseDescription DDescription := by
  intro σ d σ' h
  simp only [parseDescription, bind_ok, cur_run, Except.ok.injEq, Prod.mk.injEq] at h
  obtain ⟨_, _, ⟨rfl, rfl⟩, h⟩ := h
  split at h
  · rename_i hk
    simp only [bind_ok, advance_run, pure_ok, Except.ok.injEq, Prod.mk.injEq] at h
    obtain ⟨_, _, ⟨_, rfl⟩, rfl, rfl⟩ := h
    rcases hk with hk | hk
    · obtain ⟨ht, h1⟩ := adv_tok (by decide) hk
      exact ⟨.string ht, h1⟩
    · obtain ⟨ht, h1⟩ := adv_tok (by decide) hk
      exact ⟨.blockString ht, h1⟩
  · rename_i hk
    obtain ⟨rfl, rfl⟩ := pure_ok.mp h
    refine ⟨.none ?_ ?_, rfl⟩ <;> rw [pos_kind_eq] <;> intro hh <;> exact hk (by simp [hh])

theorem parseDescription_cmp : Cmp parseDescription DDescription := by
  intro σ d p' h
  cases h with
  | none h1 h2 =>
    rw [pos_kind_eq] at h1 h2
    have hc : ¬ (σ.cur.kind = .string ∨ σ.cur.kind = .blockString) := by rintro (h | h) <;> contradiction
    simp only [parseDescription, bind_run, cur_run, if_neg hc, pure_run, PState.at_self]
  | string ht =>
    obtain ⟨rfl, _, hk⟩ := tok_cur ht
    have hc : σ.cur.kind = .string ∨ σ.cur.kind = .blockString := .inl hk
    simp only [parseDescription, bind_run, cur_run, if_pos hc, advance_run, adv_of_tok ht, pure_run]
  | blockString ht =>
    obtain ⟨rfl, _, hk⟩ := tok_cur ht
    have hc : σ.cur.kind = .string ∨ σ.cur.kind = .blockString := .inr hk
    simp only [parseDescription, bind_run, cur_run, if_pos hc, advance_run, adv_of_tok ht, pure_run]

theorem ddesc_start {σ : PState} {d : Option String} {p1 : Pos} (h : DDescription σ.pos d p1) (hne : p1.ts ≠ []) :
    σ.pos.start = σ.cur.start := by
  cases h with
  | none _ _ => exact pos_start_eq (by simpa using hne)
  | string ht => exact tok_start ht
  | blockString ht => exact tok_start ht

theorem parseOperationTypeDefinition_snd : SndN parseOperationTypeDefinition DOpTypeDef := by
  intro σ d σ' h
  unfold parseOperationTypeDefinition at h
  rw [cur_bind] at h
  obtain ⟨op, p1, hOp, h⟩ := parseOperationType_snd.bind_ok h
  obtain ⟨cl, p2, hC, h⟩ := (expect_snd (by decide)).bind_ok h
  obtain ⟨t, p3, hT, h⟩ := parseNamed_snd.bind_ok h
  cases h
  exact ⟨start_of_steps (dopType_steps hOp) ▸ .mk hOp hC hT, rfl⟩

theorem parseOperationTypeDefinition_cmp : Cmp parseOperationTypeDefinition DOpTypeDef := by
  intro σ d p' h
  cases h with
  | @mk op p1 cl p2 t _ hO hC hT =>
    simp only [parseOperationTypeDefinition, bind_run, cur_run, parseOperationType_cmp σ _ _ hO,
      expect_of_tok (σ := σ.at p1) hC, parseNamed_cmp (σ.at p2) _ _ hT, PState.at_at, loc_run, pure_run, start_of_steps (dopType_steps hO)]
    rfl

theorem parseSchemaDefinition_snd : SndN parseSchemaDefinition DDefinition := by
  intro σ d σ' h
  unfold parseSchemaDefinition at h
  rw [cur_bind] at h
  obtain ⟨_, p1, hK1, h⟩ := (expectKeyword_snd _).bind_ok h
  obtain ⟨dirs, p2, hD, h⟩ := parseDirectives_snd.bind_ok h
  obtain ⟨ops, σ3, hr, h⟩ := bind_ok.mp h
  obtain ⟨o, q1, q2, cl, hO, hL, hC, h3, hne⟩ :=
    reverse_sndN (by decide) (by decide) (L := Many DOpTypeDef) .nil .cons
      parseOperationTypeDefinition_snd hr
  rw [h3] at h
  cases h
  exact ⟨kw_start hK1 ▸ .schema hK1 hD hO hL (hne rfl) hC, rfl⟩

theorem parseScalarTypeDefinition_snd : SndN parseScalarTypeDefinition DDefinition := by
  intro σ d σ' h
  unfold parseScalarTypeDefinition at h
  rw [cur_bind] at h
  obtain ⟨desc, p1, hDe, h⟩ := parseDescription_snd.bind_ok h
  obtain ⟨_, p2, hK1, h⟩ := (expectKeyword_snd _).bind_ok h
  obtain ⟨n, p3, hN, h⟩ := parseName_snd.bind_ok h
  obtain ⟨dirs, p4, hD, h⟩ := parseDirectives_snd.bind_ok h
  cases h
  exact ⟨ddesc_start hDe (kw_ne hK1) ▸ .scalar hDe hK1 hN hD, rfl⟩

theorem parseNamedSep_snd {sep : TokenKind} (hsep : sep ≠ .eof) : ∀ k, SndN (parseNamedSep sep k) (SepBy sep DNamedType) := by
  rw [parseNamedSep_eq]
  exact sepLoop_snd parseNamed_snd hsep

theorem parseNamedSep_cmp {sep : TokenKind} {p : Pos} {ts : List TypeRef} {p' : Pos} (h : SepBy sep DNamedType p ts p') :
    ∀ (σ : PState) (k : Nat), σ.pos = p → ts.length ≤ k → parseNamedSep sep k σ = .ok (ts, σ.at p') := by
  rw [parseNamedSep_eq]
  exact sepLoop_cmp parseNamed_cmp h

theorem parseDirectiveLocations_snd : ∀ k, SndN (parseDirectiveLocations k) (SepBy .pipe DName) := by
  rw [parseDirectiveLocations_eq]
  exact sepLoop_snd parseName_snd (by decide)

theorem parseDirectiveLocations_cmp {p : Pos} {ns : List Name} {p' : Pos} (h : SepBy .pipe DName p ns p') :
    ∀ (σ : PState) (k : Nat), σ.pos = p → ns.length ≤ k → parseDirectiveLocations k σ = .ok (ns, σ.at p') := by
  rw [parseDirectiveLocations_eq]
  exact sepLoop_cmp parseName_cmp h

theorem parseImplementsInterfaces_snd : SndN parseImplementsInterfaces DImplements := by
  intro σ ts σ' h
  simp only [parseImplementsInterfaces, bind_ok, cur_run, Except.ok.injEq, Prod.mk.injEq] at h
  obtain ⟨_, _, ⟨rfl, rfl⟩, h⟩ := h
  split at h
  · rename_i hk
    simp only [bind_ok, advance_run, loopFuel_run, Except.ok.injEq, Prod.mk.injEq] at h
    obtain ⟨_, _, ⟨_, rfl⟩, b, σ2, hsk, k, _, ⟨rfl, rfl⟩, h⟩ := h
    obtain ⟨hI, h1⟩ := adv_tok (by decide) hk.1
    obtain ⟨hR, h3⟩ := parseNamedSep_snd (by decide) _ _ _ _ h
    cases b
    · obtain ⟨hna, rfl⟩ := skip_false.mp hsk
      exact ⟨.plain (Kw.mk hI hk.2) hna hR, at_trans h1 h3⟩
    · obtain ⟨a, hA, h2⟩ := (skip_true (by decide)).mp hsk
      exact ⟨.leadingAmp (Kw.mk hI hk.2) hA hR, at_trans (at_trans h1 h2) h3⟩
  · rename_i hk
    obtain ⟨rfl, rfl⟩ := pure_ok.mp h
    exact ⟨.none (fun hi => hk (isName_cur hi)), rfl⟩

theorem parseImplementsInterfaces_cmp : Cmp parseImplementsInterfaces DImplements := by
  intro σ ts p' h
  cases h with
  | none hno =>
    have hc : ¬ (σ.cur.kind = .name ∧ σ.cur.value = "implements") := fun hc => hno (isName_of_cur hc.1 hc.2)
    simp only [parseImplementsInterfaces, bind_run, cur_run, if_neg hc, pure_run, PState.at_self]
  | @plain p1 _ _ hK hna hS =>
    cases hK with
    | mk ht hv =>
      obtain ⟨hcur, _, hk⟩ := tok_cur ht
      have hc : σ.cur.kind = .name ∧ σ.cur.value = "implements" := ⟨hk, by rw [hcur]; exact hv⟩
      have hle := sepBy_le (fun _ _ _ => dnamedType_lt) hS
      simp only [parseImplementsInterfaces, bind_run, cur_run, if_pos hc, advance_run, adv_of_tok ht,
        skip_of_not (σ := σ.at p1) hna, loopFuel_run, PState.at_toks,
        parseNamedSep_cmp hS (σ.at p1) (p1.ts.length + 1) rfl (by omega), PState.at_at]
  | @leadingAmp p1 a p2 _ _ hK hA hS =>
    cases hK with
    | mk ht hv =>
      obtain ⟨hcur, _, hk⟩ := tok_cur ht
      have hc : σ.cur.kind = .name ∧ σ.cur.value = "implements" := ⟨hk, by rw [hcur]; exact hv⟩
      have hle := sepBy_le (fun _ _ _ => dnamedType_lt) hS
      simp only [parseImplementsInterfaces, bind_run, cur_run, if_pos hc, advance_run, adv_of_tok ht,
        skip_of_tok (σ := σ.at p1) hA, loopFuel_run, PState.at_toks, PState.at_at,
        parseNamedSep_cmp hS (σ.at p2) (p2.ts.length + 1) rfl (by omega)]

theorem kind3_ne {k : TokenKind} {close : TokenKind} (h : k = .name ∨ k = .string ∨ k = .blockString)
    (hc : close = .braceR ∨ close = .parenR) : k ≠ close := by
  rcases h with h | h | h <;> rcases hc with hc | hc <;> subst h <;> subst hc <;> decide

theorem parseInputValueDef_snd : Snd parseInputValueDef DInputValueDef := by
  intro σ d σ' h hb
  unfold parseInputValueDef at h
  rw [cur_bind] at h
  obtain ⟨desc, p1, hDe, h⟩ := parseDescription_snd.bind_ok h
  obtain ⟨n, p2, hN, h⟩ := parseName_snd.bind_ok h
  obtain ⟨cl, p3, hC, h⟩ := (expect_snd (by decide)).bind_ok h
  obtain ⟨ty, σ4, hT, h⟩ := parseType_snd.bind_ok h
  obtain ⟨dflt, p5, hDf, h⟩ := parseDefaultValue_snd.bind_ok h
  obtain ⟨dirs, p6, hD, h⟩ := parseDirectives_snd.bind_ok h
  cases h
  obtain ⟨p4, hT', rfl⟩ := hT hb
  exact ⟨ddesc_start hDe ((dname_steps hN).ne) ▸ .mk hDe hN hC hT' hDf hD, rfl⟩

theorem parseInputValueDef_cmp : Cmp parseInputValueDef DInputValueDef := by
  intro σ d p' h
  cases h with
  | @mk desc p1 n p2 cl p3 t p4 dv p5 dirs _ hDe hN hC hT hDf hD =>
    simp only [parseInputValueDef, bind_run, cur_run, parseDescription_cmp σ _ _ hDe, parseName_cmp (σ.at p1) _ _ hN,
      expect_of_tok (σ := σ.at p2) hC, parseType_cmp (σ.at p3) _ _ hT, parseDefaultValue_cmp (σ.at p4) _ _ hDf,
      parseDirectives_cmp (σ.at p5) _ _ hD, PState.at_at, loc_run, pure_run, ddesc_start hDe ((dname_steps hN).ne)]
    rfl

theorem parseArgumentDefs_snd : Snd parseArgumentDefs DArgumentDefs := by
  intro σ ds σ' h hb
  rcases peek_optional h with h | ⟨hk, h⟩
  · obtain ⟨o, p1, p2, cl, hO, hL, hC, h1, hne⟩ := reverse_snd (by decide) (by decide) parseInputValueDef_snd h hb
    exact ⟨.some hO hL (hne rfl) hC, h1⟩
  · cases h
    exact ⟨.none hk, rfl⟩

theorem parseArgumentDefs_cmp : Cmp parseArgumentDefs DArgumentDefs := by
  intro σ ds p' h
  cases h with
  | none hk =>
    simp only [parseArgumentDefs, bind_run, peek_of_not hk, Bool.false_eq_true, if_false, pure_run, PState.at_self]
  | some ho hm hne hc =>
    simp only [parseArgumentDefs, bind_run, peek_of_kind (tok_kind ho), if_true]
    exact reverse_cmp parseInputValueDef_cmp (fun _ _ _ h => kind3_ne (dinputValueDef_kind h) (.inr rfl))
      (fun _ _ _ => dinputValueDef_lt) ho hm hc (fun _ => hne)

theorem parseFieldDefinition_snd : Snd parseFieldDefinition DFieldDef := by
  intro σ d σ' h hb
  unfold parseFieldDefinition at h
  rw [cur_bind] at h
  obtain ⟨desc, p1, hDe, h⟩ := parseDescription_snd.bind_ok h
  obtain ⟨n, p2, hN, h⟩ := parseName_snd.bind_ok h
  obtain ⟨args, σ3, hA, h⟩ := parseArgumentDefs_snd.bind_ok h
  obtain ⟨cl, p4, hC, h⟩ := (expect_snd (by decide)).bind_ok h
  obtain ⟨ty, σ5, hT, h⟩ := parseType_snd.bind_ok h
  obtain ⟨dirs, p6, hD, h⟩ := parseDirectives_snd.bind_ok h
  cases h
  obtain ⟨p5, hT', rfl⟩ := hT hb
  obtain ⟨p3, hA', rfl⟩ := hA hb
  exact ⟨ddesc_start hDe ((dname_steps hN).ne) ▸ .mk hDe hN hA' hC hT' hD, rfl⟩

theorem parseFieldDefinition_cmp : Cmp parseFieldDefinition DFieldDef := by
  intro σ d p' h
  cases h with
  | @mk desc p1 n p2 args p3 cl p4 t p5 dirs _ hDe hN hA hC hT hD =>
    simp only [parseFieldDefinition, bind_run, cur_run, parseDescription_cmp σ _ _ hDe, parseName_cmp (σ.at p1) _ _ hN,
      parseArgumentDefs_cmp (σ.at p2) _ _ hA, expect_of_tok (σ := σ.at p3) hC, parseType_cmp (σ.at p4) _ _ hT,
      parseDirectives_cmp (σ.at p5) _ _ hD, PState.at_at, loc_run, pure_run, ddesc_start hDe ((dname_steps hN).ne)]
    rfl

theorem parseFieldDefs_cmp {σ : PState} {fs : List FieldDef} {p' : Pos} (h : Braced DFieldDef σ.pos fs p') :
    reverse .braceL parseFieldDefinition .braceR false σ = .ok (fs, σ.at p') :=
  braced_cmp parseFieldDefinition_cmp (fun _ _ _ h => kind3_ne (dfieldDef_kind h) (.inl rfl)) (fun _ _ _ => dfieldDef_lt) h

theorem parseObjectDef_snd : Snd parseObjectDef DObjectDef := by
  intro σ d σ' h hb
  unfold parseObjectDef at h
  rw [cur_bind] at h
  obtain ⟨desc, p1, hDe, h⟩ := parseDescription_snd.bind_ok h
  obtain ⟨_, p2, hK1, h⟩ := (expectKeyword_snd _).bind_ok h
  obtain ⟨n, p3, hN, h⟩ := parseName_snd.bind_ok h
  obtain ⟨ifs, p4, hI, h⟩ := parseImplementsInterfaces_snd.bind_ok h
  obtain ⟨dirs, p5, hD, h⟩ := parseDirectives_snd.bind_ok h
  obtain ⟨fs, σ6, hB, h⟩ := (braced_snd parseFieldDefinition_snd).bind_ok h
  cases h
  obtain ⟨p6, hB', rfl⟩ := hB hb
  exact ⟨ddesc_start hDe (kw_ne hK1) ▸ .mk hDe hK1 hN hI hD hB', rfl⟩

theorem parseObjectDef_cmp : Cmp parseObjectDef DObjectDef := by
  intro σ d p' h
  cases h with
  | @mk desc p1 p2 n p3 ifs p4 dirs p5 fs _ hDe hK hN hI hD hB =>
    simp only [parseObjectDef, bind_run, cur_run, parseDescription_cmp σ _ _ hDe, expectKeyword_of_kw (σ := σ.at p1) hK,
      parseName_cmp (σ.at p2) _ _ hN, parseImplementsInterfaces_cmp (σ.at p3) _ _ hI, parseDirectives_cmp (σ.at p4) _ _ hD,
      parseFieldDefs_cmp (σ := σ.at p5) hB, PState.at_at, loc_run, pure_run, ddesc_start hDe (kw_ne hK)]
    rfl

theorem parseObjectTypeDefinition_snd : Snd parseObjectTypeDefinition DDefinition := by
  intro σ d σ' h hb
  simp only [parseObjectTypeDefinition, bind_ok, pure_ok] at h
  obtain ⟨od, σ1, hod, rfl, rfl⟩ := h
  obtain ⟨hO, h1⟩ := parseObjectDef_snd _ _ _ hod hb
  exact ⟨.object hO, h1⟩

theorem parseInterfaceTypeDefinition_snd : Snd parseInterfaceTypeDefinition DDefinition := by
  intro σ d σ' h hb
  unfold parseInterfaceTypeDefinition at h
  rw [cur_bind] at h
  obtain ⟨desc, p1, hDe, h⟩ := parseDescription_snd.bind_ok h
  obtain ⟨_, p2, hK1, h⟩ := (expectKeyword_snd _).bind_ok h
  obtain ⟨n, p3, hN, h⟩ := parseName_snd.bind_ok h
  obtain ⟨dirs, p4, hD, h⟩ := parseDirectives_snd.bind_ok h
  obtain ⟨fs, σ5, hB, h⟩ := (braced_snd parseFieldDefinition_snd).bind_ok h
  cases h
  obtain ⟨p5, hB', rfl⟩ := hB hb
  exact ⟨ddesc_start hDe (kw_ne hK1) ▸ .interface hDe hK1 hN hD hB', rfl⟩

theorem parseUnionTypeDefinition_snd : SndN parseUnionTypeDefinition DDefinition := by
  intro σ d σ' h
  unfold parseUnionTypeDefinition at h
  rw [cur_bind] at h
  obtain ⟨desc, p1, hDe, h⟩ := parseDescription_snd.bind_ok h
  obtain ⟨_, p2, hK1, h⟩ := (expectKeyword_snd _).bind_ok h
  obtain ⟨n, p3, hN, h⟩ := parseName_snd.bind_ok h
  obtain ⟨dirs, p4, hD, h⟩ := parseDirectives_snd.bind_ok h
  obtain ⟨q, p5, hQ, h⟩ := (expect_snd (by decide)).bind_ok h
  rw [loopFuel_bind] at h
  obtain ⟨ms, p6, hM, h⟩ := (parseNamedSep_snd (by decide) _).bind_ok h
  cases h
  exact ⟨ddesc_start hDe (kw_ne hK1) ▸ .union hDe hK1 hN hD hQ hM, rfl⟩

theorem parseEnumValueDefinition_snd : SndN parseEnumValueDefinition DEnumValueDef := by
  intro σ d σ' h
  unfold parseEnumValueDefinition at h
  rw [cur_bind] at h
  obtain ⟨desc, p1, hDe, h⟩ := parseDescription_snd.bind_ok h
  obtain ⟨n, p2, hN, h⟩ := parseName_snd.bind_ok h
  obtain ⟨dirs, p3, hD, h⟩ := parseDirectives_snd.bind_ok h
  cases h
  exact ⟨ddesc_start hDe ((dname_steps hN).ne) ▸ .mk hDe hN hD, rfl⟩

theorem parseEnumValueDefinition_cmp : Cmp parseEnumValueDefinition DEnumValueDef := by
  intro σ d p' h
  cases h with
  | @mk desc p1 n p2 dirs _ hDe hN hD =>
    simp only [parseEnumValueDefinition, bind_run, cur_run, parseDescription_cmp σ _ _ hDe, parseName_cmp (σ.at p1) _ _ hN,
      parseDirectives_cmp (σ.at p2) _ _ hD, PState.at_at, loc_run, pure_run, ddesc_start hDe ((dname_steps hN).ne)]
    rfl

theorem parseEnumTypeDefinition_snd : SndN parseEnumTypeDefinition DDefinition := by
  intro σ d σ' h
  unfold parseEnumTypeDefinition at h
  rw [cur_bind] at h
  obtain ⟨desc, p1, hDe, h⟩ := parseDescription_snd.bind_ok h
  obtain ⟨_, p2, hK1, h⟩ := (expectKeyword_snd _).bind_ok h
  obtain ⟨n, p3, hN, h⟩ := parseName_snd.bind_ok h
  obtain ⟨dirs, p4, hD, h⟩ := parseDirectives_snd.bind_ok h
  obtain ⟨vs, p5, hB, h⟩ := (braced_sndN parseEnumValueDefinition_snd).bind_ok h
  cases h
  exact ⟨ddesc_start hDe (kw_ne hK1) ▸ .enum hDe hK1 hN hD hB, rfl⟩

theorem parseInputObjectTypeDefinition_snd : Snd parseInputObjectTypeDefinition DDefinition := by
  intro σ d σ' h hb
  unfold parseInputObjectTypeDefinition at h
  rw [cur_bind] at h
  obtain ⟨desc, p1, hDe, h⟩ := parseDescription_snd.bind_ok h
  obtain ⟨_, p2, hK1, h⟩ := (expectKeyword_snd _).bind_ok h
  obtain ⟨n, p3, hN, h⟩ := parseName_snd.bind_ok h
  obtain ⟨dirs, p4, hD, h⟩ := parseDirectives_snd.bind_ok h
  obtain ⟨fs, σ5, hB, h⟩ := (braced_snd parseInputValueDef_snd).bind_ok h
  cases h
  obtain ⟨p5, hB', rfl⟩ := hB hb
  exact ⟨ddesc_start hDe (kw_ne hK1) ▸ .inputObject hDe hK1 hN hD hB', rfl⟩

theorem parseTypeExtensionDefinition_snd : Snd parseTypeExtensionDefinition DDefinition := by
  intro σ d σ' h hb
  unfold parseTypeExtensionDefinition at h
  rw [cur_bind] at h
  obtain ⟨_, p1, hK1, h⟩ := (expectKeyword_snd _).bind_ok h
  obtain ⟨od, σ2, hO, h⟩ := parseObjectDef_snd.bind_ok h
  cases h
  obtain ⟨p2, hO', rfl⟩ := hO hb
  exact ⟨kw_start hK1 ▸ .extend hK1 hO', rfl⟩

theorem parseDirectiveDefinition_snd : Snd parseDirectiveDefinition DDefinition := by
  intro σ d σ' h hb
  unfold parseDirectiveDefinition at h
  rw [cur_bind] at h
  obtain ⟨desc, p1, hDe, h⟩ := parseDescription_snd.bind_ok h
  obtain ⟨_, p2, hK1, h⟩ := (expectKeyword_snd _).bind_ok h
  obtain ⟨a, p3, hA, h⟩ := (expect_snd (by decide)).bind_ok h
  obtain ⟨n, p4, hN, h⟩ := parseName_snd.bind_ok h
  obtain ⟨args, σ5, hAr, h⟩ := parseArgumentDefs_snd.bind_ok h
  obtain ⟨_, p6, hK2, h⟩ := (expectKeyword_snd _).bind_ok h
  rw [loopFuel_bind] at h
  obtain ⟨locs, p7, hL, h⟩ := (parseDirectiveLocations_snd _).bind_ok h
  cases h
  obtain ⟨p5, hAr', rfl⟩ := hAr hb
  exact ⟨ddesc_start hDe (kw_ne hK1) ▸ .directive hDe hK1 hA hN hAr' hK2 hL, rfl⟩

theorem Snd.ite {α} {c : Prop} [Decidable c] {a b : P α} {D : Pos → α → Pos → Prop} (ha : Snd a D) (hb : Snd b D) :
    Snd (if c then a else b) D := by
  split
  · exact ha
  · exact hb

theorem failAt_snd {α} (ahead : Bool) (p : Nat) (D : Pos → α → Pos → Prop) : Snd (failAt ahead p) D :=
  fun _ _ _ h => by cases h

theorem dispatchKeyword_snd (ahead : Bool) (kw : Token) : Snd (dispatchKeyword ahead kw) DDefinition :=
  -- one line for each `if` of `dispatchKeyword`, in its order
  .ite (failAt_snd _ _ _)
  <| .ite parseFragmentDefinition_snd.snd
  <| .ite parseOperationDefinition_snd
  <| .ite parseSchemaDefinition_snd.snd
  <| .ite parseScalarTypeDefinition_snd.snd
  <| .ite parseObjectTypeDefinition_snd
  <| .ite parseInterfaceTypeDefinition_snd
  <| .ite parseUnionTypeDefinition_snd.snd
  <| .ite parseEnumTypeDefinition_snd.snd
  <| .ite parseInputObjectTypeDefinition_snd
  <| .ite parseTypeExtensionDefinition_snd
  <| .ite parseDirectiveDefinition_snd (failAt_snd _ _ _)

theorem parseTypeSystemDefinition_snd : Snd parseTypeSystemDefinition DDefinition := by
  intro σ d σ' h hb
  rw [parseTypeSystemDefinition_run] at h
  split at h
  · split at h
    · cases h
    · exact dispatchKeyword_snd _ _ _ _ _ h hb
  · exact dispatchKeyword_snd _ _ _ _ _ h hb

theorem parseDefinition_snd : Snd parseDefinition DDefinition := by
  intro σ d σ' h hb
  simp only [parseDefinition, bind_ok, cur_run, Except.ok.injEq, Prod.mk.injEq] at h
  obtain ⟨_, _, ⟨rfl, rfl⟩, h⟩ := h
  cases hk : σ.cur.kind <;> simp only [hk] at h
  case braceL => exact parseOperationDefinition_snd _ _ _ h hb
  case name => exact parseTypeSystemDefinition_snd _ _ _ h hb
  case string => exact parseTypeSystemDefinition_snd _ _ _ h hb
  case blockString => exact parseTypeSystemDefinition_snd _ _ _ h hb
  all_goals cases h

theorem keywordToken_cmp_kw {σ : PState} {s : String} {p2 : Pos} (hK : Kw s σ.pos p2) :
    ∃ kw, keywordToken σ = .ok (kw, σ) ∧ kw.kind = .name ∧ kw.value = s := by
  cases hK with
  | mk ht hv =>
    obtain ⟨hcur, _, hk⟩ := tok_cur ht
    have hc : ¬ (σ.cur.kind = .string ∨ σ.cur.kind = .blockString) := by
      rw [hk]; rintro (h | h) <;> cases h
    exact ⟨σ.cur, by simp only [keywordToken, bind_run, cur_run, if_neg hc, pure_run], hk, by rw [hcur]; exact hv⟩

theorem keywordToken_cmp {σ : PState} {desc : Option String} {p1 : Pos} {s : String} {p2 : Pos}
    (hD : DDescription σ.pos desc p1) (hK : Kw s p1 p2)
    (hs' : s = "scalar" ∨ s = "type" ∨ s = "interface" ∨ s = "union" ∨ s = "enum" ∨ s = "input" ∨ s = "directive") :
    ∃ kw, keywordToken σ = .ok (kw, σ) ∧ kw.kind = .name ∧ kw.value = s := by
  cases hD with
  | none h1 h2 => exact keywordToken_cmp_kw hK
  | string hs | blockString hs =>
    cases hK with
    | mk ht hv =>
      have hc : σ.cur.kind = .string ∨ σ.cur.kind = .blockString := by rw [cur_kind_of_tok hs]; decide
      have hv' : (σ.at p1).cur.value = s := by rw [cur_of_tok (σ := σ.at p1) ht]; exact hv
      have hc2 : ¬ ((σ.at p1).cur.kind = .name ∧ ¬ ((σ.at p1).cur.value = "scalar" ∨ (σ.at p1).cur.value = "type" ∨
          (σ.at p1).cur.value = "interface" ∨ (σ.at p1).cur.value = "union" ∨ (σ.at p1).cur.value = "enum" ∨
          (σ.at p1).cur.value = "input" ∨ (σ.at p1).cur.value = "directive")) := by
        rintro ⟨_, hn⟩; rw [hv'] at hn; exact hn hs'
      refine ⟨(σ.at p1).cur, ?_, cur_kind_of_tok (σ := σ.at p1) ht, hv'⟩
      simp only [keywordToken, bind_run, cur_run, if_pos hc, lookahead_run, adv_of_tok hs, if_neg hc2, pure_run]

theorem parseDefinition_of_kind {σ : PState} (h : σ.pos.kind = .name ∨ σ.pos.kind = .string ∨ σ.pos.kind = .blockString) :
    parseDefinition σ = parseTypeSystemDefinition σ := by
  rw [pos_kind_eq] at h
  rcases h with h | h | h <;> simp only [parseDefinition, bind_run, cur_run, h]

theorem parseDefinition_via {σ : PState} {kw : Token} {f : P Definition} (hk : keywordToken σ = .ok (kw, σ))
    (hkind : σ.pos.kind = .name ∨ σ.pos.kind = .string ∨ σ.pos.kind = .blockString) (hd : ∀ a, dispatchKeyword a kw = f) :
    parseDefinition σ = f σ := by
  rw [parseDefinition_of_kind hkind]
  simp only [parseTypeSystemDefinition, bind_run, cur_run, hk, hd]

theorem desc_kw_kind {σ : PState} {desc : Option String} {p1 : Pos} {s : String} {p2 : Pos}
    (hD : DDescription σ.pos desc p1) (hK : Kw s p1 p2) :
    σ.pos.kind = .name ∨ σ.pos.kind = .string ∨ σ.pos.kind = .blockString :=
  ddescription_kind hD (kw_kind hK)

theorem parseDefinition_cmp : Cmp parseDefinition DDefinition := by
  intro σ d p' h
  cases h with
  | query hS =>
    have hk : σ.cur.kind = .braceL := by rw [← pos_kind_eq]; cases hS with | mk ho _ _ _ => exact tok_kind ho
    have : parseDefinition σ = parseOperationDefinition σ := by simp only [parseDefinition, bind_run, cur_run, hk]
    rw [this]
    exact parseOperationDefinition_cmp (.query hS) ⟨_, _, _, _, _, _, rfl⟩
  | operation hOp hN hV hD hS =>
    have hkw : ∃ s p2, Kw s σ.pos p2 ∧ (s = "query" ∨ s = "mutation" ∨ s = "subscription") := by
      cases hOp with
      | query hk => exact ⟨_, _, hk, .inl rfl⟩
      | mutation hk => exact ⟨_, _, hk, .inr (.inl rfl)⟩
      | subscription hk => exact ⟨_, _, hk, .inr (.inr rfl)⟩
    obtain ⟨s, p2, hK, hs⟩ := hkw
    obtain ⟨kw, hkt, hkk, hkv⟩ := keywordToken_cmp_kw hK
    have hd : ∀ a, dispatchKeyword a kw = parseOperationDefinition := by
      intro a
      rcases hs with rfl | rfl | rfl <;> simp [dispatchKeyword, hkk, hkv]
    rw [parseDefinition_via hkt (.inl (kw_kind hK)) hd]
    exact parseOperationDefinition_cmp (.operation hOp hN hV hD hS) ⟨_, _, _, _, _, _, rfl⟩
  | fragment hK hN hK2 hT hD hS =>
    obtain ⟨kw, hkt, hkk, hkv⟩ := keywordToken_cmp_kw hK
    have hd : ∀ a, dispatchKeyword a kw = parseFragmentDefinition := by intro a; simp [dispatchKeyword, hkk, hkv]
    rw [parseDefinition_via hkt (.inl (kw_kind hK)) hd]
    exact parseFragmentDefinition_cmp (.fragment hK hN hK2 hT hD hS) ⟨_, _, _, _, _, rfl⟩
  | @schema p1 dirs p2 o p3 ops p4 cl _ hK hD hO hM hne hC =>
    obtain ⟨kw, hkt, hkk, hkv⟩ := keywordToken_cmp_kw hK
    have hd : ∀ a, dispatchKeyword a kw = parseSchemaDefinition := by intro a; simp [dispatchKeyword, hkk, hkv]
    rw [parseDefinition_via hkt (.inl (kw_kind hK)) hd]
    have e3 : reverse .braceL parseOperationTypeDefinition .braceR true (σ.at p2) = .ok (ops, (σ.at p2).at p') :=
      reverse_cmp parseOperationTypeDefinition_cmp (fun _ _ _ h => by rw [dopTypeDef_kind h]; decide)
        (fun _ _ _ => dopTypeDef_lt) hO hM hC (fun _ => hne)
    simp only [parseSchemaDefinition, bind_run, cur_run, expectKeyword_of_kw hK, parseDirectives_cmp (σ.at p1) _ _ hD, e3,
      PState.at_at, loc_run, pure_run, kw_start hK]
    rfl
  | @scalar desc p1 p2 n p3 dirs _ hDe hK hN hD =>
    obtain ⟨kw, hkt, hkk, hkv⟩ := keywordToken_cmp hDe hK (by simp)
    have hd : ∀ a, dispatchKeyword a kw = parseScalarTypeDefinition := by intro a; simp [dispatchKeyword, hkk, hkv]
    rw [parseDefinition_via hkt (desc_kw_kind hDe hK) hd]
    simp only [parseScalarTypeDefinition, bind_run, cur_run, parseDescription_cmp σ _ _ hDe,
      expectKeyword_of_kw (σ := σ.at p1) hK, parseName_cmp (σ.at p2) _ _ hN, parseDirectives_cmp (σ.at p3) _ _ hD,
      PState.at_at, loc_run, pure_run, ddesc_start hDe (kw_ne hK)]
    rfl
  | object hO =>
    cases hO with
    | mk hDe hK hN hI hD hB =>
      obtain ⟨kw, hkt, hkk, hkv⟩ := keywordToken_cmp hDe hK (by simp)
      have hd : ∀ a, dispatchKeyword a kw = parseObjectTypeDefinition := by intro a; simp [dispatchKeyword, hkk, hkv]
      rw [parseDefinition_via hkt (desc_kw_kind hDe hK) hd]
      simp only [parseObjectTypeDefinition, bind_run, parseObjectDef_cmp σ _ _ (.mk hDe hK hN hI hD hB), pure_run]
  | @interface desc p1 p2 n p3 dirs p4 fs _ hDe hK hN hD hB =>
    obtain ⟨kw, hkt, hkk, hkv⟩ := keywordToken_cmp hDe hK (by simp)
    have hd : ∀ a, dispatchKeyword a kw = parseInterfaceTypeDefinition := by intro a; simp [dispatchKeyword, hkk, hkv]
    rw [parseDefinition_via hkt (desc_kw_kind hDe hK) hd]
    simp only [parseInterfaceTypeDefinition, bind_run, cur_run, parseDescription_cmp σ _ _ hDe,
      expectKeyword_of_kw (σ := σ.at p1) hK, parseName_cmp (σ.at p2) _ _ hN, parseDirectives_cmp (σ.at p3) _ _ hD,
      parseFieldDefs_cmp (σ := σ.at p4) hB, PState.at_at, loc_run, pure_run, ddesc_start hDe (kw_ne hK)]
    rfl
  | @union desc p1 p2 n p3 dirs p4 q p5 ms _ hDe hK hN hD hQ hS =>
    obtain ⟨kw, hkt, hkk, hkv⟩ := keywordToken_cmp hDe hK (by simp)
    have hd : ∀ a, dispatchKeyword a kw = parseUnionTypeDefinition := by intro a; simp [dispatchKeyword, hkk, hkv]
    rw [parseDefinition_via hkt (desc_kw_kind hDe hK) hd]
    have hle := sepBy_le (fun _ _ _ => dnamedType_lt) hS
    simp only [parseUnionTypeDefinition, bind_run, cur_run, parseDescription_cmp σ _ _ hDe,
      expectKeyword_of_kw (σ := σ.at p1) hK, parseName_cmp (σ.at p2) _ _ hN, parseDirectives_cmp (σ.at p3) _ _ hD,
      expect_of_tok (σ := σ.at p4) hQ, loopFuel_run, PState.at_toks, PState.at_at,
      parseNamedSep_cmp hS (σ.at p5) (p5.ts.length + 1) rfl (by omega), loc_run, pure_run, ddesc_start hDe (kw_ne hK)]
    rfl
  | @enum desc p1 p2 n p3 dirs p4 vs _ hDe hK hN hD hB =>
    obtain ⟨kw, hkt, hkk, hkv⟩ := keywordToken_cmp hDe hK (by simp)
    have hd : ∀ a, dispatchKeyword a kw = parseEnumTypeDefinition := by intro a; simp [dispatchKeyword, hkk, hkv]
    rw [parseDefinition_via hkt (desc_kw_kind hDe hK) hd]
    have e5 := braced_cmp (σ := σ.at p4) parseEnumValueDefinition_cmp
      (fun _ _ _ h => kind3_ne (denumValueDef_kind h) (.inl rfl)) (fun _ _ _ => denumValueDef_lt) hB
    simp only [parseEnumTypeDefinition, bind_run, cur_run, parseDescription_cmp σ _ _ hDe,
      expectKeyword_of_kw (σ := σ.at p1) hK, parseName_cmp (σ.at p2) _ _ hN, parseDirectives_cmp (σ.at p3) _ _ hD,
      e5, PState.at_at, loc_run, pure_run, ddesc_start hDe (kw_ne hK)]
    rfl
  | @inputObject desc p1 p2 n p3 dirs p4 fs _ hDe hK hN hD hB =>
    obtain ⟨kw, hkt, hkk, hkv⟩ := keywordToken_cmp hDe hK (by simp)
    have hd : ∀ a, dispatchKeyword a kw = parseInputObjectTypeDefinition := by intro a; simp [dispatchKeyword, hkk, hkv]
    rw [parseDefinition_via hkt (desc_kw_kind hDe hK) hd]
    have e5 := braced_cmp (σ := σ.at p4) parseInputValueDef_cmp
      (fun _ _ _ h => kind3_ne (dinputValueDef_kind h) (.inl rfl)) (fun _ _ _ => dinputValueDef_lt) hB
    simp only [parseInputObjectTypeDefinition, bind_run, cur_run, parseDescription_cmp σ _ _ hDe,
      expectKeyword_of_kw (σ := σ.at p1) hK, parseName_cmp (σ.at p2) _ _ hN, parseDirectives_cmp (σ.at p3) _ _ hD,
      e5, PState.at_at, loc_run, pure_run, ddesc_start hDe (kw_ne hK)]
    rfl
  | @extend p1 od _ hK hO =>
    obtain ⟨kw, hkt, hkk, hkv⟩ := keywordToken_cmp_kw hK
    have hd : ∀ a, dispatchKeyword a kw = parseTypeExtensionDefinition := by intro a; simp [dispatchKeyword, hkk, hkv]
    rw [parseDefinition_via hkt (.inl (kw_kind hK)) hd]
    simp only [parseTypeExtensionDefinition, bind_run, cur_run, expectKeyword_of_kw hK, parseObjectDef_cmp (σ.at p1) _ _ hO,
      PState.at_at, loc_run, pure_run, kw_start hK]
    rfl
  | @directive desc p1 p2 a p3 n p4 args p5 p6 locs _ hDe hK hA hN hAr hK2 hL =>
    obtain ⟨kw, hkt, hkk, hkv⟩ := keywordToken_cmp hDe hK (by simp)
    have hd : ∀ a, dispatchKeyword a kw = parseDirectiveDefinition := by intro a; simp [dispatchKeyword, hkk, hkv]
    rw [parseDefinition_via hkt (desc_kw_kind hDe hK) hd]
    have hle := sepBy_le (fun _ _ _ => dname_lt) hL
    simp only [parseDirectiveDefinition, bind_run, cur_run, parseDescription_cmp σ _ _ hDe,
      expectKeyword_of_kw (σ := σ.at p1) hK, expect_of_tok (σ := σ.at p2) hA, parseName_cmp (σ.at p3) _ _ hN,
      parseArgumentDefs_cmp (σ.at p4) _ _ hAr, expectKeyword_of_kw (σ := σ.at p5) hK2, loopFuel_run, PState.at_toks,
      PState.at_at, parseDirectiveLocations_cmp hL (σ.at p6) (p6.ts.length + 1) rfl (by omega), loc_run, pure_run,
      ddesc_start hDe (kw_ne hK)]
    rfl

theorem parseDefinitions_snd : ∀ k σ ds σ', parseDefinitions k σ = .ok (ds, σ') → σ'.bad = false →
    ∃ e, Many DDefinition σ.pos ds ⟨e, []⟩ ∧ σ'.prevEnd = σ.eofPos ∧ σ.bad = false := by
  intro k
  induction k with
  | zero => intro σ ds σ' h; cases h
  | succ k ih =>
    intro σ ds σ' h hb
    simp only [parseDefinitions, bind_ok] at h
    obtain ⟨b, σ1, hs, h⟩ := h
    cases b
    · simp only [Bool.false_eq_true, if_false, bind_ok, pure_ok] at h
      obtain ⟨d, σ2, hd, ds', σ3, hds, rfl, rfl⟩ := h
      have : σ1 = σ := by
        unfold skipEOF at hs
        split at hs <;> simp at hs
        exact hs.symm
      subst this
      obtain ⟨e, hM, hpe, hb2⟩ := ih _ _ _ hds hb
      obtain ⟨hD, h1⟩ := parseDefinition_snd _ _ _ hd hb2
      refine ⟨e, .cons hD hM, ?_, ?_⟩
      · rw [hpe, h1]; rfl
      · rw [← bad_of_at h1]; exact hb2
    · simp only [if_true, pure_ok] at h
      obtain ⟨rfl, rfl⟩ := h
      unfold skipEOF at hs
      split at hs
      · rename_i ht
        simp only [Except.ok.injEq, Prod.mk.injEq, true_and] at hs
        subst hs
        refine ⟨σ.prevEnd, ?_, by simp [PState.adv, ht], by simpa using hb⟩
        have : σ.pos = ⟨σ.prevEnd, []⟩ := by simp [PState.pos, ht]
        rw [this]
        exact .nil
      · simp at hs

theorem parseDefinitions_cmp {p : Pos} {ds : List Definition} {p1 : Pos} (h : Many DDefinition p ds p1) :
    ∀ (σ : PState) (k : Nat), σ.pos = p → p1.ts = [] → ds.length < k →
      ∃ σ', parseDefinitions k σ = .ok (ds, σ') ∧ σ'.prevEnd = σ.eofPos ∧ σ'.bad = σ.bad := by
  induction h with
  | nil =>
    intro σ k hσ hnil hk
    subst hσ
    obtain ⟨k', rfl⟩ : ∃ k', k = k' + 1 := ⟨k - 1, by simp at hk; omega⟩
    have ht : σ.toks = [] := by simpa using hnil
    refine ⟨σ.adv, ?_, by simp [PState.adv, ht], by simp⟩
    simp only [parseDefinitions, bind_run, skipEOF, ht, if_true, pure_run]
  | cons hx _ ih =>
    intro σ k hσ hnil hk
    subst hσ
    obtain ⟨k', rfl⟩ : ∃ k', k = k' + 1 := ⟨k - 1, by simp at hk; omega⟩
    obtain ⟨σ', h1, h2, h3⟩ := ih (σ.at _) k' rfl hnil (by simp at hk; omega)
    have hne := (ddefinition_steps hx).ne
    have hs : skipEOF σ = .ok (false, σ) := by
      unfold skipEOF
      cases ht : σ.toks with
      | nil => simp [PState.pos, ht] at hne
      | cons _ _ => rfl
    refine ⟨σ', ?_, by simpa using h2, by simpa using h3⟩
    simp only [parseDefinitions, bind_run, hs, Bool.false_eq_true, if_false, parseDefinition_cmp σ _ _ hx, h1, pure_run]

/-- soundness of the whole parser: what M accepts without going through a malformed type reference is a
document of the grammar, with exactly the AST (locations included) the productions define -/
theorem parseToks_sound {toks : List Token} {eofPos : Nat} {d : Document}
    (h : parseToks toks eofPos = .ok ⟨d, false⟩) : DerivesDoc toks eofPos d := by
  unfold parseToks at h
  cases hp : parseDocument (initState toks eofPos) with
  | error e => simp [hp] at h
  | ok r =>
    obtain ⟨d', σ'⟩ := r
    simp only [hp, Except.ok.injEq, Parsed.mk.injEq] at h
    obtain ⟨rfl, hb⟩ := h
    simp only [parseDocument, bind_ok, cur_run, loopFuel_run, Except.ok.injEq, Prod.mk.injEq] at hp
    obtain ⟨_, _, ⟨rfl, rfl⟩, k, _, ⟨rfl, rfl⟩, defs, σ1, hdefs, hp⟩ := hp
    split at hp
    · simp at hp
    · rename_i hne
      simp only [bind_ok, loc_run, pure_ok, Except.ok.injEq, Prod.mk.injEq] at hp
      obtain ⟨l, _, ⟨rfl, rfl⟩, rfl, rfl⟩ := hp
      obtain ⟨e, hM, hpe, _⟩ := parseDefinitions_snd _ _ _ _ hdefs hb
      have hne' : defs ≠ [] := by intro he; subst he; simp at hne
      have hst : (initState toks eofPos).cur.start = (Pos.mk 0 toks).start :=
        (pos_start_eq (σ := initState toks eofPos) (manyDefinitions_ne hM hne')).symm
      have := DerivesDoc.mk (eofPos := eofPos) hM hne'
      rw [hst, hpe]
      exact this

/-- completeness of the whole parser: every document of the grammar is accepted by M, with the AST the
productions define and without raising the malformed-type-reference flag -/
theorem parseToks_complete {toks : List Token} {eofPos : Nat} {d : Document} (h : DerivesDoc toks eofPos d) :
    parseToks toks eofPos = .ok ⟨d, false⟩ := by
  cases h with
  | @mk defs e hM hne =>
    have hle := many_le (fun _ _ _ => ddefinition_lt) hM
    obtain ⟨σ', h1, h2, h3⟩ := parseDefinitions_cmp hM (initState toks eofPos) (toks.length + 1) rfl rfl
      (by simp at hle; omega)
    have hst : (initState toks eofPos).cur.start = (Pos.mk 0 toks).start :=
      (pos_start_eq (σ := initState toks eofPos) (manyDefinitions_ne hM hne)).symm
    have hemp : defs.isEmpty = false := by
      cases defs with
      | nil => exact absurd rfl hne
      | cons _ _ => rfl
    have h1' : parseDefinitions ((initState toks eofPos).toks.length + 1) (initState toks eofPos) = .ok (defs, σ') := h1
    simp only [parseToks, parseDocument, bind_run, cur_run, loopFuel_run, h1', hemp, Bool.false_eq_true, if_false, loc_run,
      pure_run, hst, h2, h3]
    rfl

end GqlModel.Parser
