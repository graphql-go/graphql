import GqlProofs.LexerStrChars
import GqlModel.LexerQuote
/-! The string core of the print/parse round trip: what `quoteString` writes is a StringValue of the grammar with the quoted
byte string as its value, so the grammar's scan reads it back (for the library's reader: `unquote_quote`, Props/C03Lexer). -/
namespace GqlModel.Lexer
open GqlModel.Lexer.Spec

/-- `\u00XY` for a control byte or DEL decodes to that byte -/
theorem escapedUnicode_hex : ∀ n : Fin 256, (n.val < 32 ∨ n.val = 127) →
    escapedUnicode 48 48 (hexDigit (n.val / 16)) (hexDigit (n.val % 16)) = some [UInt8.ofNat n.val] := by
  decide +kernel

theorem escapedUnicode_hexDigit (b : UInt8) (h : b.toNat < 32 ∨ b = 127) :
    escapedUnicode 48 48 (hexDigit (b.toNat / 16)) (hexDigit (b.toNat % 16)) = some [b] := by
  have := escapedUnicode_hex ⟨b.toNat, b.toNat_lt⟩ (h.imp id fun h => by rw [h]; rfl)
  rwa [UInt8.ofNat_toNat] at this

/-- what `quoteByte` writes for `b` is a StringCharacter of the grammar with value `b` -/
theorem quoteByte_strChar (b : UInt8) : StrChar (quoteByte b) [b] := by
  unfold quoteByte
  by_cases h1 : b = 34; · subst h1; exact .esc 34 34 rfl
  by_cases h2 : b = 92; · subst h2; exact .esc 92 92 rfl
  by_cases h3 : b = 8; · subst h3; exact .esc 98 8 rfl
  by_cases h4 : b = 12; · subst h4; exact .esc 102 12 rfl
  by_cases h5 : b = 10; · subst h5; exact .esc 110 10 rfl
  by_cases h6 : b = 13; · subst h6; exact .esc 114 13 rfl
  by_cases h7 : b = 9; · subst h7; exact .esc 116 9 rfl
  rw [if_neg h1, if_neg h2, if_neg h3, if_neg h4, if_neg h5, if_neg h6, if_neg h7]
  by_cases h8 : b.toNat < 32 ∨ b = 127
  · rw [if_pos h8]; exact .uni 48 48 _ _ [b] (escapedUnicode_hexDigit b h8)
  · rw [if_neg h8]
    exact .plain b h1 h2 h5 h6 (.inl (Nat.le_of_not_lt fun h => h8 (.inl h)))

theorem quoteBody_strChars (s : Bytes) : StrChars (quoteBody s) s := by
  induction s with
  | nil => exact .nil
  | cons b bs ih => exact .cons (quoteByte_strChar b) ih

theorem stringBody_quoteBody (s rest : Bytes) :
    stringBody (quoteBody s ++ 34 :: rest) = .ok ((quoteBody s).length + 1, s) :=
  stringBody_complete (quoteBody_strChars s) rest

/-- the first byte of an escaped byte is never a quote: it is the backslash, or the byte itself when that is copied -/
theorem quoteByte_head (b : UInt8) : ∃ x xs, quoteByte b = x :: xs ∧ x ≠ 34 := by
  have esc : (92 : UInt8) ≠ 34 := by decide
  have step : ∀ (c : Prop) [Decidable c] (t e : Bytes), (∃ x xs, e = x :: xs ∧ x ≠ 34) →
      ∃ x xs, (if c then 92 :: t else e) = x :: xs ∧ x ≠ 34 := by
    intro c _ t e he
    by_cases h : c
    · exact ⟨92, t, if_pos h, esc⟩
    · rw [if_neg h]; exact he
  unfold quoteByte
  by_cases h1 : b = 34
  · exact ⟨92, [34], if_pos h1, esc⟩
  · rw [if_neg h1]
    iterate 7 refine step _ _ _ ?_
    exact ⟨b, [], rfl, h1⟩

theorem quoteBody_eq_nil {s : Bytes} (e : quoteBody s = []) : s = [] := by
  match s with
  | [] => rfl
  | b :: bs =>
    obtain ⟨x, xs, hx, -⟩ := quoteByte_head b
    rw [quoteBody, hx] at e; cases e

end GqlModel.Lexer
