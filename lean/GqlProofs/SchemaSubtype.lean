import GqlModel.SchemaBuild
import GqlProofs.ListCount
/-! C11: `isTypeSubTypeOf` is a preorder on type references, whatever `IsPossibleType` answers, and consults it only for
an object below an abstract type (`isSubType_congr`, `conformsTo_congr`). -/
namespace GqlModel.SchemaBuild

theorem isSubType_refl (k : Nat → Kind) (p : Nat → Nat → Bool) : ∀ t, isSubType k p t t = true := by
  intro t
  induction t with
  | nil => simp [isSubType]
  | nilPtr _ => simp [isSubType]
  | ref i => simp [isSubType]
  | list a ih => simpa [isSubType] using ih
  | nonNull a ih => simpa [isSubType] using ih

theorem isSubType_nonNull_left (k : Nat → Kind) (p : Nat → Nat → Bool) (a c : TRef) (hc : ∀ c', c ≠ .nonNull c') :
    isSubType k p (.nonNull a) c = isSubType k p a c := by
  cases c with
  | nonNull c' => exact absurd rfl (hc c')
  | nil => simp [isSubType]
  | nilPtr _ => simp [isSubType]
  | ref _ => simp [isSubType]
  | list _ => simp [isSubType]

theorem isSubType_nonNull_right (k : Nat → Kind) (p : Nat → Nat → Bool) (b c : TRef) (hb : ∀ b', b ≠ .nonNull b') :
    isSubType k p b (.nonNull c) = false := by
  cases b with
  | nonNull b' => exact absurd rfl (hb b')
  | nil => simp [isSubType]
  | nilPtr _ => simp [isSubType]
  | ref _ => simp [isSubType]
  | list _ => simp [isSubType]

theorem isSubType_trans (k : Nat → Kind) (p : Nat → Nat → Bool) : ∀ a b c,
    isSubType k p a b = true → isSubType k p b c = true → isSubType k p a c = true := by
  intro a
  induction a with
  | nil => intro b c h1 h2; cases b <;> cases c <;> simp_all [isSubType]
  | nilPtr _ => intro b c h1 h2; cases b <;> cases c <;> simp_all [isSubType]
  | ref i =>
    intro b c h1 h2
    cases b <;> cases c <;> simp [isSubType] at h1 h2 ⊢
    rename_i j l
    rcases h1 with rfl | ⟨⟨hj, hi⟩, hp⟩
    · exact h2
    · rcases h2 with rfl | ⟨⟨hl, hj'⟩, _⟩
      · exact Or.inr ⟨⟨hj, hi⟩, hp⟩
      · rw [hj'] at hj; cases hj
  | list a ih =>
    intro b c h1 h2
    cases b <;> cases c <;> simp [isSubType] at h1 h2 ⊢
    exact ih _ _ h1 h2
  | nonNull a ih =>
    intro b c h1 h2
    by_cases hb : ∃ b', b = .nonNull b'
    · obtain ⟨b', rfl⟩ := hb
      have h1' : isSubType k p a b' = true := by simpa [isSubType] using h1
      by_cases hc : ∃ c', c = .nonNull c'
      · obtain ⟨c', rfl⟩ := hc
        have h2' : isSubType k p b' c' = true := by simpa [isSubType] using h2
        simpa [isSubType] using ih b' c' h1' h2'
      · have hc' : ∀ c', c ≠ .nonNull c' := fun c' h => hc ⟨c', h⟩
        rw [isSubType_nonNull_left k p b' c hc'] at h2
        rw [isSubType_nonNull_left k p a c hc']
        exact ih b' c h1' h2
    · have hb' : ∀ b', b ≠ .nonNull b' := fun b' h => hb ⟨b', h⟩
      rw [isSubType_nonNull_left k p a b hb'] at h1
      by_cases hc : ∃ c', c = .nonNull c'
      · obtain ⟨c', rfl⟩ := hc
        rw [isSubType_nonNull_right k p b c' hb'] at h2
        cases h2
      · have hc' : ∀ c', c ≠ .nonNull c' := fun c' h => hc ⟨c', h⟩
        rw [isSubType_nonNull_left k p a c hc']
        exact ih b c h1 h2

theorem strip_nonNull_named {a : TRef} {x : Nat} (h : a.strip = .named x) : (TRef.nonNull a).strip = .named x := by
  simp [TRef.strip, h]
theorem strip_list_named {a : TRef} {x : Nat} (h : a.strip = .named x) : (TRef.list a).strip = .named x := by
  simp [TRef.strip, h]

theorem isSubType_congr (k : Nat → Kind) (p1 p2 : Nat → Nat → Bool) : ∀ (t1 t2 : TRef),
    (∀ a o, t1.strip = .named o → t2.strip = .named a → (k a).isAbstract = true → k o = .object → p1 a o = p2 a o) →
    isSubType k p1 t1 t2 = isSubType k p2 t1 t2 := by
  intro t1
  induction t1 with
  | nil => intro t2 _; cases t2 <;> simp [isSubType]
  | nilPtr _ => intro t2 _; cases t2 <;> simp [isSubType]
  | ref i =>
    intro t2 H
    cases t2 with
    | ref j =>
      simp only [isSubType]
      by_cases hc : (k j).isAbstract = true ∧ k i = .object
      · rw [H j i rfl rfl hc.1 hc.2]
      · by_cases h1 : (k j).isAbstract = true
        · have : (k i == Kind.object) = false := by
            simp only [beq_eq_false_iff_ne, ne_eq]; exact fun h => hc ⟨h1, h⟩
          simp [this]
        · simp [h1]
    | nil => simp [isSubType]
    | nilPtr _ => simp [isSubType]
    | list _ => simp [isSubType]
    | nonNull _ => simp [isSubType]
  | list a ih =>
    intro t2 H
    cases t2 with
    | list b =>
      simp only [isSubType]
      exact ih b (fun x o ho hx => H x o (strip_list_named ho) (strip_list_named hx))
    | nil => simp [isSubType]
    | nilPtr _ => simp [isSubType]
    | ref _ => simp [isSubType]
    | nonNull _ => simp [isSubType]
  | nonNull a ih =>
    intro t2 H
    cases t2 with
    | nonNull b =>
      simp only [isSubType]
      exact ih b (fun x o ho hx => H x o (strip_nonNull_named ho) (strip_nonNull_named hx))
    | nil => simp only [isSubType]; exact ih _ (fun x o ho hx => H x o (strip_nonNull_named ho) hx)
    | nilPtr _ => simp only [isSubType]; exact ih _ (fun x o ho hx => H x o (strip_nonNull_named ho) hx)
    | ref _ => simp only [isSubType]; exact ih _ (fun x o ho hx => H x o (strip_nonNull_named ho) hx)
    | list _ => simp only [isSubType]; exact ih _ (fun x o ho hx => H x o (strip_nonNull_named ho) hx)

/-- the same for `assertObjectImplementsInterface`, at the field types of the interface and of the object -/
theorem conformsTo_congr (k : Nat → Kind) (p1 p2 : Nat → Nat → Bool) (ot it : BType)
    (h : ∀ ofield ∈ ot.fields, ∀ f ∈ it.fields, ∀ a x, ofield.type.strip = .named x → f.type.strip = .named a →
      (k a).isAbstract = true → k x = .object → p1 a x = p2 a x) :
    conformsTo k p1 ot it = conformsTo k p2 ot it := by
  unfold conformsTo
  apply findSome?_congr
  intro f hf
  unfold fieldConforms
  cases hfind : ot.fields.find? (fun g => g.name == f.name) with
  | none => rfl
  | some ofield =>
    simp only [isSubType_congr k p1 p2 ofield.type f.type fun a x hx ha hka hkx =>
      h ofield (List.mem_of_find?_eq_some hfind) f hf a x hx ha hka hkx]

end GqlModel.SchemaBuild
