import GqlProofs.ExecStep
/-! The run of a call: the result together with what the call appends to the state, i.e. what it returns from the empty
state and the empty accumulator. The state (errors, log, known-finding marks) is write-only and the accumulators only
grow, so a call from any accumulator and state is its run placed on top of them (`*_eq_run`), and the run of a call is
put together from the runs of its callees by a handful of operations on runs: one equation per static case
(`fieldOf_cases`, `shape`). The operations are the finished-run forms of those of `ExecProgram`: `Run.absorb` of
`recover · (absorbAt …)`, `Run.nonNull` of `nonNullGuardS`, `Run.markFail` of the `recover` in `complete_thunk`,
`Run.mapOk` of a final `.ok (wrap ·)`. -/
namespace GqlModel.Exec
open GqlModel.Plan

/-- `d.app st`: the state `st` after the additions `d` -/
def St.app (d st : St) : St := ⟨d.errs ++ st.errs, d.log ++ st.log, d.kfThunk ++ st.kfThunk⟩

theorem St.empty_app (st : St) : St.empty.app st = st := by cases st; rfl
theorem St.app_empty (d : St) : d.app St.empty = d := by cases d; simp [St.app, St.empty]
theorem St.app_assoc (a b st : St) : a.app (b.app st) = (a.app b).app st := by
  simp [St.app, List.append_assoc]
theorem addErr_app (d st : St) (p : Path) (b : Bool) : addErr (d.app st) p b = (addErr d p b).app st := by
  simp [addErr, St.app]

theorem kfMark_app (t : GType) (p : Path) (d st : St) : kfMark t p (d.app st) = (kfMark t p d).app st := by
  unfold kfMark St.app
  cases t.isNonNull <;> rfl

theorem logCall_eq_app (e : LogEntry) (st : St) : logCall e st = (logCall e St.empty).app st := rfl

theorem mapOk_mapOk {α β γ : Type} (f : α → β) (g : β → γ) (r : Res α) :
    (r.mapOk f).mapOk g = r.mapOk (fun a => g (f a)) := by
  cases r <;> rfl

abbrev Run (α : Type) := Res α × St

namespace Run
variable {α β : Type}

def mapOk (f : α → β) (o : Run α) : Run β := (o.1.mapOk f, o.2)

def after (o : Run α) (d0 : St) : Run α := (o.1, o.2.app d0)

/-- the head gave `s`; if that is a value the rest, which gave `rr`, is executed and `mk` puts the two together -/
def andThen (mk : JVal → α → α) (s : Run JVal) (rr : Run α) : Run α :=
  match s.1 with
  | .ok y => (rr.1.mapOk (mk y), rr.2.app s.2)
  | .fail => (.fail, s.2)
  | .fuelOut => (.fuelOut, s.2)

def absorb (t : GType) (o : Run JVal) : Run JVal := (Exec.absorb t o.1, o.2)

def nonNull (p : Path) (dfr : Bool) (o : Run JVal) : Run JVal :=
  match o.1 with
  | .ok .null => (.fail, addErr o.2 p dfr)
  | _ => o

def markFail (t : GType) (p : Path) (o : Run JVal) : Run JVal :=
  match o.1 with
  | .fail => (.fail, kfMark t p o.2)
  | _ => o

theorem log_head_subset (mk : JVal → α → α) (s : Run JVal) (rr : Run α) : s.2.log ⊆ (andThen mk s rr).2.log := by
  obtain ⟨r, d⟩ := s
  cases r with
  | ok y => exact List.subset_append_right _ _
  | _ => exact List.Subset.refl _

theorem log_rest_subset (mk : JVal → α → α) {s : Run JVal} {y : JVal} (hy : s.1 = .ok y) (rr : Run α) :
    rr.2.log ⊆ (andThen mk s rr).2.log := by
  obtain ⟨r, d⟩ := s
  cases hy
  exact List.subset_append_left _ _

theorem markFail_log (t : GType) (p : Path) (o : Run JVal) : (markFail t p o).2.log = o.2.log := by
  obtain ⟨r, d⟩ := o
  cases r <;> rfl

theorem nonNull_log (p : Path) (dfr : Bool) (o : Run JVal) : (nonNull p dfr o).2.log = o.2.log := by
  unfold nonNull
  split <;> rfl

theorem andThen_congr {mk : JVal → α → α} {s s' : Run JVal} {rr rr' : Run α} (hs : s' = s)
    (hr : ∀ y, s.1 = .ok y → rr' = rr) : andThen mk s' rr' = andThen mk s rr := by
  subst hs
  obtain ⟨r, d⟩ := s'
  cases r with
  | ok y => rw [hr y rfl]
  | _ => rfl

theorem andThen_eq_ok {mk : JVal → α → α} {s : Run JVal} {rr : Run α} {a : α} {d : St}
    (h : andThen mk s rr = (.ok a, d)) :
    ∃ y ds m dr, s = (.ok y, ds) ∧ rr = (.ok m, dr) ∧ a = mk y m ∧ d = dr.app ds := by
  obtain ⟨r, ds⟩ := s
  obtain ⟨rr1, dr⟩ := rr
  cases r with
  | ok y =>
    obtain ⟨h1, h2⟩ := Prod.mk.inj h
    obtain ⟨m, rfl, rfl⟩ := Res.mapOk_ok_cases h1
    exact ⟨y, ds, m, dr, rfl, rfl, rfl, h2.symm⟩
  | fail => cases h
  | fuelOut => cases h

theorem andThen_head_fuelOut {mk : JVal → α → α} {s : Run JVal} (rr : Run α) (h : s.1 = .fuelOut) :
    (andThen mk s rr).1 = .fuelOut := by
  obtain ⟨r, d⟩ := s
  subst h
  rfl

theorem andThen_rest_fuelOut {mk : JVal → α → α} {s : Run JVal} {y : JVal} {rr : Run α}
    (hy : s.1 = .ok y) (h : rr.1 = .fuelOut) : (andThen mk s rr).1 = .fuelOut := by
  obtain ⟨r, d⟩ := s
  subst hy
  show rr.1.mapOk _ = _
  rw [h]; rfl

end Run

/-- `Run.nonNull` on the result alone -/
def Res.nonNull : Res JVal → Res JVal
  | .ok .null => .fail
  | r => r

theorem Res.nonNull_of_ne {r : Res JVal} (h : r ≠ .ok .null) : Res.nonNull r = r := by
  unfold Res.nonNull
  split
  · exact absurd rfl h
  · rfl

/-- the result of a container built by `mk` whose head gave `s` (a failure is passed on) and whose remainder gave
`rr` (`Run.andThen` on the results alone) -/
def Res.andThen {α : Type} (mk : JVal → α → JVal) (s : Res JVal) (rr : Res α) : Res JVal :=
  match s with
  | .ok y => rr.mapOk (mk y)
  | .fail => .fail
  | .fuelOut => .fuelOut

theorem Run.andThen_mapOk {α : Type} (mk : JVal → α → α) (g : α → JVal) (s : Run JVal) (rr : Run α) :
    (Run.andThen mk s rr).1.mapOk g = Res.andThen (fun y m => g (mk y m)) s.1 rr.1 := by
  obtain ⟨r, d⟩ := s
  cases r with
  | ok y => exact mapOk_mapOk _ _ _
  | _ => rfl

theorem Run.nonNull_fst (p : Path) (dfr : Bool) (o : Run JVal) : (o.nonNull p dfr).1 = Res.nonNull o.1 := by
  obtain ⟨r, d⟩ := o
  cases r with
  | ok j => cases j <;> rfl
  | _ => rfl

theorem Run.nonNull_ok {p : Path} {dfr : Bool} {o : Run JVal} {j : JVal} (h : (o.nonNull p dfr).1 = .ok j) :
    o.1 = .ok j ∧ (o.nonNull p dfr).2 = o.2 := by
  obtain ⟨r, d⟩ := o
  cases r with
  | ok j' => cases j' <;> first | exact ⟨h, rfl⟩ | cases h
  | _ => cases h

theorem Run.markFail_fst (t : GType) (p : Path) (o : Run JVal) : (o.markFail t p).1 = o.1 := by
  obtain ⟨r, d⟩ := o
  cases r <;> rfl

theorem Run.markFail_ok {t : GType} {p : Path} {o : Run JVal} {j : JVal} (h : o.1 = .ok j) :
    (o.markFail t p).2 = o.2 := by
  obtain ⟨r, d⟩ := o
  cases h
  rfl

section runs
variable (c : Ctx) (fuel : Nat) (dfr : Bool)

def runGroups (rt : String) (src : GoVal) (path : Path) (groups : Groups) : Run (List (String × JVal)) :=
  execGroups c fuel dfr rt src path groups [] St.empty

def runField (rt : String) (src : GoVal) (p : Path) (fd : FieldDefS) (nodes : List FieldNode) : Run JVal :=
  execField c fuel dfr rt src p fd nodes St.empty

def runComplete (t : GType) (rt fname : String) (nodes : List FieldNode) (p : Path) (v : GoVal) : Run JVal :=
  complete c fuel dfr t rt fname nodes p v St.empty

def runItems (item : GType) (rt fname : String) (nodes : List FieldNode) (p : Path) (xs : List GoVal) (i : Nat) :
    Run (List JVal) :=
  completeItems c fuel dfr item rt fname nodes p xs i [] St.empty
end runs

structure Frame (c : Ctx) (fuel : Nat) : Prop where
  groups : ∀ dfr rt src path groups acc st, execGroups c fuel dfr rt src path groups acc st =
    ((execGroups c fuel dfr rt src path groups [] St.empty).1.mapOk (acc ++ ·),
      (execGroups c fuel dfr rt src path groups [] St.empty).2.app st)
  field : ∀ dfr rt src p fd nodes st, execField c fuel dfr rt src p fd nodes st =
    ((execField c fuel dfr rt src p fd nodes St.empty).1, (execField c fuel dfr rt src p fd nodes St.empty).2.app st)
  complete : ∀ dfr t rt fname nodes p v st, complete c fuel dfr t rt fname nodes p v st =
    ((complete c fuel dfr t rt fname nodes p v St.empty).1, (complete c fuel dfr t rt fname nodes p v St.empty).2.app st)
  items : ∀ dfr item rt fname nodes p xs i acc st, completeItems c fuel dfr item rt fname nodes p xs i acc st =
    ((completeItems c fuel dfr item rt fname nodes p xs i [] St.empty).1.mapOk (acc ++ ·),
      (completeItems c fuel dfr item rt fname nodes p xs i [] St.empty).2.app st)

/-- Both sides unfold by the same equation; the callees, by induction, are their runs on top of the state they are
given, and the additions compose (`St.app_assoc`). -/
theorem frame_succ {c : Ctx} {fuel : Nat} (ih : Frame c fuel) : Frame c (fuel + 1) where
  groups := by
    intro dfr rt src path groups acc st
    cases groups with
    | nil => rw [execGroups_nil, execGroups_nil, St.empty_app]; simp only [Res.mapOk, List.append_nil]
    | cons g rest =>
      obtain ⟨k, nodes⟩ := g
      rcases fieldOf_cases c.schema rt nodes with hno | ⟨node, fd, hh, hfd⟩
      · rw [execGroups_skip hno, execGroups_skip hno]
        exact ih.groups _ _ _ _ _ _ _
      · rw [execGroups_field hh hfd, execGroups_field hh hfd, ih.field _ _ _ _ _ _ st]
        generalize execField c fuel dfr rt src (path ++ [.key k]) fd nodes St.empty = F
        obtain ⟨rf, df⟩ := F
        cases rf with
        | ok v =>
          simp only [andThen_ok]
          rw [ih.groups _ _ _ _ rest (acc ++ [(k, v)]), ih.groups _ _ _ _ rest ([] ++ [(k, v)]) df]
          simp only [mapOk_mapOk, St.app_assoc, List.append_assoc, List.nil_append]
        | fail => rfl
        | fuelOut => rfl
  field := by
    intro dfr rt src p fd nodes st
    cases hn : fd.name == "__typename" with
    | true => rw [execField_typename hn, execField_typename hn, St.empty_app]
    | false =>
      cases ho : c.world.outcome src fd.name with
      | fail => rw [execField_fails hn ho, execField_fails hn ho, logCall_eq_app, addErr_app]
      | value v =>
        rw [execField_value hn ho, execField_value hn ho, ih.complete _ _ _ _ _ _ _ (logCall _ st),
          ih.complete _ _ _ _ _ _ _ (logCall _ St.empty), logCall_eq_app _ st, St.app_assoc]
  complete := by
    intro dfr t rt fname nodes p v st
    cases hfn : funcOf v with
    | some r =>
      cases v with
      | thunk r =>
        cases r with
        | err => rw [complete_thunkErr, complete_thunkErr, ← kfMark_app, ← addErr_app, St.empty_app]
        | ok v' =>
          rw [complete_thunk, complete_thunk, ih.complete _ _ _ _ _ _ _ st]
          generalize complete c fuel true t rt fname nodes p v' St.empty = C
          obtain ⟨rc, dc⟩ := C
          cases rc with
          | fail => simp only [recover_fail, kfMark_app]
          | _ => rfl
      | badFunc => rw [complete_badFunc, complete_badFunc, ← kfMark_app, ← addErr_app, St.empty_app]
      | _ => cases hfn
    | none =>
      rw [complete_succ hfn, complete_succ hfn]
      cases shape c t v with
      | nonNull inner =>
        simp only
        rw [ih.complete _ _ _ _ _ _ _ st]
        generalize complete c fuel dfr inner rt fname nodes p v St.empty = C
        obtain ⟨rc, dc⟩ := C
        cases rc with
        | ok j =>
          cases j with
          | null => simp only [andThen_ok, nonNullGuardS, JVal.isNull, if_true, addErr_app]
          | _ => rfl
        | _ => rfl
      | null => simp only [St.empty_app]
      | leaf j => simp only [St.empty_app]
      | error => simp only [← addErr_app, St.empty_app]
      | items item xs =>
        simp only
        rw [ih.items _ _ _ _ _ _ _ _ [] st]
        generalize completeItems c fuel dfr item rt fname nodes p xs 0 [] St.empty = I
        obtain ⟨ri, di⟩ := I
        cases ri <;> rfl
      | object ot =>
        simp only
        rw [ih.groups _ _ _ _ _ [] st]
        generalize execGroups c fuel dfr ot v p (collectMerged c ot nodes) [] St.empty = G
        obtain ⟨rg, dg⟩ := G
        cases rg <;> rfl
  items := by
    intro dfr item rt fname nodes p xs i acc st
    cases xs with
    | nil => rw [completeItems_nil, completeItems_nil, St.empty_app]; simp only [Res.mapOk, List.append_nil]
    | cons x xs =>
      rw [completeItems_cons, completeItems_cons, ih.complete _ _ _ _ _ _ _ st]
      generalize complete c fuel dfr item rt fname nodes (p ++ [.idx i]) x St.empty = C
      obtain ⟨rc, dc⟩ := C
      -- the rest, executed after the head stored `y`
      have hgo : ∀ y : JVal, completeItems c fuel dfr item rt fname nodes p xs (i + 1) (acc ++ [y]) (dc.app st) =
          ((completeItems c fuel dfr item rt fname nodes p xs (i + 1) ([] ++ [y]) dc).1.mapOk (acc ++ ·),
            (completeItems c fuel dfr item rt fname nodes p xs (i + 1) ([] ++ [y]) dc).2.app st) := by
        intro y
        rw [ih.items _ _ _ _ _ _ xs _ (acc ++ [y]), ih.items _ _ _ _ _ _ xs _ ([] ++ [y]) dc]
        simp only [mapOk_mapOk, St.app_assoc, List.append_assoc, List.nil_append]
      cases rc with
      | ok y => exact hgo y
      | fuelOut => rfl
      | fail =>
        cases item.isNonNull with
        | true => rfl
        | false => exact hgo .null

theorem frame (c : Ctx) : ∀ fuel, Frame c fuel
  | 0 => ⟨fun _ _ _ _ _ _ _ => by rw [execGroups_zero, execGroups_zero, St.empty_app]; rfl,
    fun _ _ _ _ _ _ _ => by rw [execField_zero, execField_zero, St.empty_app],
    fun _ _ _ _ _ _ _ _ => by rw [complete_zero, complete_zero, St.empty_app],
    fun _ _ _ _ _ _ _ _ _ _ => by rw [completeItems_zero, completeItems_zero, St.empty_app]; rfl⟩
  | fuel + 1 => frame_succ (frame c fuel)

section
variable {c : Ctx} {fuel : Nat} {dfr : Bool} {rt fname : String} {src : GoVal} {path p : Path} {groups rest : Groups}
  {acc : List (String × JVal)} {st : St} {fd : FieldDefS} {nodes : List FieldNode} {t item : GType} {v : GoVal}
  {xs : List GoVal} {i : Nat} {jacc : List JVal} {k : String} {node : FieldNode}

theorem execGroups_eq_run : execGroups c fuel dfr rt src path groups acc st =
    ((runGroups c fuel dfr rt src path groups).mapOk (acc ++ ·)).after st := (frame c fuel).groups ..

theorem execField_eq_run : execField c fuel dfr rt src p fd nodes st = (runField c fuel dfr rt src p fd nodes).after st :=
  (frame c fuel).field ..

theorem complete_eq_run : complete c fuel dfr t rt fname nodes p v st =
    (runComplete c fuel dfr t rt fname nodes p v).after st := (frame c fuel).complete ..

theorem completeItems_eq_run : completeItems c fuel dfr item rt fname nodes p xs i jacc st =
    ((runItems c fuel dfr item rt fname nodes p xs i).mapOk (jacc ++ ·)).after st := (frame c fuel).items ..

theorem execGroups_ok_run {fs : List (String × JVal)} {st' : St}
    (h : execGroups c fuel dfr rt src path groups acc st = (.ok fs, st')) :
    ∃ m d, runGroups c fuel dfr rt src path groups = (.ok m, d) ∧ fs = acc ++ m ∧ st' = d.app st := by
  rw [execGroups_eq_run] at h
  obtain ⟨h1, h2⟩ := Prod.mk.inj h
  obtain ⟨m, hm, rfl⟩ := Res.mapOk_ok_cases h1
  exact ⟨m, _, Prod.ext hm rfl, rfl, h2.symm⟩

theorem completeItems_ok_run {js : List JVal} {st' : St}
    (h : completeItems c fuel dfr item rt fname nodes p xs i jacc st = (.ok js, st')) :
    ∃ m d, runItems c fuel dfr item rt fname nodes p xs i = (.ok m, d) ∧ js = jacc ++ m ∧ st' = d.app st := by
  rw [completeItems_eq_run] at h
  obtain ⟨h1, h2⟩ := Prod.mk.inj h
  obtain ⟨m, hm, rfl⟩ := Res.mapOk_ok_cases h1
  exact ⟨m, _, Prod.ext hm rfl, rfl, h2.symm⟩

theorem runGroups_zero : runGroups c 0 dfr rt src path groups = (.fuelOut, St.empty) := execGroups_zero
theorem runField_zero : runField c 0 dfr rt src p fd nodes = (.fuelOut, St.empty) := execField_zero
theorem runComplete_zero : runComplete c 0 dfr t rt fname nodes p v = (.fuelOut, St.empty) := complete_zero
theorem runItems_zero : runItems c 0 dfr item rt fname nodes p xs i = (.fuelOut, St.empty) := completeItems_zero

theorem runGroups_nil : runGroups c (fuel + 1) dfr rt src path [] = (.ok [], St.empty) := execGroups_nil

theorem runGroups_skip (hno : ∀ node fd, nodes.head? = some node → fieldDef? c.schema rt node.name ≠ some fd) :
    runGroups c (fuel + 1) dfr rt src path ((k, nodes) :: rest) = runGroups c fuel dfr rt src path rest :=
  execGroups_skip hno

theorem runGroups_cons (hh : nodes.head? = some node) (hfd : fieldDef? c.schema rt node.name = some fd) :
    runGroups c (fuel + 1) dfr rt src path ((k, nodes) :: rest) =
      (runField c fuel dfr rt src (path ++ [.key k]) fd nodes).andThen (fun y m => (k, y) :: m)
        (runGroups c fuel dfr rt src path rest) := by
  refine (execGroups_field hh hfd).trans ?_
  -- left: the program's `andThen` with the continuation framed by `execGroups_eq_run`; right: `Run.andThen`
  show andThen (runField c fuel dfr rt src (path ++ [PathSeg.key k]) fd nodes) _ = _
  generalize runField c fuel dfr rt src (path ++ [PathSeg.key k]) fd nodes = o
  obtain ⟨_ | _ | _, df⟩ := o
  · exact execGroups_eq_run
  · rfl
  · rfl

theorem runItems_nil : runItems c (fuel + 1) dfr item rt fname nodes p [] i = (.ok [], St.empty) := completeItems_nil

theorem runItems_cons {x : GoVal} : runItems c (fuel + 1) dfr item rt fname nodes p (x :: xs) i =
    ((runComplete c fuel dfr item rt fname nodes (p ++ [.idx i]) x).absorb item).andThen (fun y js => y :: js)
      (runItems c fuel dfr item rt fname nodes p xs (i + 1)) := by
  refine (completeItems_cons.trans ?_)
  rw [recover_absorbAt]
  show andThen (Run.absorb item (runComplete c fuel dfr item rt fname nodes (p ++ [PathSeg.idx i]) x)) _ = _
  generalize Run.absorb item (runComplete c fuel dfr item rt fname nodes (p ++ [PathSeg.idx i]) x) = o
  obtain ⟨_ | _ | _, dc⟩ := o
  · exact completeItems_eq_run
  · rfl
  · rfl

theorem runField_typename (hn : (fd.name == "__typename") = true) :
    runField c (fuel + 1) dfr rt src p fd nodes = (.ok (.str rt), St.empty) := execField_typename hn

theorem runField_fails (hn : (fd.name == "__typename") = false) (ho : c.world.outcome src fd.name = .fail) :
    runField c (fuel + 1) dfr rt src p fd nodes =
      (absorb fd.type .fail, addErr (logCall (callEntry c dfr rt src p fd nodes) St.empty) p dfr) :=
  execField_fails hn ho

theorem runField_value (hn : (fd.name == "__typename") = false) (ho : c.world.outcome src fd.name = .value v) :
    runField c (fuel + 1) dfr rt src p fd nodes =
      ((runComplete c fuel dfr fd.type rt fd.name nodes p v).absorb fd.type).after
        (logCall (callEntry c dfr rt src p fd nodes) St.empty) := by
  refine (execField_value hn ho).trans ?_
  rw [complete_eq_run]
  rfl

theorem runComplete_thunkErr : runComplete c (fuel + 1) dfr t rt fname nodes p (.thunk .err) =
    (.fail, kfMark t p (addErr St.empty p true)) := complete_thunkErr

theorem runComplete_badFunc : runComplete c (fuel + 1) dfr t rt fname nodes p .badFunc =
    (.fail, kfMark t p (addErr St.empty p true)) := complete_badFunc

theorem runComplete_thunk : runComplete c (fuel + 1) dfr t rt fname nodes p (.thunk (.ok v)) =
    (runComplete c fuel true t rt fname nodes p v).markFail t p := by
  refine complete_thunk.trans ?_
  show recover (runComplete c fuel true t rt fname nodes p v) _ = _
  generalize runComplete c fuel true t rt fname nodes p v = o
  obtain ⟨_ | _ | _, dc⟩ := o <;> rfl

theorem runComplete_succ (hf : v.isFunc = false) : runComplete c (fuel + 1) dfr t rt fname nodes p v =
    match shape c t v with
    | .nonNull inner => (runComplete c fuel dfr inner rt fname nodes p v).nonNull p dfr
    | .null => (.ok .null, St.empty)
    | .items item xs => (runItems c fuel dfr item rt fname nodes p xs 0).mapOk .list
    | .leaf j => (.ok j, St.empty)
    | .object ot => (runGroups c fuel dfr ot v p (collectMerged c ot nodes)).mapOk .obj
    | .error => (.fail, addErr St.empty p dfr) := by
  refine (complete_succ (funcOf_eq_none_iff.mpr hf)).trans ?_
  cases shape c t v with
  | nonNull inner =>
    show andThen (runComplete c fuel dfr inner rt fname nodes p v) _ =
      Run.nonNull p dfr (runComplete c fuel dfr inner rt fname nodes p v)
    generalize runComplete c fuel dfr inner rt fname nodes p v = o
    obtain ⟨j | _ | _, dc⟩ := o
    · cases j <;> rfl
    · rfl
    · rfl
  | items item xs =>
    show andThen (runItems c fuel dfr item rt fname nodes p xs 0) _ =
      Run.mapOk JVal.list (runItems c fuel dfr item rt fname nodes p xs 0)
    generalize runItems c fuel dfr item rt fname nodes p xs 0 = o
    obtain ⟨_ | _ | _, d⟩ := o <;> rfl
  | object ot =>
    show andThen (runGroups c fuel dfr ot v p (collectMerged c ot nodes)) _ =
      Run.mapOk JVal.obj (runGroups c fuel dfr ot v p (collectMerged c ot nodes))
    generalize runGroups c fuel dfr ot v p (collectMerged c ot nodes) = o
    obtain ⟨_ | _ | _, d⟩ := o <;> rfl
  | _ => rfl

end

/-- what a call returns, and what it appends to the state, does not depend on the state it is given: the frame equations
in the form C04 states -/
structure StP (c : Ctx) (fuel : Nat) : Prop where
  groups : ∀ dfr rt src path groups acc, ∃ r d, ∀ st,
    execGroups c fuel dfr rt src path groups acc st = (r, St.app d st)
  field : ∀ dfr rt src p fd nodes, ∃ r d, ∀ st,
    execField c fuel dfr rt src p fd nodes st = (r, St.app d st)
  complete : ∀ dfr t rt fname nodes p v, ∃ r d, ∀ st,
    complete c fuel dfr t rt fname nodes p v st = (r, St.app d st)
  items : ∀ dfr item rt fname nodes p xs i acc, ∃ r d, ∀ st,
    completeItems c fuel dfr item rt fname nodes p xs i acc st = (r, St.app d st)

theorem stP (c : Ctx) (fuel : Nat) : StP c fuel :=
  ⟨fun _ _ _ _ _ _ => ⟨_, _, fun _ => execGroups_eq_run (acc := _)⟩, fun _ _ _ _ _ _ => ⟨_, _, fun _ => execField_eq_run⟩,
    fun _ _ _ _ _ _ _ => ⟨_, _, fun _ => complete_eq_run⟩,
    fun _ _ _ _ _ _ _ _ _ => ⟨_, _, fun _ => completeItems_eq_run (jacc := _)⟩⟩

theorem St.grows_of_frame {α : Type} {f : St → Res α × St} (h : ∃ r d, ∀ st, f st = (r, St.app d st)) {st st' : St}
    {r : Res α} (he : f st = (r, st')) : st.errs <:+ st'.errs ∧ st.log <:+ st'.log := by
  obtain ⟨r0, d, hd⟩ := h
  cases (hd st).symm.trans he
  exact ⟨⟨d.errs, rfl⟩, ⟨d.log, rfl⟩⟩

end GqlModel.Exec
