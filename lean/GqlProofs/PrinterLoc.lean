import GqlModel.Printer
import GqlModel.StripLoc
/-! Printing does not look at locations: every printer function gives the same text on `x` and `x.stripLoc`. -/
namespace GqlModel.Printer

theorem typeC_stripLoc : ∀ t : TypeRef, typeC t.stripLoc = typeC t
  | .named _ _ => rfl
  | .list t _ => by simp [TypeRef.stripLoc, typeC, typeC_stripLoc t]
  | .nonNull t _ => by simp [TypeRef.stripLoc, typeC, typeC_stripLoc t]

theorem optTypeC_stripLoc (t : Option TypeRef) : optTypeC (t.map TypeRef.stripLoc) = optTypeC t := by
  cases t <;> simp [optTypeC, typeC_stripLoc]

mutual
theorem valueC_stripLoc : ∀ v : Value, valueC v.stripLoc = valueC v
  | .var _ _ | .int _ _ | .float _ _ | .str _ _ | .bool _ _ | .enum _ _ => rfl
  | .list vs _ => by simp [Value.stripLoc, valueC, valuesC_stripLoc vs]
  | .obj fs _ => by simp [Value.stripLoc, valueC, fieldsC_stripLoc fs]
theorem valuesC_stripLoc : ∀ vs : List Value, valuesC (Value.stripLocList vs) = valuesC vs
  | [] => rfl
  | v :: vs => by simp [Value.stripLocList, valuesC, valueC_stripLoc v, valuesC_stripLoc vs]
theorem fieldC_stripLoc : ∀ f : ObjField, fieldC f.stripLoc = fieldC f
  | .mk n v _ => by simp [ObjField.stripLoc, fieldC, Name.stripLoc, valueC_stripLoc v]
theorem fieldsC_stripLoc : ∀ fs : List ObjField, fieldsC (ObjField.stripLocList fs) = fieldsC fs
  | [] => rfl
  | f :: fs => by simp [ObjField.stripLocList, fieldsC, fieldC_stripLoc f, fieldsC_stripLoc fs]
end

theorem optValueC_stripLoc (v : Option Value) : optValueC (v.map Value.stripLoc) = optValueC v := by
  cases v <;> simp [optValueC, valueC_stripLoc]

theorem argC_stripLoc (a : Argument) : argC a.stripLoc = argC a := by
  simp [Argument.stripLoc, argC, Name.stripLoc, valueC_stripLoc]

theorem map_argC_stripLoc : argC ∘ Argument.stripLoc = argC := funext argC_stripLoc

theorem directiveC_stripLoc (d : Directive) : directiveC d.stripLoc = directiveC d := by
  simp [Directive.stripLoc, directiveC, Name.stripLoc, map_argC_stripLoc]

theorem directivesC_stripLoc (ds : List Directive) : directivesC (ds.map Directive.stripLoc) = directivesC ds := by
  simp [directivesC, List.map_map, Function.comp_def, directiveC_stripLoc]

theorem optNameC_stripLoc (n : Option Name) : optNameC (n.map Name.stripLoc) = optNameC n := by
  cases n <;> simp [optNameC, Name.stripLoc]

mutual
theorem selectionC_stripLoc : ∀ s : Selection, selectionC s.stripLoc = selectionC s
  | .field alias name args dirs sel _ => by
    simp [Selection.stripLoc, selectionC, optNameC_stripLoc, Name.stripLoc, map_argC_stripLoc, directivesC_stripLoc,
      optSelSetC_stripLoc sel]
  | .spread name dirs _ => by simp [Selection.stripLoc, selectionC, Name.stripLoc, directivesC_stripLoc]
  | .inline tc dirs sel _ => by
    simp [Selection.stripLoc, selectionC, optTypeC_stripLoc, directivesC_stripLoc, selSetC_stripLoc sel]
theorem selSetC_stripLoc : ∀ s : SelectionSet, selSetC s.stripLoc = selSetC s
  | .mk sels _ => by simp [SelectionSet.stripLoc, selSetC, selectionsC_stripLoc sels]
theorem optSelSetC_stripLoc : ∀ s : Option SelectionSet, optSelSetC (SelectionSet.stripLocOpt s) = optSelSetC s
  | none => rfl
  | some s => by simp [SelectionSet.stripLocOpt, optSelSetC, selSetC_stripLoc s]
theorem selectionsC_stripLoc : ∀ ss : List Selection, selectionsC (Selection.stripLocList ss) = selectionsC ss
  | [] => rfl
  | s :: ss => by simp [Selection.stripLocList, selectionsC, selectionC_stripLoc s, selectionsC_stripLoc ss]
end

theorem varDefC_stripLoc (v : VarDef) : varDefC v.stripLoc = varDefC v := by
  simp [VarDef.stripLoc, varDefC, Name.stripLoc, optTypeC_stripLoc, optValueC_stripLoc]

theorem inputValueDefC_stripLoc (d : InputValueDef) : inputValueDefC d.stripLoc = inputValueDefC d := by
  simp [InputValueDef.stripLoc, inputValueDefC, Name.stripLoc, typeC_stripLoc, optValueC_stripLoc, directivesC_stripLoc]

theorem map_inputValueDefC_stripLoc : inputValueDefC ∘ InputValueDef.stripLoc = inputValueDefC :=
  funext inputValueDefC_stripLoc

theorem hasArgDesc_stripLoc (ds : List InputValueDef) : hasArgDesc (ds.map InputValueDef.stripLoc) = hasArgDesc ds := by
  simp [hasArgDesc, List.any_map, Function.comp_def, InputValueDef.stripLoc]

theorem argDefsC_stripLoc (ds : List InputValueDef) : argDefsC (ds.map InputValueDef.stripLoc) = argDefsC ds := by
  simp [argDefsC, hasArgDesc_stripLoc, map_inputValueDefC_stripLoc]

theorem fieldDefC_stripLoc (d : FieldDef) : fieldDefC d.stripLoc = fieldDefC d := by
  simp [FieldDef.stripLoc, fieldDefC, Name.stripLoc, typeC_stripLoc, argDefsC_stripLoc, directivesC_stripLoc]

theorem map_fieldDefC_stripLoc : fieldDefC ∘ FieldDef.stripLoc = fieldDefC := funext fieldDefC_stripLoc

theorem enumValueDefC_stripLoc (d : EnumValueDef) : enumValueDefC d.stripLoc = enumValueDefC d := by
  simp [EnumValueDef.stripLoc, enumValueDefC, Name.stripLoc, directivesC_stripLoc]

theorem opTypeDefC_stripLoc (d : OpTypeDef) : opTypeDefC d.stripLoc = opTypeDefC d := by
  simp [OpTypeDef.stripLoc, opTypeDefC, typeC_stripLoc]

theorem map_typeC_stripLoc : typeC ∘ TypeRef.stripLoc = typeC := funext typeC_stripLoc

theorem objectDefC_stripLoc (d : ObjectDef) : objectDefC d.stripLoc = objectDefC d := by
  simp [ObjectDef.stripLoc, objectDefC, Name.stripLoc, map_typeC_stripLoc, directivesC_stripLoc, map_fieldDefC_stripLoc]

theorem definitionC_stripLoc (d : Definition) : definitionC d.stripLoc = definitionC d := by
  cases d with
  | operation op name vars dirs sel l =>
    have h : List.map varDefC (List.map VarDef.stripLoc vars) = List.map varDefC vars := by
      simp [List.map_map, Function.comp_def, varDefC_stripLoc]
    simp only [Definition.stripLoc, definitionC, operationC, optNameC_stripLoc, directivesC_stripLoc, selSetC_stripLoc, h]
  | fragment name tc dirs sel l =>
    simp [Definition.stripLoc, definitionC, fragmentC, Name.stripLoc, typeC_stripLoc, directivesC_stripLoc, selSetC_stripLoc]
  | schema dirs ops l =>
    simp [Definition.stripLoc, definitionC, schemaC, directivesC_stripLoc, List.map_map, Function.comp_def, opTypeDefC_stripLoc]
  | scalar d name dirs l => simp [Definition.stripLoc, definitionC, scalarC, Name.stripLoc, directivesC_stripLoc]
  | object d => simp [Definition.stripLoc, definitionC, objectDefC_stripLoc]
  | interface d name dirs fields l =>
    simp [Definition.stripLoc, definitionC, interfaceC, Name.stripLoc, directivesC_stripLoc, map_fieldDefC_stripLoc]
  | union d name dirs types l =>
    simp [Definition.stripLoc, definitionC, unionC, Name.stripLoc, directivesC_stripLoc, map_typeC_stripLoc]
  | «enum» d name dirs values l =>
    simp [Definition.stripLoc, definitionC, enumC, Name.stripLoc, directivesC_stripLoc, List.map_map, Function.comp_def,
      enumValueDefC_stripLoc]
  | inputObject d name dirs fields l =>
    simp [Definition.stripLoc, definitionC, inputObjectC, Name.stripLoc, directivesC_stripLoc, map_inputValueDefC_stripLoc]
  | extend d l => simp [Definition.stripLoc, definitionC, extendC, objectDefC_stripLoc]
  | directive d name args locations l =>
    simp [Definition.stripLoc, definitionC, directiveDefC, Name.stripLoc, argDefsC_stripLoc, List.map_map, Function.comp_def]

theorem documentC_stripLoc (d : Document) : documentC d.stripLoc = documentC d := by
  simp [Document.stripLoc, documentC, List.map_map, Function.comp_def, definitionC_stripLoc]

end GqlModel.Printer
