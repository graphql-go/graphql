import GqlProofs.PlanEffects
import GqlProofs.PlanNodup
/-! # The simulation of the algorithm's run by M's run, with deferred values: data and effects in one relation

`RunSim D pendOf dfr Pin st mst x y`: `x` is a run of the algorithm started in `st`, `y` the run of M started in `mst` while the
effects `Pin` were pending in the closures M holds. Unless the algorithm ran out of fuel or recorded a D-04c mark, the results are
`D`-related and the effects are accounted for (`FxOut`). The relation is closed under `andThen` (with a frame of pending effects that
the first run does not touch) and under the recover points; `GenP` and `FxP` are its two halves. -/
namespace GqlModel.Plan
open GqlModel.Exec GqlModel.Coerce

theorem acct_pending (X : Fx) (hX : X.AllDf) (dfr : Bool) : Acct X Fx.nil Fx.nil X dfr :=
  ⟨⟨Fx.nil, by simpa using Fx.Perm.refl X⟩, fun _ => by rw [hX.nd]; rfl⟩

theorem allDf_single (p : Path) : (Fx.mk [(p, true)] []).AllDf := by
  constructor
  · intro e he
    simp only [List.mem_singleton] at he
    rw [he]
  · intro e he
    exact absurd he List.not_mem_nil

def OkRel {α β : Type} (R : β → α → Prop) (rS : Res α) (rM : Res β) : Prop :=
  match rS with
  | .ok a => ∃ b, rM = .ok b ∧ R b a
  | .fail => rM = .fail
  | .fuelOut => False

def RunSim {α β : Type} (D : Res α → Res β → Prop) (pendOf : β → Fx) (dfr : Bool) (Pin : Fx) (st : St) (mst : MSt)
    (x : Res α × St) (y : Res β × MSt) : Prop :=
  x.1 ≠ .fuelOut → x.2.kfThunk = st.kfThunk → D x.1 y.1 ∧ FxOut dfr st x.2 mst Pin y pendOf

section rules
variable {α α' β β' : Type} {D : Res α → Res β → Prop} {D' : Res α' → Res β' → Prop} {pendOf : β → Fx} {pendOf' : β' → Fx}
  {dfr : Bool} {Pin : Fx} {st : St} {mst : MSt}

theorem fxOut_seq {st1 stS : St} {mst1 : MSt} {Pmid : Fx} {out : Res β × MSt} {d1 : St} {dM1 : Fx}
    (e1 : st1 = St.app d1 st) (m1 : MExt mst mst1 dM1) (a1 : Acct (fxS d1) dM1 Pin Pmid dfr)
    (h2 : FxOut dfr st1 stS mst1 Pmid out pendOf) : FxOut dfr st stS mst Pin out pendOf := by
  obtain ⟨d2, dM2, e2, m2, a2⟩ := h2
  refine ⟨St.app d2 d1, dM2.app dM1, by rw [e2, e1, St.app_assoc], m1.trans m2, ?_⟩
  rw [fxS_app]
  exact acct_seq a1 a2

theorem RunSim.fuelOut {s : St} {y : Res β × MSt} : RunSim D pendOf dfr Pin st mst ((.fuelOut : Res α), s) y :=
  fun hr => absurd rfl hr

theorem RunSim.ret {r : Res α} {r' : Res β} (hD : D r r') (hP : resPend pendOf r' = Pin ∨ resPend pendOf r' = Fx.nil) :
    RunSim D pendOf dfr Pin st mst (r, st) (r', mst) := fun _ _ => by
  refine ⟨hD, St.empty, Fx.nil, (St.empty_app st).symm, MExt.refl mst, ?_⟩
  rw [fxS_empty]
  rcases hP with hP | hP
  · simp only [hP]; exact acct_same Fx.nil Pin dfr
  · simp only [hP]; exact acct_drop (acct_same Fx.nil Pin dfr)

theorem RunSim.err {r : Res α} {r' : Res β} (p : Path) (d : Bool) (hD : D r r') (hP : resPend pendOf r' = Fx.nil) :
    RunSim D pendOf dfr Pin st mst (r, addErr st p d) (r', mst.addErr p d) := fun _ _ => by
  refine ⟨hD, ⟨[(p, d)], [], []⟩, ⟨[(p, d)], []⟩, rfl, mExt_addErr mst p d, ?_⟩
  simp only [hP]
  exact acct_drop (acct_same _ _ _)

theorem RunSim.mono {x : Res α × St} {y : Res β × MSt} {D2 : Res α → Res β → Prop} (h : RunSim D pendOf dfr Pin st mst x y)
    (hD : ∀ r r', D r r' → D2 r r') : RunSim D2 pendOf dfr Pin st mst x y :=
  fun hr hkf => ⟨hD _ _ (h hr hkf).1, (h hr hkf).2⟩

theorem RunSim.and {x : Res α × St} {y : Res β × MSt} {Q : Res β → Prop} (h : RunSim D pendOf dfr Pin st mst x y) (hQ : Q y.1) :
    RunSim (fun r r' => D r r' ∧ Q r') pendOf dfr Pin st mst x y :=
  fun hr hkf => ⟨⟨(h hr hkf).1, hQ⟩, (h hr hkf).2⟩

theorem RunSim.pre {x : Res α × St} {y : Res β × MSt} {d0 : St} {dM0 : Fx} {st0 : St} {mst0 : MSt} (e0 : st0 = St.app d0 st)
    (hk0 : d0.kfThunk = []) (m0 : MExt mst mst0 dM0) (a0 : Acct (fxS d0) dM0 Pin Pin dfr)
    (h : RunSim D pendOf dfr Pin st0 mst0 x y) : RunSim D pendOf dfr Pin st mst x y := fun hr hkf => by
  have hk : st0.kfThunk = st.kfThunk := by rw [e0]; simp only [St.app, hk0, List.nil_append]
  obtain ⟨hD, fx⟩ := h hr (hkf.trans hk.symm)
  exact ⟨hD, fxOut_seq e0 m0 a0 fx⟩

/-- The two runs continue in step. The first pair works on the pending effects `Pin` and leaves the frame `Fr` alone; what its value
holds pending is handed to the continuation together with the frame. The D-04c premise of the whole splits into the premises of
the two parts because the marks only grow. -/
theorem RunSim.andThen {R : β → α → Prop} {Fr P : Fx} {x : Res α × St} {y : Res β × MSt} {k : α → St → Res α' × St}
    {k' : β → MSt → Res β' × MSt} (hP : P = Fr.app Pin) (hx : KfExt st x.2) (hkx : ∀ a s, KfExt s (k a s).2)
    (h : RunSim (OkRel R) pendOf dfr Pin st mst x y)
    (hk : ∀ a b s ms, R b a → RunSim D' pendOf' dfr (Fr.app (pendOf b)) s ms (k a s) (k' b ms)) (hfail : D' .fail .fail) :
    RunSim D' pendOf' dfr P st mst (andThen x k) (andThen y k') := by
  subst hP
  obtain ⟨r, s⟩ := x
  obtain ⟨rM, ms⟩ := y
  intro hr hkf
  cases r with
  | ok a =>
    obtain ⟨hs, hkf2⟩ := KfExt.same hx (hkx a s) hkf
    obtain ⟨⟨b, hb, hR⟩, d1, dM1, e1, m1, a1⟩ := h (by simp) hs
    cases hb
    obtain ⟨hD, fx2⟩ := hk a b s ms hR hr hkf2
    exact ⟨hD, fxOut_seq e1 m1 (acct_frame Fr a1) fx2⟩
  | fail =>
    obtain ⟨hb, d1, dM1, e1, m1, a1⟩ := h (by simp) hkf
    cases hb
    refine ⟨hfail, d1, dM1, e1, m1, ?_⟩
    have := acct_drop (acct_frame Fr a1)
    simpa using this
  | fuelOut => exact absurd rfl hr

end rules

section absorb
variable {c : Ctx} {pv : Option Vars} {rank : String → Nat} {F : Nat}

theorem kfExt_absorb {st : St} {x : Res JVal × St} (b : Bool) (h : KfExt st x.2) : KfExt st (recover x (absorbAt b .null)).2 := by
  obtain ⟨_ | _ | _, s⟩ := x
  · exact h
  · cases b <;> exact h
  · exact h

/-- the recover point of a field or a list item: a failure is rethrown or answered by null on both sides; a closure M
wrapped where the algorithm failed in place stands for that null -/
theorem RunSim.absorb {t : GType} {v : GoVal} {dfr : Bool} {st : St} {mst : MSt} {x : Res JVal × St} {y : Res PVal × MSt}
    (h : RunSim (CompleteRel c pv rank F t v) (pend c F) dfr Fx.nil st mst x y) :
    RunSim (OkRel (SV c pv rank F)) (pend c F) dfr Fx.nil st mst (recover x (absorbAt t.isNonNull .null))
      (recover y (absorbAt t.isNonNull (.leaf .null))) := by
  obtain ⟨r, s⟩ := x
  obtain ⟨rM, ms⟩ := y
  intro hr hkf
  cases r with
  | ok j =>
    obtain ⟨⟨b, hb, hsv⟩, fx⟩ := h (by simp) hkf
    cases hb
    exact ⟨⟨b, rfl, hsv⟩, fx⟩
  | fail =>
    have hkf' : s.kfThunk = st.kfThunk := by
      rw [recover_fail] at hkf; unfold absorbAt at hkf; cases hnn : t.isNonNull <;> rw [hnn] at hkf <;> exact hkf
    obtain ⟨hd, fx⟩ := h (by simp) hkf'
    rw [recover_fail]
    cases hnn : t.isNonNull with
    | true =>
      rcases hd with hd | ⟨cl, _, _, hnull, _⟩
      · cases hd; exact ⟨rfl, fx⟩
      · rw [hnn] at hnull; cases hnull
    | false =>
      rcases hd with hd | ⟨cl, hcl, _, _, hwit⟩
      · cases hd
        refine ⟨⟨_, rfl, .leaf _⟩, ?_⟩
        obtain ⟨d1, dM1, e1, m1, a1⟩ := fx
        exact ⟨d1, dM1, e1, m1, by simpa [absorbAt, pend] using a1⟩
      · cases hcl; exact ⟨⟨_, rfl, .deferred hwit⟩, fx⟩
  | fuelOut => exact absurd rfl hr

end absorb

section sim
variable {c : Ctx} {pv : Option Vars} {rank : String → Nat} {F : Nat}

local notation "alt0" => recompute c.schema c.frags pv

variable (c pv rank F)

structure FxP (fuel : Nat) : Prop where
  groups : ∀ dfr rt src path sid fps accS acc st mst rS stS, (∀ fp ∈ fps, FpOK c.schema rt (NodeOK c pv rank) fp) →
    SVf c pv rank F acc accS → execGroups c fuel dfr rt src path (groupsOf fps) accS st = (rS, stS) → rS ≠ .fuelOut →
    stS.kfThunk = st.kfThunk →
    FxOut dfr st stS mst (pendF c F acc) (mGroups c alt0 fuel dfr rt src path sid fps acc mst) (pendF c F)
  field : ∀ dfr rt src p fid fp fd st mst rS stS, FpOK c.schema rt (NodeOK c pv rank) fp → fp.fieldDef = some fd →
    execField c fuel dfr rt src p fd fp.fieldNodes st = (rS, stS) → rS ≠ .fuelOut → stS.kfThunk = st.kfThunk →
    FxOut dfr st stS mst Fx.nil (mField c alt0 fuel dfr rt src p fid fp fd mst) (pend c F)
  complete : ∀ dfr t rt fid fp p v st mst rS stS, (∀ x ∈ fp.nodes, NodeOK c pv rank x.1 x.2) →
    complete c fuel dfr t rt fp.fieldName fp.fieldNodes p v st = (rS, stS) → rS ≠ .fuelOut → stS.kfThunk = st.kfThunk →
    FxOut dfr st stS mst Fx.nil (mComplete c alt0 fuel dfr t rt fid fp p v mst) (pend c F)
  items : ∀ dfr item rt fid fp p xs i accS acc st mst rS stS, (∀ x ∈ fp.nodes, NodeOK c pv rank x.1 x.2) →
    SVl c pv rank F acc accS →
    completeItems c fuel dfr item rt fp.fieldName fp.fieldNodes p xs i accS st = (rS, stS) → rS ≠ .fuelOut →
    stS.kfThunk = st.kfThunk →
    FxOut dfr st stS mst (pendL c F acc) (mItems c alt0 fuel dfr item rt fid fp p xs i acc mst) (pendL c F)

structure SimP (fuel : Nat) : Prop where
  groups : ∀ dfr rt src path sid fps accS acc st mst, (∀ fp ∈ fps, FpOK c.schema rt (NodeOK c pv rank) fp) →
    SVf c pv rank F acc accS →
    RunSim (OkRel (SVf c pv rank F)) (pendF c F) dfr (pendF c F acc) st mst
      (execGroups c fuel dfr rt src path (groupsOf fps) accS st)
      (mGroups c (recompute c.schema c.frags pv) fuel dfr rt src path sid fps acc mst)
  field : ∀ dfr rt src p fid fp fd st mst, FpOK c.schema rt (NodeOK c pv rank) fp → fp.fieldDef = some fd →
    RunSim (OkRel (SV c pv rank F)) (pend c F) dfr Fx.nil st mst
      (execField c fuel dfr rt src p fd fp.fieldNodes st) (mField c (recompute c.schema c.frags pv) fuel dfr rt src p fid fp fd mst)
  complete : ∀ dfr t rt fid fp p v st mst, (∀ x ∈ fp.nodes, NodeOK c pv rank x.1 x.2) →
    RunSim (CompleteRel c pv rank F t v) (pend c F) dfr Fx.nil st mst
      (complete c fuel dfr t rt fp.fieldName fp.fieldNodes p v st)
      (mComplete c (recompute c.schema c.frags pv) fuel dfr t rt fid fp p v mst)
  items : ∀ dfr item rt fid fp p xs i accS acc st mst, (∀ x ∈ fp.nodes, NodeOK c pv rank x.1 x.2) →
    SVl c pv rank F acc accS →
    RunSim (OkRel (SVl c pv rank F)) (pendL c F) dfr (pendL c F acc) st mst
      (completeItems c fuel dfr item rt fp.fieldName fp.fieldNodes p xs i accS st)
      (mItems c (recompute c.schema c.frags pv) fuel dfr item rt fid fp p xs i acc mst)

variable {c pv rank F}

theorem kfExt_guardS (p : Path) (dfr : Bool) (j : JVal) (s : St) : KfExt s (nonNullGuardS p dfr j s).2 := by
  unfold nonNullGuardS; cases j.isNull
  · exact .refl _
  · exact kfExt_addErr s p dfr

theorem simP (hac : Acyclic c.frags rank) (hfr : FragsOK c pv) : ∀ fuel, fuel ≤ F → SimP c pv rank F fuel
  | 0, _ => by
    refine ⟨?_, ?_, ?_, ?_⟩
    · intro dfr rt src path sid fps accS acc st mst _ _; rw [execGroups_zero]; exact .fuelOut
    · intro dfr rt src p fid fp fd st mst _ _; rw [execField_zero]; exact .fuelOut
    · intro dfr t rt fid fp p v st mst _; rw [complete_zero]; exact .fuelOut
    · intro dfr item rt fid fp p xs i accS acc st mst _ _; rw [completeItems_zero]; exact .fuelOut
  | fuel + 1, hle1 => by
    have hle : fuel ≤ F := Nat.le_of_succ_le hle1
    have ih := simP hac hfr fuel hle
    refine ⟨?_, ?_, ?_, ?_⟩
    · intro dfr rt src path sid fps accS acc st mst hok hacc
      cases fps with
      | nil =>
        show RunSim _ _ _ _ _ _ (execGroups c (fuel + 1) dfr rt src path [] accS st) _
        rw [execGroups_nil, mGroups_nil]; exact .ret ⟨acc, rfl, hacc⟩ (.inl rfl)
      | cons fp rest =>
        have hfp := hok fp List.mem_cons_self
        have hrest : ∀ fp' ∈ rest, FpOK c.schema rt (NodeOK c pv rank) fp' := fun fp' hm => hok fp' (List.mem_cons_of_mem _ hm)
        obtain ⟨n0, hh, hdef⟩ := hfp.head_node
        have hp := hfp.eval c.vars
        show RunSim _ _ _ _ _ _ (execGroups c (fuel + 1) dfr rt src path ((fp.key, fp.fieldNodes) :: groupsOf rest) accS st) _
        cases hfd : fp.fieldDef with
        | none =>
          rw [execGroups_unknown hh (by rw [← hdef, hfd]), mGroups_skip (.inr hfd)]
          exact ih.groups dfr rt src path sid rest accS acc st mst hrest hacc
        | some fd =>
          rw [execGroups_field hh (by rw [← hdef, hfd]), mGroups_field hp hfd]
          refine RunSim.andThen (Fr := pendF c F acc) (Pin := Fx.nil) (pendOf := pend c F) (R := SV c pv rank F) (Fx.app_nil (pendF c F acc)).symm (kfExt_field c fuel dfr rt src _ fd _ st)
            (fun a s => kfExt_groups c fuel dfr rt src path (groupsOf rest) _ s)
            (ih.field dfr rt src (path ++ [PathSeg.key fp.key]) (sid ++ [(rt, fp.key)]) fp fd st mst hfp hfd) (fun j x s ms hsv => ?_) rfl
          rw [← pendF_snoc]; exact ih.groups _ _ _ _ _ _ _ _ s ms hrest (svf_append hsv hacc)
    · intro dfr rt src p fid fp fd st mst hfp hfd
      cases hn : fd.name == "__typename" with
      | true => rw [execField_typename hn, mField_typename hn]; exact .ret ⟨_, rfl, .leaf _⟩ (.inl (by simp [pend]))
      | false =>
        rw [execField_succ hn, mField_succ hn]
        -- the invocation is logged on both sides: the planned arguments are the first node's
        rw [fpOK_callEv hfp hfd]
        generalize callEntry c dfr rt src p fd fp.fieldNodes = le
        refine RunSim.pre (d0 := ⟨[], [le], []⟩) (st0 := { st with log := le :: st.log }) rfl rfl (mExt_call mst le)
          (acct_same _ _ _) ?_
        cases c.world.outcome src fd.name with
        | fail =>
          dsimp only; unfold absorbAt
          cases fd.type.isNonNull
          · exact .err p dfr ⟨_, rfl, .leaf _⟩ (by simp [pend])
          · exact .err p dfr rfl rfl
        | value v => dsimp only; rw [fpOK_fieldName hfp hfd]; exact (ih.complete dfr fd.type rt fid fp p v _ _ hfp.nodes).absorb
    · intro dfr t rt fid fp p v st mst hn
      cases hfo : funcOf v with
      | some r =>
        -- a func: the algorithm forces it here, M wraps it; what the algorithm records is pending in the closure
        rw [mComplete_func hfo]
        -- a func of another signature, or a deferred value that returns an error: one error flagged `deferred`
        have bad : r = none ∨ r = some .err → RunSim (CompleteRel c pv rank F t v) (pend c F) dfr Fx.nil st mst
            ((.fail : Res JVal), kfMark t p (addErr st p true))
            (.ok (.deferred { t := t, rt := rt, fid := fid, fp := fp, path := p, r := r }), mst) := by
          intro hr' _ hkf
          obtain ⟨hnn, hmk⟩ := kfMark_of_kf_eq (kfExt_addErr st p true) hkf
          rw [hmk]
          refine ⟨.inr ⟨_, rfl, by simp [hfo], hnn, hn, by rcases hr' with rfl | rfl <;> exact ⟨hnn, rfl⟩⟩, ?_⟩
          refine ⟨⟨[(p, true)], [], []⟩, Fx.nil, rfl, MExt.refl mst, ?_⟩
          have hw : resPend (pend c F) (Res.ok (PVal.deferred { t := t, rt := rt, fid := fid, fp := fp, path := p, r := r })) =
              ⟨[(p, true)], []⟩ := by
            rcases hr' with rfl | rfl <;> simp only [resPend_ok, pend, wFx]
          rw [hw]
          exact acct_pending _ (allDf_single p) dfr
        cases v with
        | badFunc => cases hfo; rw [complete_badFunc]; exact bad (.inl rfl)
        | thunk tr =>
          cases hfo
          cases tr with
          | err => rw [complete_thunkErr]; exact bad (.inr rfl)
          | ok v' =>
            rw [complete_thunk]
            have hk1 := kfExt_complete c fuel true t rt fp.fieldName fp.fieldNodes p v' st
            rcases hS : complete c fuel true t rt fp.fieldName fp.fieldNodes p v' st with ⟨rS, stS⟩
            rw [hS] at hk1
            -- the run that `Wit` and `wFx` refer to: with the request's fuel, from the empty state
            have good : rS ≠ .fuelOut → stS.kfThunk = st.kfThunk → (rS = .fail → t.isNonNull = false) →
                CompleteRel c pv rank F t (.thunk (.ok v')) rS
                  (Res.ok (PVal.deferred { t := t, rt := rt, fid := fid, fp := fp, path := p, r := some (.ok v') })) ∧
                FxOut dfr st stS mst Fx.nil
                  ((Res.ok (PVal.deferred { t := t, rt := rt, fid := fid, fp := fp, path := p, r := some (.ok v') }), mst) :
                    Res PVal × MSt) (pend c F) := by
              intro hr hkf hnn
              have hF := complete_fuel_le c hle true t rt fp.fieldName fp.fieldNodes p v' st _ _ hS hr
              obtain ⟨d, hd, hst1⟩ := complete_from_empty c F hF
              constructor
              · cases rS with
                | ok j => exact ⟨_, rfl, .deferred ⟨hn, st, _, _, hF, hkf, .inl rfl⟩⟩
                | fail => exact .inr ⟨_, rfl, by simp [funcOf], hnn rfl, hn, st, _, _, hF, hkf, .inr ⟨rfl, hnn rfl, rfl⟩⟩
                | fuelOut => exact absurd rfl hr
              · refine ⟨d, Fx.nil, hst1, MExt.refl mst, ?_⟩
                have hw : resPend (pend c F) (Res.ok (PVal.deferred { t := t, rt := rt, fid := fid, fp := fp, path := p, r := some (.ok v') })) =
                    fxS d := by
                  simp only [resPend_ok, pend, wFx, wRun]
                  rw [hd]
                rw [hw]
                have hall : (fxS d).AllDf := by
                  have := (trueP (c := c) F).complete t rt fp.fieldName fp.fieldNodes p v' St.empty (by rw [fxS_empty]; exact Fx.allDf_nil)
                  rw [hd] at this
                  exact this
                exact acct_pending _ hall dfr
            intro hr hkf
            cases rS with
            | ok j => exact good (by simp) hkf (fun e => by cases e)
            | fail =>
              obtain ⟨hnn, hmk⟩ := kfMark_of_kf_eq hk1 hkf
              rw [recover_fail, hmk] at hkf ⊢
              exact good (by simp) hkf (fun _ => hnn)
            | fuelOut => exact absurd rfl hr
        | _ => simp [funcOf] at hfo
      | none =>
        rw [complete_succ hfo, mComplete_succ hfo]
        cases shape c t v with
        | nonNull inner =>
          dsimp only
          -- a value that is no func never completes to a bare closure, so the null tests of the two sides agree
          have hc := ((ih.complete dfr inner rt fid fp p v st mst hn).and
            (Q := fun r' => ∀ x, r' = .ok x → ∀ cl, x ≠ .deferred cl)
            (mComplete_not_deferred fuel dfr inner rt fid fp p v mst hfo)).mono
            (D2 := OkRel fun x j => SV c pv rank F x j ∧ ∀ cl, x ≠ .deferred cl) (by
              rintro (j | _ | _) r' ⟨h1, h2⟩
              · obtain ⟨x, hx, hsv⟩ := h1; exact ⟨x, hx, hsv, h2 x hx⟩
              · rcases h1 with h1 | ⟨cl, _, hne, _, _⟩
                · exact h1
                · exact absurd hfo hne
              · exact h1)
          refine RunSim.andThen (Fr := Fx.nil) rfl (kfExt_complete c fuel dfr inner rt _ _ p v st) (kfExt_guardS p dfr) hc
            (fun j x s ms ⟨hsv, hnd⟩ => ?_) (.inl rfl)
          unfold nonNullGuardS nonNullGuard
          cases hx : x.isNull with
          | true =>
            rw [(sv_null_iff hsv hnd).1 (PVal.isNull_iff.1 hx)]
            exact .err p dfr (.inl rfl) rfl
          | false =>
            have hj : j.isNull = false := by
              cases hj : j.isNull
              · rfl
              · have : j = .null := by cases j <;> first | rfl | cases hj
                rw [PVal.isNull_iff.2 ((sv_null_iff hsv hnd).2 this)] at hx; cases hx
            rw [hj]
            exact .ret ⟨x, rfl, hsv⟩ (.inl (by simp))
        | null => exact .ret ⟨_, rfl, .leaf _⟩ (.inl (by simp [pend]))
        | items item xs =>
          refine RunSim.andThen (Fr := Fx.nil) (by simp [pendL]) (kfExt_items c fuel dfr item rt _ _ p xs 0 [] st)
            (fun _ s => KfExt.refl s) (ih.items dfr item rt fid fp p xs 0 [] [] st mst hn .nil)
            (fun js ys s ms hsv => .ret ⟨_, rfl, .list hsv⟩ (.inl (by simp [pend]))) (.inl rfl)
        | leaf j => exact .ret ⟨_, rfl, .leaf _⟩ (.inl (by simp [pend]))
        | object ot =>
          obtain ⟨hgo, hfps⟩ := planMerged_sim (rt := ot) hac hfr fp.nodes hn
          show RunSim _ _ _ _ _ _ (andThen (execGroups c fuel dfr ot v p (collectMerged c ot (fp.nodes.map (·.1))) [] st) _)
            (andThen (mGroups c (recompute c.schema c.frags pv) fuel dfr ot v p fid (planMerged c.schema c.frags pv ot fp.nodes) [] mst) _)
          rw [← hgo]
          refine RunSim.andThen (Fr := Fx.nil) (by simp [pendF]) (kfExt_groups c fuel dfr ot v p _ [] st)
            (fun _ s => KfExt.refl s) (ih.groups dfr ot v p fid _ [] [] st mst hfps .nil)
            (fun gs fs s ms hsv => .ret ⟨_, rfl, .obj hsv⟩ (.inl (by simp [pend]))) (.inl rfl)
        | error => exact .err p dfr (.inl rfl) rfl
    · intro dfr item rt fid fp p xs i accS acc st mst hn hacc
      cases xs with
      | nil => rw [completeItems_nil, mItems_nil]; exact .ret ⟨acc, rfl, hacc⟩ (.inl rfl)
      | cons x xs =>
        rw [completeItems_cons, mItems_cons]
        refine RunSim.andThen (Fr := pendL c F acc) (Pin := Fx.nil) (pendOf := pend c F) (R := SV c pv rank F) (Fx.app_nil (pendL c F acc)).symm
          (kfExt_absorb item.isNonNull (kfExt_complete c fuel dfr item rt _ _ (p ++ [PathSeg.idx i]) x st))
          (fun a s => kfExt_items c fuel dfr item rt _ _ p xs (i + 1) _ s)
          (ih.complete dfr item rt fid fp (p ++ [PathSeg.idx i]) x st mst hn).absorb (fun j y s ms hsv => ?_) rfl
        rw [← pendL_snoc]; exact ih.items _ _ _ _ _ _ _ _ _ _ s ms hn (svl_append hsv hacc)

theorem genP (hac : Acyclic c.frags rank) (hfr : FragsOK c pv) (fuel : Nat) (hle : fuel ≤ F) : GenP c pv rank F fuel where
  groups := fun dfr rt src path sid fps accS acc st mst rS stS hok hacc h hr hkf => by
    have := ((simP hac hfr fuel hle).groups dfr rt src path sid fps accS acc st mst hok hacc (by rw [h]; exact hr) (by rw [h]; exact hkf)).1
    rw [h] at this; cases rS <;> exact this
  field := fun dfr rt src p fid fp fd st mst rS stS hfp hfd h hr hkf => by
    have := ((simP hac hfr fuel hle).field dfr rt src p fid fp fd st mst hfp hfd (by rw [h]; exact hr) (by rw [h]; exact hkf)).1
    rw [h] at this; cases rS <;> exact this
  complete := fun dfr t rt fid fp p v st mst rS stS hn h hr hkf => by
    have := ((simP hac hfr fuel hle).complete dfr t rt fid fp p v st mst hn (by rw [h]; exact hr) (by rw [h]; exact hkf)).1
    rw [h] at this; cases rS <;> exact this
  items := fun dfr item rt fid fp p xs i accS acc st mst rS stS hn hacc h hr hkf => by
    have := ((simP hac hfr fuel hle).items dfr item rt fid fp p xs i accS acc st mst hn hacc (by rw [h]; exact hr) (by rw [h]; exact hkf)).1
    rw [h] at this; cases rS <;> exact this

theorem fxP (hac : Acyclic c.frags rank) (hfr : FragsOK c pv) (fuel : Nat) (hle : fuel ≤ F) : FxP c pv rank F fuel where
  groups := fun dfr rt src path sid fps accS acc st mst rS stS hok hacc h hr hkf => by
    have := ((simP hac hfr fuel hle).groups dfr rt src path sid fps accS acc st mst hok hacc (by rw [h]; exact hr) (by rw [h]; exact hkf)).2
    rw [h] at this; cases rS <;> exact this
  field := fun dfr rt src p fid fp fd st mst rS stS hfp hfd h hr hkf => by
    have := ((simP hac hfr fuel hle).field dfr rt src p fid fp fd st mst hfp hfd (by rw [h]; exact hr) (by rw [h]; exact hkf)).2
    rw [h] at this; cases rS <;> exact this
  complete := fun dfr t rt fid fp p v st mst rS stS hn h hr hkf => by
    have := ((simP hac hfr fuel hle).complete dfr t rt fid fp p v st mst hn (by rw [h]; exact hr) (by rw [h]; exact hkf)).2
    rw [h] at this; cases rS <;> exact this
  items := fun dfr item rt fid fp p xs i accS acc st mst rS stS hn hacc h hr hkf => by
    have := ((simP hac hfr fuel hle).items dfr item rt fid fp p xs i accS acc st mst hn hacc (by rw [h]; exact hr) (by rw [h]; exact hkf)).2
    rw [h] at this; cases rS <;> exact this

end sim

end GqlModel.Plan
