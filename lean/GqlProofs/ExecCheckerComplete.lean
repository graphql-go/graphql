import GqlProofs.ExecChecker
import GqlProofs.ExecProgram
import GqlProofs.CoerceBasic
/-! C04: the checker is COMPLETE for the specification with the fuel the driver uses: data that conforms is accepted
(`odepth v + 1` levels suffice), so a `false` verdict on the real executor's data means that data does not conform. -/
namespace GqlModel.Exec
open GqlModel.Coerce

def SelfLe (f g : GType → List FieldNode → JVal → Bool) : Prop := ∀ t nodes v, f t nodes v = true → g t nodes v = true

theorem fieldConformB_mono {c : Ctx} {f g : GType → List FieldNode → JVal → Bool} (hfg : SelfLe f g)
    (ot : String) (groups : Groups) (k : String) (v : JVal) (h : fieldConformB c f ot groups k v = true) :
    fieldConformB c g ot groups k v = true := by
  obtain ⟨ns, node, hg, hnode, h⟩ := fieldConformB_eq_true.mp h
  exact fieldConformB_eq_true.mpr
    ⟨ns, node, hg, hnode, h.imp_right fun ⟨hn, fd, hfd, h⟩ => ⟨hn, fd, hfd, hfg _ _ _ h⟩⟩

theorem fieldsConformB_mono {c : Ctx} {f g : GType → List FieldNode → JVal → Bool} (hfg : SelfLe f g)
    (ot : String) (groups : Groups) (fs : List (String × JVal)) (h : fieldsConformB c f ot groups fs = true) :
    fieldsConformB c g ot groups fs = true :=
  List.all_eq_true.mpr fun kv hkv => fieldConformB_mono hfg _ _ _ _ (List.all_eq_true.mp h kv hkv)

theorem conformsStep_mono {c : Ctx} {f g : GType → List FieldNode → JVal → Bool} (hfg : SelfLe f g) :
    SelfLe (conformsStep c f) (conformsStep c g) := by
  intro t
  induction t with
  | nonNull t ih =>
    intro nodes v h
    obtain ⟨hv, h⟩ := (Bool.and_eq_true _ _).mp h
    exact (Bool.and_eq_true _ _).mpr ⟨hv, ih nodes v h⟩
  | list t ih =>
    intro nodes v h
    cases v with
    | list xs => exact List.all_eq_true.mpr fun x hx => ih nodes x (List.all_eq_true.mp h x hx)
    | _ => exact h
  | named n =>
    intro nodes v h
    exact conformsStep_named_eq_true.mpr ((conformsStep_named_eq_true.mp h).imp_right
      (Or.imp_right fun ⟨fs, hv, hl, ot, hot, h⟩ => ⟨fs, hv, hl, ot, hot, fieldsConformB_mono hfg _ _ _ h⟩))

theorem conformsF_succ_le (c : Ctx) : ∀ n, SelfLe (conformsF c n) (conformsF c (n + 1))
  | 0 => fun _ _ _ h => nomatch h
  | n + 1 => conformsStep_mono (conformsF_succ_le c n)

theorem conformsF_mono (c : Ctx) {n m : Nat} (h : n ≤ m) : SelfLe (conformsF c n) (conformsF c m) := by
  induction h with
  | refl => exact fun _ _ _ h => h
  | step _ ih => exact fun t nodes v h => conformsF_succ_le c _ t nodes v (ih t nodes v h)

/-- an entry of an object needs one level of fuel less than the object -/
theorem fieldsConformB_of_forall {c : Ctx} {ot : String} {groups : Groups} {fs : List (String × JVal)} {m : Nat}
    (hm : odepthFields fs + 1 ≤ m)
    (h : ∀ kv ∈ fs, fieldConformB c (conformsF c (odepth kv.2 + 1)) ot groups kv.1 kv.2 = true) :
    fieldsConformB c (conformsF c m) ot groups fs = true :=
  List.all_eq_true.mpr fun kv hkv =>
    fieldConformB_mono (conformsF_mono c (Nat.le_trans (Nat.succ_le_succ (odepth_mem_fields hkv)) hm)) _ _ _ _ (h kv hkv)

theorem conformsF_complete (c : Ctx) {t : GType} {nodes : List FieldNode} {v : JVal} (h : Conforms c t nodes v) :
    conformsF c (odepth v + 1) t nodes v = true := by
  refine Conforms.rec (motive_1 := fun t nodes v _ => conformsF c (odepth v + 1) t nodes v = true)
    (motive_2 := fun ot groups k v _ => fieldConformB c (conformsF c (odepth v + 1)) ot groups k v = true)
    ?nonNull ?listNull ?list ?null ?leaf ?object ?abstract ?typename ?field h
  case nonNull =>
    intro t nodes v hv _ ih
    exact (Bool.and_eq_true _ _).mpr ⟨by cases v <;> first | rfl | exact absurd rfl hv, ih⟩
  case listNull => exact fun {_ _} => rfl
  case list =>
    intro t nodes xs _ ih
    exact List.all_eq_true.mpr fun x hx =>
      conformsF_mono c (Nat.succ_le_succ (odepth_mem_list hx)) _ _ _ (ih x hx)
  case null => exact fun {_ _} => rfl
  case leaf =>
    intro n nodes v hleaf hlegal
    exact conformsStep_named_eq_true.mpr (.inr (.inl ⟨hleaf, hlegal⟩))
  case object =>
    intro n nodes fs hobj _ ih
    have hnl : c.schema.isLeaf n = false :=
      Bool.eq_false_iff.mpr fun hl => by rw [isLeaf_not_object hl] at hobj; cases hobj
    have hna : c.schema.isAbstract n = false :=
      Bool.eq_false_iff.mpr fun ha => by rw [isAbstract_not_object ha] at hobj; cases hobj
    exact conformsStep_named_eq_true.mpr (.inr (.inr ⟨fs, rfl, hnl, n, .inr ⟨hna, rfl, hobj⟩,
      fieldsConformB_of_forall (Nat.le_refl _) ih⟩))
  case abstract =>
    intro n ot nodes fs habs hobj hposs _ ih
    have hnl : c.schema.isLeaf n = false :=
      Bool.eq_false_iff.mpr fun hl => by rw [isLeaf_not_abstract hl] at habs; cases habs
    exact conformsStep_named_eq_true.mpr (.inr (.inr ⟨fs, rfl, hnl, ot,
      .inl ⟨habs, isPossibleType_iff.mp hposs, hobj⟩, fieldsConformB_of_forall (Nat.le_refl _) ih⟩))
  case typename =>
    intro ot groups k ns node hg hnode hn
    exact fieldConformB_eq_true.mpr ⟨_, _, hg, hnode, .inl ⟨hn, rfl⟩⟩
  case field =>
    intro ot groups k ns node fd v hg hnode hn hfd _ ih
    exact fieldConformB_eq_true.mpr ⟨_, _, hg, hnode, .inr ⟨hn, _, hfd, ih⟩⟩

theorem fieldConforms_complete (c : Ctx) {ot : String} {groups : Groups} {k : String} {v : JVal}
    (h : FieldConforms c ot groups k v) : fieldConformB c (conformsF c (odepth v + 1)) ot groups k v = true := by
  cases h with
  | typename hg hnode hn => exact fieldConformB_eq_true.mpr ⟨_, _, hg, hnode, .inl ⟨hn, rfl⟩⟩
  | field hg hnode hn hfd hc =>
    exact fieldConformB_eq_true.mpr ⟨_, _, hg, hnode, .inr ⟨hn, _, hfd, conformsF_complete c hc⟩⟩

theorem conformsB_complete (c : Ctx) (t : GType) (nodes : List FieldNode) (v : JVal) (h : Conforms c t nodes v) :
    conformsB c (odepth v + 1) t nodes v = true := conformsF_complete c h

theorem conformsData_complete (s : Schema) (doc : Document) (opName : String) (inputs : Vars) (w : World)
    (data : List (String × JVal)) (c : Ctx) (root : String) (sel : SelectionSet)
    (hc : requestCtx s doc opName inputs w = some (c, root, sel))
    (h : FieldsConform c root (rootGroups c root sel) data) : conformsData s doc opName inputs w data = true := by
  unfold conformsData
  rw [hc]
  exact fieldsConformB_of_forall (Nat.le_refl _) fun kv hkv => fieldConforms_complete c (h kv hkv)

end GqlModel.Exec
