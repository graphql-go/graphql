import GqlProofs.ParserErrPos
/-! Towards termination of the parser model M (C03 `parse_progress`: no action ever reports `PErr.fuel`).  Three properties
of actions, composed by type-class resolution over `do` blocks: `Mono m` (the token list never grows; it follows from
`ErrAt`), `Strict m` (success consumes at least one token), `NFb B m` (on a state with at most `B` tokens left, `m` does
not run out of fuel). -/

namespace GqlModel.Parser

class Mono {α} (m : P α) : Prop where
  le : ∀ σ a σ', m σ = .ok (a, σ') → σ'.toks.length ≤ σ.toks.length

class Strict {α} (m : P α) : Prop where
  lt : ∀ σ a σ', m σ = .ok (a, σ') → σ'.toks.length < σ.toks.length

class NFb {α} (B : Nat) (m : P α) : Prop where
  nf : ∀ σ, σ.toks.length ≤ B → m σ ≠ .error .fuel

class NotEOF (k : TokenKind) : Prop where
  ne : k ≠ .eof

instance : NotEOF .bang := ⟨by decide⟩
instance : NotEOF .parenL := ⟨by decide⟩
instance : NotEOF .parenR := ⟨by decide⟩
instance : NotEOF .colon := ⟨by decide⟩
instance : NotEOF .equals := ⟨by decide⟩
instance : NotEOF .bracketL := ⟨by decide⟩
instance : NotEOF .bracketR := ⟨by decide⟩
instance : NotEOF .braceL := ⟨by decide⟩
instance : NotEOF .pipe := ⟨by decide⟩
instance : NotEOF .braceR := ⟨by decide⟩
instance : NotEOF .amp := ⟨by decide⟩
instance : NotEOF .name := ⟨by decide⟩
instance : NotEOF .at := ⟨by decide⟩
instance : NotEOF .dollar := ⟨by decide⟩
instance : NotEOF .spread := ⟨by decide⟩

instance (priority := low) Strict.mono {α} {m : P α} [h : Strict m] : Mono m := ⟨fun σ a σ' hm => Nat.le_of_lt (h.lt σ a σ' hm)⟩

instance (priority := low) ErrAt.mono {α} {m : P α} [h : ErrAt m] : Mono m :=
  ⟨fun σ a σ' hm => by obtain ⟨pre, e, _⟩ := h.ok σ a σ' hm; rw [e, List.length_append]; exact Nat.le_add_left _ _⟩

instance {α} (a : α) : Mono (pure a : P α) := ⟨fun σ b σ' h => by obtain ⟨_, rfl⟩ := pure_ok.mp h; exact Nat.le_refl _⟩
instance {α} {B} (a : α) : NFb B (pure a : P α) := ⟨fun _ _ h => by cases h⟩

instance Mono.bind {α β} {m : P α} {f : α → P β} [hm : Mono m] [hf : ∀ a, Mono (f a)] : Mono (m >>= f) :=
  ⟨fun σ b σ' h => by
    obtain ⟨a, σ1, h1, h2⟩ := bind_ok.mp h
    exact Nat.le_trans ((hf a).le _ _ _ h2) (hm.le _ _ _ h1)⟩

instance Strict.bind_left {α β} {m : P α} {f : α → P β} [hm : Strict m] [hf : ∀ a, Mono (f a)] : Strict (m >>= f) :=
  ⟨fun σ b σ' h => by
    obtain ⟨a, σ1, h1, h2⟩ := bind_ok.mp h
    exact Nat.lt_of_le_of_lt ((hf a).le _ _ _ h2) (hm.lt _ _ _ h1)⟩

instance Strict.bind_right {α β} {m : P α} {f : α → P β} [hm : Mono m] [hf : ∀ a, Strict (f a)] : Strict (m >>= f) :=
  ⟨fun σ b σ' h => by
    obtain ⟨a, σ1, h1, h2⟩ := bind_ok.mp h
    exact Nat.lt_of_lt_of_le ((hf a).lt _ _ _ h2) (hm.le _ _ _ h1)⟩

instance NFb.bind {α β} {B} {m : P α} {f : α → P β} [hm : NFb B m] [hmm : Mono m] [hf : ∀ a, NFb B (f a)] : NFb B (m >>= f) :=
  ⟨fun σ hB h => by
    rcases bind_error.mp h with h1 | ⟨a, σ1, h1, h2⟩
    · exact hm.nf σ hB h1
    · exact (hf a).nf σ1 (Nat.le_trans (hmm.le _ _ _ h1) hB) h2⟩

instance {α} {c : Prop} [Decidable c] {a b : P α} [Mono a] [Mono b] : Mono (if c then a else b) := by
  split <;> infer_instance
instance {α} {c : Prop} [Decidable c] {a b : P α} [Strict a] [Strict b] : Strict (if c then a else b) := by
  split <;> infer_instance
instance {α} {B} {c : Prop} [Decidable c] {a b : P α} [NFb B a] [NFb B b] : NFb B (if c then a else b) := by
  split <;> infer_instance

theorem adv_len_le (σ : PState) : σ.adv.toks.length ≤ σ.toks.length := by
  cases h : σ.toks <;> simp [PState.adv, h]

theorem adv_len_lt {σ : PState} {k : TokenKind} (hk : k ≠ .eof) (h : σ.cur.kind = k) : σ.adv.toks.length < σ.toks.length := by
  obtain ⟨r, hr⟩ := toks_of_cur_kind hk h
  simp [PState.adv, hr]

instance {B} : NFb B cur := ⟨fun _ _ h => by cases h⟩
instance {B} : NFb B advance := ⟨fun _ _ h => by cases h⟩
instance {α} (p : Nat) : Mono (fail p : P α) := ⟨fun _ _ _ h => by cases h⟩
instance {α} (a : Bool) (p : Nat) : Mono (failAt a p : P α) := ⟨fun _ _ _ h => by cases h⟩
instance {α} (a : Bool) (p : Nat) : Strict (failAt a p : P α) := ⟨fun _ _ _ h => by cases h⟩
instance {α} {B} (a : Bool) (p : Nat) : NFb B (failAt a p : P α) := ⟨fun _ _ h => by cases h⟩
instance {α} (p : Nat) : Strict (fail p : P α) := ⟨fun σ a σ' h => by simp at h⟩
instance {α} {B} (p : Nat) : NFb B (fail p : P α) := ⟨fun _ _ h => by cases h⟩
instance {α} : Strict (unexpected : P α) := ⟨fun _ _ _ h => by cases h⟩
instance {α} {B} : NFb B (unexpected : P α) := ⟨fun _ _ h => by cases h⟩
instance {α} : Strict (outOfFuel : P α) := ⟨fun σ a σ' h => by simp at h⟩
instance {B} : NFb B flagBad := ⟨fun _ _ h => by cases h⟩
instance {B} (s : Nat) : NFb B (loc s) := ⟨fun _ _ h => by cases h⟩
instance {B} : NFb B loopFuel := ⟨fun σ _ h => by simp at h⟩
instance {B} : NFb B lookahead := ⟨fun _ _ h => by cases h⟩
instance {B} (k : TokenKind) : NFb B (peek k) := ⟨fun _ _ h => by cases h⟩

instance {B} (k : TokenKind) : NFb B (skip k) := by rw [skip_eq]; infer_instance
instance {B} (k : TokenKind) : NFb B (expect k) := by rw [expect_eq]; infer_instance
instance {B} (s : String) : NFb B (expectKeyword s) := by rw [expectKeyword_eq]; infer_instance

instance (k : TokenKind) [hk : NotEOF k] : Strict (expect k) :=
  ⟨fun _ _ _ h => Nat.lt_of_succ_le (Nat.le_of_eq (tok_len ((expect_ok hk.ne).mp h).1).symm)⟩
instance (s : String) : Strict (expectKeyword s) :=
  ⟨fun σ a σ' h => Strict.lt (m := expect .name) σ a σ' (expectKeyword_ok_iff.mp h).1⟩

/-- as with `ErrAtOn`: after `cur` it is enough to look at each state with its own current token -/
def StrictOn {α} (σ : PState) (m : P α) : Prop := ∀ a σ', m σ = .ok (a, σ') → σ'.toks.length < σ.toks.length

theorem Strict.of_cur {α} {f : Token → P α} (h : ∀ σ, StrictOn σ (f σ.cur)) : Strict (cur >>= f) := ⟨h⟩

theorem advance_lt {β} {f : Unit → P β} [hf : Mono (f ())] {σ σ' : PState} {b : β} {k : TokenKind} (hc : σ.cur.kind = k)
    (hk : k ≠ .eof) (h : (advance >>= f) σ = .ok (b, σ')) : σ'.toks.length < σ.toks.length :=
  Nat.lt_of_le_of_lt (hf.le _ _ _ ((bind_eq_of_ok (advance_run σ)).symm.trans h)) (adv_len_lt hk hc)

instance {B} : NFb B skipEOF := ⟨fun σ _ h => by unfold skipEOF at h; split at h <;> simp at h⟩

instance many_mono {α} {close : TokenKind} {item : P α} [Mono item] (k : Nat) : Mono (many close item k) := by
  induction k with
  | zero => unfold many; infer_instance
  | succ k ih => unfold many; infer_instance

theorem NFb.anti {α} {B B' : Nat} {m : P α} (h : NFb B m) (hb : B' ≤ B) : NFb B' m :=
  ⟨fun σ hσ => h.nf σ (Nat.le_trans hσ hb)⟩

theorem NFb.bind_strict {α β} {B} {m : P α} {f : α → P β} [hs : Strict m] (hm : NFb B m)
    (hf : ∀ B', B' < B → ∀ a, NFb B' (f a)) : NFb B (m >>= f) :=
  ⟨fun σ hB h => by
    rcases bind_error.mp h with h1 | ⟨a, σ1, h1, h2⟩
    · exact hm.nf σ hB h1
    · exact (hf σ1.toks.length (Nat.lt_of_lt_of_le (hs.lt _ _ _ h1) hB) a).nf σ1 (Nat.le_refl _) h2⟩

theorem many_nfb {α} {close : TokenKind} {item : P α} [Strict item] :
    ∀ (k B : Nat), B < k → (∀ B', B' ≤ B → NFb B' item) → NFb B (many close item k) := by
  intro k
  induction k with
  | zero => intro B h; omega
  | succ k ih =>
    intro B hk hi
    simp only [many]
    refine NFb.bind (hf := fun b => ?_)
    split
    · infer_instance
    · refine NFb.bind_strict (hi B (Nat.le_refl _)) (fun B' hB' x => ?_)
      haveI := ih B' (by omega) (fun B'' h => hi B'' (by omega))
      infer_instance

theorem many_nf {α} {close : TokenKind} {item : P α} [hs : Strict item] {B : Nat} (hi : ∀ B', B' ≤ B → NFb B' item) :
    ∀ (k : Nat) (σ : PState), σ.toks.length < k → σ.toks.length ≤ B → many close item k σ ≠ .error .fuel :=
  fun k σ hk hB => (many_nfb k σ.toks.length hk (fun B' h => hi B' (Nat.le_trans h hB))).nf σ (Nat.le_refl _)

/-- fuelled loops: started with more fuel than tokens they do not run out -/
class LoopNF {α} (B : Nat) (loop : Nat → P α) : Prop where
  nf : ∀ k σ, σ.toks.length < k → σ.toks.length ≤ B → loop k σ ≠ .error .fuel

theorem LoopNF.of {α} {B : Nat} {loop : Nat → P α} (h : ∀ k B', B' < k → B' ≤ B → NFb B' (loop k)) : LoopNF B loop :=
  ⟨fun k σ hk hB => (h k _ hk hB).nf σ (Nat.le_refl _)⟩

theorem LoopNF.many {α} {close : TokenKind} {item : P α} [Strict item] {B : Nat} (hi : ∀ B', B' ≤ B → NFb B' item) :
    LoopNF B (many close item) := ⟨many_nf hi⟩

instance loop_nfb {α β} {B} {loop : Nat → P α} {f : α → P β} [hl : LoopNF B loop] [hm : ∀ k, Mono (loop k)]
    [hf : ∀ xs, NFb B (f xs)] : NFb B (loopFuel >>= fun k => loop k >>= f) :=
  ⟨fun σ hB h => by
    simp only [bind_error, loopFuel_run, Except.ok.injEq, Prod.mk.injEq, reduceCtorEq, false_or] at h
    obtain ⟨k, _, ⟨rfl, rfl⟩, h⟩ := h
    rcases h with h1 | ⟨xs, σ2, h1, h2⟩
    · exact hl.nf _ σ (by omega) hB h1
    · exact (hf xs).nf σ2 (Nat.le_trans ((hm _).le _ _ _ h1) hB) h2⟩

instance loop_nfb' {α} {B} {loop : Nat → P α} [hl : LoopNF B loop] : NFb B (loopFuel >>= fun k => loop k) :=
  ⟨fun σ hB h => by
    simp only [bind_error, loopFuel_run, Except.ok.injEq, Prod.mk.injEq, reduceCtorEq, false_or] at h
    obtain ⟨k, _, ⟨rfl, rfl⟩, h⟩ := h
    exact hl.nf _ σ (by omega) hB h⟩

instance reverse_strict {α} {opn close : TokenKind} {item : P α} [Mono item] {z : Bool} [NotEOF opn] :
    Strict (reverse opn item close z) := by
  unfold reverse
  infer_instance

theorem reverse_nf {α} {opn close : TokenKind} {item : P α} [Strict item] [ho : NotEOF opn] {z : Bool} {B : Nat}
    (hi : ∀ B', B' < B → NFb B' item) : NFb B (reverse opn item close z) := by
  unfold reverse
  refine NFb.bind_strict inferInstance (fun B' hB' _ => ?_)
  haveI : LoopNF B' (many close item) := .many fun B'' h => hi B'' (by omega)
  infer_instance

instance many_loopNF {α} {close : TokenKind} {item : P α} [Strict item] {B : Nat} [hi : ∀ B', NFb B' item] :
    LoopNF B (many close item) := ⟨fun k σ hk hB => many_nf (fun B' _ => hi B') k σ hk hB⟩

instance {α} {item : P α} [Mono item] (sep : TokenKind) (k : Nat) : Mono (sepLoop item sep k) := by
  induction k with
  | zero => unfold sepLoop; infer_instance
  | succ k ih => unfold sepLoop; infer_instance

instance {α} {B} {item : P α} [hs : Strict item] [hn : NFb B item] (sep : TokenKind) : LoopNF B (sepLoop item sep) := .of <| by
  intro k
  induction k with
  | zero => intro B' h; omega
  | succ k ih =>
    intro B' hk hB
    simp only [sepLoop]
    refine NFb.bind_strict (hn.anti hB) (fun B'' hB'' x => ?_)
    haveI := ih B'' (by omega) (by omega)
    infer_instance

end GqlModel.Parser
