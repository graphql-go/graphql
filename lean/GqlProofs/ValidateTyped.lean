import GqlModel.Validate.Local
import GqlProofs.ValidateLiteral
import GqlProofs.Validate
/-! # Lemmas for the type-directed rules of C02

* `items_ok`: what the TypeInfo state attached to an item of `items s d` is, in terms of the item's own syntax and
  its parent type (the projection `items` threads contexts top-down; these are the facts the declarative readings need);
* `schemaInputsOkB`: decidable well-formedness of the schema's INPUT positions (argument, directive-argument and
  input-field types are scalar / enum / input-object types) — guaranteed by schema construction, evaluated by drv_c02
  on every case;
* `doTypesOverlap_iff`: `doTypesOverlap` = the possible runtime types intersect. -/
namespace GqlModel.Validate

/-! ## items: the attached contexts -/

def ParOK (s : Schema) (c : TCtx) : Prop := ∀ p, c.parent = some p → s.compositeT p = true

/-- the state inside a selection set: the parent type is the (composite) named type of `Type()` -/
def InSet (s : Schema) (c : TCtx) : Prop :=
  ∀ p, c.parent = some p → s.compositeT p = true ∧ ∃ t, c.ty = some t ∧ t.namedName = p

def ItemOK (s : Schema) : Item → Prop
  | .field c nm _ _ _ => c.fieldDef = c.parent.bind (fun p => s.fieldDef? p nm.value) ∧ ParOK s c
  | .spread c _ _ => ParOK s c
  | .inline c tc _ =>
    ParOK s c ∧
      (match tc with
       | some t => c.ty = TCtx.condType s t
       | none => ∀ p, c.parent = some p → ∃ t, c.ty = some t ∧ t.namedName = p)
  | _ => True

theorem enterSelSet_inSet (s : Schema) (c : TCtx) : InSet s (c.enterSelSet s) := by
  intro p hp
  unfold TCtx.enterSelSet at hp ⊢
  cases hty : c.ty with
  | none => simp [hty] at hp
  | some t =>
    simp only [hty] at hp ⊢
    by_cases hc : s.compositeT t.namedName = true
    · simp only [hc, if_true, Option.some.injEq] at hp
      subst hp
      exact ⟨hc, t, rfl, rfl⟩
    · simp [hc] at hp

theorem dirItems_ok (s : Schema) (site : DirSite) (c : TCtx) (ds : List Directive) :
    ∀ it ∈ dirItems site c ds, ItemOK s it := by
  intro it hit
  unfold dirItems at hit
  obtain ⟨d, _, rfl⟩ := List.mem_map.1 hit
  trivial

mutual
theorem itemsSel_ok (s : Schema) (c : TCtx) (h : InSet s c) : ∀ (x : Selection), ∀ it ∈ itemsSel s c x, ItemOK s it
  | .field a nm args dirs sel lc => by
    intro it hit
    unfold itemsSel at hit
    simp only [List.mem_cons, List.mem_append] at hit
    rcases hit with rfl | hit | hit
    · exact ⟨rfl, fun p hp => (h p hp).1⟩
    · exact dirItems_ok s _ _ _ it hit
    · exact itemsOpt_ok s _ sel it hit
  | .spread nm dirs lc => by
    intro it hit
    unfold itemsSel at hit
    simp only [List.mem_cons] at hit
    rcases hit with rfl | hit
    · exact fun p hp => (h p hp).1
    · exact dirItems_ok s _ _ _ it hit
  | .inline tc dirs ss lc => by
    intro it hit
    unfold itemsSel at hit
    simp only [List.mem_cons, List.mem_append] at hit
    rcases hit with rfl | hit | hit
    · refine ⟨?_, ?_⟩
      · intro p hp
        cases tc <;> exact (h p hp).1
      · cases tc with
        | some t => rfl
        | none =>
          intro p hp
          obtain ⟨_, t, ht, hn⟩ := h p hp
          refine ⟨.named t.namedName, ?_, hn⟩
          simp [TCtx.enterInline, ht]
    · exact dirItems_ok s _ _ _ it hit
    · exact itemsSet_ok s _ ss it hit
theorem itemsSet_ok (s : Schema) (c : TCtx) : ∀ (ss : SelectionSet), ∀ it ∈ itemsSet s c ss, ItemOK s it
  | .mk sels lc => by
    intro it hit
    unfold itemsSet at hit
    exact itemsSels_ok s _ (enterSelSet_inSet s c) sels it hit
theorem itemsOpt_ok (s : Schema) (c : TCtx) : ∀ (o : Option SelectionSet), ∀ it ∈ itemsOpt s c o, ItemOK s it
  | none => by intro it hit; simp [itemsOpt] at hit
  | some ss => by intro it hit; unfold itemsOpt at hit; exact itemsSet_ok s c ss it hit
theorem itemsSels_ok (s : Schema) (c : TCtx) (h : InSet s c) : ∀ (xs : List Selection), ∀ it ∈ itemsSels s c xs, ItemOK s it
  | [] => by intro it hit; simp [itemsSels] at hit
  | x :: xs => by
    intro it hit
    unfold itemsSels at hit
    rcases List.mem_append.1 hit with hit | hit
    · exact itemsSel_ok s c h x it hit
    · exact itemsSels_ok s c h xs it hit
end

theorem items_ok (s : Schema) (d : Document) : ∀ it ∈ items s d, ItemOK s it := by
  intro it hit
  unfold items at hit
  obtain ⟨df, _, hit⟩ := List.mem_flatMap.1 hit
  cases df with
  | operation op nm vars dirs sel lc =>
    unfold itemsDef at hit
    simp only [List.mem_cons, List.mem_append, List.mem_map] at hit
    rcases hit with rfl | (⟨v, _, rfl⟩ | hit) | hit
    · trivial
    · trivial
    · exact dirItems_ok s _ _ _ it hit
    · exact itemsSet_ok s _ sel it hit
  | fragment nm tc dirs sel lc =>
    unfold itemsDef at hit
    simp only [List.mem_cons, List.mem_append] at hit
    rcases hit with rfl | hit | hit
    · trivial
    · exact dirItems_ok s _ _ _ it hit
    · exact itemsSet_ok s _ sel it hit
  | _ => simp [itemsDef] at hit

/-! ## the schema's input positions -/

theorem schemaInputsOkB_parts {s : Schema} (h : schemaInputsOkB s = true) :
    (∀ td, td ∈ s.plus.types → typeDefInputsOK s.plus td = true) ∧ argsOK s.plus typeMetaField.args = true ∧
    ∀ dd, dd ∈ s.allDirectives → argsOK s.plus dd.args = true := by
  simp only [schemaInputsOkB, Bool.and_eq_true, List.all_eq_true] at h
  exact ⟨h.1.1, h.1.2, h.2⟩

theorem schemaOk_closed (s : Schema) (h : schemaInputsOkB s = true) : InputClosed s.plus := by
  intro n n' fields dsc hf f hfm
  obtain ⟨htypes, _, _⟩ := schemaInputsOkB_parts h
  have := htypes _ (List.mem_of_find?_eq_some hf)
  simp only [typeDefInputsOK, List.all_eq_true] at this
  exact this f hfm

theorem lookup_resolve {s : Schema} {n : String} {td : TypeDef} (h : s.lookup n = some td) : s.resolve n = some td := by
  unfold Schema.lookup at h
  unfold Schema.resolve
  cases hf : s.find? n with
  | some td' =>
    simp only [hf] at h
    split at h
    · cases h
    · exact h
  | none => simp only [hf] at h; exact h

theorem schemaOk_fieldArgs (s : Schema) (h : schemaInputsOkB s = true) (p f : String) (fd : FieldDefS)
    (hfd : s.fieldDef? p f = some fd) : ∀ a ∈ fd.args, inputKind s.plus a.type.namedName = true := by
  obtain ⟨htypes, hmeta, _⟩ := schemaInputsOkB_parts h
  intro a ha
  rcases TypeInfoStacks.fieldDef?_cases hfd with hm | hm
  · simp only [List.mem_cons, List.not_mem_nil, or_false] at hm
    rcases hm with rfl | rfl | rfl
    · simp [schemaMetaField] at ha
    · simp only [argsOK, List.all_eq_true] at hmeta
      exact hmeta a ha
    · simp [typeNameMetaField] at ha
  · obtain ⟨td, htd, hfd'⟩ := TypeInfoStacks.fieldsOf_mem hm
    have := htypes td htd
    cases td with
    | object | interface =>
      simp only [typeDefInputsOK, List.all_eq_true, argsOK] at this
      exact this fd hfd' a ha
    | _ => cases hfd'

theorem schemaOk_dirArgs (s : Schema) (h : schemaInputsOkB s = true) (nm : String) (dd : DirectiveDefS)
    (hdd : s.directive? nm = some dd) : ∀ a ∈ dd.args, inputKind s.plus a.type.namedName = true := by
  obtain ⟨_, _, hdirs⟩ := schemaInputsOkB_parts h
  have hm : dd ∈ s.allDirectives := List.mem_of_find?_eq_some hdd
  have := hdirs dd hm
  simp only [argsOK, List.all_eq_true] at this
  exact this

theorem inputT_inputKind (s : Schema) (n : String) (h : s.inputT n = true) : inputKind s.plus n = true := by
  unfold Schema.inputT at h
  unfold inputKind
  rw [plus_find?]
  cases hl : s.lookup n with
  | none => simp [hl] at h
  | some td =>
    rw [lookup_resolve hl]
    cases td <;> simp_all

/-! ## possible runtime types -/

/-- the object types a value of (composite) type `T` can have at run time: `T` itself for an object type, the
implementations of an interface, the members of a union -/
def runtimeTypes (s : Schema) (T : String) : List String :=
  if s.objectT T then [T] else s.possibleTypes T

/-- every abstract type of the type map has at least one possible type (not enforced by `NewSchema`; the generated
schemas satisfy it; without it `doTypesOverlap T T` is true although no object can be of type `T`) -/
def AbstractInhabited (s : Schema) : Prop := ∀ T, s.abstractT T = true → s.possibleTypes T ≠ []

def notAbstractDef : TypeDef → Prop
  | .interface .. => False
  | .union .. => False
  | _ => True

theorem intro_not_abstract : ∀ td ∈ introspectionTypes, notAbstractDef td := by
  intro td hm
  simp only [introspectionTypes, List.mem_cons, List.not_mem_nil, or_false] at hm
  rcases hm with rfl | rfl | rfl | rfl | rfl | rfl | rfl | rfl <;> trivial

theorem lookup_cases (s : Schema) (n : String) (td : TypeDef) (h : s.lookup n = some td) :
    s.find? n = some td ∨ td ∈ introspectionTypes := by
  have hr := lookup_resolve h
  unfold Schema.resolve at hr
  cases hf : s.find? n with
  | some td' => rw [hf] at hr; exact .inl hr
  | none => rw [hf] at hr; exact .inr (List.mem_of_find?_eq_some hr)

theorem abstractInhabited_of_B (s : Schema) (h : abstractInhabitedB s = true) : AbstractInhabited s := by
  intro T hT hnil
  unfold Schema.abstractT at hT
  simp only [abstractInhabitedB, List.all_eq_true] at h
  cases hl : s.lookup T with
  | none => simp [hl] at hT
  | some td =>
    rcases lookup_cases s T td hl with hf | hi
    · obtain ⟨hm, hn⟩ := find?_name hf
      have := h td hm
      cases td with
      | interface n _ _ _ => simp only [TypeDef.name] at hn; subst hn; simp [hnil] at this
      | union n _ _ _ => simp only [TypeDef.name] at hn; subst hn; simp [hnil] at this
      | _ => simp [hl] at hT
    · have := intro_not_abstract td hi
      cases td <;> simp_all [notAbstractDef]

theorem composite_cases (s : Schema) (T : String) (h : s.compositeT T = true) :
    (s.objectT T = true ∧ s.abstractT T = false) ∨ (s.objectT T = false ∧ s.abstractT T = true) := by
  unfold Schema.compositeT at h
  unfold Schema.objectT Schema.abstractT
  cases hl : s.lookup T with
  | none => simp [hl] at h
  | some td => cases td <;> simp_all

theorem doTypesOverlap_iff (s : Schema) (hinh : AbstractInhabited s) (t1 t2 : String)
    (h1 : s.compositeT t1 = true) (h2 : s.compositeT t2 = true) :
    doTypesOverlap s t1 t2 = true ↔ ∃ o, o ∈ runtimeTypes s t1 ∧ o ∈ runtimeTypes s t2 := by
  unfold doTypesOverlap runtimeTypes
  by_cases heq : t1 = t2
  · subst heq
    simp only [beq_self_eq_true, if_true, true_iff]
    rcases composite_cases s t1 h1 with ⟨ho, _⟩ | ⟨ho, ha⟩
    · exact ⟨t1, by simp [ho]⟩
    · have := hinh t1 ha
      obtain ⟨o, ho'⟩ := List.exists_mem_of_ne_nil _ this
      exact ⟨o, by simp [ho, ho']⟩
  · have hne : (t1 == t2) = false := by simpa using heq
    simp only [hne, Bool.false_eq_true, if_false]
    rcases composite_cases s t1 h1 with ⟨ho1, ha1⟩ | ⟨ho1, ha1⟩ <;>
    rcases composite_cases s t2 h2 with ⟨ho2, ha2⟩ | ⟨ho2, ha2⟩
    · simp only [ho1, ho2, if_true, Bool.false_eq_true, false_iff, List.mem_singleton]
      rintro ⟨o, rfl, h⟩; exact heq h
    · simp only [ho1, ho2, ha2, if_true, Bool.false_eq_true, if_false, List.contains_iff_mem, List.mem_singleton]
      constructor
      · intro h; exact ⟨t1, rfl, h⟩
      · rintro ⟨o, rfl, h⟩; exact h
    · simp only [ho1, ha1, ho2, if_true, Bool.false_eq_true, if_false, List.contains_iff_mem, List.mem_singleton]
      constructor
      · intro h; exact ⟨t2, h, rfl⟩
      · rintro ⟨o, h, rfl⟩; exact h
    · simp only [ho1, ha1, ho2, ha2, if_true, Bool.false_eq_true, if_false, List.any_eq_true, List.contains_iff_mem]
      constructor
      · rintro ⟨o, h2', h1'⟩; exact ⟨o, h1', h2'⟩
      · rintro ⟨o, h1', h2'⟩; exact ⟨o, h2', h1'⟩

end GqlModel.Validate
