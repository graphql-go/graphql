import GqlProofs.PlanStep
import GqlProofs.PlanInv
/-! # Invariants of values under construction: a non-func never completes to a bare closure; response maps have distinct keys

Used to show that `dethunkValueDepthFirst` leaves no closure behind (`GqlProofs/PlanDfsSettle.lean`): the loop at every dethunk site
(`forceLoop`) only stops at a value that is no closure. -/
namespace GqlModel.Plan
open GqlModel.Exec GqlModel.Coerce

section notdef
variable {c : Ctx} {alt : Alt}

theorem mComplete_not_deferred : ∀ (fuel : Nat) (dfr : Bool) (t : GType) (rt : String) (fid : FpId) (fp : FieldPlan) (p : Path)
    (v : GoVal) (st : MSt), funcOf v = none →
    ∀ x, (mComplete c alt fuel dfr t rt fid fp p v st).1 = .ok x → ∀ cl, x ≠ .deferred cl
  | 0, dfr, t, rt, fid, fp, p, v, st, _ => by rw [mComplete_zero]; exact nofun
  | fuel + 1, dfr, t, rt, fid, fp, p, v, st, hfo => by
    show Yields (fun x : PVal => ∀ cl, x ≠ .deferred cl) _
    rw [mComplete_succ hfo]
    cases shape c t v with
    | nonNull inner =>
      refine Yields.andThen (mComplete_not_deferred fuel dfr inner rt fid fp p v st hfo) fun x s hx => ?_
      unfold nonNullGuard
      cases x.isNull
      · exact yields_ok hx
      · exact yields_fail
    | null => exact yields_ok fun _ => nofun
    | items item xs => exact Yields.andThen (Q := fun _ => True) (fun _ _ => trivial) fun _ _ _ => yields_ok fun _ => nofun
    | leaf j => exact yields_ok fun _ => nofun
    | object ot => exact Yields.andThen (Q := fun _ => True) (fun _ _ => trivial) fun _ _ _ => yields_ok fun _ => nofun
    | error => exact yields_fail

theorem forceLoop_not_deferred {frc : Closure → MSt → Res PVal × MSt} :
    ∀ (n : Nat) (v : PVal) (st : MSt) (x : PVal), (forceLoop frc n v st).1 = .ok x → ∀ cl, x ≠ .deferred cl
  | 0, v, st => by rw [forceLoop_zero]; exact yields_fuelOut
  | n + 1, v, st => by
    cases v with
    | deferred cl =>
      rw [forceLoop_deferred]
      exact Yields.andThen (Q := fun _ => True) (fun _ _ => trivial) fun y s _ => forceLoop_not_deferred n y s
    | _ => rw [forceLoop_succ]; exact yields_ok fun _ => nofun

end notdef

mutual
/-- every object inside has pairwise distinct keys (it is a Go map) -/
def NDv : PVal → Prop
  | .leaf _ => True
  | .list xs => NDl xs
  | .obj fs => (fs.map (·.1)).Nodup ∧ NDf fs
  | .deferred _ => True
def NDl : List PVal → Prop
  | [] => True
  | x :: xs => NDv x ∧ NDl xs
def NDf : List (String × PVal) → Prop
  | [] => True
  | (_, x) :: xs => NDv x ∧ NDf xs
end

theorem ndl_iff {xs : List PVal} : NDl xs ↔ ∀ x ∈ xs, NDv x := by
  induction xs with
  | nil => simp [NDl]
  | cons x xs ih => simp [NDl, ih]

theorem ndf_iff {fs : List (String × PVal)} : NDf fs ↔ ∀ x ∈ fs, NDv x.2 := by
  induction fs with
  | nil => simp [NDf]
  | cons x xs ih => obtain ⟨k, v⟩ := x; simp [NDf, ih]

theorem ndv_leaf (j : JVal) : NDv (.leaf j) := by simp [NDv]
theorem ndv_deferred (cl : Closure) : NDv (.deferred cl) := by simp [NDv]
theorem ndv_list {xs : List PVal} : NDv (.list xs) ↔ ∀ x ∈ xs, NDv x := by simp only [NDv]; exact ndl_iff
theorem ndv_obj {fs : List (String × PVal)} : NDv (.obj fs) ↔ (fs.map (·.1)).Nodup ∧ ∀ x ∈ fs, NDv x.2 := by
  simp only [NDv]; rw [ndf_iff]

/-- the sub-plan oracle returns field lists with distinct response keys -/
def AltND (alt : Alt) : Prop := ∀ m fid fp rt, KeysNodup (alt m fid fp rt).1

theorem altND_recompute (s : Schema) (frags : List (String × Definition)) (pv : Option Vars) : AltND (recompute s frags pv) :=
  fun _ _ fp rt => keysNodup_planMerged s frags pv rt fp.nodes

section nd
variable (c : Ctx) (alt : Alt)

/-- every field is `Yields Q (run)` written out -/
structure NodupP (fuel : Nat) : Prop where
  groups : ∀ dfr rt src path sid fps acc st, (acc.map (·.1) ++ fps.map (·.key)).Nodup → (∀ x ∈ acc, NDv x.2) →
    ∀ fs, (mGroups c alt fuel dfr rt src path sid fps acc st).1 = .ok fs → (fs.map (·.1)).Nodup ∧ ∀ x ∈ fs, NDv x.2
  field : ∀ dfr rt src p fid fp fd st, ∀ v, (mField c alt fuel dfr rt src p fid fp fd st).1 = .ok v → NDv v
  complete : ∀ dfr t rt fid fp p v st, ∀ x, (mComplete c alt fuel dfr t rt fid fp p v st).1 = .ok x → NDv x
  items : ∀ dfr item rt fid fp p xs i acc st, (∀ x ∈ acc, NDv x) →
    ∀ ys, (mItems c alt fuel dfr item rt fid fp p xs i acc st).1 = .ok ys → ∀ y ∈ ys, NDv y

variable {c alt}

theorem nodupP (ha : AltND alt) : ∀ fuel, NodupP c alt fuel
  | 0 => by
    refine ⟨?_, ?_, ?_, ?_⟩
    · intro dfr rt src path sid fps acc st _ _ fs h; rw [mGroups_zero] at h; cases h
    · intro dfr rt src p fid fp fd st v h; rw [mField_zero] at h; cases h
    · intro dfr t rt fid fp p v st x h; rw [mComplete_zero] at h; cases h
    · intro dfr item rt fid fp p xs i acc st _ ys h; rw [mItems_zero] at h; cases h
  | fuel + 1 => by
    have ih := nodupP ha fuel
    refine ⟨?_, ?_, ?_, ?_⟩
    · intro dfr rt src path sid fps acc st hnd hacc
      show Yields (fun fs : List (String × PVal) => (fs.map (·.1)).Nodup ∧ ∀ x ∈ fs, NDv x.2) _
      cases fps with
      | nil => rw [mGroups_nil]; exact yields_ok ⟨by simpa using hnd, hacc⟩
      | cons fp rest =>
        have hnd' : (acc.map (·.1) ++ rest.map (·.key)).Nodup := by
          simp only [List.map_cons] at hnd
          exact (List.nodup_append.1 hnd).1 |> fun h1 =>
            List.nodup_append.2 ⟨h1, (List.nodup_cons.1 (List.nodup_append.1 hnd).2.1).2,
              fun a ha b hb => (List.nodup_append.1 hnd).2.2 a ha b (List.mem_cons_of_mem _ hb)⟩
        cases hp : fp.pred.eval c.schema c.vars with
        | false => rw [mGroups_skip (.inl hp)]; exact ih.groups dfr rt src path sid rest acc st hnd' hacc
        | true =>
          cases hfd : fp.fieldDef with
          | none => rw [mGroups_skip (.inr hfd)]; exact ih.groups dfr rt src path sid rest acc st hnd' hacc
          | some fd =>
            rw [mGroups_field hp hfd]
            exact Yields.andThen (ih.field dfr rt src _ (sid ++ [(rt, fp.key)]) fp fd st) fun v s hv =>
              ih.groups dfr rt src path sid rest (acc ++ [(fp.key, v)]) s (by simpa using hnd)
                (forall_mem_append_singleton (P := fun (x : String × PVal) => NDv x.2) hacc hv)
    · intro dfr rt src p fid fp fd st
      show Yields NDv _
      cases hn : fd.name == "__typename" with
      | true => rw [mField_typename hn]; exact yields_ok (ndv_leaf _)
      | false =>
        rw [mField_succ hn]
        cases c.world.outcome src fd.name with
        | fail => exact yields_absorb _ (ndv_leaf _)
        | value gv => exact Yields.recover (ih.complete dfr fd.type rt fid fp p gv _) fun _ => yields_absorb _ (ndv_leaf _)
    · intro dfr t rt fid fp p v st
      cases hfo : funcOf v with
      | some r => rw [mComplete_func hfo]; exact yields_ok (ndv_deferred _)
      | none =>
        rw [mComplete_succ hfo]
        cases shape c t v with
        | nonNull inner =>
          refine Yields.andThen (ih.complete dfr inner rt fid fp p v st) fun x s hx => ?_
          unfold nonNullGuard
          cases x.isNull
          · exact yields_ok hx
          · exact yields_fail
        | null => exact yields_ok (ndv_leaf _)
        | items item xs =>
          exact Yields.andThen (ih.items dfr item rt fid fp p xs 0 [] st (fun _ h => by cases h)) fun js _ hjs =>
            yields_ok (ndv_list.2 hjs)
        | leaf j => exact yields_ok (ndv_leaf _)
        | object ot =>
          exact Yields.andThen (ih.groups dfr ot v p fid _ [] _ (by simpa [KeysNodup] using ha st.memo fid fp ot)
            (fun _ h => by cases h)) fun fs _ hfs => yields_ok (ndv_obj.2 hfs)
        | error => exact yields_fail
    · intro dfr item rt fid fp p xs i acc st hacc
      cases xs with
      | nil => rw [mItems_nil]; exact yields_ok hacc
      | cons x xs =>
        rw [mItems_cons]
        refine Yields.andThen (Yields.recover (ih.complete dfr item rt fid fp _ x st) fun _ => yields_absorb _ (ndv_leaf _)) ?_
        exact fun j s hj => ih.items dfr item rt fid fp p xs (i + 1) (acc ++ [j]) s (forall_mem_append_singleton hacc hj)

theorem force_nd (ha : AltND alt) (fuel : Nat) (cl : Closure) (st : MSt) :
    ∀ x, (force c alt fuel cl st).1 = .ok x → NDv x := by
  rw [force_eq]
  cases cl.r with
  | none => exact yields_absorb _ (ndv_leaf _)
  | some r =>
    cases r with
    | err => exact yields_absorb _ (ndv_leaf _)
    | ok v =>
      exact Yields.recover ((nodupP (c := c) ha fuel).complete true cl.t cl.rt cl.fid cl.fp cl.path v _) fun _ =>
        yields_absorb _ (ndv_leaf _)

theorem forceLoop_nd {frc : Closure → MSt → Res PVal × MSt} (hf : ∀ cl st x, (frc cl st).1 = .ok x → NDv x) :
    ∀ (n : Nat) (v : PVal) (st : MSt), NDv v → ∀ x, (forceLoop frc n v st).1 = .ok x → NDv x
  | 0, v, st, _ => by rw [forceLoop_zero]; exact yields_fuelOut
  | n + 1, v, st, hv => by
    cases v with
    | deferred cl =>
      rw [forceLoop_deferred]
      exact Yields.andThen (hf cl st) fun y s hy => forceLoop_nd hf n y s hy
    | _ => rw [forceLoop_succ]; exact yields_ok hv

theorem forceAll_nd (ha : AltND alt) (fuel : Nat) (cl : Closure) (st : MSt) :
    ∀ x, (forceAll c alt fuel cl st).1 = .ok x → NDv x :=
  forceLoop_nd (fun cl st x h => force_nd ha fuel cl st x h) (fuel + 2) (.deferred cl) st (ndv_deferred cl)

end nd

end GqlModel.Plan
