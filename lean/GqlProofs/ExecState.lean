import GqlProofs.ExecFuel
/-! The state is write-only (`StP`, `ExecRun`); hence the value a successful selection set holds for a field is what that
field's execution yields on its own, whatever its siblings recorded (`runGroups_selected`,
`execGroups_selected_values`). The field's own run is taken with the fuel of the selection set, one unit more than it
was called with: `fuelRuns`, hence the import of `ExecFuel`. -/
namespace GqlModel.Exec

theorem runGroups_selected (c : Ctx) : ∀ fuel {dfr rt src path groups fs d},
    runGroups c fuel dfr rt src path groups = (.ok fs, d) →
    ∀ k nodes node fd, (k, nodes) ∈ groups → nodes.head? = some node → fieldDef? c.schema rt node.name = some fd →
      ∃ v df, runField c fuel dfr rt src (path ++ [.key k]) fd nodes = (.ok v, df) ∧ (k, v) ∈ fs ∧ df.log ⊆ d.log
  | 0, _, _, _, _, _, _, _, h => by cases runGroups_zero.symm.trans h
  | fuel + 1, dfr, rt, src, path, groups, fs, d, h => by
    intro k nodes node fd hm hnode hfd
    -- what the call with less fuel found is also the field's run with this fuel
    have hlift : ∀ {v df}, runField c fuel dfr rt src (path ++ [.key k]) fd nodes = (.ok v, df) →
        runField c (fuel + 1) dfr rt src (path ++ [.key k]) fd nodes = (.ok v, df) := fun hf =>
      ((fuelRuns c 1 fuel).field _ _ _ _ _ _ _ rfl (by rw [hf]; nofun)).trans hf
    cases groups with
    | nil => cases hm
    | cons g rest =>
      obtain ⟨k0, nodes0⟩ := g
      rcases fieldOf_cases c.schema rt nodes0 with hno | ⟨node0, fd0, hh0, hfd0⟩
      · rw [runGroups_skip hno] at h
        rcases List.mem_cons.mp hm with hm | hm
        · cases hm; exact absurd hfd (hno node fd hnode)
        · obtain ⟨v, df, hf, hv, hl⟩ := runGroups_selected c fuel h _ _ _ _ hm hnode hfd
          exact ⟨v, df, hlift hf, hv, hl⟩
      · rw [runGroups_cons hh0 hfd0] at h
        obtain ⟨y, ds, m, dr, hs, hr, rfl, rfl⟩ := Run.andThen_eq_ok h
        rcases List.mem_cons.mp hm with hm | hm
        · cases hm
          cases hh0.symm.trans hnode
          cases hfd0.symm.trans hfd
          exact ⟨y, ds, hlift hs, List.mem_cons_self, List.subset_append_right _ _⟩
        · obtain ⟨v, df, hf, hv, hl⟩ := runGroups_selected c fuel hr _ _ _ _ hm hnode hfd
          exact ⟨v, df, hlift hf, List.mem_cons_of_mem _ hv, fun e he => List.mem_append_left _ (hl he)⟩

theorem execGroups_selected_values (c : Ctx) : ∀ fuel dfr rt src path groups acc st fs st',
    execGroups c fuel dfr rt src path groups acc st = (.ok fs, st') →
    ∀ k nodes node fd, (k, nodes) ∈ groups → nodes.head? = some node → fieldDef? c.schema rt node.name = some fd →
      ∃ v, (k, v) ∈ fs ∧ ∀ st0, (execField c fuel dfr rt src (path ++ [.key k]) fd nodes st0).1 = .ok v := by
  intro fuel dfr rt src path groups acc st fs st' h k nodes node fd hm hnode hfd
  obtain ⟨m, d, hrun, rfl, -⟩ := execGroups_ok_run h
  obtain ⟨v, df, hf, hv, -⟩ := runGroups_selected c fuel hrun _ _ _ _ hm hnode hfd
  exact ⟨v, List.mem_append_right _ hv, fun st0 => by rw [execField_eq_run, hf]; rfl⟩

end GqlModel.Exec
