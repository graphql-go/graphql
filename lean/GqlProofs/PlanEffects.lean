import GqlProofs.PlanSV
import GqlProofs.PlanExecRoot
/-! # Effects (errors and resolver invocations) of the two executions, with deferred values: vocabulary

`Fx` = a pair (errors, invocations), newest first. The algorithm S records the effects of a deferred value where it meets it; M
records them when (and if) it forces the closure. Accounting: the effects of an S run are, up to permutation, the effects of the
corresponding M run, plus what is still PENDING in the closures of M's value (`pend`: for each closure the effects of the
algorithm's in-place forcing, `wFx`), plus what was DROPPED (effects inside deferred values whose position a later failure nulled:
the library never forces those). Everything pending or dropped is flagged `deferred` (`TrueP`). `FxOut` says this of a run of
phase one, `PendOut` of a forcing step, which turns pending effects into recorded ones. -/
namespace GqlModel.Plan
open GqlModel.Exec

/-- One kind of effect (errors, or invocations; `p` = the flag "recorded while a deferred value is forced") in the two lists newest
first, `S` the algorithm's and `M` M's: if `S` is `M` plus dropped ones `D` and the unflagged parts coincide, then in order of
recording the unflagged parts coincide, the flagged part of `S` is that of `M` plus dropped ones, and `M` records nothing `S` does
not. -/
theorem acct_in_order {α : Type} {S M D : List α} (hp : S.Perm (M ++ D)) (p : α → Bool)
    (hn : S.filter (fun e => !p e) = M.filter (fun e => !p e)) :
    M.reverse.filter (fun e => !p e) = S.reverse.filter (fun e => !p e) ∧
      (S.reverse.filter p).Perm (M.reverse.filter p ++ D.filter p) ∧ ∀ e ∈ M.reverse, e ∈ S.reverse := by
  refine ⟨by rw [List.filter_reverse, List.filter_reverse, hn], ?_, fun e he => ?_⟩
  · rw [List.filter_reverse, List.filter_reverse]
    have t1 : (S.filter p).Perm (M.filter p ++ D.filter p) := by rw [← List.filter_append]; exact hp.filter p
    exact (List.reverse_perm _).trans (t1.trans ((List.reverse_perm _).symm.append_right _))
  · exact List.mem_reverse.2 (hp.mem_iff.2 (List.mem_append_left _ (List.mem_reverse.1 he)))

structure Fx where
  errs : List (Path × Bool)
  log : List LogEntry

namespace Fx

def nil : Fx := ⟨[], []⟩
def app (a b : Fx) : Fx := ⟨a.errs ++ b.errs, a.log ++ b.log⟩
def Perm (a b : Fx) : Prop := a.errs.Perm b.errs ∧ a.log.Perm b.log
/-- the part recorded outside deferred values -/
def nd (a : Fx) : Fx := ⟨a.errs.filter (fun e => !e.2), a.log.filter (fun e => !e.deferred)⟩
/-- the part recorded while a deferred value is forced -/
def df (a : Fx) : Fx := ⟨a.errs.filter (fun e => e.2), a.log.filter (fun e => e.deferred)⟩
def AllDf (a : Fx) : Prop := (∀ e ∈ a.errs, e.2 = true) ∧ (∀ e ∈ a.log, e.deferred = true)

@[simp] theorem app_nil (a : Fx) : a.app nil = a := by cases a; simp [app, nil]
@[simp] theorem nil_app (a : Fx) : nil.app a = a := by cases a; simp [app, nil]
@[simp] theorem app_assoc (a b c : Fx) : (a.app b).app c = a.app (b.app c) := by simp [app, List.append_assoc]

theorem Perm.refl (a : Fx) : Perm a a := ⟨List.Perm.refl _, List.Perm.refl _⟩
theorem Perm.symm {a b : Fx} (h : Perm a b) : Perm b a := ⟨h.1.symm, h.2.symm⟩
theorem Perm.trans {a b c : Fx} (h1 : Perm a b) (h2 : Perm b c) : Perm a c := ⟨h1.1.trans h2.1, h1.2.trans h2.2⟩
theorem Perm.app {a a' b b' : Fx} (h1 : Perm a a') (h2 : Perm b b') : Perm (a.app b) (a'.app b') :=
  ⟨h1.1.append h2.1, h1.2.append h2.2⟩
theorem Perm.of_eq {a b : Fx} (h : a = b) : Perm a b := h ▸ Perm.refl a

def flat (xs : List Fx) (p : List Nat) : Fx := p.foldr (fun i acc => (xs.getD i nil).app acc) nil

/-- a component of a concatenation is the concatenation of the components -/
theorem flat_proj {β : Type} (π : Fx → List β) (h0 : π nil = []) (happ : ∀ a b, π (a.app b) = π a ++ π b) (xs : List Fx)
    (p : List Nat) : π (flat xs p) = p.flatMap (fun i => π (xs.getD i nil)) := by
  induction p with
  | nil => exact h0
  | cons i p ih => rw [flat, List.foldr_cons, happ, List.flatMap_cons, ← ih]; rfl

/-- any rearrangement of a concatenation (decide the index permutation) -/
theorem rearr (xs : List Fx) (p q : List Nat) (h : p.Perm q) : Perm (flat xs p) (flat xs q) := by
  constructor
  · rw [flat_proj (·.errs) rfl (fun _ _ => rfl), flat_proj (·.errs) rfl (fun _ _ => rfl)]; exact h.flatMap_right _
  · rw [flat_proj (·.log) rfl (fun _ _ => rfl), flat_proj (·.log) rfl (fun _ _ => rfl)]; exact h.flatMap_right _

theorem nd_app (a b : Fx) : (a.app b).nd = a.nd.app b.nd := by simp [nd, app, List.filter_append]
theorem df_app (a b : Fx) : (a.app b).df = a.df.app b.df := by simp [df, app, List.filter_append]
@[simp] theorem nd_nil : nil.nd = nil := rfl
theorem nd_nd (a : Fx) : a.nd.nd = a.nd := by simp [nd, List.filter_filter]

theorem Perm.nd {a b : Fx} (h : Perm a b) : Perm a.nd b.nd := ⟨h.1.filter _, h.2.filter _⟩
theorem Perm.df {a b : Fx} (h : Perm a b) : Perm a.df b.df := ⟨h.1.filter _, h.2.filter _⟩

theorem AllDf.nd {a : Fx} (h : AllDf a) : a.nd = nil := by
  cases a with
  | mk e l =>
    simp only [Fx.nd, nil, Fx.mk.injEq, List.filter_eq_nil_iff, Bool.not_eq_true', Bool.not_eq_false]
    exact ⟨fun x hx => h.1 x hx, fun x hx => h.2 x hx⟩

theorem allDf_nil : AllDf nil := by
  constructor <;> intro e he <;> exact absurd he List.not_mem_nil

theorem AllDf.app {a b : Fx} (ha : AllDf a) (hb : AllDf b) : AllDf (a.app b) := by
  constructor
  · intro e he
    rcases List.mem_append.1 he with h | h
    · exact ha.1 e h
    · exact hb.1 e h
  · intro e he
    rcases List.mem_append.1 he with h | h
    · exact ha.2 e h
    · exact hb.2 e h

theorem AllDf.of_perm {a b : Fx} (h : Perm a b) (hb : AllDf b) : AllDf a :=
  ⟨fun e he => hb.1 e (h.1.mem_iff.1 he), fun e he => hb.2 e (h.2.mem_iff.1 he)⟩

theorem AllDf.left {a b : Fx} (h : AllDf (a.app b)) : AllDf a :=
  ⟨fun e he => h.1 e (List.mem_append_left _ he), fun e he => h.2 e (List.mem_append_left _ he)⟩
theorem AllDf.right {a b : Fx} (h : AllDf (a.app b)) : AllDf b :=
  ⟨fun e he => h.1 e (List.mem_append_right _ he), fun e he => h.2 e (List.mem_append_right _ he)⟩

end Fx

/-- the effects part of an S state / delta -/
def fxS (d : St) : Fx := ⟨d.errs, d.log⟩

theorem fxS_app (a b : St) : fxS (St.app a b) = (fxS a).app (fxS b) := rfl
theorem fxS_empty : fxS St.empty = Fx.nil := rfl
theorem fxS_addErr (st : St) (p : Path) (d : Bool) : fxS (addErr st p d) = (Fx.mk [(p, d)] []).app (fxS st) := rfl

/-- the resolver invocations among M's events -/
def calls (evs : List Event) : List LogEntry :=
  evs.filterMap (fun | .call e => some e | .force _ => none)

@[simp] theorem calls_nil : calls [] = [] := rfl
theorem calls_append (a b : List Event) : calls (a ++ b) = calls a ++ calls b := by simp [calls, List.filterMap_append]
theorem calls_reverse (a : List Event) : calls a.reverse = (calls a).reverse := by simp [calls, List.filterMap_reverse]

/-- the effects part of an M state -/
def fxM (mst : MSt) : Fx := ⟨mst.errs, calls mst.events⟩

/-- `mst'` is `mst` with the effects `d` added -/
def MExt (mst mst' : MSt) (d : Fx) : Prop := fxM mst' = d.app (fxM mst)

theorem MExt.refl (mst : MSt) : MExt mst mst Fx.nil := by simp [MExt]
theorem MExt.trans {a b c : MSt} {d1 d2 : Fx} (h1 : MExt a b d1) (h2 : MExt b c d2) : MExt a c (d2.app d1) := by
  unfold MExt at *; rw [h2, h1, Fx.app_assoc]
theorem MExt.of_eq {a b : MSt} (he : b.errs = a.errs) (hv : b.events = a.events) : MExt a b Fx.nil := by
  simp [MExt, fxM, he, hv]
theorem mExt_addErr (mst : MSt) (p : Path) (d : Bool) : MExt mst (mst.addErr p d) ⟨[(p, d)], []⟩ := by
  simp [MExt, fxM, MSt.addErr, Fx.app]
theorem mExt_call (mst : MSt) (e : LogEntry) : MExt mst (mst.logEv (.call e)) ⟨[], [e]⟩ := by
  simp [MExt, fxM, MSt.logEv, Fx.app, calls]
theorem mExt_force (mst : MSt) (p : Path) : MExt mst (mst.logEv (.force p)) Fx.nil := by
  simp [MExt, fxM, MSt.logEv, Fx.nil, Fx.app, calls]

section strue
variable (c : Ctx)

structure TrueP (fuel : Nat) : Prop where
  groups : ∀ rt src path groups acc st, (fxS st).AllDf → (fxS (execGroups c fuel true rt src path groups acc st).2).AllDf
  field : ∀ rt src p fd nodes st, (fxS st).AllDf → (fxS (execField c fuel true rt src p fd nodes st).2).AllDf
  complete : ∀ t rt fname nodes p v st, (fxS st).AllDf → (fxS (complete c fuel true t rt fname nodes p v st).2).AllDf
  items : ∀ item rt fname nodes p xs i acc st, (fxS st).AllDf →
    (fxS (completeItems c fuel true item rt fname nodes p xs i acc st).2).AllDf

variable {c}

theorem allDf_addErr_true {st : St} (h : (fxS st).AllDf) (p : Path) : (fxS (addErr st p true)).AllDf := by
  rw [fxS_addErr]
  exact Fx.AllDf.app ⟨fun e he => by simp at he; rw [he], fun _ he => by cases he⟩ h

theorem allDf_absorb {st : St} (h : (fxS st).AllDf) (b : Bool) : (fxS (absorbAt b JVal.null st).2).AllDf := by
  cases b <;> exact h

theorem fxS_kfMark (t : GType) (p : Path) (st : St) : fxS (kfMark t p st) = fxS st := rfl

theorem trueP : ∀ fuel, TrueP c fuel
  | 0 => by
    refine ⟨?_, ?_, ?_, ?_⟩
    · intro rt src path groups acc st h; rw [execGroups_zero]; exact h
    · intro rt src p fd nodes st h; rw [execField_zero]; exact h
    · intro t rt fname nodes p v st h; rw [complete_zero]; exact h
    · intro item rt fname nodes p xs i acc st h; rw [completeItems_zero]; exact h
  | fuel + 1 => by
    have ih := trueP fuel
    refine ⟨?_, ?_, ?_, ?_⟩
    · intro rt src path groups acc st h
      cases groups with
      | nil => rw [execGroups_nil]; exact h
      | cons g rest =>
        obtain ⟨key, nodes⟩ := g
        cases hh : nodes.head? with
        | none => rw [execGroups_noHead hh]; exact ih.groups _ _ _ _ _ _ h
        | some node =>
          cases hfd : fieldDef? c.schema rt node.name with
          | none => rw [execGroups_unknown hh hfd]; exact ih.groups _ _ _ _ _ _ h
          | some fd =>
            rw [execGroups_field hh hfd]
            exact andThen_snd (I := fun s => (fxS s).AllDf) (ih.field rt src _ fd nodes st h) fun _ _ hs => ih.groups _ _ _ _ _ _ hs
    · intro rt src p fd nodes st h
      cases hn : fd.name == "__typename" with
      | true => rw [execField_typename hn]; exact h
      | false =>
        rw [execField_succ hn]
        have h0 : (fxS { st with log := callEntry c true rt src p fd nodes :: st.log }).AllDf := by
          refine ⟨h.1, ?_⟩
          intro e he
          rcases List.mem_cons.1 he with rfl | he
          · rfl
          · exact h.2 e he
        cases c.world.outcome src fd.name with
        | fail => exact allDf_absorb (allDf_addErr_true h0 p) _
        | value v =>
          exact recover_snd (I := fun s => (fxS s).AllDf) (ih.complete fd.type rt fd.name nodes p v _ h0) fun _ hs => allDf_absorb hs _
    · intro t rt fname nodes p v st h
      cases hfo : funcOf v with
      | some _ =>
        cases v with
        | thunk tr =>
          cases tr with
          | err => rw [complete_thunkErr]; exact allDf_addErr_true h p
          | ok v' =>
            rw [complete_thunk]
            exact recover_snd (I := fun s => (fxS s).AllDf) (ih.complete t rt fname nodes p v' st h) fun _ hs => hs
        | badFunc => rw [complete_badFunc]; exact allDf_addErr_true h p
        | _ => cases hfo
      | none =>
        rw [complete_succ hfo]
        cases shape c t v with
        | nonNull inner =>
          refine andThen_snd (I := fun s => (fxS s).AllDf) (ih.complete inner rt fname nodes p v st h) fun j s hs => ?_
          unfold nonNullGuardS
          cases j.isNull
          · exact hs
          · exact allDf_addErr_true hs p
        | null => exact h
        | items item xs =>
          exact andThen_snd (I := fun s => (fxS s).AllDf) (ih.items item rt fname nodes p xs 0 [] st h) fun _ _ hs => hs
        | leaf j => exact h
        | object ot =>
          exact andThen_snd (I := fun s => (fxS s).AllDf) (ih.groups ot v p (collectMerged c ot nodes) [] st h) fun _ _ hs => hs
        | error => exact allDf_addErr_true h p
    · intro item rt fname nodes p xs i acc st h
      cases xs with
      | nil => rw [completeItems_nil]; exact h
      | cons x xs =>
        rw [completeItems_cons]
        refine andThen_snd (I := fun s => (fxS s).AllDf) ?_ fun _ _ hs => ih.items _ _ _ _ _ _ _ _ _ hs
        exact recover_snd (I := fun s => (fxS s).AllDf) (ih.complete item rt fname nodes _ x st h) fun _ hs => allDf_absorb hs _

end strue

section pend
variable (c : Ctx) (F : Nat)

/-- the algorithm's in-place forcing of what the closure will call, from the empty state, with the request's fuel -/
def wRun (cl : Closure) (v : GoVal) : Res JVal × St :=
  complete c F true cl.t cl.rt cl.fp.fieldName cl.fp.fieldNodes cl.path v St.empty

/-- the effects the algorithm records for the deferred value the closure stands for -/
def wFx (cl : Closure) : Fx :=
  match cl.r with
  | some (.ok v) => fxS (wRun c F cl v).2
  | _ => ⟨[(cl.path, true)], []⟩

mutual
/-- the effects still pending in the closures of a value under construction -/
def pend : PVal → Fx
  | .leaf _ => Fx.nil
  | .list xs => pendL xs
  | .obj fs => pendF fs
  | .deferred cl => wFx c F cl
def pendL : List PVal → Fx
  | [] => Fx.nil
  | x :: xs => (pend x).app (pendL xs)
def pendF : List (String × PVal) → Fx
  | [] => Fx.nil
  | (_, x) :: xs => (pend x).app (pendF xs)
end

variable {c F}

theorem pendL_append (xs ys : List PVal) : pendL c F (xs ++ ys) = (pendL c F xs).app (pendL c F ys) := by
  induction xs with
  | nil => simp [pendL]
  | cons x xs ih => simp [pendL, ih]

theorem pendF_append (xs ys : List (String × PVal)) : pendF c F (xs ++ ys) = (pendF c F xs).app (pendF c F ys) := by
  induction xs with
  | nil => simp [pendF]
  | cons x xs ih => obtain ⟨k, x⟩ := x; simp [pendF, ih]

theorem pendL_snoc (xs : List PVal) (x : PVal) : pendL c F (xs ++ [x]) = (pendL c F xs).app (pend c F x) := by
  rw [pendL_append]; simp [pendL]

theorem pendF_snoc (xs : List (String × PVal)) (k : String) (x : PVal) :
    pendF c F (xs ++ [(k, x)]) = (pendF c F xs).app (pend c F x) := by
  rw [pendF_append]; simp [pendF]

theorem wFx_allDf (cl : Closure) : (wFx c F cl).AllDf := by
  unfold wFx
  split
  · exact (trueP (c := c) F).complete _ _ _ _ _ _ _ (by rw [fxS_empty]; exact Fx.allDf_nil)
  · exact ⟨fun e he => by simp at he; rw [he], fun _ he => by cases he⟩

mutual
theorem pend_allDf : ∀ v : PVal, (pend c F v).AllDf
  | .leaf _ => by simp only [pend]; exact Fx.allDf_nil
  | .list xs => by simp only [pend]; exact pendL_allDf xs
  | .obj fs => by simp only [pend]; exact pendF_allDf fs
  | .deferred cl => by simp only [pend]; exact wFx_allDf cl
theorem pendL_allDf : ∀ xs : List PVal, (pendL c F xs).AllDf
  | [] => by simp only [pendL]; exact Fx.allDf_nil
  | x :: xs => by simp only [pendL]; exact (pend_allDf x).app (pendL_allDf xs)
theorem pendF_allDf : ∀ fs : List (String × PVal), (pendF c F fs).AllDf
  | [] => by simp only [pendF]; exact Fx.allDf_nil
  | (_, x) :: xs => by simp only [pendF]; exact (pend_allDf x).app (pendF_allDf xs)
end

mutual
theorem pend_noDef : ∀ v : PVal, NoDef v → pend c F v = Fx.nil
  | .leaf _, _ => by simp only [pend]
  | .list xs, h => by simp only [pend]; exact pendL_noDef xs (by simpa [NoDef, PVal.AllCl] using h)
  | .obj fs, h => by simp only [pend]; exact pendF_noDef fs (by simpa [NoDef, PVal.AllCl] using h)
  | .deferred cl, h => absurd (allCl_deferred.1 h) id
theorem pendL_noDef : ∀ xs : List PVal, PVal.AllClList (fun _ => False) xs → pendL c F xs = Fx.nil
  | [], _ => by simp only [pendL]
  | x :: xs, h => by
    simp only [PVal.AllClList] at h
    simp only [pendL, pend_noDef x h.1, pendL_noDef xs h.2, Fx.nil_app]
theorem pendF_noDef : ∀ fs : List (String × PVal), PVal.AllClFields (fun _ => False) fs → pendF c F fs = Fx.nil
  | [], _ => by simp only [pendF]
  | (_, x) :: xs, h => by
    simp only [PVal.AllClFields] at h
    simp only [pendF, pend_noDef x h.1, pendF_noDef xs h.2, Fx.nil_app]
end

end pend

/-- the algorithm's effects `dS`, together with what was pending before (`Pin`), are M's effects `dM`, what is pending afterwards
(`Pout`) and what was dropped; outside deferred values the two runs record the same, in the same order -/
def Acct (dS dM Pin Pout : Fx) (dfr : Bool) : Prop :=
  (∃ D, Fx.Perm (dS.app Pin) (dM.app (Pout.app D))) ∧ (dfr = false → dS.nd = dM.nd)

theorem acct_same (d P : Fx) (dfr : Bool) : Acct d d P P dfr :=
  ⟨⟨Fx.nil, by simpa using Fx.Perm.refl (d.app P)⟩, fun _ => rfl⟩

theorem acct_seq {dA dMA dB dMB Pin Pmid Pout : Fx} {dfr : Bool} (h1 : Acct dA dMA Pin Pmid dfr)
    (h2 : Acct dB dMB Pmid Pout dfr) : Acct (dB.app dA) (dMB.app dMA) Pin Pout dfr := by
  obtain ⟨⟨D1, p1⟩, n1⟩ := h1
  obtain ⟨⟨D2, p2⟩, n2⟩ := h2
  refine ⟨⟨D2.app D1, ?_⟩, fun h => by rw [Fx.nd_app, Fx.nd_app, n1 h, n2 h]⟩
  -- dB ++ dA ++ Pin ~ dB ++ (dMA ++ Pmid ++ D1) ~ (dB ++ Pmid) ++ dMA ++ D1 ~ (dMB ++ Pout ++ D2) ++ dMA ++ D1
  have s1 : Fx.Perm ((dB.app dA).app Pin) (dB.app (dMA.app (Pmid.app D1))) := by
    simpa using Fx.Perm.app (Fx.Perm.refl dB) p1
  have s2 : Fx.Perm (dB.app (dMA.app (Pmid.app D1))) ((dB.app Pmid).app (dMA.app D1)) := by
    simpa [Fx.flat] using Fx.rearr [dB, dMA, Pmid, D1] [0, 1, 2, 3] [0, 2, 1, 3] (by decide)
  have s3 : Fx.Perm ((dB.app Pmid).app (dMA.app D1)) ((dMB.app (Pout.app D2)).app (dMA.app D1)) :=
    Fx.Perm.app p2 (Fx.Perm.refl _)
  have s4 : Fx.Perm ((dMB.app (Pout.app D2)).app (dMA.app D1)) ((dMB.app dMA).app (Pout.app (D2.app D1))) := by
    simpa [Fx.flat] using Fx.rearr [dMB, Pout, D2, dMA, D1] [0, 1, 2, 3, 4] [0, 3, 1, 2, 4] (by decide)
  exact (s1.trans s2).trans (s3.trans s4)

theorem acct_frame {dS dM Pin Pout : Fx} {dfr : Bool} (R : Fx) (h : Acct dS dM Pin Pout dfr) :
    Acct dS dM (R.app Pin) (R.app Pout) dfr := by
  obtain ⟨⟨D, p⟩, n⟩ := h
  refine ⟨⟨D, ?_⟩, n⟩
  have s1 : Fx.Perm (dS.app (R.app Pin)) (R.app (dS.app Pin)) := by
    simpa [Fx.flat] using Fx.rearr [dS, R, Pin] [0, 1, 2] [1, 0, 2] (by decide)
  have s2 : Fx.Perm (R.app (dS.app Pin)) (R.app (dM.app (Pout.app D))) := Fx.Perm.app (Fx.Perm.refl R) p
  have s3 : Fx.Perm (R.app (dM.app (Pout.app D))) (dM.app ((R.app Pout).app D)) := by
    simpa [Fx.flat] using Fx.rearr [R, dM, Pout, D] [0, 1, 2, 3] [1, 0, 2, 3] (by decide)
  exact s1.trans (s2.trans s3)

theorem acct_drop {dS dM Pin Pout : Fx} {dfr : Bool} (h : Acct dS dM Pin Pout dfr) : Acct dS dM Pin Fx.nil dfr := by
  obtain ⟨⟨D, p⟩, n⟩ := h
  exact ⟨⟨Pout.app D, by simpa using p⟩, n⟩

theorem complete_from_empty (c : Ctx) (fuel : Nat) {dfr t rt fname nodes p v st r st'}
    (h : complete c fuel dfr t rt fname nodes p v st = (r, st')) :
    ∃ d, complete c fuel dfr t rt fname nodes p v St.empty = (r, d) ∧ st' = St.app d st := by
  obtain ⟨r0, d, hd⟩ := (stP c fuel).complete dfr t rt fname nodes p v
  have h1 := hd st
  rw [h] at h1
  obtain ⟨hr, hs⟩ := Prod.mk.inj h1
  refine ⟨d, ?_, hs⟩
  rw [hd St.empty, St.app_empty, hr]

def resPend {α : Type} (pendOf : α → Fx) : Res α → Fx
  | .ok x => pendOf x
  | _ => Fx.nil

@[simp] theorem resPend_ok {α : Type} (pendOf : α → Fx) (x : α) : resPend pendOf (.ok x) = pendOf x := rfl
@[simp] theorem resPend_fail {α : Type} (pendOf : α → Fx) : resPend pendOf (.fail : Res α) = Fx.nil := rfl
@[simp] theorem resPend_fuelOut {α : Type} (pendOf : α → Fx) : resPend pendOf (.fuelOut : Res α) = Fx.nil := rfl

/-- the outcome of one of the four functions of M against the algorithm's run `st ↦ stS`, effects only -/
def FxOut {α : Type} (dfr : Bool) (st stS : St) (mst : MSt) (Pin : Fx) (out : Res α × MSt) (pendOf : α → Fx) : Prop :=
  ∃ dS dM, stS = St.app dS st ∧ MExt mst out.2 dM ∧ Acct (fxS dS) dM Pin (resPend pendOf out.1) dfr

/-- the outcome of a forcing step / dethunk pass: the effects `Pin` that were pending are now M's new effects, what is pending in the
result, and what was dropped; never a failure, for the reason given at `SVRes` -/
def PendOut {α : Type} (pendOf : α → Fx) (Pin : Fx) (mst : MSt) (out : Res α × MSt) : Prop :=
  match out.1 with
  | .ok x => ∃ dM D, MExt mst out.2 dM ∧ Fx.Perm Pin (dM.app ((pendOf x).app D))
  | .fail => False
  | .fuelOut => True

theorem pendOut_ret {α : Type} (pendOf : α → Fx) (mst : MSt) (x : α) : PendOut pendOf (pendOf x) mst ((Res.ok x : Res α), mst) :=
  ⟨Fx.nil, Fx.nil, MExt.refl mst, by simpa using Fx.Perm.refl (pendOf x)⟩

theorem perm_seq {Pin Pmid Pout d1 d2 D1 D2 : Fx} (h1 : Fx.Perm Pin (d1.app (Pmid.app D1)))
    (h2 : Fx.Perm Pmid (d2.app (Pout.app D2))) : Fx.Perm Pin ((d2.app d1).app (Pout.app (D1.app D2))) := by
  have s1 : Fx.Perm (d1.app (Pmid.app D1)) (Pmid.app (d1.app D1)) := by
    simpa [Fx.flat] using Fx.rearr [d1, Pmid, D1] [0, 1, 2] [1, 0, 2] (by decide)
  have s2 : Fx.Perm (Pmid.app (d1.app D1)) ((d2.app (Pout.app D2)).app (d1.app D1)) := Fx.Perm.app h2 (Fx.Perm.refl _)
  have s3 : Fx.Perm ((d2.app (Pout.app D2)).app (d1.app D1)) ((d2.app d1).app (Pout.app (D1.app D2))) := by
    simpa [Fx.flat] using Fx.rearr [d2, Pout, D2, d1, D1] [0, 1, 2, 3, 4] [0, 3, 1, 4, 2] (by decide)
  exact h1.trans (s1.trans (s2.trans s3))

theorem pendOut_seq {α : Type} {pendOf : α → Fx} {Pin Pmid d1 D1 : Fx} {mst mst1 : MSt} {out : Res α × MSt}
    (m1 : MExt mst mst1 d1) (h1 : Fx.Perm Pin (d1.app (Pmid.app D1))) (h2 : PendOut pendOf Pmid mst1 out) :
    PendOut pendOf Pin mst out := by
  unfold PendOut at *
  cases hr : out.1 with
  | ok x =>
    rw [hr] at h2
    obtain ⟨d2, D2, m2, p2⟩ := h2
    exact ⟨d2.app d1, D1.app D2, m1.trans m2, perm_seq h1 p2⟩
  | fail => rw [hr] at h2; exact h2
  | fuelOut => trivial

theorem perm_replace {Pin Pold Pnew R d D : Fx} (hs : Fx.Perm Pin (Pold.app R)) (h : Fx.Perm Pold (d.app (Pnew.app D))) :
    Fx.Perm Pin (d.app ((Pnew.app R).app D)) := by
  have s1 : Fx.Perm (Pold.app R) ((d.app (Pnew.app D)).app R) := Fx.Perm.app h (Fx.Perm.refl R)
  have s2 : Fx.Perm ((d.app (Pnew.app D)).app R) (d.app ((Pnew.app R).app D)) := by
    simpa [Fx.flat] using Fx.rearr [d, Pnew, D, R] [0, 1, 2, 3] [0, 1, 3, 2] (by decide)
  exact hs.trans (s1.trans s2)

theorem PendOut.andThen {α β : Type} {pendOf : α → Fx} {pendOf' : β → Fx} {Pin Pold R : Fx} {mst : MSt} {x : Res α × MSt}
    {k : α → MSt → Res β × MSt} (hs : Fx.Perm Pin (Pold.app R)) (h : PendOut pendOf Pold mst x)
    (hk : ∀ a s, x = (.ok a, s) → PendOut pendOf' ((pendOf a).app R) s (k a s)) : PendOut pendOf' Pin mst (andThen x k) := by
  obtain ⟨_ | _ | _, s⟩ := x
  · obtain ⟨d1, D1, m1, p1⟩ := h
    exact pendOut_seq m1 (perm_replace hs p1) (hk _ s rfl)
  · exact h
  · trivial

theorem PendOut.of_perm {α : Type} {pendOf : α → Fx} {Pin Pin' : Fx} {mst : MSt} {x : Res α × MSt} (hp : Fx.Perm Pin Pin')
    (h : PendOut pendOf Pin' mst x) : PendOut pendOf Pin mst x :=
  pendOut_seq (D1 := Fx.nil) (MExt.refl mst) (by simpa using hp) h

end GqlModel.Plan
