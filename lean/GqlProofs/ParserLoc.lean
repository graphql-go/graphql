import GqlProofs.ParserDerivs
/-! Locations (C03): the end offset threaded through the derivation relations is the end of the last token of the
derived span (`Steps`, GqlProofs/ParserDerivs.lean), so every node's location `⟨p.start, p'.e⟩` runs from the start of its
first token to the end of its last token (`DelimitedBy`, `delimited_of`). -/
namespace GqlModel.Grammar

theorem DValues.span : ∀ {c p vs p'}, DValues c p vs p' → SpanLe p p' :=
  fun h => (DValues.steps h).1

theorem DObjFields.span : ∀ {c p fs p'}, DObjFields c p fs p' → SpanLe p p' :=
  fun h => (DObjFields.steps h).1

theorem DObjField.span : ∀ {c p f p'}, DObjField c p f p' → SpanLe p p' :=
  fun h => (DObjField.steps h).1

theorem DBaseType.span : ∀ {p t p'}, DBaseType p t p' → SpanLe p p' :=
  fun h => (DBaseType.steps h).1

theorem DSelections.span : ∀ {p ss p'}, DSelections p ss p' → SpanLe p p' :=
  fun h => (DSelections.steps h).1

theorem DOptSelectionSet.span : ∀ {p s p'}, DOptSelectionSet p s p' → SpanLe p p' :=
  fun h => (DOptSelectionSet.steps h).1

end GqlModel.Grammar

namespace GqlModel.Parser
open GqlModel.Grammar

def DelimitedBy (p p' : Pos) (l : Loc) : Prop :=
  ∃ consumed first last, p.ts = consumed ++ p'.ts ∧ consumed.head? = some first ∧ consumed.getLast? = some last ∧
    l.start = first.start ∧ l.stop = last.stop

theorem delimited_of {p p' : Pos} {l : Loc} (hs : Steps true p p') (hl : l = ⟨p.start, p'.e⟩) : DelimitedBy p p' l := by
  subst hl
  have hlt := hs.lt
  obtain ⟨mid, e1, s1⟩ := hs.1
  cases mid with
  | nil => simp at e1; rw [e1] at hlt; exact absurd hlt (Nat.lt_irrefl _)
  | cons t r =>
    have hlast := List.getLast?_eq_some_getLast (List.cons_ne_nil t r)
    refine ⟨t :: r, t, _, e1, rfl, hlast, ?_, ?_⟩
    · simp [Pos.start, e1]
    · rw [s1]; simp [lastStopD, hlast]

end GqlModel.Parser
