import GqlProofs.RoundTripClass
import GqlProofs.PrinterBlockScan
import GqlProofs.PrinterTokens
/-! # C08 byte level — block-string descriptions: the character-level printer text is the byte-level `Block.blockText`

`Printer.descC` prints a block-safe description `s` as `"""` … `"""` on characters, and each enclosing block applies
`indentC` once more.  `Printer.Block.blockText k d` (bytes, `k` spaces of indentation) is what `description_block_token`
(Props/C08.lean) is about.  Here: `descBlockSafeC t = blockSafeB (utf8 t)` and
`utf8 (indentC^j (descText t)) = blockText (2·j) (utf8 t)`. -/
namespace GqlModel.RoundTrip
open GqlModel.Printer GqlModel.Printer.Block

theorem splitLF_append_ne : ∀ bs : List UInt8, (∀ b ∈ bs, b ≠ 10) → ∀ {r l : List UInt8} {ls : List (List UInt8)}, splitLF r = l :: ls →
    splitLF (bs ++ r) = (bs ++ l) :: ls
  | [], _, _, _, _, h => h
  | b :: bs, hb, r, l, ls, h => by
    have ih := splitLF_append_ne bs (fun x hx => hb x (by simp [hx])) h
    exact splitLF_cons_ne (hb b (by simp)) ih

theorem enc_no10 (c : Char) (hc : c ≠ '\n') : ∀ b ∈ String.utf8EncodeChar c, b ≠ 10 := by
  intro b hb he
  have := compat_nl c b hb
  simp only [he, beq_self_eq_true] at this
  exact hc (by simpa using this.symm)

theorem splitLF_utf8 : ∀ t : Chars, splitLF (utf8 t) = (Printer.splitLines t).map utf8
  | [] => rfl
  | c :: cs => by
    have ih := splitLF_utf8 cs
    by_cases hc : c = '\n'
    · subst hc
      simp only [utf8_cons, enc_nl, List.singleton_append, splitLF_cons10, ih, Printer.splitLines, if_true, List.map_cons,
        utf8_nil]
    · simp only [Printer.splitLines, hc, if_false]
      match hs : Printer.splitLines cs with
      | [] => rw [hs] at ih; exact absurd ih (splitLF_ne_nil _)
      | l :: ls =>
        rw [hs] at ih
        simp only [List.map_cons] at ih ⊢
        rw [utf8_cons, splitLF_append_ne _ (enc_no10 c hc) ih, utf8_cons]

def startsQ : Nat → List UInt8 → Bool
  | 0, _ => true
  | _+1, [] => false
  | n+1, b :: r => b == 34 && startsQ n r

def startsQC : Nat → Chars → Bool
  | 0, _ => true
  | _+1, [] => false
  | n+1, c :: r => c == '"' && startsQC n r

theorem startsQ_utf8 : ∀ (n : Nat) (cs : Chars), startsQ n (utf8 cs) = startsQC n cs
  | 0, _ => rfl
  | n+1, [] => rfl
  | n+1, c :: cs => by
    by_cases hq : c = '"'
    · subst hq
      simp only [utf8_cons, enc_quote, List.singleton_append, startsQ, startsQC, beq_self_eq_true, Bool.true_and,
        startsQ_utf8 n cs]
    · obtain ⟨b, bs, he, hb⟩ := head_utf8 compat_quote c cs
      have hqb : (c == '"') = false := by simpa using hq
      simp only [hqb] at hb
      simp only [he, startsQ, startsQC, hb, hqb, Bool.false_and]

theorem starts3_eq (bs : List UInt8) : starts3 bs = startsQ 3 bs := by
  match bs with
  | [] => rfl
  | [_] => simp [starts3, startsQ]
  | [_, _] => simp [starts3, startsQ]
  | a :: b :: c :: r => simp [starts3, startsQ, Bool.and_assoc]

theorem hasTripleC_cons (c : Char) (cs : Chars) :
    Printer.hasTripleQuote (c :: cs) = (startsQC 3 (c :: cs) || Printer.hasTripleQuote cs) := by
  cases hs : startsQC 3 (c :: cs) with
  | true =>
    match cs, hs with
    | a :: b :: r, hs =>
      simp only [startsQC, Bool.and_true, Bool.and_eq_true, beq_iff_eq] at hs
      obtain ⟨rfl, rfl, rfl⟩ := hs
      rw [Printer.hasTripleQuote.eq_1]; rfl
    | [a], hs => simp [startsQC] at hs
    | [], hs => simp [startsQC] at hs
  | false =>
    rw [Bool.false_or]
    apply Printer.hasTripleQuote.eq_2
    intro tail h1 h2
    subst h1 h2
    simp [startsQC] at hs

theorem hasTriple_high : ∀ (bs : List UInt8), (∀ b ∈ bs, 128 ≤ b.toNat) → ∀ r : List UInt8,
    Block.hasTripleQuote (bs ++ r) = Block.hasTripleQuote r
  | [], _, _ => rfl
  | b :: bs, h, r => by
    have hb : b ≠ 34 := by
      intro he; have := h b (by simp); rw [he] at this; exact absurd this (by decide)
    rw [List.cons_append, hasTriple_cons_ne hb, hasTriple_high bs (fun x hx => h x (by simp [hx]))]

theorem hasTriple_utf8 : ∀ cs : Chars, Block.hasTripleQuote (utf8 cs) = Printer.hasTripleQuote cs
  | [] => rfl
  | c :: cs => by
    rw [hasTripleC_cons, ← hasTriple_utf8 cs]
    rcases enc_cases c with ⟨_, b, he, _⟩ | ⟨hge, hall⟩
    · rw [← startsQ_utf8, utf8_cons, he, List.singleton_append, hasTriple_cons, starts3_eq]
    · have hq : (c == '"') = false := by
        rw [Bool.eq_false_iff]; intro h; simp only [beq_iff_eq] at h; subst h; exact absurd hge (by decide)
      rw [utf8_cons, hasTriple_high _ hall]
      simp [startsQC, hq]

theorem isWs_fun : Block.isWs = fun b => b == 32 || b == 9 := rfl

theorem blank_utf8 (l : Chars) : (utf8 l).all Block.isWs = Printer.isBlankLine l := by
  rw [isWs_fun, all_utf8 compat_ws]; rfl

theorem opt_beq_some {α : Type} [BEq α] (o : Option α) (x : α) :
    (o == some x) = (o.map (fun y => y == x)).getD false := by
  cases o <;> rfl

theorem getLast_quote (l : Chars) : ((utf8 l).getLast? == some 34) = (l.getLast? == some '"') := by
  rw [opt_beq_some, opt_beq_some, getLast_utf8 compat_quote]

theorem getLast_bslash (l : Chars) : ((utf8 l).getLast? == some 92) = (l.getLast? == some '\\') := by
  rw [opt_beq_some, opt_beq_some, getLast_utf8 compat_bslash]

theorem col0_utf8 (l : Chars) : Block.startsInColumn0 (utf8 l) = Printer.startsInColumn0 l := by
  cases l with
  | nil => rfl
  | cons c cs =>
    obtain ⟨b, bs, he, hb⟩ := head_utf8 compat_ws c cs
    simp only [he, Block.startsInColumn0, Printer.startsInColumn0, isWs_fun, hb]

theorem okAll_utf8 (t : Chars) :
    (utf8 t).all (fun c => decide (32 ≤ c.toNat) || c == 9 || c == 10) =
      t.all (fun c => decide (c.toNat ≥ 32) || c == '\t' || c == '\n') :=
  all_utf8 (compat_or (compat_or compat_ge32 (compat_eq '\t' (by decide))) compat_nl) t

theorem getLastD_map (rest : List Chars) : (rest.map utf8).getLast?.getD [] = utf8 (rest.getLast?.getD []) := by
  rw [List.getLast?_map]; cases rest.getLast? <;> rfl

/-- printer.go `blockStringSafe` on characters (what `descC` tests) and on bytes (what the lexer-side proofs use) agree -/
theorem blockSafe_utf8 (t : Chars) : blockSafeB (utf8 t) = descBlockSafeC t := by
  unfold blockSafeB descBlockSafeC
  rw [utf8_isEmpty, hasTriple_utf8, okAll_utf8, splitLF_utf8]
  congr 1
  match Printer.splitLines t with
  | [] => rfl
  | [l] => simp only [List.map_cons, List.map_nil, blank_utf8, getLast_quote, getLast_bslash]
  | first :: second :: rest =>
    simp only [List.map_cons, blank_utf8, List.any_cons, col0_utf8, List.any_map]
    rw [← List.map_cons, getLastD_map, blank_utf8]
    simp only [Function.comp_def, blank_utf8, col0_utf8]

def indentN (k : Nat) : Chars → Chars
  | [] => []
  | c :: cs => if c = '\n' then '\n' :: (List.replicate k ' ' ++ indentN k cs) else c :: indentN k cs

def indentB (k : Nat) : List UInt8 → List UInt8
  | [] => []
  | b :: r => if b = 10 then 10 :: (spaces k ++ indentB k r) else b :: indentB k r

theorem indentN_zero : ∀ cs : Chars, indentN 0 cs = cs
  | [] => rfl
  | c :: cs => by by_cases h : c = '\n' <;> simp [indentN, h, indentN_zero cs]

theorem indentC_spaces (k : Nat) : indentC (List.replicate k ' ') = List.replicate k ' ' := by
  induction k with
  | zero => rfl
  | succ k ih =>
    have : (' ' : Char) ≠ '\n' := by decide
    simp [List.replicate_succ, indentC, this, ih]

theorem indentC_indentN (k : Nat) : ∀ cs : Chars, indentC (indentN k cs) = indentN (k + 2) cs
  | [] => rfl
  | c :: cs => by
    by_cases h : c = '\n'
    · simp [indentN, h, indentC, indentC_append, indentC_spaces, indentC_indentN k cs, List.replicate_succ]
    · simp [indentN, h, indentC, indentC_indentN k cs]

theorem indentIter_eq : ∀ (j : Nat) (t : Chars), indentIter j t = indentN (2 * j) t
  | 0, t => (indentN_zero t).symm
  | j+1, t => by
    rw [indentIter, indentIter_eq j t, indentC_indentN]; congr 1

theorem indentN_no_nl (k : Nat) : ∀ cs : Chars, '\n' ∉ cs → indentN k cs = cs
  | [], _ => rfl
  | c :: cs, h => by
    simp only [List.mem_cons, not_or] at h
    have hc : c ≠ '\n' := fun e => h.1 e.symm
    simp [indentN, hc, indentN_no_nl k cs h.2]

theorem indentB_append (k : Nat) (a b : List UInt8) : indentB k (a ++ b) = indentB k a ++ indentB k b := by
  induction a with
  | nil => rfl
  | cons x xs ih => by_cases h : x = 10 <;> simp [indentB, h, ih]

theorem indentB_no10 (k : Nat) : ∀ bs : List UInt8, (∀ b ∈ bs, b ≠ 10) → indentB k bs = bs
  | [], _ => rfl
  | b :: bs, h => by
    simp [indentB, h b (by simp), indentB_no10 k bs (fun x hx => h x (by simp [hx]))]

theorem utf8_spaces (k : Nat) : utf8 (List.replicate k ' ') = spaces k := by
  rw [utf8, List.flatMap_replicate, enc_space, List.flatten_replicate_singleton, spaces]

theorem utf8_indentN (k : Nat) : ∀ cs : Chars, utf8 (indentN k cs) = indentB k (utf8 cs)
  | [] => rfl
  | c :: cs => by
    by_cases h : c = '\n'
    · subst h
      simp [indentN, enc_nl, indentB, utf8_spaces, utf8_indentN k cs]
    · simp only [indentN, h, if_false, utf8_cons, indentB_append, indentB_no10 k _ (enc_no10 c h), utf8_indentN k cs]

theorem indentedLines_splitLF (k : Nat) : ∀ d : List UInt8, indentedLines k (splitLF d) = 10 :: (spaces k ++ indentB k d)
  | [] => by simp [splitLF, indentedLines, indentB]
  | b :: r => by
    have ih := indentedLines_splitLF k r
    by_cases hb : b = 10
    · subst hb
      rw [splitLF_cons10]
      simp only [indentedLines, ih, indentB, if_true, List.append_nil]
      simp
    · match hs : splitLF r with
      | [] => exact absurd hs (splitLF_ne_nil r)
      | l :: ls =>
        rw [hs] at ih
        simp only [indentedLines, List.cons_append, List.cons.injEq, true_and, List.append_assoc] at ih
        have ih' := List.append_cancel_left ih
        rw [splitLF_cons_ne hb hs]
        simp only [indentedLines, indentB, hb, if_false, List.cons_append, List.append_assoc, ih']

theorem contains_nl_utf8 (t : Chars) : (utf8 t).contains 10 = t.contains '\n' := contains_utf8 compat_nl t

theorem utf8_tq : utf8 tq = [34, 34, 34] := by decide

/-- **the bridge for block-string descriptions**: the description text after `j` enclosing `indent`s is, as bytes, the
byte-level `blockText` at indentation `2·j` -/
theorem utf8_descText (j : Nat) (t : Chars) : utf8 (indentIter j (descText t)) = blockText (2 * j) (utf8 t) := by
  rw [indentIter_eq, utf8_indentN]
  unfold descText blockText blockRaw
  rw [contains_nl_utf8]
  by_cases h : t.contains '\n' = true
  · simp only [h, if_true, utf8_append, utf8_tq, utf8_cons, utf8_nil, enc_nl, indentB_append, indentedLines_splitLF]
    simp [indentB]
  · simp only [h, Bool.false_eq_true, if_false, utf8_append, utf8_tq]
    apply indentB_no10
    intro b hb
    simp only [List.mem_append, List.mem_cons, List.mem_nil_iff, or_false] at hb
    have hno : (utf8 t).contains 10 = false := by rw [contains_nl_utf8]; simpa using h
    rcases hb with (hb | hb) | hb
    · rcases hb with rfl | rfl | rfl <;> decide
    · intro he; subst he; simp [hb] at hno
    · rcases hb with rfl | rfl | rfl <;> decide

end GqlModel.RoundTrip
