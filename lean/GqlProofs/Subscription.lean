import GqlModel.Subscription
/-! Helper lemmas for C15: the transitions of `step` as a relation, the inductive invariant of the streaming
forwarder, the invariants of the one-shot paths, and the bound `stepsLeft` on progress steps. Core Lean only. -/
namespace GqlModel.Subscription
variable {ε ρ : Type} {c : Cfg ε ρ} {s t u : St ε ρ} {a : Act} {as : List Act} {w w' : Bool} {events : List ε}

/-- The enabled transitions of `step`, case by case: what the action requires of `s`, and the state it leads to. -/
inductive Step (c : Cfg ε ρ) (s : St ε ρ) : Act → St ε ρ → Prop
  | produce (viaCtx : Bool) {e es} : s.fwd = .idle → s.pending = e :: es →
      (viaCtx = true → s.cancelled = true) →
      Step c s (.produce viaCtx) { s with pending := es, fwd := .holding (if viaCtx then c.ctxErr else c.exec e) }
  | deliverBuf {r rest} : s.consumer = .reading → s.buf = r :: rest →
      Step c s .deliver { s with buf := rest, delivered := s.delivered ++ [r] }
  | deliverHolding {r} : s.consumer = .reading → s.buf = [] → s.fwd = .holding r →
      Step c s .deliver { s with fwd := .idle, delivered := s.delivered ++ [r] }
  | deliverFinal {r} : s.consumer = .reading → s.buf = [] → s.fwd = .final r →
      Step c s .deliver { s with fwd := .done, delivered := s.delivered ++ [r] }
  | cancel : s.cancelled = false → Step c s .cancel { s with cancelled := true }
  | closeSource : s.pending = [] → s.srcClosed = false → Step c s .closeSource { s with srcClosed := true }
  | observeCancel : s.cancelled = true → s.fwd ≠ .done → Step c s .observeCancel { s with fwd := .done }
  | finish : s.fwd = .idle → s.pending = [] → s.srcClosed = true → Step c s .finish { s with fwd := .done }
  | pause : s.consumer = .reading → Step c s .pause { s with consumer := .slow }
  | resume : s.consumer = .slow → Step c s .resume { s with consumer := .reading }
  | stop : s.consumer ≠ .stopped → Step c s .stop { s with consumer := .stopped }

theorem Step.of_step (hs : step c s a = some t) : Step c s a t := by
  obtain ⟨pending, srcClosed, cancelled, fwd, buf, consumer, delivered⟩ := s
  cases a with
  | produce v =>
    cases fwd with
    | idle =>
      cases pending with
      | nil => simp [step] at hs
      | cons e es =>
        simp [step] at hs
        obtain ⟨hc, rfl⟩ := hs
        exact .produce v rfl rfl hc
    | _ => simp [step] at hs
  | deliver =>
    cases consumer with
    | reading =>
      cases buf with
      | cons r rest => simp [step] at hs; subst hs; exact .deliverBuf rfl rfl
      | nil =>
        cases fwd <;> simp [step] at hs <;> subst hs
        · exact .deliverHolding rfl rfl rfl
        · exact .deliverFinal rfl rfl rfl
    | _ => simp [step] at hs
  | cancel => cases cancelled <;> simp [step] at hs; subst hs; exact .cancel rfl
  | closeSource => cases pending <;> cases srcClosed <;> simp [step] at hs; subst hs; exact .closeSource rfl rfl
  | observeCancel =>
    cases cancelled with
    | false => simp [step] at hs
    | true => cases fwd <;> simp [step] at hs <;> subst hs <;> exact .observeCancel rfl nofun
  | finish =>
    cases fwd with
    | idle =>
      cases pending <;> cases srcClosed <;> simp [step] at hs
      subst hs; exact .finish rfl rfl rfl
    | _ => simp [step] at hs
  | pause => cases consumer <;> simp [step] at hs; subst hs; exact .pause rfl
  | resume => cases consumer <;> simp [step] at hs; subst hs; exact .resume rfl
  | stop => cases consumer <;> simp [step] at hs <;> subst hs <;> exact .stop nofun

theorem Step.step_eq (hs : Step c s a t) : step c s a = some t := by
  cases hs with
  | produce v hf hp hc => cases v <;> simp [step, hf, hp, hc]
  | deliverBuf hc hb => simp [step, hc, hb]
  | deliverHolding hc hb hf => simp [step, hc, hb, hf]
  | deliverFinal hc hb hf => simp [step, hc, hb, hf]
  | cancel hc => simp [step, hc]
  | closeSource hp hs => simp [step, hp, hs]
  -- `hne` discharges the side condition of the catch-all branch of the match on `s.fwd` (likewise for `stop`)
  | observeCancel hc hne => simp only [step, hc, if_true]
  | finish hf hp hs => simp [step, hf, hp, hs]
  | pause hc => simp [step, hc]
  | resume hc => simp [step, hc]
  | stop hne => simp only [step]

theorem not_step_of_terminal (h : s.terminal c = true) (ha : a ∈ progressActs) : ¬ Step c s a t := by
  intro hs
  have := List.all_eq_true.1 h a ha
  rw [hs.step_eq] at this
  cases this

theorem St.closedSeen_iff : s.closedSeen = true ↔ s.buf = [] ∧ s.fwd = .done := by
  unfold St.closedSeen
  cases s.fwd <;> simp

theorem St.fwd_ne_done_of_alive (h : s.goroutineAlive = true) : s.fwd ≠ .done := by
  intro hd
  rw [St.goroutineAlive, hd] at h
  cases h

theorem run_cons_some (h : run c s (a :: as) = some t) : ∃ u, Step c s a u ∧ run c u as = some t := by
  simp only [run] at h
  cases hs : step c s a with
  | none => rw [hs] at h; cases h
  | some u => rw [hs] at h; exact ⟨u, .of_step hs, h⟩

theorem Step.run_cons (hs : Step c s a u) (hr : run c u as = some t) : run c s (a :: as) = some t := by
  simp only [run, hs.step_eq, hr]

theorem inv_run_of {I : St ε ρ → Prop} {A : Act → Prop} (hstep : ∀ {s t a}, A a → I s → Step c s a t → I t) :
    ∀ (acts : List Act) (s t : St ε ρ), (∀ a ∈ acts, A a) → I s → run c s acts = some t → I t
  | [], _, _, _, h, hr => Option.some.inj hr ▸ h
  | a :: as, _, t, hA, h, hr => by
    obtain ⟨u, hs, hr⟩ := run_cons_some hr
    exact inv_run_of hstep as u t (fun b hb => hA b (List.mem_cons_of_mem _ hb))
      (hstep (hA a (List.mem_cons_self ..)) h hs) hr

theorem inv_run {I : St ε ρ → Prop} (hstep : ∀ {s t a}, I s → Step c s a t → I t) (acts : List Act)
    (s t : St ε ρ) : I s → run c s acts = some t → I t :=
  inv_run_of (A := fun _ => True) (fun _ => hstep) acts s t fun _ _ => trivial

theorem Step.cancelled_after (hs : Step c s a t) (h : s.cancelled = true ∨ a = .produce true) : t.cancelled = true := by
  cases hs with
  | cancel => rfl
  | produce _ _ _ hc => exact h.elim id fun ha => hc (Act.produce.inj ha)
  | _ => exact h.elim id nofun

/-- pointwise relation between delivered results and source events, in order, one each -/
inductive Matches (P : ρ → ε → Prop) : List ρ → List ε → Prop
  | nil : Matches P [] []
  | cons {r e rs es} : P r e → Matches P rs es → Matches P (r :: rs) (e :: es)

variable {P Q : ρ → ε → Prop} {rs : List ρ} {es : List ε}

theorem Matches.mono (h : ∀ r e, P r e → Q r e) (hm : Matches P rs es) : Matches Q rs es := by
  induction hm with
  | nil => exact .nil
  | cons h1 _ ih => exact .cons (h _ _ h1) ih

theorem Matches.snoc {r : ρ} {e : ε} (hp : P r e) (hm : Matches P rs es) : Matches P (rs ++ [r]) (es ++ [e]) := by
  induction hm with
  | nil => exact .cons hp .nil
  | cons h1 _ ih => exact .cons h1 ih

theorem Matches.length_eq (hm : Matches P rs es) : rs.length = es.length := by
  induction hm with
  | nil => rfl
  | cons _ _ ih => exact congrArg Nat.succ ih

theorem Matches.get (hm : Matches P rs es) :
    ∀ (i : Nat) (r : ρ) (e : ε), rs[i]? = some r → es[i]? = some e → P r e := by
  induction hm with
  | nil => exact fun _ _ _ hr => nomatch hr
  | cons h1 _ ih =>
    intro i r e hr he
    cases i with
    | zero => exact Option.some.inj hr ▸ Option.some.inj he ▸ h1
    | succ i => exact ih i r e hr he

/-- what a delivered result may be for its event: the mapped result, or — only if `w` — the context error -/
def Rel (c : Cfg ε ρ) (w : Bool) (r : ρ) (e : ε) : Prop := r = c.exec e ∨ (w = true ∧ r = c.ctxErr)

theorem Matches.eq_map_exec (h : Matches (Rel c false) rs es) : rs = es.map c.exec := by
  induction h with
  | nil => rfl
  | cons h1 _ ih => exact congr (congrArg _ (h1.resolve_right fun h => Bool.noConfusion h.1)) ih

/-- Inductive invariant of the streaming request. `pre` = events whose results were delivered, `rest` = the
others; the forwarder's own state accounts for the head of `rest` while it holds a result. `w`: a result may be the context
error (`Rel`). -/
def StreamInv (c : Cfg ε ρ) (w : Bool) (events : List ε) (s : St ε ρ) : Prop :=
  s.buf = [] ∧
  ∃ pre rest, events = pre ++ rest ∧ Matches (Rel c w) s.delivered pre ∧
    (match s.fwd with
     | .idle => s.pending = rest
     | .holding r => ∃ e es, rest = e :: es ∧ Rel c w r e ∧ s.pending = es
     | .final _ => False
     | .done => s.cancelled = true ∨ (s.srcClosed = true ∧ s.pending = [] ∧ rest = []))

theorem streamInv_init : StreamInv c w events (init (.stream events)) :=
  ⟨rfl, [], events, rfl, .nil, rfl⟩

theorem StreamInv.frame (h : StreamInv c w events s) (hw : w = true → w' = true)
    (hb : t.buf = s.buf) (hd : t.delivered = s.delivered) (hf : t.fwd = s.fwd) (hp : t.pending = s.pending)
    (hc : s.cancelled = true → t.cancelled = true) (hs : s.srcClosed = true → t.srcClosed = true) :
    StreamInv c w' events t := by
  have hr : ∀ {r e}, Rel c w r e → Rel c w' r e := Or.imp_right (And.imp_left hw)
  obtain ⟨h1, pre, rest, hev, hm, h2⟩ := h
  refine ⟨hb.trans h1, pre, rest, hev, hd ▸ hm.mono fun _ _ => hr, ?_⟩
  rw [hf, hp]
  revert h2
  cases s.fwd with
  | holding r => exact fun ⟨e, es, h1, h2, h3⟩ => ⟨e, es, h1, hr h2, h3⟩
  | done => exact Or.imp hc fun ⟨a, b, c⟩ => ⟨hs a, b, c⟩
  | _ => exact id

theorem StreamInv.complete_of_done (h : StreamInv c s.cancelled events s)
    (hf : s.fwd = .done) (hc : s.cancelled = false) : s.srcClosed = true ∧ s.delivered = events.map c.exec := by
  obtain ⟨_, pre, rest, hev, hm, h2⟩ := h
  simp only [hf, hc, Bool.false_eq_true, false_or] at h2
  rw [h2.2.2, List.append_nil] at hev
  rw [hc, ← hev] at hm
  exact ⟨h2.1, hm.eq_map_exec⟩

theorem streamInv_step (hw : w = true → w' = true) (hp : a = .produce true → w' = true)
    (h : StreamInv c w events s) (hs : Step c s a t) : StreamInv c w' events t := by
  have h' : StreamInv c w' events s := h.frame hw rfl rfl rfl rfl id id
  have ⟨hb, pre, rest, hev, hm, hf⟩ := h'
  cases hs with
  | produce v hfwd hpend hc =>
    simp only [hfwd] at hf
    refine ⟨hb, pre, rest, hev, hm, _, _, hf.symm.trans hpend, ?_, rfl⟩
    cases v with
    | false => exact Or.inl rfl
    | true => exact Or.inr ⟨hp rfl, rfl⟩
  | deliverBuf _ hbuf => cases hb.symm.trans hbuf
  | deliverHolding _ _ hfwd =>
    simp only [hfwd] at hf
    obtain ⟨e, es, hrest, hr, hpend⟩ := hf
    exact ⟨hb, pre ++ [e], es, by rw [hev, hrest, List.append_assoc]; rfl, hm.snoc hr, hpend⟩
  | deliverFinal _ _ hfwd => simp only [hfwd] at hf
  | cancel => exact h.frame hw rfl rfl rfl rfl (fun _ => rfl) id
  | closeSource => exact h.frame hw rfl rfl rfl rfl id (fun _ => rfl)
  | observeCancel hc => exact ⟨hb, pre, rest, hev, hm, Or.inl hc⟩
  | finish hfwd hpend hsrc =>
    simp only [hfwd] at hf
    exact ⟨hb, pre, rest, hev, hm, Or.inr ⟨hsrc, hpend, hf.symm.trans hpend⟩⟩
  | pause | resume | stop => exact h'

theorem streamInv_run (acts : List Act) (s t : St ε ρ) :
    StreamInv c s.cancelled events s → run c s acts = some t → StreamInv c t.cancelled events t :=
  inv_run (I := fun s => StreamInv c s.cancelled events s)
    (fun h hs => streamInv_step (hs.cancelled_after ∘ .inl) (hs.cancelled_after ∘ .inr) h hs) acts s t

theorem streamInv_run_pure (acts : List Act) (s t : St ε ρ) :
    (∀ a ∈ acts, a ≠ .produce true) → StreamInv c false events s → run c s acts = some t →
      StreamInv c false events t :=
  inv_run_of (A := (· ≠ .produce true)) (fun ha h hs => streamInv_step id (fun h' => absurd h' ha) h hs) acts s t

/-- failure inside the goroutine / non-channel result: the single result is pending, delivered, or was
dropped because the context was cancelled first -/
def OneShotInv (r : ρ) (s : St ε ρ) : Prop :=
  s.pending = [] ∧ s.buf = [] ∧
  ((s.fwd = .final r ∧ s.delivered = []) ∨ (s.fwd = .done ∧ s.delivered = [r]) ∨
   (s.fwd = .done ∧ s.delivered = [] ∧ s.cancelled = true))

/-- parse / validation failure: the single result is in the buffered closed channel, or delivered -/
def InvalidInv (r : ρ) (s : St ε ρ) : Prop :=
  s.pending = [] ∧ s.fwd = .done ∧ ((s.buf = [r] ∧ s.delivered = []) ∨ (s.buf = [] ∧ s.delivered = [r]))

theorem oneShotInv_step (r : ρ) (h : OneShotInv r s)
    (hs : Step c s a t) : OneShotInv r t := by
  have ⟨hp, hb, hf⟩ := h
  cases hs with
  | produce _ _ hpend => cases hp.symm.trans hpend
  | deliverBuf _ hbuf => cases hb.symm.trans hbuf
  | deliverHolding _ _ hfwd => simp [hfwd] at hf
  | deliverFinal _ _ hfwd =>
    simp only [hfwd, Fwd.final.injEq, reduceCtorEq, false_and, or_false] at hf
    exact ⟨hp, hb, .inr (.inl ⟨rfl, by rw [hf.2, hf.1]; rfl⟩)⟩
  | cancel => exact ⟨hp, hb, hf.imp id (Or.imp id fun ⟨h1, h2, _⟩ => ⟨h1, h2, rfl⟩)⟩
  | observeCancel hc hne =>
    rcases hf with ⟨_, hd⟩ | ⟨hd, _⟩ | ⟨hd, _⟩
    · exact ⟨hp, hb, .inr (.inr ⟨rfl, hd, hc⟩)⟩
    · exact absurd hd hne
    · exact absurd hd hne
  | finish hfwd => simp [hfwd] at hf
  | closeSource | pause | resume | stop => exact h

theorem invalidInv_step (r : ρ) (h : InvalidInv r s)
    (hs : Step c s a t) : InvalidInv r t := by
  have ⟨hp, hf, hb⟩ := h
  cases hs with
  | produce _ _ hpend => cases hp.symm.trans hpend
  | deliverBuf _ hbuf =>
    rcases hb with ⟨hb, hd⟩ | ⟨hb, _⟩
    · cases hb.symm.trans hbuf
      exact ⟨hp, hf, .inr ⟨rfl, by rw [hd]; rfl⟩⟩
    · cases hb.symm.trans hbuf
  | deliverHolding _ _ hfwd => cases hf.symm.trans hfwd
  | deliverFinal _ _ hfwd => cases hf.symm.trans hfwd
  | observeCancel _ hne => exact absurd hf hne
  | finish hfwd => cases hf.symm.trans hfwd
  | cancel | closeSource | pause | resume | stop => exact h

theorem prompt_uncancelled_step (ha : a ≠ .cancel ∧ a ≠ .pause ∧ a ≠ .stop)
    (h : s.consumer = .reading ∧ s.cancelled = false) (hs : Step c s a t) :
    t.consumer = .reading ∧ t.cancelled = false := by
  cases hs with
  | cancel => exact absurd rfl ha.1
  | pause => exact absurd rfl ha.2.1
  | stop => exact absurd rfl ha.2.2
  | resume hc => cases h.1.symm.trans hc
  | _ => exact h

def fwdRank : Fwd ρ → Nat
  | .idle => 1 | .holding _ => 2 | .final _ => 1 | .done => 0

def stepsLeft (s : St ε ρ) : Nat :=
  2 * s.pending.length + s.buf.length + (if s.srcClosed then 0 else 1) + fwdRank s.fwd

theorem step_progress_decreases (ha : a ∈ progressActs)
    (hs : Step c s a t) : stepsLeft t < stepsLeft s := by
  cases hs with
  | produce _ hfwd hpend => simp only [stepsLeft, fwdRank, hfwd, hpend, List.length_cons]; omega
  | deliverBuf _ hbuf => simp only [stepsLeft, hbuf, List.length_cons]; omega
  | deliverHolding _ _ hfwd => simp only [stepsLeft, fwdRank, hfwd]; omega
  | deliverFinal _ _ hfwd => simp only [stepsLeft, fwdRank, hfwd]; omega
  | closeSource _ hsrc => simp [stepsLeft, hsrc]
  | observeCancel _ hne =>
    have : 0 < fwdRank s.fwd := by
      cases hfw : s.fwd with
      | done => exact absurd hfw hne
      | _ => exact Nat.succ_pos _
    exact Nat.add_lt_add_left this _
  | finish hfwd _ _ => simp [stepsLeft, fwdRank, hfwd]
  | cancel | pause | resume | stop => simp [progressActs] at ha

theorem progress_run_bound :
    ∀ (acts : List Act) (s t : St ε ρ), (∀ a ∈ acts, a ∈ progressActs) → run c s acts = some t →
      acts.length + stepsLeft t ≤ stepsLeft s
  | [], _, _, _, hr => by cases Option.some.inj hr; exact Nat.le_of_eq (Nat.zero_add _)
  | a :: as, s, t, hp, hr => by
    obtain ⟨u, hs, hr⟩ := run_cons_some hr
    have h1 := step_progress_decreases (hp a (List.mem_cons_self ..)) hs
    have h2 := progress_run_bound as u t (fun b hb => hp b (List.mem_cons_of_mem _ hb)) hr
    simp only [List.length_cons]; omega

end GqlModel.Subscription
