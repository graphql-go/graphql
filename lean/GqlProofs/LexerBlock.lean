import GqlProofs.LexerString
/-! M = S: the scan loop of `readBlockString` (lexer.go:315-370) = `Spec.blockBody`; and what `Spec.blockBody` accepts, as
the relation `BlockLex`. -/
namespace GqlModel.Lexer
open GqlModel.Lexer.Spec

theorem blockBody_cons (c : UInt8) (r : Bytes) : blockBody (c :: r) =
    if c = 34 ∧ r.head? = some 34 ∧ (r.drop 1).head? = some 34 then .ok (3, [])
    else if c.toNat < 32 ∧ c ≠ 9 ∧ c ≠ 10 ∧ c ≠ 13 then .error (0, .invalidCharInString)
    else if c = 92 ∧ r.head? = some 34 ∧ (r.drop 1).head? = some 34 ∧ (r.drop 2).head? = some 34 then
      adv 4 [34, 34, 34] (blockBody (r.drop 3))
    else adv 1 [c] (blockBody r) := by
  -- as in `ignoredLen_false_cons`: one case per shape of the tail
  match r with
  | [] => simp only [blockBody, List.head?_nil, reduceCtorEq, false_and, and_false, if_false]
  | [q1] | [q1, q2] =>
    simp only [blockBody, List.head?_cons, List.head?_nil, List.drop_succ_cons, List.drop_zero, List.drop_nil,
      Option.some.injEq, reduceCtorEq, and_false, if_false]
  | q1 :: q2 :: q3 :: r3 => simp only [blockBody, List.head?_cons, List.drop_succ_cons, List.drop_zero, Option.some.injEq]

theorem quoteAt (l : Bytes) : (runeAt l).1 = 34 ↔ l.head? = some 34 := code_eq_head l 34 (by decide)

theorem blockBody_high_cons (c : UInt8) (r : Bytes) (h : 128 ≤ c.toNat) : blockBody (c :: r) = adv 1 [c] (blockBody r) := by
  rw [blockBody_cons]
  have h1 : ¬ c = 34 := by bnorm; omega
  have h3 : ¬ (c.toNat < 32 ∧ c ≠ 9 ∧ c ≠ 10 ∧ c ≠ 13) := by omega
  have h4 : ¬ c = 92 := by bnorm; omega
  simp [h1, h3, h4]

theorem blockBody_cases (bs : Bytes) :
    (∃ r, bs = 34 :: 34 :: 34 :: r ∧ blockBody bs = .ok (3, [])) ∨
    (∃ o k, blockBody bs = .error (o, k) ∧ k ≠ .fuel) ∨
    (∃ r, bs = 92 :: 34 :: 34 :: 34 :: r ∧ blockBody bs = adv 4 [34, 34, 34] (blockBody r)) ∨
    (∃ c r, bs = c :: r ∧ ¬ (c = 34 ∧ r.head? = some 34 ∧ (r.drop 1).head? = some 34) ∧
      ¬ (c.toNat < 32 ∧ c ≠ 9 ∧ c ≠ 10 ∧ c ≠ 13) ∧
      ¬ (c = 92 ∧ r.head? = some 34 ∧ (r.drop 1).head? = some 34 ∧ (r.drop 2).head? = some 34) ∧
      blockBody bs = adv 1 [c] (blockBody r)) := by
  match bs with
  | [] => exact .inr (.inl ⟨0, .unterminated, rfl, nofun⟩)
  | c :: r =>
    rw [blockBody_cons]
    by_cases hA : c = 34 ∧ r.head? = some 34 ∧ (r.drop 1).head? = some 34
    · obtain ⟨rfl, h1, h2⟩ := hA
      match r, h1, h2 with
      | q1 :: q2 :: r3, h1, h2 =>
        simp only [List.head?_cons, List.drop_succ_cons, List.drop_zero, Option.some.injEq] at h1 h2
        subst h1 h2
        exact .inl ⟨r3, rfl, rfl⟩
    rw [if_neg hA]
    by_cases hB : c.toNat < 32 ∧ c ≠ 9 ∧ c ≠ 10 ∧ c ≠ 13
    · rw [if_pos hB]; exact .inr (.inl ⟨0, .invalidCharInString, rfl, nofun⟩)
    rw [if_neg hB]
    by_cases hC : c = 92 ∧ r.head? = some 34 ∧ (r.drop 1).head? = some 34 ∧ (r.drop 2).head? = some 34
    · rw [if_pos hC]
      obtain ⟨rfl, h1, h2, h3⟩ := hC
      match r, h1, h2, h3 with
      | q1 :: q2 :: q3 :: r3, h1, h2, h3 =>
        simp only [List.head?_cons, List.drop_succ_cons, List.drop_zero, Option.some.injEq] at h1 h2 h3
        subst h1 h2 h3
        exact .inr (.inr (.inl ⟨r3, rfl, rfl⟩))
    · rw [if_neg hC]; exact .inr (.inr (.inr ⟨c, r, rfl, hA, hB, hC, rfl⟩))

theorem blockBody_bound : ∀ (n : Nat) (bs : Bytes), bs.length ≤ n → ScanOk (blockBody bs) 3 bs.length := by
  intro n
  induction n with
  | zero => intro bs h; match bs with
    | [] => exact ErrKind.noConfusion
  | succ n ih =>
    intro bs h
    rcases blockBody_cases bs with ⟨r, rfl, he⟩ | ⟨o, k, he, hk⟩ | ⟨r, rfl, he⟩ | ⟨c, r, rfl, -, -, -, he⟩
    · rw [he]; exact ⟨Nat.le_refl 3, Nat.le_add_left 3 _⟩
    · rw [he]; exact hk
    · rw [he]; exact ScanOk_adv 4 _ 3 _ (ih r (by simp at h; omega)) (by omega) (Nat.le_refl _)
    · rw [he]; exact ScanOk_adv 1 _ 3 _ (ih r (Nat.le_of_succ_le_succ h)) (by omega) (Nat.le_refl _)

theorem head?_drop_append {l : Bytes} (rest : Bytes) {k : Nat} (h : k < l.length) :
    ((l ++ rest).drop k).head? = (l.drop k).head? := by
  rw [List.drop_append_of_le_length (Nat.le_of_lt h)]
  match hd : l.drop k with
  | [] => have := congrArg List.length hd; rw [List.length_drop] at this; exact absurd this (by simp only [List.length_nil]; omega)
  | _ :: _ => rfl

theorem head?_append_pos {l : Bytes} (rest : Bytes) (h : 0 < l.length) : (l ++ rest).head? = l.head? :=
  head?_drop_append rest h

/-- BlockStringCharacter* `"""` (what follows the opening quotes) with the raw value: `\"""` stands for `"""`, any other
byte for itself unless it opens `"""` or `\"""`. The look-ahead never leaves the lexeme, which ends with three quotes. -/
inductive BlockLex : Bytes → Bytes → Prop
  | close : BlockLex [34, 34, 34] []
  | esc {l v : Bytes} : BlockLex l v → BlockLex (92 :: 34 :: 34 :: 34 :: l) (34 :: 34 :: 34 :: v)
  | char (c : UInt8) {l v : Bytes} : ¬ (c = 34 ∧ l.head? = some 34 ∧ (l.drop 1).head? = some 34) →
      ¬ (c.toNat < 32 ∧ c ≠ 9 ∧ c ≠ 10 ∧ c ≠ 13) →
      ¬ (c = 92 ∧ l.head? = some 34 ∧ (l.drop 1).head? = some 34 ∧ (l.drop 2).head? = some 34) →
      BlockLex l v → BlockLex (c :: l) (c :: v)

theorem BlockLex.three_le {l v : Bytes} (h : BlockLex l v) : 3 ≤ l.length := by
  induction h with
  | close => exact Nat.le_refl 3
  | esc _ ih => exact Nat.le_trans ih (by simp only [List.length_cons]; omega)
  | char _ _ _ _ _ ih => exact Nat.le_succ_of_le ih

theorem blockBody_complete {l v : Bytes} (h : BlockLex l v) (rest : Bytes) : blockBody (l ++ rest) = .ok (l.length, v) := by
  induction h with
  | close => exact (blockBody_cons 34 _).trans (if_pos ⟨rfl, rfl, rfl⟩)
  | @esc l v _ ih =>
    refine (blockBody_cons 92 _).trans ?_
    rw [if_neg (fun h => absurd h.1 (by decide)), if_neg (fun h => absurd h.1 (by decide)), if_pos ⟨rfl, rfl, rfl, rfl⟩]
    show adv 4 [34, 34, 34] (blockBody (l ++ rest)) = _
    rw [ih]; rfl
  | @char c l v hA hB hC hl ih =>
    have h3 := hl.three_le
    rw [List.cons_append, blockBody_cons, head?_append_pos rest (by omega), head?_drop_append rest (k := 1) (by omega),
      head?_drop_append rest (k := 2) (by omega), if_neg hA, if_neg hB, if_neg hC, ih]
    rfl

theorem blockBody_sound {bs : Bytes} {n : Nat} {v : Bytes} (h : blockBody bs = .ok (n, v)) :
    ∃ l rest, bs = l ++ rest ∧ n = l.length ∧ BlockLex l v := by
  induction hn : bs.length using Nat.strongRecOn generalizing bs n v with
  | _ m ih =>
    subst hn
    rcases blockBody_cases bs with ⟨r, rfl, he⟩ | ⟨o, k, he, -⟩ | ⟨r, rfl, he⟩ | ⟨c, r, rfl, hA, hB, hC, he⟩
    · rw [he] at h; cases h; exact ⟨[34, 34, 34], r, rfl, rfl, .close⟩
    · rw [he] at h; cases h
    · rw [he] at h
      obtain ⟨len', v', hx, rfl, rfl⟩ := adv_eq_ok h
      obtain ⟨l, rest, rfl, rfl, hl⟩ := ih _ (by simp only [List.length_cons]; omega) hx rfl
      exact ⟨92 :: 34 :: 34 :: 34 :: l, rest, rfl, rfl, .esc hl⟩
    · rw [he] at h
      obtain ⟨len', v', hx, rfl, rfl⟩ := adv_eq_ok h
      obtain ⟨l, rest, rfl, rfl, hl⟩ := ih _ (Nat.lt_succ_self _) hx rfl
      have h3 := hl.three_le
      rw [head?_append_pos rest (by omega), head?_drop_append rest (k := 1) (by omega)] at hA
      rw [head?_append_pos rest (by omega), head?_drop_append rest (k := 1) (by omega),
        head?_drop_append rest (k := 2) (by omega)] at hC
      exact ⟨c :: l, rest, rfl, rfl, .char c hA hB hC hl⟩

theorem readBlockLoop_agrees : ∀ (f : Nat) (rest : Bytes) (p rp : Nat), rest.length < f →
    Agrees rest p rp (readBlockLoop f rest p rp) (blockBody rest) := by
  intro f
  induction f with
  | zero => intro rest p rp h; exact absurd h (Nat.not_lt_zero _)
  | succ f ih =>
    intro rest p rp hlen
    match rest with
    | [] => exact ⟨rp, rfl, fun _ => rfl⟩
    | c :: r =>
      have hlen : r.length < f := Nat.lt_of_succ_lt_succ hlen
      rw [blockBody_cons]
      simp only [readBlockLoop, reduceCtorEq, if_false, List.drop_succ_cons, List.drop_zero, ne_eq]
      simp only [code_eq_byte, code_lt_byte, Nat.reduceLT]
      simp only [quoteAt]
      by_cases hA : c = 34 ∧ r.head? = some 34 ∧ (r.drop 1).head? = some 34
      · rw [if_pos hA, if_pos hA]; rfl
      rw [if_neg hA, if_neg hA]
      by_cases hB : c.toNat < 32 ∧ ¬ c = 9 ∧ ¬ c = 10 ∧ ¬ c = 13
      · rw [if_pos hB, if_pos hB]; exact ⟨rp, rfl, fun _ => rfl⟩
      rw [if_neg hB, if_neg hB]
      by_cases hC : c = 92 ∧ r.head? = some 34 ∧ (r.drop 1).head? = some 34 ∧ (r.drop 2).head? = some 34
      · rw [if_pos hC, if_pos hC]
        obtain ⟨rfl, h1, h2, h3⟩ := hC
        match r, h1, h2, h3 with
        | q1 :: q2 :: q3 :: r3, h1, h2, h3 =>
          simp only [List.head?_cons, List.drop_succ_cons, List.drop_zero, Option.some.injEq] at h1 h2 h3
          subst h1 h2 h3
          exact Agrees.step (hd := [92, 34, 34, 34]) rfl rfl (fun _ => rfl) (ih r3 _ _ (by simp at hlen; omega))
      · rw [if_neg hC, if_neg hC]
        exact Agrees.rune blockBody_high_cons (loop := readBlockLoop f) c r p rp
          (fun tail p' rp' ht => ih tail p' rp' (by omega))

theorem readBlockLoop_spec : ∀ (f : Nat) (rest : Bytes) (p rp : Nat), rest.length < f →
    match blockBody rest with
    | .ok (len, raw) => readBlockLoop f rest p rp = .ok (p + len, raw)
    | .error (o, k) => ∃ q, readBlockLoop f rest p rp = .error ⟨q, k⟩ ∧ (hasHigh (rest.take o) = false → q = rp + o) :=
  readBlockLoop_agrees

end GqlModel.Lexer
