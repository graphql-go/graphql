import GqlProofs.PlanChild
namespace GqlModel.Plan
open GqlModel.Exec

mutual
/-- every closure left in the value satisfies `P` -/
def PVal.AllCl (P : Closure → Prop) : PVal → Prop
  | .leaf _ => True
  | .list xs => PVal.AllClList P xs
  | .obj fs => PVal.AllClFields P fs
  | .deferred cl => P cl
def PVal.AllClList (P : Closure → Prop) : List PVal → Prop
  | [] => True
  | x :: xs => x.AllCl P ∧ PVal.AllClList P xs
def PVal.AllClFields (P : Closure → Prop) : List (String × PVal) → Prop
  | [] => True
  | (_, x) :: xs => x.AllCl P ∧ PVal.AllClFields P xs
end

variable {P : Closure → Prop}

theorem allClList_iff {xs : List PVal} : PVal.AllClList P xs ↔ ∀ x ∈ xs, x.AllCl P := by
  induction xs with
  | nil => simp [PVal.AllClList]
  | cons x xs ih => simp [PVal.AllClList, ih]

theorem allClFields_iff {fs : List (String × PVal)} : PVal.AllClFields P fs ↔ ∀ p ∈ fs, p.2.AllCl P := by
  induction fs with
  | nil => simp [PVal.AllClFields]
  | cons x xs ih =>
    obtain ⟨k, v⟩ := x
    simp [PVal.AllClFields, ih]

theorem allCl_leaf (j : JVal) : (PVal.leaf j).AllCl P := by simp [PVal.AllCl]

theorem allCl_list {xs : List PVal} : (PVal.list xs).AllCl P ↔ ∀ x ∈ xs, x.AllCl P := by
  simp only [PVal.AllCl]; exact allClList_iff

theorem allCl_obj {fs : List (String × PVal)} : (PVal.obj fs).AllCl P ↔ ∀ p ∈ fs, p.2.AllCl P := by
  simp only [PVal.AllCl]; exact allClFields_iff

theorem allCl_deferred {cl : Closure} : (PVal.deferred cl).AllCl P ↔ P cl := by simp only [PVal.AllCl]

mutual
theorem allCl_imp {Q : Closure → Prop} (hPQ : ∀ cl, P cl → Q cl) : ∀ v : PVal, v.AllCl P → v.AllCl Q
  | .leaf j, _ => allCl_leaf j
  | .list xs, h => by simp only [PVal.AllCl] at *; exact allClList_imp hPQ xs h
  | .obj fs, h => by simp only [PVal.AllCl] at *; exact allClFields_imp hPQ fs h
  | .deferred cl, h => by simp only [PVal.AllCl] at *; exact hPQ cl h
theorem allClList_imp {Q : Closure → Prop} (hPQ : ∀ cl, P cl → Q cl) : ∀ xs : List PVal,
    PVal.AllClList P xs → PVal.AllClList Q xs
  | [], h => h
  | x :: xs, h => by simp only [PVal.AllClList] at *; exact ⟨allCl_imp hPQ x h.1, allClList_imp hPQ xs h.2⟩
theorem allClFields_imp {Q : Closure → Prop} (hPQ : ∀ cl, P cl → Q cl) : ∀ fs : List (String × PVal),
    PVal.AllClFields P fs → PVal.AllClFields Q fs
  | [], h => h
  | (_, x) :: xs, h => by simp only [PVal.AllClFields] at *; exact ⟨allCl_imp hPQ x h.1, allClFields_imp hPQ xs h.2⟩
end

theorem allCl_setF {fs : List (String × PVal)} {k : String} {v : PVal} (h : ∀ p ∈ fs, p.2.AllCl P) (hv : v.AllCl P) :
    ∀ p ∈ setF fs k v, p.2.AllCl P := by
  induction fs with
  | nil => intro p hp; simp [setF] at hp
  | cons x rest ih =>
    obtain ⟨k', x⟩ := x
    intro p hp
    simp only [setF] at hp
    by_cases hk : (k' == k) = true
    · simp only [hk, if_true] at hp
      rcases List.mem_cons.1 hp with rfl | hp
      · exact hv
      · exact h p (List.mem_cons_of_mem _ hp)
    · simp only [hk, Bool.false_eq_true, if_false] at hp
      rcases List.mem_cons.1 hp with rfl | hp
      · exact h _ List.mem_cons_self
      · exact ih (fun q hq => h q (List.mem_cons_of_mem _ hq)) p hp

theorem allCl_child {v w : PVal} {seg : PathSeg} (h : v.AllCl P) (hc : v.child seg = some w) : w.AllCl P :=
  child_of_entries (fun _ h => allCl_obj.1 h) (fun _ h => allCl_list.1 h) h hc

theorem allCl_getAt (a : Path) {v w : PVal} (h : v.AllCl P) (hg : v.getAt a = some w) : w.AllCl P :=
  getAt_down (fun _ _ _ h hc => allCl_child h hc) a h hg

theorem allCl_setChild {v w' : PVal} (seg : PathSeg) (h : v.AllCl P) (hw : w'.AllCl P) : (v.setChild seg w').AllCl P := by
  cases v with
  | obj fs =>
    cases seg with
    | key k => exact allCl_obj.2 (allCl_setF (allCl_obj.1 h) hw)
    | idx i => exact h
  | list xs =>
    cases seg with
    | key k => exact h
    | idx i =>
      refine allCl_list.2 fun y hy => ?_
      rcases List.mem_or_eq_of_mem_set hy with hy | rfl
      · exact allCl_list.1 h y hy
      · exact hw
  | leaf _ => cases seg <;> exact h
  | deferred _ => cases seg <;> exact h

theorem allCl_setAt (a : Path) {v nv : PVal} (h : v.AllCl P) (hn : nv.AllCl P) : (v.setAt a nv).AllCl P :=
  setAt_keeps (fun _ _ _ h hc => allCl_child h hc) (fun _ seg _ h hw => allCl_setChild seg h hw) a h hn

end GqlModel.Plan
