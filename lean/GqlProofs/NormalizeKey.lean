import GqlProofs.NormalizeLti
import GqlProofs.PrinterReadValue
/-! C06 (normaliser): the `byLiteral` key `(rendered type, printed literal)` is sound — equal keys mean the same type
and literals that evaluate alike: from C08's read-back theorems (`readTypeTop_typeC`, `readValueTop_valueC`) for
well-formed types and values, plus "evaluation ignores locations". -/
namespace GqlModel.Normalize
open GqlModel.Coerce GqlModel.Printer GqlModel.Reader

theorem render_toList (t : GType) : t.render.toList = typeC (typeRefOf t) := by
  induction t with
  | named n => rfl
  | list t ih => simp [GType.render, typeRefOf, typeC, String.toList_append, ih]
  | nonNull t ih => simp [GType.render, typeRefOf, typeC, String.toList_append, ih]

theorem typeRefOf_stripLoc (t : GType) : (typeRefOf t).stripLoc = typeRefOf t := by
  induction t with
  | named n => rfl
  | list t ih => simp [typeRefOf, TypeRef.stripLoc, ih, Loc.none]
  | nonNull t ih => simp [typeRefOf, TypeRef.stripLoc, ih, Loc.none]

theorem typeOfRef_typeRefOf (t : GType) : typeOfRef (typeRefOf t) = t := by
  induction t with
  | named n => rfl
  | list t ih => simp [typeRefOf, typeOfRef, ih]
  | nonNull t ih => simp [typeRefOf, typeOfRef, ih]

theorem litKey_toList (t : GType) (v : Value) :
    (litKey t v).toList = typeC (typeRefOf t) ++ (Char.ofNat 0 :: valueC v) := by
  have hs : (String.singleton (Char.ofNat 0)).toList = [Char.ofNat 0] := by decide
  unfold litKey
  rw [String.toList_append, String.toList_append, render_toList, hs]
  simp only [printValue, String.toList_ofList, List.append_assoc, List.singleton_append]

/-- **the dedupe key is sound**: for well-formed types and literals, equal keys mean the same type and literals that
evaluate alike under every variable map -/
theorem litKey_sound (s : Schema) (t t' : GType) (v v' : Value)
    (ht : WFType (typeRefOf t)) (ht' : WFType (typeRefOf t')) (hv : WFValue v) (hv' : WFValue v')
    (h : litKey t v = litKey t' v') :
    t = t' ∧ ∀ vars, valueFromAST s t (some v) vars = valueFromAST s t' (some v') vars := by
  have hl : (litKey t v).toList = (litKey t' v').toList := by rw [h]
  rw [litKey_toList, litKey_toList] at hl
  have hdelim : ∀ rest : List Char, TypeDelim (Char.ofNat 0 :: rest) := by
    intro rest
    refine ⟨⟨by decide, by decide⟩, ?_⟩
    have : skipIgnored (Char.ofNat 0 :: rest) = Char.ofNat 0 :: rest := by
      simp only [skipIgnored]
      have : isIgnored (Char.ofNat 0) = false := by decide
      simp [this]
    rw [this]
    show Char.ofNat 0 ≠ '!'
    decide
  have r1 := readTypeTop_typeC (typeRefOf t) ht _ (hdelim (valueC v))
  have r2 := readTypeTop_typeC (typeRefOf t') ht' _ (hdelim (valueC v'))
  rw [hl, r2] at r1
  simp only [Option.some.injEq, Prod.mk.injEq, List.cons.injEq, true_and] at r1
  obtain ⟨htt, hvv⟩ := r1
  rw [typeRefOf_stripLoc, typeRefOf_stripLoc] at htt
  have hteq : t = t' := by
    have := congrArg typeOfRef htt
    rw [typeOfRef_typeRefOf, typeOfRef_typeRefOf] at this
    exact this.symm
  have v1 := readValueTop_valueC v hv [] trivial
  have v2 := readValueTop_valueC v' hv' [] trivial
  rw [hvv, v1] at v2
  simp only [Option.some.injEq, Prod.mk.injEq, and_true] at v2
  subst hteq
  exact ⟨rfl, fun vars => valueFromAST_of_same_shape s t v v' vars v2⟩

/-! ## well-formed values have lexer-shaped Int tokens -/

theorem isDigit_eq_isDigit (c : Char) : Reader.isDigit c = c.isDigit := by
  simp [Reader.isDigit, Char.isDigit, UInt32.le_iff_toNat_le]

theorem allDigits_of_body {cs : List Char} (h : isIntBody cs = true) : allDigits cs = true := by
  cases cs with
  | nil => simp [isIntBody] at h
  | cons c r =>
    simp only [isIntBody] at h
    simp only [allDigits, List.isEmpty_cons, Bool.not_false, Bool.true_and, List.all_cons, Bool.and_eq_true, List.all_eq_true]
    by_cases hc : c = '0'
    · subst hc
      simp only [if_true, List.isEmpty_iff] at h
      subst h
      exact ⟨by decide, fun _ hx => nomatch hx⟩
    · simpa only [hc, if_false, Bool.and_eq_true, List.all_eq_true, isDigit_eq_isDigit] using h

theorem intOfChars_isSome_of_lit {cs : List Char} (h : isIntLit cs = true) : (intOfChars cs).isSome = true := by
  cases cs with
  | nil => simp [isIntLit] at h
  | cons c r =>
    simp only [isIntLit] at h
    by_cases hc : c = '-'
    · subst hc
      simp only [if_true] at h
      simp [intOfChars, natOfDigits, allDigits_of_body h]
    · simp only [hc, if_false] at h
      simp [intOfChars_digits (allDigits_of_body h), natOfDigits, allDigits_of_body h]

mutual
theorem canonInts_of_wf : ∀ v : Value, WFValue v → canonInts v = true
  | .var _ _, _ => rfl
  | .int r _, h => by simp only [WFValue] at h; simp only [canonInts]; exact intOfChars_isSome_of_lit h
  | .float _ _, _ => rfl
  | .str _ _, _ => rfl
  | .bool _ _, _ => rfl
  | .enum _ _, _ => rfl
  | .list vs _, h => by simp only [WFValue] at h; simp only [canonInts]; exact canonIntsList_of_wf vs h
  | .obj fs _, h => by simp only [WFValue] at h; simp only [canonInts]; exact canonIntsFields_of_wf fs h
theorem canonIntsList_of_wf : ∀ vs : List Value, WFValues vs → canonIntsList vs = true
  | [], _ => rfl
  | v :: vs, h => by
    simp only [WFValues] at h
    simp only [canonIntsList, canonInts_of_wf v h.1, canonIntsList_of_wf vs h.2, Bool.and_self]
theorem canonIntsFields_of_wf : ∀ fs : List ObjField, WFFields fs → canonIntsFields fs = true
  | [], _ => rfl
  | (.mk n v l) :: fs, h => by
    simp only [WFFields, WFField] at h
    simp only [canonIntsFields, canonInts_of_wf v h.1.2, canonIntsFields_of_wf fs h.2, Bool.and_self]
end

end GqlModel.Normalize
