import GqlProofs.ExecGroupsInv
import GqlProofs.ExecRun
/-! C13 / C20: shape of the resolver invocation log. Every call of the four mutually recursive functions appends a
segment to the log; the segment of `execGroups` is the concatenation, in group order, of one block per group whose
entries all lie under `path ++ [key]`; within a segment all paths are pairwise distinct. -/
namespace GqlModel.Exec

theorem nodup_reverse_iff {α : Type} {l : List α} : l.reverse.Nodup ↔ l.Nodup := (List.reverse_perm l).nodup_iff

/-- `q` strictly extends `p` -/
def Path.Below (p q : Path) : Prop := ∃ seg rest, q = p ++ seg :: rest

theorem Path.Below.prefix {p q : Path} (h : Path.Below p q) : p <+: q := by
  obtain ⟨seg, rest, rfl⟩ := h
  exact List.prefix_append _ _

theorem Path.Below.ne {p q : Path} (h : Path.Below p q) : q ≠ p := by
  obtain ⟨seg, rest, rfl⟩ := h
  intro he
  have := congrArg List.length he
  simp at this

theorem Path.below_of_prefix_snoc {p q : Path} {s : PathSeg} (h : (p ++ [s]) <+: q) : Path.Below p q := by
  obtain ⟨t, rfl⟩ := h
  exact ⟨s, t, by simp⟩

theorem Path.prefix_of_prefix_snoc {p q : Path} {s : PathSeg} (h : (p ++ [s]) <+: q) : p <+: q :=
  (Path.below_of_prefix_snoc h).prefix

theorem Path.seg_eq_of_prefix {p q : Path} {s1 s2 : PathSeg} (h1 : (p ++ [s1]) <+: q) (h2 : (p ++ [s2]) <+: q) :
    s1 = s2 := by
  obtain ⟨t1, rfl⟩ := h1
  obtain ⟨t2, h2⟩ := h2
  simp only [List.append_assoc, List.append_cancel_left_eq, List.singleton_append, List.cons.injEq] at h2
  exact h2.1.symm

theorem rel_cons_of_prefix {path rel q : Path} {s : PathSeg} (hq : q = path ++ rel) (hp : (path ++ [s]) <+: q) :
    ∃ rel', rel = s :: rel' := by
  subst hq
  obtain ⟨t, ht⟩ := hp
  simp only [List.append_assoc, List.append_cancel_left_eq, List.singleton_append] at ht
  exact ⟨t, ht.symm⟩

/-- the log segment of a selection set (oldest first): one block per group, in group order; at the root and without the
`Nodup` clause it is the model's `SerialBlocks` (`serialBlocks_of_blocks`) -/
def Blocks (path : Path) : List String → List LogEntry → Prop
  | [], log => log = []
  | k :: ks, log => ∃ b rest, log = b ++ rest ∧ (∀ e, e ∈ b → (path ++ [.key k]) <+: e.path) ∧
      (b.map (·.path)).Nodup ∧ Blocks path ks rest

theorem Blocks.mem {path : Path} : ∀ {ks : List String} {log : List LogEntry}, Blocks path ks log →
    ∀ e, e ∈ log → ∃ k, k ∈ ks ∧ (path ++ [.key k]) <+: e.path
  | [], _, rfl, _, he => nomatch he
  | k :: ks, _, ⟨b, rest, rfl, hb, _, hr⟩, e, he => by
    rcases List.mem_append.mp he with he | he
    · exact ⟨k, List.mem_cons_self, hb e he⟩
    · obtain ⟨k', hk', hp⟩ := Blocks.mem hr e he
      exact ⟨k', List.mem_cons_of_mem _ hk', hp⟩

theorem Blocks.nodup {path : Path} : ∀ {ks : List String} {log : List LogEntry}, Blocks path ks log → ks.Nodup →
    (log.map (·.path)).Nodup
  | [], _, rfl, _ => List.nodup_nil
  | k :: ks, _, ⟨b, rest, rfl, hb, hbn, hr⟩, hn => by
    rw [List.nodup_cons] at hn
    rw [List.map_append, List.nodup_append]
    refine ⟨hbn, Blocks.nodup hr hn.2, ?_⟩
    intro q1 h1 q2 h2 heq
    subst heq
    obtain ⟨e1, he1, rfl⟩ := List.mem_map.mp h1
    obtain ⟨e2, he2, hq⟩ := List.mem_map.mp h2
    obtain ⟨k', hk', hp⟩ := Blocks.mem hr e2 he2
    cases Path.seg_eq_of_prefix (hb e1 he1) (hq ▸ hp)
    exact hn.1 hk'

theorem Blocks.nil (path : Path) : ∀ (ks : List String), Blocks path ks []
  | [] => rfl
  | _ :: ks => ⟨[], [], rfl, List.forall_mem_nil _, List.nodup_nil, Blocks.nil path ks⟩

/-- the block of the first group (newest first) put behind the segment of the later groups -/
theorem Blocks.cons_reverse {path : Path} {k : String} {ks : List String} {b rest : List LogEntry}
    (hb : ∀ e, e ∈ b → (path ++ [.key k]) <+: e.path) (hn : (b.map (·.path)).Nodup)
    (hr : Blocks path ks rest.reverse) : Blocks path (k :: ks) (rest ++ b).reverse := by
  rw [List.reverse_append]
  exact ⟨b.reverse, rest.reverse, rfl, fun e he => hb e (List.mem_reverse.mp he),
    by rw [List.map_reverse]; exact nodup_reverse_iff.mpr hn, hr⟩

structure LogP (c : Ctx) (fuel : Nat) : Prop where
  groups : ∀ dfr rt src path groups acc st r st',
    execGroups c fuel dfr rt src path groups acc st = (r, st') →
    ∃ new, st'.log = new ++ st.log ∧ Blocks path (groups.map (·.1)) new.reverse
  field : ∀ dfr rt src p fd nodes st r st',
    execField c fuel dfr rt src p fd nodes st = (r, st') →
    ∃ new, st'.log = new ++ st.log ∧ (∀ e, e ∈ new → p <+: e.path) ∧ (new.map (·.path)).Nodup
  complete : ∀ dfr t rt fname nodes p v st r st',
    complete c fuel dfr t rt fname nodes p v st = (r, st') →
    ∃ new, st'.log = new ++ st.log ∧ (∀ e, e ∈ new → Path.Below p e.path) ∧ (new.map (·.path)).Nodup
  items : ∀ dfr item rt fname nodes p xs i acc st r st',
    completeItems c fuel dfr item rt fname nodes p xs i acc st = (r, st') →
    ∃ new, st'.log = new ++ st.log ∧ (∀ e, e ∈ new → ∃ j, i ≤ j ∧ (p ++ [.idx j]) <+: e.path) ∧
      (new.map (·.path)).Nodup

theorem logP_succ {c : Ctx} {fuel : Nat} (ih : LogP c fuel) : LogP c (fuel + 1) where
  groups := by
    intro dfr rt src path groups acc st r st' h
    cases GroupsStep.of_eq h with
    | nil => exact ⟨[], rfl, rfl⟩
    | skip _ h =>
      obtain ⟨new, hl, hb⟩ := ih.groups _ _ _ _ _ _ _ _ _ h
      exact ⟨new, hl, [], _, rfl, List.forall_mem_nil _, List.nodup_nil, hb⟩
    | ok _ _ hf h =>
      obtain ⟨new1, hl1, hp1, hn1⟩ := ih.field _ _ _ _ _ _ _ _ _ hf
      obtain ⟨new2, hl2, hb2⟩ := ih.groups _ _ _ _ _ _ _ _ _ h
      exact ⟨new2 ++ new1, by rw [hl2, hl1, List.append_assoc], Blocks.cons_reverse hp1 hn1 hb2⟩
    | fail _ _ hf | fuelOut _ _ hf =>
      obtain ⟨new1, hl1, hp1, hn1⟩ := ih.field _ _ _ _ _ _ _ _ _ hf
      exact ⟨new1, hl1, Blocks.cons_reverse (rest := []) hp1 hn1 (Blocks.nil _ _)⟩
  field := by
    intro dfr rt src p fd nodes st r st' h
    cases FieldStep.of_eq h with
    | typename => exact ⟨[], rfl, List.forall_mem_nil _, List.nodup_nil⟩
    | resolverFails => exact ⟨[_], rfl, List.forall_mem_singleton.mpr (List.prefix_refl _), by simp⟩
    | value _ _ hc =>
      -- one entry at `p`, then the segment of `complete` strictly below `p`
      obtain ⟨cnew, hl, hb, hn⟩ := ih.complete _ _ _ _ _ _ _ _ _ _ hc
      refine ⟨cnew ++ [_], hl.trans (List.append_cons _ _ _), ?_, ?_⟩
      · exact List.forall_mem_append.mpr
          ⟨fun e he => (hb e he).prefix, List.forall_mem_singleton.mpr (List.prefix_refl _)⟩
      · rw [List.map_append, List.nodup_append]
        refine ⟨hn, by simp, ?_⟩
        intro q1 h1 q2 h2 heq
        obtain ⟨e1, he1, rfl⟩ := List.mem_map.mp h1
        cases List.mem_singleton.mp h2
        exact (hb e1 he1).ne heq
  items := by
    intro dfr item rt fname nodes p xs i acc st r st' h
    -- the segment of the first item, then that of the others (none if it stops here), whose indices are larger
    have hgo : ∀ {x r1 st1}, complete c fuel dfr item rt fname nodes (p ++ [.idx i]) x st = (r1, st1) →
        (∃ new2, st'.log = new2 ++ st1.log ∧
          (∀ e, e ∈ new2 → ∃ j, i + 1 ≤ j ∧ (p ++ [.idx j]) <+: e.path) ∧ (new2.map (·.path)).Nodup) →
        ∃ new, st'.log = new ++ st.log ∧
        (∀ e, e ∈ new → ∃ j, i ≤ j ∧ (p ++ [.idx j]) <+: e.path) ∧ (new.map (·.path)).Nodup := by
      intro x r1 st1 hc ⟨new2, hl2, hp2, hn2⟩
      obtain ⟨new1, hl1, hb1, hn1⟩ := ih.complete _ _ _ _ _ _ _ _ _ _ hc
      refine ⟨new2 ++ new1, by rw [hl2, hl1, List.append_assoc], List.forall_mem_append.mpr ⟨?_, ?_⟩, ?_⟩
      · intro e he
        obtain ⟨j, hj, hp⟩ := hp2 e he
        exact ⟨j, Nat.le_of_succ_le hj, hp⟩
      · exact fun e he => ⟨i, Nat.le_refl _, (hb1 e he).prefix⟩
      · rw [List.map_append, List.nodup_append]
        refine ⟨hn2, hn1, ?_⟩
        intro q1 h1 q2 h2 heq
        subst heq
        obtain ⟨e2, he2, rfl⟩ := List.mem_map.mp h1
        obtain ⟨e1, he1, hq⟩ := List.mem_map.mp h2
        obtain ⟨j, hj, hp⟩ := hp2 e2 he2
        cases Path.seg_eq_of_prefix hp (hq ▸ (hb1 e1 he1).prefix)
        exact Nat.lt_irrefl _ hj
    cases ItemsStep.of_eq h with
    | nil => exact ⟨[], rfl, List.forall_mem_nil _, List.nodup_nil⟩
    | ok hc h | absorbed hc _ h => exact hgo hc (ih.items _ _ _ _ _ _ _ _ _ _ _ _ h)
    | fail hc | fuelOut hc => exact hgo hc ⟨[], rfl, List.forall_mem_nil _, List.nodup_nil⟩
  complete := by
    intro dfr t rt fname nodes p v st r st' h
    cases CompleteStep.of_eq h with
    | thunkErr | badFunc | immediate | rejected => exact ⟨[], rfl, List.forall_mem_nil _, List.nodup_nil⟩
    | thunkFail hc => rw [kfMark_log]; exact ih.complete _ _ _ _ _ _ _ _ _ _ hc
    | nonNullNull _ hc => rw [addErr_log]; exact ih.complete _ _ _ _ _ _ _ _ _ _ hc
    | thunkPass hc | nonNullPass _ hc => exact ih.complete _ _ _ _ _ _ _ _ _ _ hc
    | items hi =>
      obtain ⟨new, hl, hp, hn⟩ := ih.items _ _ _ _ _ _ _ _ _ _ _ _ hi
      refine ⟨new, hl, fun e he => ?_, hn⟩
      obtain ⟨j, -, hpj⟩ := hp e he
      exact Path.below_of_prefix_snoc hpj
    | @object _ _ _ ot _ _ _ _ _ hg =>
      obtain ⟨new, hl, hb⟩ := ih.groups _ _ _ _ _ _ _ _ _ hg
      refine ⟨new, hl, fun e he => ?_, ?_⟩
      · obtain ⟨k, -, hp⟩ := hb.mem e (List.mem_reverse.mpr he)
        exact Path.below_of_prefix_snoc hp
      · have := hb.nodup (collectMerged_keys_nodup c ot nodes)
        rw [List.map_reverse] at this
        exact nodup_reverse_iff.mp this

theorem logP (c : Ctx) : ∀ fuel, LogP c fuel
  | 0 =>
    ⟨fun _ _ _ _ _ _ _ => of_zero execGroups_zero ⟨[], rfl, Blocks.nil _ _⟩,
     fun _ _ _ _ _ _ _ => of_zero execField_zero ⟨[], rfl, List.forall_mem_nil _, List.nodup_nil⟩,
     fun _ _ _ _ _ _ _ _ => of_zero complete_zero ⟨[], rfl, List.forall_mem_nil _, List.nodup_nil⟩,
     fun _ _ _ _ _ _ _ _ _ _ => of_zero completeItems_zero ⟨[], rfl, List.forall_mem_nil _, List.nodup_nil⟩⟩
  | fuel + 1 => logP_succ (logP c fuel)

section
variable (c : Ctx) (fuel : Nat) (dfr : Bool)

theorem runGroups_log_prefix (rt : String) (src : GoVal) (pos : Path) (groups : Groups) :
    ∀ e, e ∈ (runGroups c fuel dfr rt src pos groups).2.log → ∃ k, k ∈ groups.keys ∧ (pos ++ [.key k]) <+: e.path := by
  obtain ⟨new, hl, hb⟩ := (logP c fuel).groups _ _ _ _ _ _ _ _ _ (Prod.eta (runGroups c fuel dfr rt src pos groups)).symm
  rw [hl.trans (List.append_nil new)]
  exact fun e he => hb.mem e (List.mem_reverse.mpr he)

theorem runField_log_prefix (rt : String) (src : GoVal) (pos : Path) (fd : FieldDefS) (nodes : List FieldNode) :
    ∀ e, e ∈ (runField c fuel dfr rt src pos fd nodes).2.log → pos <+: e.path := by
  obtain ⟨new, hl, hp, -⟩ :=
    (logP c fuel).field _ _ _ _ _ _ _ _ _ (Prod.eta (runField c fuel dfr rt src pos fd nodes)).symm
  rw [hl.trans (List.append_nil new)]
  exact hp

theorem runComplete_log_below (t : GType) (rt fname : String) (nodes : List FieldNode) (pos : Path) (v : GoVal) :
    ∀ e, e ∈ (runComplete c fuel dfr t rt fname nodes pos v).2.log → Path.Below pos e.path := by
  obtain ⟨new, hl, hp, -⟩ :=
    (logP c fuel).complete _ _ _ _ _ _ _ _ _ _ (Prod.eta (runComplete c fuel dfr t rt fname nodes pos v)).symm
  rw [hl.trans (List.append_nil new)]
  exact hp

theorem runItems_log_prefix (t : GType) (rt fname : String) (nodes : List FieldNode) (pos : Path) (xs : List GoVal)
    (i : Nat) : ∀ e, e ∈ (runItems c fuel dfr t rt fname nodes pos xs i).2.log →
      ∃ j, i ≤ j ∧ (pos ++ [.idx j]) <+: e.path := by
  obtain ⟨new, hl, hp, -⟩ :=
    (logP c fuel).items _ _ _ _ _ _ _ _ _ _ _ _ (Prod.eta (runItems c fuel dfr t rt fname nodes pos xs i)).symm
  rw [hl.trans (List.append_nil new)]
  exact hp
end

end GqlModel.Exec
