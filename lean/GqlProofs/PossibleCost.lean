import GqlModel.PossibleCost
import GqlProofs.ListSum
import GqlProofs.Validate
/-! # C19: validation asks for at most two possible-type tables per visited selection -/
namespace GqlModel.Validate

theorem possibleTypes_le_max (s : Schema) (t : String) : (s.possibleTypes t).length ≤ maxPossible s := by
  cases h : s.find? t with
  | none => simp [Schema.possibleTypes, h]
  | some td =>
    obtain ⟨hm, rfl⟩ := find?_name h
    exact (foldl_max_ge _ 0).2 _ (List.mem_map.2 ⟨td, hm, rfl⟩)

theorem overlapTables_le_tables (s : Schema) (t1 t2 : String) :
    overlapTables s t1 t2 ≤ (s.possibleTypes t1).length + (s.possibleTypes t2).length := by
  let P : Nat → Prop := (· ≤ (s.possibleTypes t1).length + (s.possibleTypes t2).length)
  have z : P 0 := Nat.zero_le _
  have l : P (s.possibleTypes t1).length := Nat.le_add_right _ _
  -- one `ite_ind` per `if` of `overlapTables`, in its order; `z` closes a branch `0`, `l` a branch `|possibleTypes t1|`
  exact ite_ind P z                                      -- `t1 == t2`
    (ite_ind P                                           -- `t1` an object type
      (ite_ind P z (ite_ind P (Nat.le_add_left _ _) z))  --   `t2` an object type, abstract, neither
      (ite_ind P                                         -- `t1` abstract
        (ite_ind P l (ite_ind P (Nat.le_refl _) l))      --   `t2` an object type, abstract, neither
        z))

theorem overlapTables_le (s : Schema) (t1 t2 : String) : overlapTables s t1 t2 ≤ 2 * maxPossible s := by
  have h := overlapTables_le_tables s t1 t2
  have h1 := possibleTypes_le_max s t1
  have h2 := possibleTypes_le_max s t2
  omega

theorem itemTables_le (s : Schema) (d : Document) (it : Item) : itemTables s d it ≤ 2 * maxPossible s := by
  cases it with
  | inline c tc lc =>
    simp only [itemTables]
    split
    · split
      · exact overlapTables_le s _ _
      · omega
    · omega
  | spread c nm lc =>
    simp only [itemTables]
    split
    · split
      · exact overlapTables_le s _ _
      · omega
    · omega
  | field c nm args sel lc =>
    simp only [itemTables]
    split
    · split
      · have := possibleTypes_le_max s ‹String›; omega
      · omega
    · omega
  | _ => simp [itemTables]

theorem itemTables_zero (s : Schema) (d : Document) (it : Item) (h : it.isSelection = false) : itemTables s d it = 0 := by
  cases it <;> simp_all [itemTables, Item.isSelection]

end GqlModel.Validate
