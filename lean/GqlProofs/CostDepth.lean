import GqlProofs.Cost
/-! # The descent-path guard bounds the depth of execution (repair D-09d)

Every sub-selection that a field plan hands to `planMergedSelectionsForType` is a pair (selection set, chain of
enclosing fragments). `rankOf` = syntactic field depth of the set + (D+1) × (number of fragment definitions − length of
the chain), `D` = deepest fragment body. A field plan produced from such a pair holds only pairs of strictly smaller
rank: either a set written inside the current one (shallower, same chain) or a set inside the body of a fragment
that was not on the chain (chain longer by one, depth ≤ D). Hence the length of every response path along which
objects are completed is bounded by the rank of the operation's selection set — whatever the data. -/
namespace GqlModel.Cost

mutual
/-- nesting of field sub-selections written in a selection (spreads not followed) -/
def depthSel : Selection → Nat
  | .field _ _ _ _ none _ => 0
  | .field _ _ _ _ (some ss) _ => 1 + depthSet ss
  | .spread _ _ _ => 0
  | .inline _ _ ss _ => depthSet ss
def depthSet : SelectionSet → Nat
  | .mk sels _ => depthSels sels
def depthSels : List Selection → Nat
  | [] => 0
  | s :: rest => max (depthSel s) (depthSels rest)
end

/-- deepest fragment body of a table -/
def maxBodyDepth : List (String × String × SelectionSet) → Nat
  | [] => 0
  | f :: rest => max (depthSet f.2.2) (maxBodyDepth rest)

/-- a chain the guard can have produced: duplicate-free, made of names of the table -/
def GoodChain (frags : List (String × String × SelectionSet)) (ch : Chain) : Prop :=
  ch.Nodup ∧ ∀ x ∈ ch, x ∈ frags.map (·.1)

theorem goodChain_length {frags} {ch : Chain} (h : GoodChain frags ch) : ch.length ≤ frags.length := by
  have := List.Nodup.length_le_of_subset h.1 (fun x hx => h.2 x hx)
  simpa using this

/-- weight of the chain part: (D+1) × (fragments not yet on the chain) -/
def slack (frags : List (String × String × SelectionSet)) (ch : Chain) : Nat :=
  (maxBodyDepth frags + 1) * (frags.length - ch.length)

def rankOf (frags : List (String × String × SelectionSet)) (s : SelectionSet × Chain) : Nat :=
  depthSet s.1 + slack frags s.2

/-- entering a fragment that is not on the chain pays for the whole body -/
theorem slack_cons {frags} {ch : Chain} {n : String} (h : GoodChain frags (n :: ch)) (d : Nat) (hd : d ≤ maxBodyDepth frags) :
    d + slack frags (n :: ch) + 1 ≤ slack frags ch := by
  have hl := goodChain_length h
  simp only [List.length_cons] at hl
  unfold slack
  have e : frags.length - ch.length = (frags.length - (n :: ch).length) + 1 := by
    simp only [List.length_cons]; omega
  rw [e, Nat.mul_succ]
  generalize (maxBodyDepth frags + 1) * (frags.length - (n :: ch).length) = X
  omega

/-- every sub-selection of every field plan is old or below the budget -/
def NewBelow (frags : List (String × String × SelectionSet)) (B : Nat) (a b : St) : Prop :=
  ∀ fp ∈ b.fields, ∀ s ∈ fp.subs, (∃ fp0 ∈ a.fields, s ∈ fp0.subs) ∨ (rankOf frags s + 1 ≤ B ∧ GoodChain frags s.2)

theorem newBelow_refl (frags B) (a : St) : NewBelow frags B a a :=
  fun fp hfp _ hs => Or.inl ⟨fp, hfp, hs⟩

theorem newBelow_trans {frags B} {a b d : St} (h1 : NewBelow frags B a b) (h2 : NewBelow frags B b d) :
    NewBelow frags B a d := by
  intro fp hfp s hs
  rcases h2 fp hfp s hs with ⟨fp0, hfp0, hs0⟩ | h
  · exact h1 fp0 hfp0 s hs0
  · exact Or.inr h

theorem newBelow_mono {frags B B'} {a b : St} (h : NewBelow frags B a b) (hB : B ≤ B') : NewBelow frags B' a b := by
  intro fp hfp s hs
  rcases h fp hfp s hs with h | ⟨h1, h2⟩
  · exact Or.inl h
  · exact Or.inr ⟨Nat.le_trans h1 hB, h2⟩

theorem newBelow_same_fields {frags B} {a b : St} (h : b.fields = a.fields) : NewBelow frags B a b := by
  intro fp hfp s hs
  rw [h] at hfp
  exact Or.inl ⟨fp, hfp, hs⟩

theorem addField_subs (c : Ctx) (key name : String) (sub : Option (SelectionSet × Chain)) :
    ∀ (fields : List FieldPlan) fp, fp ∈ addField c key name sub fields → ∀ s ∈ fp.subs,
      (∃ fp0 ∈ fields, s ∈ fp0.subs) ∨ sub = some s
  | [], fp, hfp, s, hs => by
    rw [addField_nil, List.mem_singleton] at hfp
    subst hfp
    exact Or.inr (Option.mem_toList.1 hs)
  | g :: rest, fp, hfp, s, hs => by
    rw [addField_cons] at hfp
    split at hfp
    · rcases List.mem_cons.1 hfp with rfl | hfp
      · rcases List.mem_append.1 hs with hs | hs
        · exact Or.inl ⟨g, List.mem_cons_self, hs⟩
        · exact Or.inr (Option.mem_toList.1 hs)
      · exact Or.inl ⟨fp, List.mem_cons_of_mem _ hfp, hs⟩
    · rcases List.mem_cons.1 hfp with rfl | hfp
      · exact Or.inl ⟨fp, List.mem_cons_self, hs⟩
      · exact (addField_subs c key name sub rest fp hfp s hs).imp_left
          fun ⟨fp0, h0, hs0⟩ => ⟨fp0, List.mem_cons_of_mem _ h0, hs0⟩

/-- what the call that enters a fragment body must guarantee -/
def RecDepthOK (c : Ctx) (rec : Chain → SelectionSet → St → St) : Prop :=
  ∀ (ch : Chain) (body : SelectionSet) (st : St), GoodChain c.frags ch →
    NewBelow c.frags (depthSet body + slack c.frags ch) st (rec ch body st)

theorem lookup_mem (c : Ctx) (n : String) (f) (h : c.lookup n = some f) : f ∈ c.frags ∧ f.1 = n := by
  unfold Ctx.lookup at h
  exact ⟨List.mem_of_find?_eq_some h, by simpa using List.find?_some h⟩

mutual
theorem collectSel_depth {c : Ctx} {rec} (hrec : RecDepthOK c rec) (ch : Chain) (hch : GoodChain c.frags ch) :
    ∀ (sel : Selection) (st : St),
      NewBelow c.frags (depthSel sel + slack c.frags ch) st (collectSel c rec ch sel st)
  | .field alias name args dirs sub loc, st => by
    rcases collectSel_field c rec ch dirs loc st alias name args sub with e | e
    · rw [e]; exact newBelow_refl _ _ _
    · rw [e]
      intro fp hfp s hs
      rcases addField_subs c _ _ _ st.fields fp hfp s hs with h | h
      · exact Or.inl h
      · cases sub with
        | none => cases h
        | some ss =>
          cases h
          refine Or.inr ⟨?_, hch⟩
          show depthSet ss + slack c.frags ch + 1 ≤ 1 + depthSet ss + slack c.frags ch
          omega
  | .inline tc dirs ss loc, st => by
    rcases collectSel_inline c rec ch dirs loc st tc ss with e | e
    · rw [e]; exact newBelow_refl _ _ _
    · rw [e]; exact collectSet_depth hrec ch hch ss st
  | .spread name dirs loc, st => by
    rcases collectSel_spread c rec ch dirs loc st name with e | ⟨f, _, hnch, hl, ⟨_, e⟩ | ⟨_, e⟩⟩
    · rw [e]; exact newBelow_refl _ _ _
    · rw [e]; exact newBelow_same_fields rfl
    · rw [e]
      have hmem := lookup_mem c name.value f hl
      have hgood : GoodChain c.frags (name.value :: ch) := by
        refine ⟨List.nodup_cons.2 ⟨hnch, hch.1⟩, fun x hx => ?_⟩
        rcases List.mem_cons.1 hx with rfl | hx
        · exact List.mem_map.2 ⟨_, hmem.1, hmem.2⟩
        · exact hch.2 x hx
      have hs := slack_cons hgood (depthSet f.2.2) (le_of_max_rec (h := maxBodyDepth) (fun _ _ => rfl) hmem.1)
      have h1 := hrec (name.value :: ch) f.2.2
        { st with visited := name.value :: st.visited, entered := name.value :: st.entered } hgood
      exact newBelow_mono (newBelow_trans (newBelow_same_fields rfl) h1) (Nat.le_trans (Nat.le_succ _) (Nat.le_trans hs (Nat.le_add_left _ _)))
theorem collectSet_depth {c : Ctx} {rec} (hrec : RecDepthOK c rec) (ch : Chain) (hch : GoodChain c.frags ch) :
    ∀ (ss : SelectionSet) (st : St),
      NewBelow c.frags (depthSet ss + slack c.frags ch) st (collectSet c rec ch ss st)
  | .mk sels loc, st => by
    rw [collectSet_mk]
    exact newBelow_trans (newBelow_same_fields rfl) (collectSels_depth hrec ch hch sels _)
theorem collectSels_depth {c : Ctx} {rec} (hrec : RecDepthOK c rec) (ch : Chain) (hch : GoodChain c.frags ch) :
    ∀ (sels : List Selection) (st : St),
      NewBelow c.frags (depthSels sels + slack c.frags ch) st (collectSels c rec ch sels st)
  | [], st => newBelow_refl _ _ _
  | s :: rest, st => by
    rw [collectSels_cons]
    show NewBelow c.frags (max (depthSel s) (depthSels rest) + slack c.frags ch) _ _
    have h1 := collectSel_depth hrec ch hch s st
    have h2 := collectSels_depth hrec ch hch rest (collectSel c rec ch s st)
    exact newBelow_trans (newBelow_mono h1 (Nat.add_le_add_right (Nat.le_max_left _ _) _))
      (newBelow_mono h2 (Nat.add_le_add_right (Nat.le_max_right _ _) _))
end

theorem collectFuel_depth (c : Ctx) : ∀ n, RecDepthOK c (collectFuel c n)
  | 0 => fun _ _ _ _ => newBelow_same_fields rfl
  | n + 1 => fun ch body st hch => collectSet_depth (collectFuel_depth c n) ch hch body st

/-- one `planMergedSelectionsForType`: every sub-selection of the resulting field plans ranks strictly below one
of the merged sub-selections it was planned from -/
theorem planMerged_depth (c : Ctx) : ∀ (subs : List (SelectionSet × Chain)) (st : St),
    (∀ s ∈ subs, GoodChain c.frags s.2) →
    ∀ fp ∈ (planMerged c subs st).fields, ∀ s' ∈ fp.subs,
      (∃ fp0 ∈ st.fields, s' ∈ fp0.subs) ∨
      (GoodChain c.frags s'.2 ∧ ∃ s ∈ subs, rankOf c.frags s' + 1 ≤ rankOf c.frags s)
  | [], st, _, fp, hfp, s', hs' => Or.inl ⟨fp, hfp, hs'⟩
  | (ss, ch) :: rest, st, hgood, fp, hfp, s', hs' => by
    have hfp : fp ∈ (planMerged c rest (collectTop c ch ss st)).fields := hfp
    have hch : GoodChain c.frags ch := hgood (ss, ch) (List.mem_cons_self ..)
    rcases planMerged_depth c rest (collectTop c ch ss st)
        (fun s hs => hgood s (List.mem_cons_of_mem _ hs)) fp hfp s' hs' with ⟨fp0, h0, hs0⟩ | ⟨hg, s, hs, hr⟩
    · have := collectFuel_depth c (fuelFor c) ch ss st hch fp0 h0 s' hs0
      rcases this with h | ⟨h1, h2⟩
      · exact Or.inl h
      · exact Or.inr ⟨h2, (ss, ch), List.mem_cons_self .., by simp only [rankOf] at *; omega⟩
    · exact Or.inr ⟨hg, s, List.mem_cons_of_mem _ hs, hr⟩

/-- all sub-selections of all field plans rank below `B` and carry good chains -/
def SubsBelow (frags : List (String × String × SelectionSet)) (B : Nat) (fields : List FieldPlan) : Prop :=
  ∀ fp ∈ fields, ∀ s ∈ fp.subs, rankOf frags s + 1 ≤ B ∧ GoodChain frags s.2

mutual
theorem completedW_nil_fields (e : Env) (p : Path) : ∀ w : World, completedW e [] p w = []
  | .node cs => completedCs_nil_fields e p cs
theorem completedCs_nil_fields (e : Env) (p : Path) : ∀ cs : Comps, completedCs e [] p cs = []
  | .nil => rfl
  | .cons k rt ch rest => by rw [completedCs_cons, completedCs_nil_fields e p rest]; rfl
end

mutual
theorem completedW_depth (e : Env) : ∀ (w : World) (fields : List FieldPlan) (path : Path) (B : Nat),
    SubsBelow e.frags B fields → ∀ id ∈ completedW e fields path w, id.length ≤ path.length + 1 + B
  | .node cs, fields, path, B, h => by
    exact completedCs_depth e cs fields path B h
theorem completedCs_depth (e : Env) : ∀ (cs : Comps) (fields : List FieldPlan) (path : Path) (B : Nat),
    SubsBelow e.frags B fields → ∀ id ∈ completedCs e fields path cs, id.length ≤ path.length + 1 + B
  | .nil, fields, path, B, h => fun _ hid => nomatch hid
  | .cons k rt child rest, fields, path, B, h => by
    intro id hid
    rw [completedCs_cons, List.mem_append] at hid
    rcases hid with hid | hid
    · cases hp : plannedAt e fields k rt with
      | none => rw [hp] at hid; cases hid
      | some fp =>
        rw [hp] at hid
        have hfp : fp ∈ fields := plannedAt_mem hp
        rcases List.mem_cons.1 hid with rfl | hid
        · rw [List.length_append]; exact Nat.le_add_right _ _
        · -- below this completion: the sub-plan's sub-selections rank strictly lower
          cases hsubs : fp.subs with
          | nil =>
            rw [hsubs, show (planMerged (e.ctx rt) [] {}).fields = [] from rfl, completedW_nil_fields] at hid
            cases hid
          | cons s0 srest =>
            have hB : 1 ≤ B := Nat.le_trans (Nat.le_add_left _ _)
              (h fp hfp s0 (by rw [hsubs]; exact List.mem_cons_self)).1
            have hsub : SubsBelow e.frags (B - 1) (planMerged (e.ctx rt) fp.subs {}).fields := by
              intro fp' hfp' s' hs'
              rcases planMerged_depth (e.ctx rt) fp.subs {} (fun s hs => (h fp hfp s hs).2) fp' hfp' s' hs' with
                ⟨fp0, h0, _⟩ | ⟨hg, s, hs, hr⟩
              · cases h0
              · have := (h fp hfp s hs).1
                have hr : rankOf e.frags s' + 1 ≤ rankOf e.frags s := hr
                exact ⟨by omega, hg⟩
            have := completedW_depth e child _ (path ++ [(k, rt)]) (B - 1) hsub id hid
            rw [List.length_append] at this
            have : [(k, rt)].length = 1 := rfl
            omega
    · exact completedCs_depth e rest fields path B h id hid
end

theorem completed_depth_le (e : Env) (root : String) (ss : SelectionSet) (world : World) :
    ∀ id ∈ completedW e (rootPlan e root ss).fields [] world,
      id.length ≤ 1 + depthSet ss + (maxBodyDepth e.frags + 1) * e.frags.length := by
  have hgood : GoodChain e.frags [] := ⟨List.nodup_nil, fun _ h => by simp at h⟩
  have hnew := collectFuel_depth (e.ctx root) (fuelFor (e.ctx root)) [] ss {} hgood
  have hsub : SubsBelow e.frags (depthSet ss + slack e.frags []) (rootPlan e root ss).fields := by
    intro fp hfp s hs
    rcases hnew fp hfp s hs with ⟨fp0, h0, _⟩ | h
    · simp at h0
    · exact h
  intro id hid
  have := completedW_depth e world _ [] _ hsub id hid
  simp only [slack, List.length_nil, Nat.sub_zero] at this
  omega

theorem log_depth_le (e : Env) (root : String) (ss : SelectionSet) (world : World) :
    ∀ en ∈ (execW e (rootPlan e root ss).fields [] world {}).log,
      en.id.length ≤ 1 + depthSet ss + (maxBodyDepth e.frags + 1) * e.frags.length :=
  fun en hen => completed_depth_le e root ss world en.id (execW_log_completed e _ [] world en hen)

end GqlModel.Cost
