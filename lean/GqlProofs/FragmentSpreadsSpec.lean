import GqlModel.GraphCost
/-! # `FragmentSpreads`: the scan of one selection set and the worklist loop

On the loop with the step counter (`fsLoopC`): collected ++ pending is a PERMUTATION of what was there (the order is that
of an explicit stack, which no recursion over the syntax reproduces); `wt` (pops left = fuel needed) and `wtN` (pops +
selections left = steps) change by the sizes of what is scanned. Membership (C02), fuel sufficiency (C09), length and
step count (C19) are read off `fragmentSpreads_run`. -/
namespace GqlModel.Validate.Graph

/-- spreads still to be collected from the stack -/
def pend : List SelectionSet → List Spread
  | [] => []
  | s :: stk => spreadsSet s ++ pend stk

/-- iterations still to be made for the stack -/
def wt : List SelectionSet → Nat
  | [] => 0
  | s :: stk => setsSet s + wt stk

/-- sets and selections still to be visited for the stack -/
def wtN : List SelectionSet → Nat
  | [] => 0
  | s :: stk => setsSet s + selsSet s + wtN stk

theorem fsLoopC_erase : ∀ (fuel : Nat) (stk : List SelectionSet) (acc : List Spread) (n : Nat),
    (fsLoopC fuel stk acc n).1 = fsLoop fuel stk acc
  | _, [], acc, n => by cases ‹Nat› <;> simp [fsLoopC, fsLoop]
  | 0, _ :: _, acc, n => by simp [fsLoopC, fsLoop]
  | fuel + 1, ss :: stk, acc, n => by
    simp only [fsLoopC, fsLoop]
    exact fsLoopC_erase fuel _ _ _

/-! How one scanned selection changes `wtN stk + (selections left)`: nothing is pushed (`scan_step0`), or a set with `x`
sets and `y` selections is pushed. -/

theorem scan_step {a n w S L x y : Nat} (h : a + n = x + y + w + S + L) :
    a + (n + 1) = w + (x + S) + (1 + y + L) := by
  omega

theorem scan_step0 {a n w S L : Nat} (h : a + n = w + S + L) : a + (n + 1) = w + (0 + S) + (1 + 0 + L) := by
  omega

theorem fsScan_run (sels : List Selection) (acc : List Spread) (stk : List SelectionSet) :
    wt (fsScan sels acc stk).2 = wt stk + setsSels sels ∧
    wtN (fsScan sels acc stk).2 + sels.length = wtN stk + setsSels sels + selsSels sels ∧
    ((fsScan sels acc stk).1 ++ pend (fsScan sels acc stk).2).Perm (acc ++ (spreadsSels sels ++ pend stk)) := by
  induction sels generalizing acc stk with
  | nil => exact ⟨rfl, rfl, .refl _⟩
  | cons sel rest ih =>
    -- a selection that pushes the set `ss`: the induction hypothesis for the stack `ss :: stk`, rearranged
    have push : ∀ ss : SelectionSet,
        wt (fsScan rest acc (ss :: stk)).2 = wt stk + (setsSet ss + setsSels rest) ∧
        wtN (fsScan rest acc (ss :: stk)).2 + (rest.length + 1) =
          wtN stk + (setsSet ss + setsSels rest) + (1 + selsSet ss + selsSels rest) ∧
        ((fsScan rest acc (ss :: stk)).1 ++ pend (fsScan rest acc (ss :: stk)).2).Perm
          (acc ++ ((spreadsSet ss ++ spreadsSels rest) ++ pend stk)) := fun ss => by
      obtain ⟨h1, h2, h3⟩ := ih acc (ss :: stk)
      refine ⟨h1.trans ?_, scan_step h2, h3.trans (.append_left acc ?_)⟩
      · show setsSet ss + wt stk + setsSels rest = _
        rw [Nat.add_comm (setsSet ss), Nat.add_assoc]
      · rw [List.append_assoc]; exact List.perm_append_comm_assoc _ _ _
    cases sel with
    | spread n ds l =>
      obtain ⟨h1, h2, h3⟩ := ih (acc ++ [⟨n.value, l⟩]) stk
      rw [List.append_assoc] at h3
      exact ⟨h1.trans (congrArg _ (Nat.zero_add _).symm), scan_step0 h2, h3⟩
    | field a n args ds sel l =>
      cases sel with
      | none =>
        obtain ⟨h1, h2, h3⟩ := ih acc stk
        exact ⟨h1.trans (congrArg _ (Nat.zero_add _).symm), scan_step0 h2, h3⟩
      | some ss => exact push ss
    | inline tc ds ss l => exact push ss

theorem fsLoopC_spec (fuel : Nat) (stk : List SelectionSet) (acc : List Spread) (n : Nat) (h : wt stk ≤ fuel) :
    (fsLoopC fuel stk acc n).1.2 = false ∧ (fsLoopC fuel stk acc n).2 = n + wtN stk ∧
    (fsLoopC fuel stk acc n).1.1.Perm (acc ++ pend stk) := by
  induction fuel generalizing stk acc n with
  | zero =>
    cases stk with
    | nil => exact ⟨rfl, rfl, (List.append_nil acc).symm ▸ .refl _⟩
    | cons s stk => cases s with | mk sels l => exact absurd h (by show ¬ 1 + _ + _ ≤ 0; omega)
  | succ fuel ih =>
    cases stk with
    | nil => exact ⟨rfl, rfl, (List.append_nil acc).symm ▸ .refl _⟩
    | cons s stk =>
      cases s with
      | mk sels l =>
        obtain ⟨h1, h2, h3⟩ := fsScan_run sels acc stk
        have hw : wt (fsScan sels acc stk).2 ≤ fuel := by
          have : 1 + setsSels sels + wt stk ≤ fuel + 1 := h
          omega
        obtain ⟨g1, g2, g3⟩ := ih (fsScan sels acc stk).2 (fsScan sels acc stk).1 (n + 1 + sels.length) hw
        refine ⟨g1, g2.trans ?_, g3.trans h3⟩
        show _ = n + (1 + setsSels sels + selsSels sels + wtN stk)
        omega

theorem fragmentSpreads_run (ss : SelectionSet) :
    (fragmentSpreadsF ss).2 = false ∧ fsSteps ss = setsSet ss + selsSet ss ∧ (fragmentSpreads ss).Perm (spreadsSet ss) := by
  obtain ⟨h1, h2, h3⟩ := fsLoopC_spec (setsSet ss) [ss] [] 0 (Nat.le_refl _)
  have he : (fsLoopC (setsSet ss) [ss] [] 0).1 = fragmentSpreadsF ss := fsLoopC_erase _ _ _ _
  rw [he] at h1 h3
  exact ⟨h1, h2.trans (Nat.zero_add _), h3.trans (.of_eq (List.append_nil _))⟩

end GqlModel.Validate.Graph
