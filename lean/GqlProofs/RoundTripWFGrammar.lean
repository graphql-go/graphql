import GqlModel.Grammar
import GqlModel.PrinterWF
/-! # C08 `parse_ok_WF`, grammar half: what a derivation over well-formed tokens denotes is well-formed

`TokWF t`: a NAME token's value is a GraphQL name, an INT / FLOAT token's value a well-formed number text (what the
lexer guarantees — GqlProofs/RoundTripWFLexer.lean).  `AllWF p`: every token ahead of position `p` is such.
For every derivation relation of C03's grammar S: if the tokens are well-formed, the denoted node satisfies the `WF…`
predicate of GqlModel/PrinterWF.lean (and the remaining tokens are still well-formed). -/
namespace GqlModel.RoundTrip
open GqlModel.Grammar GqlModel.Printer GqlModel.Reader

def TokWF (t : Token) : Prop :=
  match t.kind with
  | .name => isNameC t.value.toList = true
  | .int => isIntLit t.value.toList = true
  | .float => IsFloatLit t.value.toList
  | _ => True

def AllWF (p : Pos) : Prop := ∀ t ∈ p.ts, TokWF t

theorem tok_allWF {k : TokenKind} {p : Pos} {t : Token} {p' : Pos} (h : Tok k p t p') (a : AllWF p) : AllWF p' := by
  cases h with
  | mk e t r hk => exact fun x hx => a x (by simp [hx])

/-- for a constructor `k` this computes to the clause of `TokWF` for `k`, said of `t.value` -/
theorem tok_wf {k : TokenKind} {p : Pos} {t : Token} {p' : Pos} (h : Tok k p t p') (a : AllWF p) :
    TokWF { t with kind := k } := by
  cases h with
  | mk e t r hk => subst hk; exact a t (by simp)

theorem kw_wf {s : String} {p p' : Pos} (h : Kw s p p') (a : AllWF p) : AllWF p' := by
  cases h with
  | mk ht _ => exact tok_allWF ht a

theorem dname_wf {p : Pos} {n : Name} {p' : Pos} (h : DName p n p') (a : AllWF p) : WFName n.value ∧ AllWF p' := by
  cases h with
  | mk ht =>
    exact ⟨tok_wf ht a, tok_allWF ht a⟩

theorem many_wf {α : Type} {item : Pos → α → Pos → Prop} {Q : α → Prop} {QL : List α → Prop}
    {p : Pos} {xs : List α} {p' : Pos} (h : Many item p xs p') (a : AllWF p)
    (hitem : ∀ p x p', item p x p' → AllWF p → Q x ∧ AllWF p') (hnil : QL [] := by trivial)
    (hcons : ∀ x xs, Q x → QL xs → QL (x :: xs) := by exact fun _ _ x y => ⟨x, y⟩) : QL xs ∧ AllWF p' := by
  induction h with
  | nil => exact ⟨hnil, a⟩
  | cons h _ ih =>
    obtain ⟨w, a1⟩ := hitem _ _ _ h a
    obtain ⟨ws, a2⟩ := ih a1
    exact ⟨hcons _ _ w ws, a2⟩

theorem sepBy_wf {α : Type} {sep : TokenKind} {item : Pos → α → Pos → Prop} {Q : α → Prop} {QL : List α → Prop}
    {p : Pos} {xs : List α} {p' : Pos} (h : SepBy sep item p xs p') (a : AllWF p)
    (hitem : ∀ p x p', item p x p' → AllWF p → Q x ∧ AllWF p') (hnil : QL [] := by trivial)
    (hcons : ∀ x xs, Q x → QL xs → QL (x :: xs) := by exact fun _ _ x y => ⟨x, y⟩) : (QL xs ∧ xs ≠ []) ∧ AllWF p' := by
  induction h with
  | one h _ =>
    obtain ⟨w, a1⟩ := hitem _ _ _ h a
    exact ⟨⟨hcons _ _ w hnil, by simp⟩, a1⟩
  | cons h hs _ ih =>
    obtain ⟨w, a1⟩ := hitem _ _ _ h a
    obtain ⟨⟨ws, _⟩, a3⟩ := ih (tok_allWF hs a1)
    exact ⟨⟨hcons _ _ w ws, by simp⟩, a3⟩

theorem braced_wf {α : Type} {item : Pos → α → Pos → Prop} {Q : α → Prop} {QL : List α → Prop}
    {p : Pos} {xs : List α} {p' : Pos} (h : Braced item p xs p') (a : AllWF p)
    (hitem : ∀ p x p', item p x p' → AllWF p → Q x ∧ AllWF p') (hnil : QL [] := by trivial)
    (hcons : ∀ x xs, Q x → QL xs → QL (x :: xs) := by exact fun _ _ x y => ⟨x, y⟩) : QL xs ∧ AllWF p' := by
  cases h with
  | mk ho hm hc =>
    obtain ⟨w, a2⟩ := many_wf hm (tok_allWF ho a) hitem hnil hcons
    exact ⟨w, tok_allWF hc a2⟩

mutual
theorem DValue.wf : ∀ {c p v p'}, DValue c p v p' → AllWF p → (WFValue v ∧ (c = true → ConstValue v)) ∧ AllWF p'
  | _, _, _, _, .var h, a => by
    cases h with
    | mk hd hn =>
      have a1 := tok_allWF hd a
      obtain ⟨w, a2⟩ := dname_wf hn a1
      exact ⟨⟨w, fun hc => by cases hc⟩, a2⟩
  | _, _, _, _, .int h, a => by
    exact ⟨⟨tok_wf h a, fun _ => trivial⟩, tok_allWF h a⟩
  | _, _, _, _, .float h, a => by
    exact ⟨⟨tok_wf h a, fun _ => trivial⟩, tok_allWF h a⟩
  | _, _, _, _, .string h, a => ⟨⟨trivial, fun _ => trivial⟩, tok_allWF h a⟩
  | _, _, _, _, .blockString h, a => ⟨⟨trivial, fun _ => trivial⟩, tok_allWF h a⟩
  | _, _, _, _, .tru h, a => ⟨⟨trivial, fun _ => trivial⟩, kw_wf h a⟩
  | _, _, _, _, .fls h, a => ⟨⟨trivial, fun _ => trivial⟩, kw_wf h a⟩
  | _, _, _, _, .enum h h1 h2 h3, a => by
    exact ⟨⟨⟨tok_wf h a, fun e => h1 (String.toList_injective e), fun e => h2 (String.toList_injective e), fun e => h3 (String.toList_injective e)⟩, fun _ => trivial⟩, tok_allWF h a⟩
  | _, _, _, _, .list ho hvs hc, a => by
    have a1 := tok_allWF ho a
    obtain ⟨w, a2⟩ := DValues.wf hvs a1
    have a3 := tok_allWF hc a2
    exact ⟨w, a3⟩
  | _, _, _, _, .obj ho hfs hc, a => by
    have a1 := tok_allWF ho a
    obtain ⟨w, a2⟩ := DObjFields.wf hfs a1
    have a3 := tok_allWF hc a2
    exact ⟨w, a3⟩
theorem DValues.wf : ∀ {c p vs p'}, DValues c p vs p' → AllWF p → (WFValues vs ∧ (c = true → ConstValues vs)) ∧ AllWF p'
  | _, _, _, _, .nil, a => ⟨⟨trivial, fun _ => trivial⟩, a⟩
  | _, _, _, _, .cons hv hvs, a => by
    obtain ⟨⟨w1, c1⟩, a1⟩ := DValue.wf hv a
    obtain ⟨⟨w2, c2⟩, a2⟩ := DValues.wf hvs a1
    exact ⟨⟨⟨w1, w2⟩, fun hc => ⟨c1 hc, c2 hc⟩⟩, a2⟩
theorem DObjFields.wf : ∀ {c p fs p'}, DObjFields c p fs p' → AllWF p → (WFFields fs ∧ (c = true → ConstFields fs)) ∧ AllWF p'
  | _, _, _, _, .nil, a => ⟨⟨trivial, fun _ => trivial⟩, a⟩
  | _, _, _, _, .cons hf hfs, a => by
    obtain ⟨⟨w1, c1⟩, a1⟩ := DObjField.wf hf a
    obtain ⟨⟨w2, c2⟩, a2⟩ := DObjFields.wf hfs a1
    exact ⟨⟨⟨w1, w2⟩, fun hc => ⟨c1 hc, c2 hc⟩⟩, a2⟩
theorem DObjField.wf : ∀ {c p f p'}, DObjField c p f p' → AllWF p → (WFField f ∧ (c = true → ConstField f)) ∧ AllWF p'
  | _, _, _, _, .mk hn hc hv, a => by
    obtain ⟨wn, a1⟩ := dname_wf hn a
    have a2 := tok_allWF hc a1
    obtain ⟨⟨wv, cv⟩, a3⟩ := DValue.wf hv a2
    exact ⟨⟨⟨wn, wv⟩, cv⟩, a3⟩
end

theorem dargument_wf {p : Pos} {x : Argument} {p' : Pos} (h : DArgument p x p') (a : AllWF p) : WFArgument x ∧ AllWF p' := by
  cases h with
  | mk hn hc hv =>
    obtain ⟨wn, a1⟩ := dname_wf hn a
    have a2 := tok_allWF hc a1
    obtain ⟨⟨wv, _⟩, a3⟩ := DValue.wf hv a2
    exact ⟨⟨wn, wv⟩, a3⟩

theorem darguments_wf {p : Pos} {xs : List Argument} {p' : Pos} (h : DArguments p xs p') (a : AllWF p) :
    WFArguments xs ∧ AllWF p' := by
  cases h with
  | none _ => exact ⟨trivial, a⟩
  | some ho hm _ hc =>
    have a1 := tok_allWF ho a
    obtain ⟨w, a2⟩ := many_wf (QL := WFArguments) hm a1 (fun _ _ _ => dargument_wf)
    have a3 := tok_allWF hc a2
    exact ⟨w, a3⟩

theorem ddirective_wf {p : Pos} {x : Directive} {p' : Pos} (h : DDirective p x p') (a : AllWF p) : WFDirective x ∧ AllWF p' := by
  cases h with
  | mk hat hn hargs =>
    have a1 := tok_allWF hat a
    obtain ⟨wn, a2⟩ := dname_wf hn a1
    obtain ⟨wa, a3⟩ := darguments_wf hargs a2
    exact ⟨⟨wn, wa⟩, a3⟩

theorem ddirectives_wf : ∀ {p : Pos} {xs : List Directive} {p' : Pos}, DDirectives p xs p' → AllWF p → WFDirectives xs ∧ AllWF p'
  | _, _, _, .nil _, a => ⟨trivial, a⟩
  | _, _, _, .cons h hs, a => by
    obtain ⟨w, a1⟩ := ddirective_wf h a
    obtain ⟨ws, a2⟩ := ddirectives_wf hs a1
    exact ⟨⟨w, ws⟩, a2⟩

theorem dnamedType_wf {p : Pos} {t : TypeRef} {p' : Pos} (h : DNamedType p t p') (a : AllWF p) :
    (WFNamedType t ∧ WFType t ∧ isBaseTypeB t = true) ∧ AllWF p' := by
  cases h with
  | mk hn =>
    obtain ⟨w, a1⟩ := dname_wf hn a
    exact ⟨⟨w, w, rfl⟩, a1⟩

theorem wfType_nonNull {t : TypeRef} {l : Loc} (h : WFType t) (hb : isBaseTypeB t = true) : WFType (.nonNull t l) := by
  cases t with
  | named _ _ => exact ⟨h, trivial⟩
  | list _ _ => exact ⟨h, trivial⟩
  | nonNull _ _ => cases hb

mutual
theorem DBaseType.wf : ∀ {p t p'}, DBaseType p t p' → AllWF p → (WFType t ∧ isBaseTypeB t = true) ∧ AllWF p'
  | _, _, _, .named h, a => by
    obtain ⟨⟨_, w, b⟩, a1⟩ := dnamedType_wf h a
    exact ⟨⟨w, b⟩, a1⟩
  | _, _, _, .list ho ht hc, a => by
    have a1 := tok_allWF ho a
    obtain ⟨w, a2⟩ := DType.wf ht a1
    have a3 := tok_allWF hc a2
    exact ⟨⟨w, rfl⟩, a3⟩
theorem DType.wf : ∀ {p t p'}, DType p t p' → AllWF p → WFType t ∧ AllWF p'
  | _, _, _, .plain h _, a => by
    obtain ⟨⟨w, _⟩, a1⟩ := DBaseType.wf h a
    exact ⟨w, a1⟩
  | _, _, _, .nonNull h hb, a => by
    obtain ⟨⟨w, b⟩, a1⟩ := DBaseType.wf h a
    have a2 := tok_allWF hb a1
    exact ⟨wfType_nonNull w b, a2⟩
end

theorem dfragmentName_wf {p : Pos} {n : Name} {p' : Pos} (h : DFragmentName p n p') (a : AllWF p) :
    (WFName n.value ∧ n.value ≠ "on") ∧ AllWF p' := by
  cases h with
  | mk hn hne =>
    obtain ⟨w, a1⟩ := dname_wf hn a
    exact ⟨⟨w, hne⟩, a1⟩

theorem dtypeCondition_wf {p : Pos} {t : Option TypeRef} {p' : Pos} (h : DTypeCondition p t p') (a : AllWF p) :
    WFTypeCond t ∧ AllWF p' := by
  cases h with
  | none _ => exact ⟨trivial, a⟩
  | some hk ht =>
    obtain ⟨⟨w, _⟩, a2⟩ := dnamedType_wf ht (kw_wf hk a)
    exact ⟨w, a2⟩

mutual
theorem DSelectionSet.wf : ∀ {p s p'}, DSelectionSet p s p' → AllWF p → WFSelSet s ∧ AllWF p'
  | _, _, _, .mk ho hs hne hc, a => by
    have a1 := tok_allWF ho a
    obtain ⟨w, a2⟩ := DSelections.wf hs a1
    have a3 := tok_allWF hc a2
    exact ⟨⟨hne, w⟩, a3⟩
theorem DSelections.wf : ∀ {p ss p'}, DSelections p ss p' → AllWF p → WFSelections ss ∧ AllWF p'
  | _, _, _, .nil, a => ⟨trivial, a⟩
  | _, _, _, .cons h hs, a => by
    obtain ⟨w, a1⟩ := DSelection.wf h a
    obtain ⟨ws, a2⟩ := DSelections.wf hs a1
    exact ⟨⟨w, ws⟩, a2⟩
theorem DSelection.wf : ∀ {p s p'}, DSelection p s p' → AllWF p → WFSelection s ∧ AllWF p'
  | _, _, _, .field hn _ ha hd hs, a => by
    obtain ⟨wn, a1⟩ := dname_wf hn a
    obtain ⟨wa, a2⟩ := darguments_wf ha a1
    obtain ⟨wd, a3⟩ := ddirectives_wf hd a2
    obtain ⟨ws, a4⟩ := DOptSelectionSet.wf hs a3
    exact ⟨⟨trivial, wn, wa, wd, ws⟩, a4⟩
  | _, _, _, .aliased hal hc hn ha hd hs, a => by
    obtain ⟨wal, a0⟩ := dname_wf hal a
    have a0' := tok_allWF hc a0
    obtain ⟨wn, a1⟩ := dname_wf hn a0'
    obtain ⟨wa, a2⟩ := darguments_wf ha a1
    obtain ⟨wd, a3⟩ := ddirectives_wf hd a2
    obtain ⟨ws, a4⟩ := DOptSelectionSet.wf hs a3
    exact ⟨⟨wal, wn, wa, wd, ws⟩, a4⟩
  | _, _, _, .spread hsp hn hd, a => by
    have a1 := tok_allWF hsp a
    obtain ⟨⟨wn, hne⟩, a2⟩ := dfragmentName_wf hn a1
    obtain ⟨wd, a3⟩ := ddirectives_wf hd a2
    exact ⟨⟨wn, hne, wd⟩, a3⟩
  | _, _, _, .inline hsp ht hd hss, a => by
    have a1 := tok_allWF hsp a
    obtain ⟨wt, a2⟩ := dtypeCondition_wf ht a1
    obtain ⟨wd, a3⟩ := ddirectives_wf hd a2
    obtain ⟨ws, a4⟩ := DSelectionSet.wf hss a3
    exact ⟨⟨wt, wd, ws⟩, a4⟩
theorem DOptSelectionSet.wf : ∀ {p s p'}, DOptSelectionSet p s p' → AllWF p → WFOptSelSet s ∧ AllWF p'
  | _, _, _, .none _, a => ⟨trivial, a⟩
  | _, _, _, .some h, a => DSelectionSet.wf h a
end

theorem ddefault_wf {p : Pos} {d : Option Value} {p' : Pos} (h : DDefault p d p') (a : AllWF p) : WFDefault d ∧ AllWF p' := by
  cases h with
  | none _ => exact ⟨trivial, a⟩
  | some hq hv =>
    have a1 := tok_allWF hq a
    obtain ⟨⟨w, c⟩, a2⟩ := DValue.wf hv a1
    exact ⟨⟨w, c rfl⟩, a2⟩

theorem dvarDef_wf {p : Pos} {v : VarDef} {p' : Pos} (h : DVarDef p v p') (a : AllWF p) : WFVarDef v ∧ AllWF p' := by
  cases h with
  | mk hv hc ht hd =>
    cases hv with
    | mk hdl hn =>
      have a0 := tok_allWF hdl a
      obtain ⟨wn, a1⟩ := dname_wf hn a0
      have a2 := tok_allWF hc a1
      obtain ⟨wt, a3⟩ := DType.wf ht a2
      obtain ⟨wd, a4⟩ := ddefault_wf hd a3
      exact ⟨⟨wn, ⟨_, rfl, wt⟩, wd⟩, a4⟩

theorem dvarDefs_wf {p : Pos} {vs : List VarDef} {p' : Pos} (h : DVarDefs p vs p') (a : AllWF p) : WFVarDefs vs ∧ AllWF p' := by
  cases h with
  | none _ => exact ⟨trivial, a⟩
  | some ho hm _ hc =>
    have a1 := tok_allWF ho a
    obtain ⟨w, a2⟩ := many_wf (QL := WFVarDefs) hm a1 (fun _ _ _ => dvarDef_wf)
    have a3 := tok_allWF hc a2
    exact ⟨w, a3⟩

theorem doptName_wf {p : Pos} {n : Option Name} {p' : Pos} (h : DOptName p n p') (a : AllWF p) : WFOptName n ∧ AllWF p' := by
  cases h with
  | none _ => exact ⟨trivial, a⟩
  | some hn => exact dname_wf hn a

theorem dopType_wf {p : Pos} {op : OpType} {p' : Pos} (h : DOpType p op p') (a : AllWF p) : AllWF p' := by
  cases h with
  | query hk => exact kw_wf hk a
  | mutation hk => exact kw_wf hk a
  | subscription hk => exact kw_wf hk a

theorem ddescription_wf {p : Pos} {d : Option String} {p' : Pos} (h : DDescription p d p') (a : AllWF p) : AllWF p' := by
  cases h with
  | none _ _ => exact a
  | string ht => exact tok_allWF ht a
  | blockString ht => exact tok_allWF ht a

theorem dopTypeDef_wf {p : Pos} {d : OpTypeDef} {p' : Pos} (h : DOpTypeDef p d p') (a : AllWF p) : WFOpTypeDef d ∧ AllWF p' := by
  cases h with
  | mk hop hc ht =>
    have a2 := tok_allWF hc (dopType_wf hop a)
    obtain ⟨⟨w, _⟩, a3⟩ := dnamedType_wf ht a2
    exact ⟨w, a3⟩

theorem namedTypes_item {p : Pos} {x : TypeRef} {p' : Pos} (h : DNamedType p x p') (a : AllWF p) :
    WFNamedType x ∧ AllWF p' := by
  obtain ⟨⟨w, _⟩, a1⟩ := dnamedType_wf h a
  exact ⟨w, a1⟩

theorem dimplements_wf {p : Pos} {ts : List TypeRef} {p' : Pos} (h : DImplements p ts p') (a : AllWF p) :
    WFNamedTypes ts ∧ AllWF p' := by
  cases h with
  | none _ => exact ⟨trivial, a⟩
  | plain hk _ hs =>
    obtain ⟨⟨w, _⟩, a2⟩ := sepBy_wf (QL := WFNamedTypes) hs (kw_wf hk a) (fun _ _ _ => namedTypes_item)
    exact ⟨w, a2⟩
  | leadingAmp hk ha hs =>
    have a1 := tok_allWF ha (kw_wf hk a)
    obtain ⟨⟨w, _⟩, a2⟩ := sepBy_wf (QL := WFNamedTypes) hs a1 (fun _ _ _ => namedTypes_item)
    exact ⟨w, a2⟩

theorem dinputValueDef_wf {p : Pos} {d : InputValueDef} {p' : Pos} (h : DInputValueDef p d p') (a : AllWF p) :
    WFInputValueDef d ∧ AllWF p' := by
  cases h with
  | mk hdesc hn hc ht hd hdirs =>
    obtain ⟨wn, a1⟩ := dname_wf hn (ddescription_wf hdesc a)
    have a2 := tok_allWF hc a1
    obtain ⟨wt, a3⟩ := DType.wf ht a2
    obtain ⟨wd, a4⟩ := ddefault_wf hd a3
    obtain ⟨wdirs, a5⟩ := ddirectives_wf hdirs a4
    exact ⟨⟨wn, wt, wd, wdirs⟩, a5⟩

theorem dargumentDefs_wf {p : Pos} {ds : List InputValueDef} {p' : Pos} (h : DArgumentDefs p ds p') (a : AllWF p) :
    WFInputValueDefs ds ∧ AllWF p' := by
  cases h with
  | none _ => exact ⟨trivial, a⟩
  | some ho hm _ hc =>
    have a1 := tok_allWF ho a
    obtain ⟨w, a2⟩ := many_wf (QL := WFInputValueDefs) hm a1 (fun _ _ _ => dinputValueDef_wf)
    have a3 := tok_allWF hc a2
    exact ⟨w, a3⟩

theorem dfieldDef_wf {p : Pos} {d : FieldDef} {p' : Pos} (h : DFieldDef p d p') (a : AllWF p) : WFFieldDef d ∧ AllWF p' := by
  cases h with
  | mk hdesc hn hargs hc ht hdirs =>
    obtain ⟨wn, a1⟩ := dname_wf hn (ddescription_wf hdesc a)
    obtain ⟨wa, a2⟩ := dargumentDefs_wf hargs a1
    have a3 := tok_allWF hc a2
    obtain ⟨wt, a4⟩ := DType.wf ht a3
    obtain ⟨wdirs, a5⟩ := ddirectives_wf hdirs a4
    exact ⟨⟨wn, wa, wt, wdirs⟩, a5⟩

theorem fieldsBraced_wf {p : Pos} {fs : List FieldDef} {p' : Pos} (h : Braced DFieldDef p fs p') (a : AllWF p) :
    WFFieldDefs fs ∧ AllWF p' :=
  braced_wf (QL := WFFieldDefs) h a (fun _ _ _ => dfieldDef_wf)

theorem dobjectDef_wf {p : Pos} {d : ObjectDef} {p' : Pos} (h : DObjectDef p d p') (a : AllWF p) : WFObjectDef d ∧ AllWF p' := by
  cases h with
  | mk hdesc hk hn hi hdirs hf =>
    obtain ⟨wn, a1⟩ := dname_wf hn (kw_wf hk (ddescription_wf hdesc a))
    obtain ⟨wi, a2⟩ := dimplements_wf hi a1
    obtain ⟨wd, a3⟩ := ddirectives_wf hdirs a2
    obtain ⟨wf, a4⟩ := fieldsBraced_wf hf a3
    exact ⟨⟨wn, wi, wd, wf⟩, a4⟩

theorem denumValueDef_wf {p : Pos} {d : EnumValueDef} {p' : Pos} (h : DEnumValueDef p d p') (a : AllWF p) :
    WFEnumValueDef d ∧ AllWF p' := by
  cases h with
  | mk hdesc hn hdirs =>
    obtain ⟨wn, a1⟩ := dname_wf hn (ddescription_wf hdesc a)
    obtain ⟨wd, a2⟩ := ddirectives_wf hdirs a1
    exact ⟨⟨wn, wd⟩, a2⟩

theorem ddefinition_wf {p : Pos} {d : Definition} {p' : Pos} (h : DDefinition p d p') (a : AllWF p) :
    WFDefinition d ∧ AllWF p' := by
  cases h with
  | query hs =>
    obtain ⟨w, a1⟩ := DSelectionSet.wf hs a
    exact ⟨⟨trivial, trivial, trivial, w⟩, a1⟩
  | operation hop hn hv hd hs =>
    obtain ⟨wn, a1⟩ := doptName_wf hn (dopType_wf hop a)
    obtain ⟨wv, a2⟩ := dvarDefs_wf hv a1
    obtain ⟨wd, a3⟩ := ddirectives_wf hd a2
    obtain ⟨ws, a4⟩ := DSelectionSet.wf hs a3
    exact ⟨⟨wn, wv, wd, ws⟩, a4⟩
  | fragment hk hn hon ht hd hs =>
    obtain ⟨⟨wn, hne⟩, a1⟩ := dfragmentName_wf hn (kw_wf hk a)
    obtain ⟨⟨wt, _⟩, a2⟩ := dnamedType_wf ht (kw_wf hon a1)
    obtain ⟨wd, a3⟩ := ddirectives_wf hd a2
    obtain ⟨ws, a4⟩ := DSelectionSet.wf hs a3
    exact ⟨⟨wn, hne, wt, wd, ws⟩, a4⟩
  | schema hk hd ho hm hne hc =>
    obtain ⟨wd, a1⟩ := ddirectives_wf hd (kw_wf hk a)
    have a2 := tok_allWF ho a1
    obtain ⟨wo, a3⟩ := many_wf (QL := WFOpTypeDefs) hm a2 (fun _ _ _ => dopTypeDef_wf)
    have a4 := tok_allWF hc a3
    exact ⟨⟨wd, hne, wo⟩, a4⟩
  | scalar hdesc hk hn hd =>
    obtain ⟨wn, a1⟩ := dname_wf hn (kw_wf hk (ddescription_wf hdesc a))
    obtain ⟨wd, a2⟩ := ddirectives_wf hd a1
    exact ⟨⟨wn, wd⟩, a2⟩
  | object ho => exact dobjectDef_wf ho a
  | interface hdesc hk hn hd hf =>
    obtain ⟨wn, a1⟩ := dname_wf hn (kw_wf hk (ddescription_wf hdesc a))
    obtain ⟨wd, a2⟩ := ddirectives_wf hd a1
    obtain ⟨wf, a3⟩ := fieldsBraced_wf hf a2
    exact ⟨⟨wn, wd, wf⟩, a3⟩
  | union hdesc hk hn hd hq hs =>
    obtain ⟨wn, a1⟩ := dname_wf hn (kw_wf hk (ddescription_wf hdesc a))
    obtain ⟨wd, a2⟩ := ddirectives_wf hd a1
    have a3 := tok_allWF hq a2
    obtain ⟨⟨wt, hne⟩, a4⟩ := sepBy_wf (QL := WFNamedTypes) hs a3 (fun _ _ _ => namedTypes_item)
    exact ⟨⟨wn, wd, hne, wt⟩, a4⟩
  | «enum» hdesc hk hn hd hv =>
    obtain ⟨wn, a1⟩ := dname_wf hn (kw_wf hk (ddescription_wf hdesc a))
    obtain ⟨wd, a2⟩ := ddirectives_wf hd a1
    obtain ⟨wv, a3⟩ := braced_wf (QL := WFEnumValueDefs) hv a2 (fun _ _ _ => denumValueDef_wf)
    exact ⟨⟨wn, wd, wv⟩, a3⟩
  | inputObject hdesc hk hn hd hf =>
    obtain ⟨wn, a1⟩ := dname_wf hn (kw_wf hk (ddescription_wf hdesc a))
    obtain ⟨wd, a2⟩ := ddirectives_wf hd a1
    obtain ⟨wf, a3⟩ := braced_wf (QL := WFInputValueDefs) hf a2 (fun _ _ _ => dinputValueDef_wf)
    exact ⟨⟨wn, wd, wf⟩, a3⟩
  | extend hk ho => exact dobjectDef_wf ho (kw_wf hk a)
  | directive hdesc hk hat hn hargs hon hlocs =>
    have a0 := tok_allWF hat (kw_wf hk (ddescription_wf hdesc a))
    obtain ⟨wn, a1⟩ := dname_wf hn a0
    obtain ⟨wa, a2⟩ := dargumentDefs_wf hargs a1
    obtain ⟨⟨wl, hne⟩, a3⟩ := sepBy_wf (QL := WFNames) hlocs (kw_wf hon a2) (fun _ _ _ => dname_wf)
    exact ⟨⟨wn, wa, hne, wl⟩, a3⟩

/-- **grammar half of `parse_ok_WF`**: a document derived from well-formed tokens is a `WFDocument` -/
theorem derivesDoc_wf {toks : List Token} {eofPos : Nat} {d : Document} (h : DerivesDoc toks eofPos d)
    (hw : ∀ t ∈ toks, TokWF t) : WFDocument d := by
  cases h with
  | mk hm hne =>
    obtain ⟨w, _⟩ := many_wf (QL := WFDefinitions) hm hw (fun _ _ _ => ddefinition_wf)
    exact ⟨hne, w⟩

end GqlModel.RoundTrip
