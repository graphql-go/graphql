import GqlModel.Ext
/-! Helper lemmas for C17: what each handler of `GqlModel.Ext` emits (group characterisations), what one
extension sees of it (`proj`), the shape `runT` shared by the log of a whole run and its per-extension view `view`,
and the specification's automata on a view. Core Lean only.
Names: `…T` a log (trace) in closed form, `…G` the groups of hook calls a phase logs itself; `g` / `gF` (`grp` / `grpF`)
the calls of a hook / of the finish hook of the extensions whose start hook returned; `sf` is `startFault`, `be` is
`bodyErrEv`. -/
namespace GqlModel.Ext

variable {xs : List ExtBehaviour} {b : ExtBehaviour} {req : RequestOutcomeClass}

/-! ## Groups

`handleInits` and the log / error part of `didStart` are `finish` with no outcome argument, so the facts about the
three loops are proved for `finish`. -/

theorem finish_evs (h : Hook) (k : Nat) (o : Out) (fs : List ExtBehaviour) :
    (finish h k o fs).1 = fs.map (fun b => mkEv b h k o) := by
  induction fs with
  | nil => rfl
  | cons b rest ih => simp only [finish, List.map_cons, ← ih]; cases b.beh h <;> rfl

theorem finish_errs_nil (h : Hook) (k : Nat) (o : Out) (fs : List ExtBehaviour) :
    (finish h k o fs).2.isEmpty = !anyFault fs h := by
  induction fs with
  | nil => rfl
  | cons b rest ih =>
    simp only [finish, anyFault, List.any_cons] at ih ⊢
    cases b.beh h
    · exact ih
    · rfl

theorem handleInits_eq_finish : handleInits xs = finish .init 0 .none xs := by
  induction xs with
  | nil => rfl
  | cons b rest ih => simp only [handleInits, finish, ih]

theorem didStart_eq_finish (h : Hook) (k : Nat) :
    ((didStart h k xs).evs, (didStart h k xs).errs) = finish h k .none xs := by
  induction xs with
  | nil => rfl
  | cons b rest ih =>
    simp only [didStart, finish, ← ih]
    cases b.beh h <;> rfl

theorem didStart_evs (h : Hook) (k : Nat) :
    (didStart h k xs).evs = xs.map (fun b => mkEv b h k .none) :=
  (congrArg Prod.fst (didStart_eq_finish h k)).trans (finish_evs h k .none xs)

theorem didStart_errs_nil (h : Hook) (k : Nat) :
    (didStart h k xs).errs.isEmpty = !anyFault xs h :=
  (congrArg (fun r => r.2.isEmpty) (didStart_eq_finish h k)).trans (finish_errs_nil h k .none xs)

def NodupNames (xs : List ExtBehaviour) : Prop := (names xs).Nodup

instance (xs : List ExtBehaviour) : Decidable (NodupNames xs) := by unfold NodupNames; infer_instance

theorem didStart_fs_subset (h : Hook) (k : Nat) (xs : List ExtBehaviour) :
    ∀ c ∈ (didStart h k xs).fs, c ∈ xs := by
  induction xs with
  | nil => simp [didStart]
  | cons b rest ih =>
    intro c hc
    simp only [didStart] at hc
    split at hc
    · simp only [registerBefore] at hc
      split at hc
      · rcases List.mem_append.1 hc with hc | hc <;>
          exact List.mem_cons_of_mem _ (ih c (List.mem_filter.1 hc).1)
      · rcases List.mem_cons.1 hc with rfl | hc
        · exact List.mem_cons_self
        · exact List.mem_cons_of_mem _ (ih c hc)
    · exact List.mem_cons_of_mem _ (ih c hc)

/-- with distinct names the finish-function map holds exactly the extensions whose start hook returned -/
theorem didStart_fs (h : Hook) (k : Nat) (hnd : NodupNames xs) :
    (didStart h k xs).fs = xs.filter (fun b => b.beh h == .ok) := by
  induction xs with
  | nil => rfl
  | cons b rest ih =>
    have hnd' : NodupNames rest := (List.nodup_cons.1 hnd).2
    have hb : b.name ∉ names rest := (List.nodup_cons.1 hnd).1
    simp only [didStart]
    split <;> rename_i hbeh
    · rw [ih hnd']
      have : (rest.filter (fun b => b.beh h == .ok)).any (fun c => c.name == b.name) = false := by
        rw [Bool.eq_false_iff]
        intro hany
        obtain ⟨c, hc, hcn⟩ := List.any_eq_true.1 hany
        exact hb (by simp only [names, List.mem_map]; exact ⟨c, (List.mem_filter.1 hc).1, by simpa using hcn⟩)
      simp only [registerBefore, this]
      simp [hbeh]
    · simp [ih hnd', hbeh]

theorem beh_ok_of_noFault {h : Hook} (hf : anyFault xs h = false)
    (hb : b ∈ xs) : b.beh h = .ok := by
  simp only [anyFault, List.any_eq_false] at hf
  simpa using hf b hb

theorem filter_ok_of_noFault (h : Hook) (hf : anyFault xs h = false) :
    xs.filter (fun b => b.beh h == .ok) = xs :=
  List.filter_eq_self.2 fun b hb => by rw [beh_ok_of_noFault hf hb]; rfl

theorem proj_append (a : Nat) (s t : Trace) : proj a (s ++ t) = proj a s ++ proj a t := by
  simp [proj]

theorem proj_nil (a : Nat) : proj a [] = [] := rfl

/-- `g c` only emits hook calls of extension `c` -/
def Own (g : ExtBehaviour → Trace) : Prop := ∀ c e, e ∈ g c → e.ext = c.name ∧ e.hook ≠ .resolver

theorem proj_own_other {g : ExtBehaviour → Trace} (hg : Own g) {c : ExtBehaviour} {a : Nat} (hne : c.name ≠ a) :
    proj a (g c) = [] := by
  simp only [proj, List.filter_eq_nil_iff]
  intro e he
  obtain ⟨h1, h2⟩ := hg c e he
  simp [h1, h2, hne]

theorem proj_flatMap_none {g : ExtBehaviour → Trace} (hg : Own g) (a : Nat) (ys : List ExtBehaviour)
    (hys : ∀ c ∈ ys, c.name ≠ a) : proj a (ys.flatMap g) = [] := by
  rw [proj, List.filter_flatMap, List.flatMap_eq_nil_iff]
  exact fun c hc => proj_own_other hg (hys c hc)

theorem proj_flatMap {g : ExtBehaviour → Trace} (hg : Own g) (hnd : NodupNames xs)
    (hb : b ∈ xs) : proj b.name (xs.flatMap g) = g b := by
  obtain ⟨l₁, l₂, rfl⟩ := List.append_of_mem hb
  simp only [NodupNames, names, List.map_append, List.map_cons, List.nodup_append, List.nodup_cons] at hnd
  rw [List.flatMap_append, List.flatMap_cons, proj_append, proj_append,
    proj_flatMap_none hg b.name l₁ fun c hc => hnd.2.2 _ (List.mem_map_of_mem hc) _ List.mem_cons_self,
    proj_flatMap_none hg b.name l₂ fun c hc e => hnd.2.1.1 (List.mem_map.2 ⟨c, hc, e⟩),
    List.nil_append, List.append_nil]
  exact List.filter_eq_self.2 fun e he => by simp [(hg b e he).1]

theorem proj_filter_map_mkEv (hnd : NodupNames xs) (hb : b ∈ xs)
    (p : ExtBehaviour → Bool) (h : Hook) (hh : h ≠ .resolver) (k : Nat) (o : Out) :
    proj b.name ((xs.filter p).map (fun c => mkEv c h k o)) = if p b then [mkEv b h k o] else [] := by
  have own : Own (fun c => if p c then [mkEv c h k o] else []) := by
    intro c e he
    dsimp only at he
    split at he
    · rw [List.mem_singleton.1 he]
      exact ⟨rfl, hh⟩
    · cases he
  have e : ∀ ys : List ExtBehaviour,
      (ys.filter p).map (fun c => mkEv c h k o) = ys.flatMap (fun c => if p c then [mkEv c h k o] else []) := by
    intro ys
    induction ys with
    | nil => rfl
    | cons c rest ih => by_cases hp : p c <;> simp [hp, ih]
  rw [e, proj_flatMap own hnd hb]


theorem proj_map_mkEv (hnd : NodupNames xs) (hb : b ∈ xs)
    (h : Hook) (hh : h ≠ .resolver) (k : Nat) (o : Out) :
    proj b.name (xs.map (fun c => mkEv c h k o)) = [mkEv b h k o] := by
  have := proj_filter_map_mkEv hnd hb (fun _ => true) h hh k o
  rwa [List.filter_eq_self.2 fun _ _ => rfl] at this

theorem bodyOutB_execBody (xs : List ExtBehaviour) (req : RequestOutcomeClass) :
    bodyOutB (execBody xs req) = bodyOut xs req := rfl

def resEvs (b : ExtBehaviour) : Trace :=
  match b.beh .hasResult with
  | .panic _ => [mkEv b .hasResult 0 .none]
  | .ok => if b.hasRes then [mkEv b .hasResult 0 .none, mkEv b .getResult 0 .none] else [mkEv b .hasResult 0 .none]

theorem addExtensionResults_evs : (addExtensionResults xs).1 = xs.flatMap resEvs := by
  induction xs with
  | nil => rfl
  | cons b rest ih =>
    simp only [addExtensionResults, List.flatMap_cons, resEvs]
    cases b.beh .hasResult with
    | panic k => simp [ih]
    | ok =>
      by_cases hr : b.hasRes
      · cases b.beh .getResult <;> simp [hr, ih]
      · simp [hr, ih]

theorem resEvs_eq :
    resEvs b = mkEv b .hasResult 0 .none ::
      if b.beh .hasResult = .ok ∧ b.hasRes = true then [mkEv b .getResult 0 .none] else [] := by
  rw [resEvs]
  cases b.beh .hasResult <;> cases b.hasRes <;> rfl

theorem mem_resEvs {e : Ev} (he : e ∈ resEvs b) :
    e = mkEv b .hasResult 0 .none ∨ e = mkEv b .getResult 0 .none := by
  rw [resEvs_eq] at he
  rcases List.mem_cons.1 he with h | h
  · exact .inl h
  · split at h
    · exact .inr (List.mem_singleton.1 h)
    · cases h

theorem own_resEvs : Own resEvs := by
  intro c e he
  rcases mem_resEvs he with rfl | rfl
  · exact ⟨rfl, show Hook.hasResult ≠ .resolver by decide⟩
  · exact ⟨rfl, show Hook.getResult ≠ .resolver by decide⟩

def vFinish (b : ExtBehaviour) (hs he : Hook) (k : Nat) (o : Out) : Trace :=
  if b.beh hs == .ok then [mkEv b he k o] else []

def vField (b : ExtBehaviour) (k : Nat) (fo : FieldOutcome) : Trace :=
  [mkEv b .resStart k .none, resolverEv k fo]
    ++ vFinish b .resStart .resEnd k (if fo.failed then .err else .ok)

def vFields (b : ExtBehaviour) : Nat → List FieldOutcome → Trace
  | _, [] => []
  | k, fo :: rest => vField b k fo ++ (if fo.fatal then [] else vFields b (k + 1) rest)

def vBody (b : ExtBehaviour) : RequestOutcomeClass → Trace
  | .exec fields => vFields b 0 fields
  | _ => []

def viewExec (xs : List ExtBehaviour) (b : ExtBehaviour) (req : RequestOutcomeClass) : Trace :=
  [mkEv b .execStart 0 .none] ++
  if anyFault xs .execStart then vFinish b .execStart .execEnd 0 .err else
  vBody b req ++ [mkEv b .execEnd 0 (bodyOut xs req)] ++ resEvs b

/-- what extension `b` (registered in `xs` under a name of its own) sees of `run xs req` -/
def view (xs : List ExtBehaviour) (b : ExtBehaviour) (req : RequestOutcomeClass) : Trace :=
  [mkEv b .init 0 .none] ++
  if anyFault xs .init then [] else
  [mkEv b .parseStart 0 .none] ++
  if anyFault xs .parseStart then vFinish b .parseStart .parseEnd 0 .err else
  if req = .syntaxErr then [mkEv b .parseEnd 0 .err] else
  [mkEv b .parseEnd 0 .ok] ++
  if anyFault xs .parseEnd then [] else
  [mkEv b .valStart 0 .none] ++
  if anyFault xs .valStart then vFinish b .valStart .valEnd 0 .err else
  if req = .validationErr then [mkEv b .valEnd 0 .err] else
  [mkEv b .valEnd 0 .ok] ++
  if anyFault xs .valEnd then [] else
  if req = .operationErr then [] else
  viewExec xs b req

theorem proj_resolvePlannedField (hnd : NodupNames xs) (hb : b ∈ xs)
    (k : Nat) (fo : FieldOutcome) : proj b.name (resolvePlannedField xs k fo).1 = vField b k fo := by
  have e : proj b.name [resolverEv k fo] = [resolverEv k fo] := by simp [proj, resolverEv]
  simp only [resolvePlannedField, proj_append, didStart_evs, e, vField, finish_evs, didStart_fs _ _ hnd]
  rw [proj_map_mkEv hnd hb _ (by simp), proj_filter_map_mkEv hnd hb _ _ (by simp)]
  simp [vFinish]

theorem proj_executeFields (hnd : NodupNames xs) (hb : b ∈ xs)
    (k : Nat) (fs : List FieldOutcome) : proj b.name (executeFields xs k fs).1 = vFields b k fs := by
  induction fs generalizing k with
  | nil => rfl
  | cons fo rest ih =>
    simp only [executeFields, vFields]
    by_cases hf : fo.fatal
    · simp [hf, proj_resolvePlannedField hnd hb]
    · simp [hf, proj_append, proj_resolvePlannedField hnd hb, ih]

theorem proj_execBody (hnd : NodupNames xs) (hb : b ∈ xs)
    : proj b.name (execBody xs req).1 = vBody b req := by
  cases req <;> simp only [execBody, vBody, proj_nil]
  exact proj_executeFields hnd hb 0 _

/-! ## The shape of a run

Parse and validation are the same code in `Do`; the log of a run, what one extension sees of it (`view`) and what is
left after removing a class of events all have the shape `runT`, for different groups `g`, `gF`. -/

/-- `Do`'s recurring step "log `t`; if that produced errors return them, otherwise go on with `k`" -/
def guard (t : Trace) (errs : List ErrClass) (k : Trace × ResultSummary) : Trace × ResultSummary :=
  pre t (if !errs.isEmpty then early errs else k)

/-- the parse section and the validation section of `Do`: start hooks (after a panic: finish what was started and
return), the step itself (`fails`), finish hooks -/
def phase (xs : List ExtBehaviour) (hs he : Hook) (fails : Prop) [Decidable fails] (k : Trace × ResultSummary) :
    Trace × ResultSummary :=
  let s := didStart hs 0 xs
  let f := finish he 0 .err s.fs
  pre s.evs <|
  if !s.errs.isEmpty then pre f.1 (early (s.errs ++ f.2))
  else if fails then pre f.1 (early (f.2 ++ [.request]))
  else guard (finish he 0 .ok s.fs).1 (finish he 0 .ok s.fs).2 k

theorem runB_eq (body : Body) :
    runB xs req body = guard (handleInits xs).1 (handleInits xs).2
      (phase xs .parseStart .parseEnd (req = .syntaxErr)
        (phase xs .valStart .valEnd (req = .validationErr) (executeB xs req body))) := by
  cases req <;> rfl

theorem executeB_eq (body : Body) :
    executeB xs req body = if req = .operationErr then early [.request] else executePlanB xs body := by
  cases req <;> rfl

/-- one call of hook `h` per registered extension -/
def grp (xs : List ExtBehaviour) (h : Hook) (o : Out) : Trace := xs.map (fun b => mkEv b h 0 o)
/-- the finish functions of the extensions whose start hook `hs` returned -/
def grpF (xs : List ExtBehaviour) (hs he : Hook) (o : Out) : Trace :=
  (xs.filter (fun b => b.beh hs == .ok)).map (fun b => mkEv b he 0 o)

variable {g : Hook → Out → Trace} {gF : Hook → Hook → Out → Trace}

/-- log of a phase: `g h o` stands for the calls of hook `h`, `gF hs he o` for the calls of the finish hook `he` of
the extensions whose start hook `hs` returned -/
def phaseT (xs : List ExtBehaviour) (g : Hook → Out → Trace) (gF : Hook → Hook → Out → Trace) (hs he : Hook)
    (fails : Prop) [Decidable fails] (rest : Trace) : Trace :=
  g hs .none ++
  if anyFault xs hs then gF hs he .err else
  if fails then g he .err else
  g he .ok ++
  if anyFault xs he then [] else rest

def execT (xs : List ExtBehaviour) (g : Hook → Out → Trace) (gF : Hook → Hook → Out → Trace) (tail : Trace) : Trace :=
  g .execStart .none ++ if anyFault xs .execStart then gF .execStart .execEnd .err else tail

def runT (xs : List ExtBehaviour) (g : Hook → Out → Trace) (gF : Hook → Hook → Out → Trace) (req : RequestOutcomeClass)
    (tail : Trace) : Trace :=
  g .init .none ++
  if anyFault xs .init then [] else
  phaseT xs g gF .parseStart .parseEnd (req = .syntaxErr) <|
  phaseT xs g gF .valStart .valEnd (req = .validationErr) <|
  if req = .operationErr then [] else execT xs g gF tail

/-- closed form of the log of `runB` (distinct names): the groups of hook calls, in order, with the executor's
log `ev` and the outcome `out` handed to the execution-finish functions -/
def script (xs : List ExtBehaviour) (req : RequestOutcomeClass) (ev : Trace) (out : Out) : Trace :=
  runT xs (grp xs) (grpF xs) req (ev ++ grp xs .execEnd out ++ xs.flatMap resEvs)

theorem view_eq_runT :
    view xs b req = runT xs (fun h o => [mkEv b h 0 o]) (fun hs he o => vFinish b hs he 0 o) req
      (vBody b req ++ [mkEv b .execEnd 0 (bodyOut xs req)] ++ resEvs b) := rfl

theorem pre_fst (t : Trace) (r : Trace × ResultSummary) : (pre t r).1 = t ++ r.1 := rfl

theorem guard_fst {t : Trace} {errs : List ErrClass} {c : Bool} (h : errs.isEmpty = !c) (k : Trace × ResultSummary) :
    (guard t errs k).1 = t ++ if c then [] else k.1 := by
  rw [guard, pre_fst, h, Bool.not_not]
  cases c <;> rfl

theorem phase_fst (hnd : NodupNames xs) (hs he : Hook) (fails : Prop) [Decidable fails]
    (k : Trace × ResultSummary) :
    (phase xs hs he fails k).1 = phaseT xs (grp xs) (grpF xs) hs he fails k.1 := by
  rw [phase, phaseT, pre_fst, didStart_evs, didStart_errs_nil, didStart_fs _ _ hnd, Bool.not_not]
  congr 1
  cases hf : anyFault xs hs
  · rw [if_neg Bool.false_ne_true, if_neg Bool.false_ne_true, filter_ok_of_noFault _ hf]
    by_cases h : fails
    · rw [if_pos h, if_pos h, pre_fst, finish_evs]; exact List.append_nil _
    · rw [if_neg h, if_neg h, guard_fst (finish_errs_nil ..), finish_evs]; rfl
  · rw [if_pos rfl, if_pos rfl, pre_fst, finish_evs]; exact List.append_nil _

theorem executePlanB_fst (hnd : NodupNames xs) (body : Body) :
    (executePlanB xs body).1
      = execT xs (grp xs) (grpF xs) (body.1 ++ grp xs .execEnd (bodyOutB body) ++ xs.flatMap resEvs) := by
  simp only [executePlanB, execT, didStart_errs_nil, Bool.not_not, didStart_fs _ _ hnd, didStart_evs, finish_evs,
    addExtensionResults_evs]
  cases hf : anyFault xs .execStart
  · rw [if_neg Bool.false_ne_true, if_neg Bool.false_ne_true, filter_ok_of_noFault _ hf]
    simp only [List.append_assoc]; rfl
  · rfl

theorem runB_trace (hnd : NodupNames xs) (body : Body) :
    (runB xs req body).1 = script xs req body.1 (bodyOutB body) := by
  rw [runB_eq, handleInits_eq_finish, guard_fst (finish_errs_nil ..), phase_fst hnd, phase_fst hnd, executeB_eq,
    apply_ite Prod.fst, executePlanB_fst hnd, finish_evs]
  rfl

/-- the calls a phase logs itself -/
def phaseG (xs : List ExtBehaviour) (g : Hook → Out → Trace) (gF : Hook → Hook → Out → Trace) (hs he : Hook)
    (fails : Prop) [Decidable fails] : Trace :=
  g hs .none ++ if anyFault xs hs then gF hs he .err else if fails then g he .err else g he .ok

/-- does `Do` go on after the phase? -/
def phaseOk (xs : List ExtBehaviour) (hs he : Hook) (fails : Prop) [Decidable fails] : Bool :=
  !anyFault xs hs && !decide fails && !anyFault xs he

theorem phaseT_eq (hs he : Hook)
    (fails : Prop) [Decidable fails] (rest : Trace) :
    phaseT xs g gF hs he fails rest
      = phaseG xs g gF hs he fails ++ if phaseOk xs hs he fails then rest else [] := by
  rw [phaseT, phaseG, phaseOk, List.append_assoc]
  congr 1
  cases anyFault xs hs
  · by_cases h : fails
    · simp only [h, if_true, decide_true]; exact (List.append_nil _).symm
    · cases anyFault xs he <;> simp only [h, if_false, decide_false] <;> rfl
  · exact (List.append_nil _).symm

theorem reachesVal_eq :
    reachesVal xs req = (reachesParse xs && phaseOk xs .parseStart .parseEnd (req = .syntaxErr)) := by
  simp only [reachesVal, phaseOk, Bool.and_assoc]; rfl

theorem reachesExec_eq :
    reachesExec xs req
      = (reachesVal xs req && (phaseOk xs .valStart .valEnd (req = .validationErr) && !decide (req = .operationErr))) := by
  simp only [reachesExec, phaseOk, Bool.and_assoc]; rfl

theorem runT_map (F : Trace → Trace) (hF : ∀ s t, F (s ++ t) = F s ++ F t) (hnil : F [] = [])
    {g g' : Hook → Out → Trace} {gF gF' : Hook → Hook → Out → Trace}
    (hg : ∀ h o, isResolveHook h = false → F (g h o) = g' h o)
    (hgF : ∀ hs he o, isResolveHook he = false → F (gF hs he o) = gF' hs he o)
    (tail : Trace) :
    F (runT xs g gF req tail) = runT xs g' gF' req (F tail) := by
  simp only [runT, phaseT, execT, hF, apply_ite F, hnil, hg .init _ rfl, hg .parseStart _ rfl, hg .parseEnd _ rfl,
    hg .valStart _ rfl, hg .valEnd _ rfl, hg .execStart _ rfl, hgF _ .parseEnd _ rfl, hgF _ .valEnd _ rfl,
    hgF _ .execEnd _ rfl]

theorem proj_run (xs : List ExtBehaviour) (hnd : NodupNames xs) (b : ExtBehaviour) (hb : b ∈ xs)
    (req : RequestOutcomeClass) : proj b.name (run xs req).1 = view xs b req := by
  rw [run, runB_trace hnd, script, view_eq_runT,
    runT_map _ (proj_append _) (proj_nil _) (g := grp xs) (gF := grpF xs)
      (fun h o hh => proj_map_mkEv hnd hb h (by rintro rfl; cases hh) 0 o)
      (fun hs he o hh => proj_filter_map_mkEv hnd hb _ he (by rintro rfl; cases hh) 0 o),
    proj_append, proj_append, proj_execBody hnd hb, proj_flatMap own_resEvs hnd hb, grp,
    proj_map_mkEv hnd hb _ (by decide)]
  rfl

/-- the nine ways a run can end, each with what is then known about the hooks of all registered extensions (the proofs for
C17 do not go through it, but through `runT_reach` and `foldl_runT`) -/
theorem trace_elim (P : Trace → Prop) (xs : List ExtBehaviour) (hnd : NodupNames xs) (req : RequestOutcomeClass)
    (l1 : anyFault xs .init = true → P (grp xs .init .none))
    (l2 : anyFault xs .init = false → anyFault xs .parseStart = true →
      P (grp xs .init .none ++ (grp xs .parseStart .none ++ grpF xs .parseStart .parseEnd .err)))
    (l3 : anyFault xs .init = false → anyFault xs .parseStart = false → req = .syntaxErr →
      P (grp xs .init .none ++ (grp xs .parseStart .none ++ grp xs .parseEnd .err)))
    (l4 : anyFault xs .init = false → anyFault xs .parseStart = false → req ≠ .syntaxErr →
      anyFault xs .parseEnd = true →
      P (grp xs .init .none ++ (grp xs .parseStart .none ++ grp xs .parseEnd .ok)))
    (l5 : anyFault xs .init = false → anyFault xs .parseStart = false → req ≠ .syntaxErr →
      anyFault xs .parseEnd = false → anyFault xs .valStart = true →
      P (grp xs .init .none ++ (grp xs .parseStart .none ++ (grp xs .parseEnd .ok ++
          (grp xs .valStart .none ++ grpF xs .valStart .valEnd .err)))))
    (l6 : anyFault xs .init = false → anyFault xs .parseStart = false → req ≠ .syntaxErr →
      anyFault xs .parseEnd = false → anyFault xs .valStart = false → req = .validationErr →
      P (grp xs .init .none ++ (grp xs .parseStart .none ++ (grp xs .parseEnd .ok ++
          (grp xs .valStart .none ++ grp xs .valEnd .err)))))
    (l7 : anyFault xs .init = false → anyFault xs .parseStart = false → req ≠ .syntaxErr →
      anyFault xs .parseEnd = false → anyFault xs .valStart = false → req ≠ .validationErr →
      (anyFault xs .valEnd = true ∨ req = .operationErr) →
      P (grp xs .init .none ++ (grp xs .parseStart .none ++ (grp xs .parseEnd .ok ++
          (grp xs .valStart .none ++ grp xs .valEnd .ok)))))
    (l8 : anyFault xs .init = false → anyFault xs .parseStart = false → req ≠ .syntaxErr →
      anyFault xs .parseEnd = false → anyFault xs .valStart = false → req ≠ .validationErr →
      anyFault xs .valEnd = false → req ≠ .operationErr → anyFault xs .execStart = true →
      P (grp xs .init .none ++ (grp xs .parseStart .none ++ (grp xs .parseEnd .ok ++
          (grp xs .valStart .none ++ (grp xs .valEnd .ok ++
            (grp xs .execStart .none ++ grpF xs .execStart .execEnd .err)))))))
    (l9 : anyFault xs .init = false → anyFault xs .parseStart = false → req ≠ .syntaxErr →
      anyFault xs .parseEnd = false → anyFault xs .valStart = false → req ≠ .validationErr →
      anyFault xs .valEnd = false → req ≠ .operationErr → anyFault xs .execStart = false →
      P (grp xs .init .none ++ (grp xs .parseStart .none ++ (grp xs .parseEnd .ok ++
          (grp xs .valStart .none ++ (grp xs .valEnd .ok ++
            (grp xs .execStart .none ++ (execBody xs req).1 ++ grp xs .execEnd (bodyOut xs req)
              ++ xs.flatMap resEvs))))))) :
    P (run xs req).1 := by
  rw [show (run xs req).1 = _ from runB_trace hnd _]
  simp only [script, runT, phaseT, execT, bodyOutB_execBody]
  cases h1 : anyFault xs .init
  case true => simpa using l1 h1
  cases h2 : anyFault xs .parseStart
  case true => simpa using l2 h1 h2
  by_cases hr1 : req = .syntaxErr
  · simpa [hr1] using l3 h1 h2 hr1
  cases h3 : anyFault xs .parseEnd
  case true => simpa [hr1] using l4 h1 h2 hr1 h3
  cases h4 : anyFault xs .valStart
  case true => simpa [hr1] using l5 h1 h2 hr1 h3 h4
  by_cases hr2 : req = .validationErr
  · simpa [hr1, hr2] using l6 h1 h2 hr1 h3 h4 hr2
  cases h5 : anyFault xs .valEnd
  case true => simpa [hr1, hr2] using l7 h1 h2 hr1 h3 h4 hr2 (Or.inl h5)
  by_cases hr3 : req = .operationErr
  · simpa [hr1, hr2, hr3] using l7 h1 h2 hr1 h3 h4 hr2 (Or.inr hr3)
  cases h6 : anyFault xs .execStart
  case true => simpa [hr1, hr2, hr3] using l8 h1 h2 hr1 h3 h4 hr2 h5 hr3 h6
  simpa [hr1, hr2, hr3] using l9 h1 h2 hr1 h3 h4 hr2 h5 hr3 h6

theorem runT_reach (tail : Trace) :
    runT xs g gF req tail =
      g .init .none ++ if reachesParse xs then
        phaseG xs g gF .parseStart .parseEnd (req = .syntaxErr) ++ if reachesVal xs req then
          phaseG xs g gF .valStart .valEnd (req = .validationErr) ++
            if reachesExec xs req then execT xs g gF tail else []
        else []
      else [] := by
  rw [runT, phaseT_eq, phaseT_eq, reachesExec_eq, reachesVal_eq, reachesParse]
  cases anyFault xs .init
  case true => rfl
  cases phaseOk xs .parseStart .parseEnd (req = .syntaxErr)
  case false => rfl
  cases phaseOk xs .valStart .valEnd (req = .validationErr)
  case false => rfl
  by_cases hr : req = .operationErr
  · rw [if_pos hr, decide_eq_true hr]; rfl
  · rw [if_neg hr, decide_eq_false hr]; rfl

/-- fold an automaton over `runT`: the run may stop after the init group, the parse phase and the validation phase, so `I`
is asked of the state after each -/
theorem foldl_runT {σ : Type} (step : σ → Ev → σ) (I : σ → Prop) (tail : Trace) {s s0 s1 s2 : σ}
    (h0 : (g .init .none).foldl step s = s0) (i0 : I s0)
    (h1 : reachesParse xs = true →
      (phaseG xs g gF .parseStart .parseEnd (req = .syntaxErr)).foldl step s0 = s1) (i1 : I s1)
    (h2 : reachesVal xs req = true →
      (phaseG xs g gF .valStart .valEnd (req = .validationErr)).foldl step s1 = s2) (i2 : I s2)
    (h3 : reachesExec xs req = true → I ((execT xs g gF tail).foldl step s2)) :
    I ((runT xs g gF req tail).foldl step s) := by
  rw [runT_reach, List.foldl_append, h0]
  cases r1 : reachesParse xs
  case false => exact i0
  show I (List.foldl step s0 (_ ++ _))
  rw [List.foldl_append, h1 r1]
  cases r2 : reachesVal xs req
  case false => exact i1
  show I (List.foldl step s1 (_ ++ _))
  rw [List.foldl_append, h2 r2]
  cases r3 : reachesExec xs req
  case false => exact i2
  exact h3 r3

theorem phaseG_view (hb : b ∈ xs) (hs he : Hook) (fails : Prop)
    [Decidable fails] :
    phaseG xs (fun h o => [mkEv b h 0 o]) (fun hs he o => vFinish b hs he 0 o) hs he fails
      = mkEv b hs 0 .none ::
        if b.beh hs = .ok then [mkEv b he 0 (if decide fails || anyFault xs hs then .err else .ok)] else [] := by
  rw [phaseG]
  cases c : anyFault xs hs
  · have := beh_ok_of_noFault c hb
    by_cases hf : fails <;> simp [hf, this]
  · by_cases hx : b.beh hs = .ok <;> simp [vFinish, hx]

theorem foldl_vBody {σ : Type} (step : σ → Ev → σ) (I : σ → Prop)
    (h : ∀ j fo, fieldOut req j = (if fo.failed then .err else .ok) → ∀ s, I s → I ((vField b j fo).foldl step s))
    (s : σ) (hs : I s) : I ((vBody b req).foldl step s) := by
  have key : ∀ (fs : List FieldOutcome) (k : Nat),
      (∀ j fo, fs[j]? = some fo → ∀ s, I s → I ((vField b (k + j) fo).foldl step s)) →
      ∀ s, I s → I ((vFields b k fs).foldl step s) := by
    intro fs
    induction fs with
    | nil => exact fun _ _ _ hs => hs
    | cons fo rest ih =>
      intro k h s hs
      rw [vFields, List.foldl_append]
      have h0 := h 0 fo rfl s hs
      split
      · exact h0
      · refine ih (k + 1) (fun j fo' hj s' hs' => ?_) _ h0
        rw [Nat.add_right_comm]
        exact h (j + 1) fo' hj s' hs'
  cases req
  case exec fs =>
    refine key fs 0 (fun j fo hj => ?_) s hs
    rw [Nat.zero_add]
    exact h j fo (by simp [fieldOut, hj])
  all_goals exact hs

def poMid (s : POState) : Prop := (∃ j, s = .saw .execStart j) ∨ (∃ j, s = .saw .resolver j)

theorem po_vField (k : Nat) (fo : FieldOutcome) (s : POState) (hs : poMid s) :
    (vField b k fo).foldl poStep s = .saw .resolver k := by
  have h1 : poStep s (mkEv b .resStart k .none) = .saw .resStart k := by
    rcases hs with ⟨j, rfl⟩ | ⟨j, rfl⟩ <;> rfl
  have h2 : poStep (.saw .resStart k) (resolverEv k fo) = .saw .resolver k := by simp [poStep, resolverEv]
  rw [vField, List.foldl_append, List.foldl_cons, List.foldl_cons, List.foldl_nil, h1, h2, vFinish]
  split <;> rfl

theorem po_vBody (s : POState) (hs : poMid s) :
    poMid ((vBody b req).foldl poStep s) :=
  foldl_vBody poStep poMid (fun j fo _ s hs => by rw [po_vField j fo s hs]; exact .inr ⟨j, rfl⟩) s hs

theorem po_resEvs (s : POState) (hs : poMid s) :
    (resEvs b).foldl poStep s ≠ .bad ∧ (resEvs b).foldl poStep s ≠ .fresh := by
  rw [resEvs_eq]
  rcases hs with ⟨j, rfl⟩ | ⟨j, rfl⟩ <;> split <;> simp [poStep, mkEv]

theorem po_view (hb : b ∈ xs) :
    (view xs b req).foldl poStep .fresh ≠ .bad ∧ (view xs b req).foldl poStep .fresh ≠ .fresh := by
  rw [view_eq_runT]
  refine foldl_runT poStep (fun s => s ≠ .bad ∧ s ≠ .fresh) _ (s0 := .saw .init 0)
    (s1 := .saw .parseStart 0) (s2 := .saw .valStart 0) rfl (by decide) (fun _ => ?_) (by decide) (fun _ => ?_)
    (by decide) fun _ => ?_
  · rw [phaseG_view hb]
    split <;> rfl
  · rw [phaseG_view hb]
    split <;> rfl
  · rw [execT]
    cases anyFault xs .execStart
    · rw [List.foldl_append, if_neg Bool.false_ne_true, List.foldl_append, List.foldl_append]
      exact po_resEvs _ (po_vBody (.saw .execStart 0) (.inl ⟨0, rfl⟩))
    · by_cases hx : b.beh .execStart = .ok <;> simp [poStep, mkEv, vFinish, hx]

theorem nest_vField (k : Nat) (fo : FieldOutcome) :
    (vField b k fo).foldl nestStep .exec = .exec := by
  simp only [vField, vFinish]
  by_cases hb : b.beh .resStart = .ok <;> simp [hb, nestStep, mkEv, resolverEv]

theorem nest_vBody :
    (vBody b req).foldl nestStep .exec = .exec :=
  foldl_vBody nestStep (· = .exec) (fun j fo _ s hs => by rw [hs]; exact nest_vField j fo) _ rfl

theorem nest_resEvs : (resEvs b).foldl nestStep .idle ≠ .bad := by
  rw [resEvs_eq]
  split <;> simp [nestStep, mkEv]

theorem nest_view (hb : b ∈ xs) :
    (view xs b req).foldl nestStep .idle ≠ .bad := by
  rw [view_eq_runT]
  refine foldl_runT nestStep (· ≠ .bad) _ (s0 := .idle) (s1 := .idle) (s2 := .idle) rfl (by decide)
    (fun _ => ?_) (by decide) (fun _ => ?_) (by decide) fun _ => ?_
  · rw [phaseG_view hb]
    by_cases hx : b.beh .parseStart = .ok <;> simp [nestStep, mkEv, hx]
  · rw [phaseG_view hb]
    by_cases hx : b.beh .valStart = .ok <;> simp [nestStep, mkEv, hx]
  · rw [execT]
    cases c : anyFault xs .execStart
    · simpa [nestStep, mkEv, beh_ok_of_noFault c hb, List.foldl_append, nest_vBody] using nest_resEvs
    · by_cases hx : b.beh .execStart = .ok <;> simp [nestStep, mkEv, vFinish, hx]

theorem bal_vField (exp : Phase → Out) (k : Nat) (fo : FieldOutcome)
    (hexp : exp (.res k) = if fo.failed then .err else .ok) :
    (vField b k fo).foldl (balStep exp) (some [.exec]) = some [.exec] := by
  simp only [vField, vFinish]
  by_cases hb : b.beh .resStart = .ok
  · simp [hb, balStep, balStart, balEnd, mkEv, resolverEv, hexp]
  · simp [hb, balStep, balStart, mkEv, resolverEv]

theorem bal_vBody (exp : Phase → Out)
    (hres : ∀ k, exp (.res k) = fieldOut req k) :
    (vBody b req).foldl (balStep exp) (some [.exec]) = some [.exec] :=
  foldl_vBody (balStep exp) (· = some [.exec])
    (fun j fo hj s hs => by rw [hs]; exact bal_vField exp j fo ((hres j).trans hj)) _ rfl

theorem bal_resEvs (exp : Phase → Out) (s : Option (List Phase)) :
    (resEvs b).foldl (balStep exp) s = s := by
  rw [resEvs_eq]
  split <;> rfl

theorem reachesBody_of {xs : List ExtBehaviour} {req : RequestOutcomeClass}
    (h1 : anyFault xs .init = false) (h2 : anyFault xs .parseStart = false) (hr1 : req ≠ .syntaxErr)
    (h3 : anyFault xs .parseEnd = false) (h4 : anyFault xs .valStart = false) (hr2 : req ≠ .validationErr)
    (h5 : anyFault xs .valEnd = false) (hr3 : req ≠ .operationErr) (h6 : anyFault xs .execStart = false) :
    reachesBody xs req = true := by
  simp [reachesBody, reachesExec, reachesVal, reachesParse, h1, h2, h3, h4, h5, h6, hr1, hr2, hr3]

/-- `Balanced` on the view of one extension, for any table of expected outcomes that agrees with what the
pipeline hands to the finish functions -/
theorem bal_view (hb : b ∈ xs)
    (exp : Phase → Out)
    (hparse : reachesParse xs = true →
      exp .parse = if req = .syntaxErr || anyFault xs .parseStart then .err else .ok)
    (hval : reachesVal xs req = true →
      exp .val = if req = .validationErr || anyFault xs .valStart then .err else .ok)
    (hexec : reachesExec xs req = true →
      exp .exec = if anyFault xs .execStart then .err else bodyOut xs req)
    (hres : ∀ k, exp (.res k) = fieldOut req k) :
    (view xs b req).foldl (balStep exp) (some []) = some [] := by
  rw [view_eq_runT]
  refine foldl_runT (balStep exp) (· = some []) _ (s0 := some []) (s1 := some []) (s2 := some []) rfl rfl
    (fun r => ?_) rfl (fun r => ?_) rfl fun r => ?_
  · rw [phaseG_view hb, ← hparse r]
    by_cases hx : b.beh .parseStart = .ok <;> simp [balStep, balStart, balEnd, mkEv, hx]
  · rw [phaseG_view hb, ← hval r]
    by_cases hx : b.beh .valStart = .ok <;> simp [balStep, balStart, balEnd, mkEv, hx]
  · have he := hexec r
    rw [execT]
    cases c : anyFault xs .execStart
    · rw [c] at he
      simp [balStep, balStart, balEnd, mkEv, beh_ok_of_noFault c hb, he, List.foldl_append, bal_vBody exp hres,
        bal_resEvs]
    · rw [c] at he
      by_cases hx : b.beh .execStart = .ok <;> simp [balStep, balStart, balEnd, mkEv, vFinish, hx, he]

theorem isEmpty_append' {α : Type} (a b : List α) : (a ++ b).isEmpty = (a.isEmpty && b.isEmpty) := by
  cases a <;> simp

theorem any_or' {α : Type} (p q : α → Bool) (l : List α) :
    l.any (fun e => p e || q e) = (l.any p || l.any q) := by
  induction l with
  | nil => rfl
  | cons a rest ih => simp only [List.any_cons, ih]; cases p a <;> cases q a <;> simp

/-- the events of the execution body that make the result an error result -/
def bodyErrEv (e : Ev) : Bool :=
  (e.hook == .resolver && e.out == .err) || ((e.hook == .resStart || e.hook == .resEnd) && e.fault != .ok)

theorem execErrEv_eq : execErrEv = fun e => bodyErrEv e || startFault .execStart e := rfl

theorem any_sf_map (ys : List ExtBehaviour) (h : Hook) (k : Nat) (o : Out) (h0 : Hook) :
    (ys.map (fun b => mkEv b h k o)).any (startFault h0) = if h = h0 then anyFault ys h0 else false := by
  by_cases hh : h = h0
  · subst hh
    simp [startFault, mkEv, anyFault, List.any_map, Function.comp_def]
  · have : (h == h0) = false := by simpa using hh
    simp [startFault, mkEv, hh, this]

theorem any_be_map (h : Hook) (hh : (h == .resolver) = false) (hr : (h == .resStart || h == .resEnd) = true)
    (k : Nat) (o : Out) : (xs.map (fun b => mkEv b h k o)).any bodyErrEv = anyFault xs h := by
  simp [List.any_map, bodyErrEv, mkEv, anyFault, Function.comp_def, hh, hr]

theorem executeFields_rel (R : Trace → List ErrClass → Prop) (hnil : R [] [])
    (happ : ∀ {s t a b}, R s a → R t b → R (s ++ t) (a ++ b))
    (hf : ∀ k fo, R (resolvePlannedField xs k fo).1 (resolvePlannedField xs k fo).2) (k : Nat)
    (fs : List FieldOutcome) : R (executeFields xs k fs).1 (executeFields xs k fs).2.1 := by
  induction fs generalizing k with
  | nil => exact hnil
  | cons fo rest ih =>
    simp only [executeFields]
    split
    · exact hf k fo
    · exact happ (hf k fo) (ih _)

theorem any_be_resolvePlannedField (k : Nat) (fo : FieldOutcome) :
    (resolvePlannedField xs k fo).1.any bodyErrEv = !(resolvePlannedField xs k fo).2.isEmpty := by
  simp only [resolvePlannedField, List.any_append, didStart_evs, any_be_map .resStart rfl rfl, isEmpty_append',
    didStart_errs_nil, finish_evs, any_be_map .resEnd rfl rfl, finish_errs_nil]
  have : (Out.ok == Out.err) = false := by decide
  have r1 : (Hook.resolver == Hook.resStart) = false := by decide
  have r2 : (Hook.resolver == Hook.resEnd) = false := by decide
  by_cases hf : fo.failed <;> simp [hf, bodyErrEv, resolverEv, Bool.not_and, this, r1, r2]

theorem any_be_executeFields (k : Nat) (fs : List FieldOutcome) :
    (executeFields xs k fs).1.any bodyErrEv = !(executeFields xs k fs).2.1.isEmpty :=
  executeFields_rel (fun t es => t.any bodyErrEv = !es.isEmpty) rfl
    (fun hs ht => by rw [List.any_append, hs, ht, isEmpty_append', Bool.not_and])
    any_be_resolvePlannedField k fs

theorem bodyOut_eq :
    bodyOut xs req = if req = .variableErr || (execBody xs req).1.any bodyErrEv then .err else .ok := by
  cases req with
  | exec fs =>
    simp only [bodyOut, bodyOutB, execBody, any_be_executeFields]
    by_cases h : (executeFields xs 0 fs).2.1.isEmpty = true <;> simp [h]
  | _ => simp [bodyOut, bodyOutB, execBody]

theorem topLevel_append (s t : Trace) : topLevel (s ++ t) = topLevel s ++ topLevel t := List.filter_append ..

theorem resolveOnly_append (s t : Trace) : resolveOnly (s ++ t) = resolveOnly s ++ resolveOnly t :=
  List.filter_append ..

def AllResolve (t : Trace) : Prop := ∀ e ∈ t, isResolveHook e.hook = true

def NoResolve (t : Trace) : Prop := ∀ e ∈ t, isResolveHook e.hook = false

theorem topLevel_allResolve {t : Trace} (h : AllResolve t) : topLevel t = [] :=
  List.filter_eq_nil_iff.2 fun e he => by rw [h e he]; decide

theorem resolveOnly_allResolve {t : Trace} (h : AllResolve t) : resolveOnly t = t :=
  List.filter_eq_self.2 h

theorem topLevel_noResolve {t : Trace} (h : NoResolve t) : topLevel t = t :=
  List.filter_eq_self.2 fun e he => by rw [h e he]; rfl

theorem resolveOnly_noResolve {t : Trace} (h : NoResolve t) : resolveOnly t = [] :=
  List.filter_eq_nil_iff.2 fun e he => by rw [h e he]; decide

theorem noResolve_map (ys : List ExtBehaviour) {h : Hook} (hh : isResolveHook h = false) (k : Nat) (o : Out) :
    NoResolve (ys.map (fun b => mkEv b h k o)) := by
  intro e he
  obtain ⟨b, _, rfl⟩ := List.mem_map.1 he
  exact hh

theorem noResolve_results : NoResolve (xs.flatMap resEvs) := by
  intro e he
  obtain ⟨b, _, he⟩ := List.mem_flatMap.1 he
  rcases mem_resEvs he with rfl | rfl <;> rfl

theorem allResolve_executeFields (k : Nat) (fs : List FieldOutcome) :
    AllResolve (executeFields xs k fs).1 := by
  refine executeFields_rel (fun t _ => AllResolve t) (fun e he => nomatch he)
    (fun hs ht e he => (List.mem_append.1 he).elim (hs e) (ht e)) (fun k fo e he => ?_) k fs
  simp only [resolvePlannedField, didStart_evs, finish_evs, List.mem_append, List.mem_map, List.mem_singleton] at he
  rcases he with (⟨b, _, rfl⟩ | rfl) | ⟨b, _, rfl⟩ <;> rfl

theorem allResolve_execBody : AllResolve (execBody xs req).1 := by
  cases req
  case exec fs => exact allResolve_executeFields 0 fs
  all_goals intro e he; cases he

theorem runT_nil (tail : Trace) :
    runT xs (fun _ _ => []) (fun _ _ _ => []) req tail = if reachesBody xs req then tail else [] := by
  simp only [runT, execT, phaseT_eq, phaseG, ite_self, List.nil_append]
  rw [reachesBody, reachesExec_eq, reachesVal_eq, reachesParse]
  cases anyFault xs .init
  case true => rfl
  cases phaseOk xs .parseStart .parseEnd (req = .syntaxErr)
  case false => rfl
  cases phaseOk xs .valStart .valEnd (req = .validationErr)
  case false => rfl
  by_cases h : req = .operationErr
  · simp [h]
  · cases anyFault xs .execStart <;> simp [h]

theorem topLevel_script (ev : Trace) (out : Out)
    (hev : AllResolve ev) : topLevel (script xs req ev out) = script xs req [] out := by
  rw [script, script,
    runT_map _ topLevel_append rfl (g := grp xs) (gF := grpF xs) (g' := grp xs) (gF' := grpF xs)
      (fun h o hh => topLevel_noResolve (noResolve_map xs hh 0 o))
      (fun hs he o hh => topLevel_noResolve (noResolve_map _ hh 0 o)),
    topLevel_append, topLevel_append, topLevel_allResolve hev,
    topLevel_noResolve (t := grp xs .execEnd out) (noResolve_map xs rfl 0 out), topLevel_noResolve (noResolve_results)]

theorem resolveOnly_script (ev : Trace) (out : Out)
    (hev : AllResolve ev) :
    resolveOnly (script xs req ev out) = if reachesBody xs req then ev else [] := by
  rw [script, ← runT_nil,
    runT_map _ resolveOnly_append rfl (g := grp xs) (gF := grpF xs)
      (fun h o hh => resolveOnly_noResolve (noResolve_map xs hh 0 o))
      (fun hs he o hh => resolveOnly_noResolve (noResolve_map _ hh 0 o)),
    resolveOnly_append, resolveOnly_append, resolveOnly_allResolve hev,
    resolveOnly_noResolve (t := grp xs .execEnd out) (noResolve_map xs rfl 0 out),
    resolveOnly_noResolve (noResolve_results), List.append_nil, List.append_nil]

theorem any_ite {α : Type} (c : Prop) [Decidable c] (p : α → Bool) (s t : List α) :
    (if c then s else t).any p = if c then s.any p else t.any p := apply_ite (List.any · p) c s t

theorem any_sf_tail (out : Out) {h0 : Hook}
    (hr : isResolveHook h0 = false) (he : h0 ≠ .execEnd) (h1 : h0 ≠ .hasResult) (h2 : h0 ≠ .getResult) :
    ((execBody xs req).1 ++ grp xs .execEnd out ++ xs.flatMap resEvs).any (startFault h0) = false := by
  rw [List.any_eq_false]
  intro e hmem
  have hne : e.hook ≠ h0 := by
    rcases List.mem_append.1 hmem with hmem | hmem
    · rcases List.mem_append.1 hmem with hmem | hmem
      · rintro rfl; rw [allResolve_execBody e hmem] at hr; cases hr
      · obtain ⟨b, _, rfl⟩ := List.mem_map.1 hmem; exact he.symm
    · obtain ⟨b, _, hmem⟩ := List.mem_flatMap.1 hmem
      rcases mem_resEvs hmem with rfl | rfl
      · exact h1.symm
      · exact h2.symm
  simp [startFault, hne]

theorem any_sf_phaseG (hs he : Hook) (fails : Prop) [Decidable fails] {h0 : Hook}
    (hne : he ≠ h0) :
    (phaseG xs (grp xs) (grpF xs) hs he fails).any (startFault h0) = if hs = h0 then anyFault xs h0 else false := by
  simp only [phaseG, grp, grpF, List.any_append, any_ite, any_sf_map, if_neg hne, ite_self, Bool.or_false]

theorem any_sf_execT {tl : Trace} {h0 : Hook} (hne : Hook.execEnd ≠ h0)
    (htl : tl.any (startFault h0) = false) :
    (execT xs (grp xs) (grpF xs) tl).any (startFault h0) = if .execStart = h0 then anyFault xs h0 else false := by
  simp only [execT, grp, grpF, List.any_append, any_ite, any_sf_map, if_neg hne, htl, ite_self, Bool.or_false]

/-- does `Do` get as far as calling the start hook `hs`? -/
def reachesStart (xs : List ExtBehaviour) (req : RequestOutcomeClass) : Hook → Bool
  | .parseStart => reachesParse xs
  | .valStart => reachesVal xs req
  | .execStart => reachesExec xs req
  | _ => false

/-- a start hook panicked somewhere in the log iff its phase was reached and some extension's hook panics -/
theorem any_sf_run (hnd : NodupNames xs) {hs : Hook} (hh : hs = .parseStart ∨ hs = .valStart ∨ hs = .execStart) :
    (run xs req).1.any (startFault hs) = (reachesStart xs req hs && anyFault xs hs) := by
  have ia : ∀ c a : Bool, (if c then a else false) = (c && a) := fun c a => by cases c <;> rfl
  rw [run, runB_trace hnd, script, runT_reach]
  simp only [List.any_append, any_ite, List.any_nil]
  rcases hh with rfl | rfl | rfl
  all_goals
    rw [grp, any_sf_map, any_sf_phaseG _ _ _ (by decide), any_sf_phaseG _ _ _ (by decide),
      any_sf_execT (by decide) (any_sf_tail _ (by rfl) (by decide) (by decide) (by decide))]
    simp only [reachesStart, reduceCtorEq, if_false, if_true, ite_self, Bool.false_or, Bool.or_false, ia]
  · rw [reachesVal_eq]
    cases reachesParse xs <;> rfl
  · rw [reachesExec_eq, reachesVal_eq]
    cases reachesParse xs <;> cases phaseOk xs .parseStart .parseEnd (req = .syntaxErr) <;> rfl

theorem any_be_run (hnd : NodupNames xs) :
    (run xs req).1.any bodyErrEv = (reachesBody xs req && (execBody xs req).1.any bodyErrEv) := by
  have e : ∀ t : Trace, t.any bodyErrEv = (resolveOnly t).any bodyErrEv := by
    intro t
    rw [resolveOnly, List.any_filter]
    congr 1
    funext ⟨_, h, _, _, _⟩
    cases h <;> rfl
  rw [e, run, runB_trace hnd, resolveOnly_script _ _ allResolve_execBody]
  cases reachesBody xs req <;> rfl

end GqlModel.Ext
