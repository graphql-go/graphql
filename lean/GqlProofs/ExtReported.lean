import GqlProofs.Ext
/-! Helper lemmas for C17: the execution outcome expected by `Balanced`, and `reported`: the hook errors of a result are the
faults of its log (`Reports` for a piece of a run, `RunReports` for a run; `fc_…` is about `faultClasses`). -/
namespace GqlModel.Ext

variable {xs : List ExtBehaviour} {req : RequestOutcomeClass}

theorem execOut_run (hnd : NodupNames xs)
    (hre : reachesExec xs req = true) :
    execOut req (run xs req).1 = if anyFault xs .execStart then .err else bodyOut xs req := by
  simp only [execOut, execErrEv_eq, any_or', any_be_run hnd, any_sf_run hnd (.inr (.inr rfl)), reachesStart, reachesBody, hre,
    Bool.true_and]
  by_cases h6 : anyFault xs .execStart = true
  · simp [h6]
  · have h6' : anyFault xs .execStart = false := by simpa using h6
    simp [h6', bodyOut_eq]

def isHookErr : ErrClass → Bool
  | .hook .. => true
  | .request => false

@[simp] theorem isHookErr_hook (n : Nat) (h : Hook) (k : PanicKind) : isHookErr (.hook n h k) = true := rfl

@[simp] theorem mkEv_fault (b : ExtBehaviour) (h : Hook) (k : Nat) (o : Out) : (mkEv b h k o).fault = b.beh h := rfl
@[simp] theorem mkEv_hook (b : ExtBehaviour) (h : Hook) (k : Nat) (o : Out) : (mkEv b h k o).hook = h := rfl
@[simp] theorem mkEv_ext (b : ExtBehaviour) (h : Hook) (k : Nat) (o : Out) : (mkEv b h k o).ext = b.name := rfl

theorem fc_append (s t : Trace) : faultClasses (s ++ t) = faultClasses s ++ faultClasses t :=
  List.filterMap_append ..

theorem reported_of_eq (t : Trace) (r : ResultSummary) (h : faultClasses t = r.errors.filter isHookErr) :
    reported t r = true := by
  simp only [reported, List.all_eq_true, decide_eq_true_eq]
  intro c _
  rw [h]
  exact List.Sublist.count_le _ List.filter_sublist

/-- the log `t` has produced exactly the hook errors among `es`, in order -/
def Reports (t : Trace) (es : List ErrClass) : Prop := faultClasses t = es.filter isHookErr

theorem Reports.append {s t : Trace} {a b : List ErrClass} (hs : Reports s a) (ht : Reports t b) :
    Reports (s ++ t) (a ++ b) := by
  rw [Reports, fc_append, List.filter_append, hs, ht]

theorem Reports.nil {t : Trace} {es : List ErrClass} (h : Reports t es) (c : es.isEmpty = true) : Reports t [] := by
  rw [List.isEmpty_iff.1 c] at h; exact h

theorem Reports.request {t : Trace} {es : List ErrClass} (h : Reports t es) : Reports t (es ++ [.request]) := by
  rw [Reports, List.filter_append, ← h]; exact (List.append_nil _).symm

theorem fc_cons_ok (e : Ev) (t : Trace) (h : e.fault = .ok) : faultClasses (e :: t) = faultClasses t := by
  simp only [faultClasses, List.filterMap_cons, h]
  cases e.hook <;> rfl

theorem fc_cons_resolver (e : Ev) (t : Trace) (h : e.hook = .resolver) : faultClasses (e :: t) = faultClasses t := by
  simp only [faultClasses, List.filterMap_cons, h]

theorem fc_cons_panic (e : Ev) (t : Trace) (k : PanicKind) (hh : e.hook ≠ .resolver) (h : e.fault = .panic k) :
    faultClasses (e :: t) = .hook e.ext (errLabel e.hook) k :: faultClasses t := by
  simp only [faultClasses, List.filterMap_cons, h]

theorem Reports.cons_ok {e : Ev} {t : Trace} {es : List ErrClass} (h : e.fault = .ok) (ht : Reports t es) :
    Reports (e :: t) es := (fc_cons_ok e t h).trans ht

theorem Reports.cons_panic {e : Ev} {t : Trace} {es : List ErrClass} {k : PanicKind} (hh : e.hook ≠ .resolver)
    (h : e.fault = .panic k) (ht : Reports t es) : Reports (e :: t) (.hook e.ext (errLabel e.hook) k :: es) := by
  rw [Reports, fc_cons_panic e t k hh h, ht]; rfl

theorem reports_finish (h : Hook) (hh : h ≠ .resolver) (hl : errLabel h = h) (k : Nat) (o : Out)
    (fs : List ExtBehaviour) : Reports (finish h k o fs).1 (finish h k o fs).2 := by
  induction fs with
  | nil => rfl
  | cons b rest ih =>
    have p := fun kk (hb : b.beh h = .panic kk) => Reports.cons_panic (e := mkEv b h k o) hh hb ih
    rw [mkEv_hook, hl] at p
    simp only [finish]
    cases hb : b.beh h with
    | ok => exact ih.cons_ok hb
    | panic kk => exact p kk hb

theorem reports_didStart (h : Hook) (hh : h ≠ .resolver) (hl : errLabel h = h) (k : Nat) :
    Reports (didStart h k xs).evs (didStart h k xs).errs := by
  have := reports_finish h hh hl k .none xs
  rwa [← didStart_eq_finish] at this

theorem reports_results :
    Reports (addExtensionResults xs).1 (addExtensionResults xs).2.1 := by
  induction xs with
  | nil => rfl
  | cons b rest ih =>
    simp only [addExtensionResults]
    cases hb : b.beh .hasResult with
    | panic kk => exact ih.cons_panic (e := mkEv b .hasResult 0 .none) (show Hook.hasResult ≠ .resolver by decide) hb
    | ok =>
      by_cases hr : b.hasRes = true
      · rw [if_pos hr]
        cases hg : b.beh .getResult with
        | ok => exact Reports.cons_ok (e := mkEv b .hasResult 0 .none) hb (ih.cons_ok (e := mkEv b .getResult 0 .none) hg)
        | panic kk =>
          exact Reports.cons_ok (e := mkEv b .hasResult 0 .none) hb
            (ih.cons_panic (e := mkEv b .getResult 0 .none) (show Hook.getResult ≠ .resolver by decide) hg)
      · rw [if_neg hr]; exact ih.cons_ok (e := mkEv b .hasResult 0 .none) hb

/-- the hook errors of a result are exactly the panicking hook calls of its log, in order -/
def RunReports (r : Trace × ResultSummary) : Prop := Reports r.1 r.2.errors

theorem runReports_pre_early {t : Trace} {es : List ErrClass} (h : Reports t es) : RunReports (pre t (early es)) := by
  show Reports (t ++ []) es
  rwa [List.append_nil]

theorem runReports_pre {t : Trace} {r : Trace × ResultSummary} (ht : Reports t []) (hr : RunReports r) : RunReports (pre t r) :=
  ht.append hr

theorem runReports_guard {t : Trace} {es : List ErrClass} {k : Trace × ResultSummary} (h : Reports t es) (hk : RunReports k) :
    RunReports (guard t es k) := by
  rw [guard]
  cases c : es.isEmpty
  · exact runReports_pre_early h
  · exact runReports_pre (h.nil c) hk

theorem runReports_phase {hs he : Hook} (hhs : hs ≠ .resolver) (hls : errLabel hs = hs)
    (hhe : he ≠ .resolver) (hle : errLabel he = he) (fails : Prop) [Decidable fails] {k : Trace × ResultSummary}
    (hk : RunReports k) : RunReports (phase xs hs he fails k) := by
  have S := reports_didStart (xs := xs) hs hhs hls 0
  have F := fun o => reports_finish he hhe hle 0 o (didStart hs 0 xs).fs
  rw [phase]
  cases c : (didStart hs 0 xs).errs.isEmpty
  · exact S.append (runReports_pre_early (F _))
  · refine runReports_pre (S.nil c) ?_
    show RunReports (if fails then _ else _)
    by_cases hf : fails
    · rw [if_pos hf]; exact runReports_pre_early (F _).request
    · rw [if_neg hf]; exact runReports_guard (F _) hk

theorem runReports_executePlanB (body : Body) (hbody : Reports body.1 body.2.1) :
    RunReports (executePlanB xs body) := by
  have S := reports_didStart (xs := xs) .execStart (by decide) rfl 0
  have F := fun o => reports_finish .execEnd (by decide) rfl 0 o (didStart .execStart 0 xs).fs
  simp only [executePlanB]
  cases c : (didStart .execStart 0 xs).errs.isEmpty
  · exact S.append (F _)
  · exact (((S.nil c).append hbody).append (F _)).append reports_results

theorem runReports_runB (body : Body)
    (hbody : Reports body.1 body.2.1) : RunReports (runB xs req body) := by
  rw [runB_eq, executeB_eq]
  refine runReports_guard (handleInits_eq_finish ▸ reports_finish .init (by decide) rfl 0 .none xs) (runReports_phase (by decide) rfl (by decide) rfl _
    (runReports_phase (by decide) rfl (by decide) rfl _ ?_))
  by_cases h : req = .operationErr
  · rw [if_pos h]; exact (rfl : Reports [] [.request])
  · rw [if_neg h]; exact runReports_executePlanB body hbody

theorem reports_resolvePlannedField (k : Nat) (fo : FieldOutcome) :
    Reports (resolvePlannedField xs k fo).1 (resolvePlannedField xs k fo).2 := by
  have hr : Reports [resolverEv k fo] [] := fc_cons_resolver _ _ rfl
  have hq : Reports [] (if fo.failed = true then [ErrClass.request] else []) := by split <;> rfl
  have := (((reports_didStart (xs := xs) .resStart (by decide) rfl k).append hr).append
    (reports_finish .resEnd (by decide) rfl k (if fo.failed then .err else .ok) (didStart .resStart k xs).fs)).append hq
  rwa [List.append_nil, List.append_nil] at this

theorem reports_executeFields (k : Nat) (fs : List FieldOutcome) :
    Reports (executeFields xs k fs).1 (executeFields xs k fs).2.1 :=
  executeFields_rel Reports rfl Reports.append reports_resolvePlannedField k fs

theorem reports_execBody :
    Reports (execBody xs req).1 (execBody xs req).2.1 := by
  cases req
  case exec fs => exact reports_executeFields 0 fs
  all_goals rfl

theorem fc_executePlan (xs : List ExtBehaviour) (req : RequestOutcomeClass) :
    faultClasses (executePlan xs req).1 = (executePlan xs req).2.errors.filter isHookErr :=
  runReports_executePlanB _ (reports_execBody)

theorem fc_run :
    faultClasses (run xs req).1 = (run xs req).2.errors.filter isHookErr :=
  runReports_runB _ (reports_execBody)

end GqlModel.Ext
