import GqlModel.ValueReader
/-! The number-text predicates of GqlModel/ValueReader.lean as decompositions into parts, in the shape of the lexer
grammar's `IsIntegerPart`, `IsFractionalPart`, `IsExponentPart` (GqlModel/LexerGrammar.lean). -/
namespace GqlModel.Reader

theorem isIntBody_iff {b : Chars} : isIntBody b = true ↔
    b = ['0'] ∨ ∃ d ds, b = d :: ds ∧ isDigit d = true ∧ d ≠ '0' ∧ ds.all isDigit = true := by
  cases b with
  | nil => simp [isIntBody]
  | cons c r =>
    by_cases hc : c = '0'
    · subst hc; simp [isIntBody]
    · simp only [isIntBody, hc, if_false, Bool.and_eq_true, List.cons.injEq]
      constructor
      · rintro ⟨hd, hds⟩; exact Or.inr ⟨c, r, ⟨rfl, rfl⟩, hd, hc, hds⟩
      · rintro (⟨h, _⟩ | ⟨d, ds, ⟨rfl, rfl⟩, hd, _, hds⟩)
        · exact h.elim
        · exact ⟨hd, hds⟩

theorem isIntBody_head {b : Chars} (h : isIntBody b = true) : ∃ d ds, b = d :: ds ∧ isDigit d = true := by
  rcases isIntBody_iff.mp h with rfl | ⟨d, ds, rfl, hd, _⟩
  · exact ⟨'0', [], rfl, by decide⟩
  · exact ⟨d, ds, rfl, hd⟩

theorem isIntLit_iff {t : Chars} : isIntLit t = true ↔
    ∃ sg b, t = sg ++ b ∧ (sg = [] ∨ sg = ['-']) ∧ isIntBody b = true := by
  constructor
  · intro h
    match t, h with
    | c :: r, h =>
      simp only [isIntLit] at h
      by_cases hc : c = '-'
      · subst hc; exact ⟨['-'], r, rfl, Or.inr rfl, by simpa using h⟩
      · exact ⟨[], c :: r, rfl, Or.inl rfl, by simpa [hc] using h⟩
  · rintro ⟨sg, b, rfl, rfl | rfl, hb⟩
    · obtain ⟨c, r, rfl, hd⟩ := isIntBody_head hb
      have hc : c ≠ '-' := by rintro rfl; exact absurd hd (by decide)
      simpa [isIntLit, hc] using hb
    · simpa [isIntLit] using hb

theorem isFracPart_iff {t : Chars} : isFracPart t = true ↔ ∃ ds, t = '.' :: ds ∧ ds ≠ [] ∧ ds.all isDigit = true := by
  cases t with
  | nil => simp [isFracPart]
  | cons c ds =>
    simp only [isFracPart, Bool.and_eq_true, decide_eq_true_eq, Bool.not_eq_true', List.isEmpty_eq_false_iff,
      List.cons.injEq]
    constructor
    · rintro ⟨⟨rfl, hne⟩, hd⟩; exact ⟨ds, ⟨rfl, rfl⟩, hne, hd⟩
    · rintro ⟨ds', ⟨rfl, rfl⟩, hne, hd⟩; exact ⟨⟨rfl, hne⟩, hd⟩

theorem isExpPart_iff {t : Chars} : isExpPart t = true ↔
    ∃ e sg ds, t = e :: (sg ++ ds) ∧ (e = 'e' ∨ e = 'E') ∧ (sg = [] ∨ sg = ['+'] ∨ sg = ['-']) ∧ ds ≠ [] ∧
      ds.all isDigit = true := by
  constructor
  · intro h
    match t, h with
    | e :: r, h =>
      simp only [isExpPart, Bool.and_eq_true, Bool.or_eq_true, decide_eq_true_eq] at h
      obtain ⟨he, hr⟩ := h
      match r, hr with
      | s :: ds, hr =>
        by_cases hs : s = '+' ∨ s = '-'
        · simp only [hs, if_true, Bool.and_eq_true, Bool.not_eq_true', List.isEmpty_eq_false_iff] at hr
          exact ⟨e, [s], ds, rfl, he, by rcases hs with rfl | rfl <;> simp, hr.1, hr.2⟩
        · simp only [hs, if_false] at hr
          exact ⟨e, [], s :: ds, rfl, he, Or.inl rfl, by simp, hr⟩
  · rintro ⟨e, sg, ds, rfl, he, hsg, hne, hd⟩
    have hE : (decide (e = 'e') || decide (e = 'E')) = true := by rcases he with rfl | rfl <;> rfl
    have hne' : ds.isEmpty = false := by cases ds <;> simp_all
    rcases hsg with rfl | rfl | rfl
    · match ds, hne, hd with
      | d :: ds', _, hd =>
        have hdd : isDigit d = true := by simp only [List.all_cons, Bool.and_eq_true] at hd; exact hd.1
        have hns : ¬ (d = '+' ∨ d = '-') := by rintro (rfl | rfl) <;> exact absurd hdd (by decide)
        simp only [List.nil_append, isExpPart, hE, hns, if_false, Bool.true_and]; exact hd
    · simp [isExpPart, hE, hne', hd]
    · simp [isExpPart, hE, hne', hd]

end GqlModel.Reader
