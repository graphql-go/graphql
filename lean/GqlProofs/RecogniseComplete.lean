import GqlProofs.RecogniseRun
import GqlProofs.ParserDerivs
/-! Every derivation of the grammar relations is found by the EBNF interpreter (big-step form): `DX p x p' →
Run (nt X) p.ts (rest p'.ts)`.  That an alternative or a repetition stops is shown by `cantStart` on the first token,
evaluated by `rfl`; its fuel `16` is any number above the nesting of `rule` down to a first token. -/
namespace GqlModel.Grammar

/-- conservative test: `g` cannot match an input starting with `t` (looks only at the first token) -/
def cantStart : Nat → G → Token → Bool
  | 0, _, _ => false
  | _ + 1, .tok k, t => decide (t.kind ≠ k)
  | _ + 1, .kw s, t => decide (¬ (t.kind = .name ∧ t.value = s))
  | _ + 1, .nameBut ex, t => decide (¬ (t.kind = .name ∧ ¬ t.value ∈ ex))
  | n + 1, .seq a _, t => cantStart n a t
  | n + 1, .alt a b, t => cantStart n a t && cantStart n b t
  | n + 1, .nt x, t => cantStart n (rule x) t
  | _ + 1, _, _ => false

theorem run_no_of_cantStart : ∀ (n : Nat) (g : G) (t : Token) (r : List Token), cantStart n g t = true → Run g (t :: r) .no := by
  intro n
  induction n with
  | zero => intro g t r h; simp [cantStart] at h
  | succ n ih =>
    intro g t r h
    cases g <;> simp only [cantStart, decide_eq_true_eq, Bool.and_eq_true, Bool.false_eq_true] at h
    case tok k => exact .tok_no h
    case kw s => exact .kw_no h
    case nameBut ex => exact .nb_no h
    case seq a b => exact .seq_no (ih a t r h)
    case alt a b => exact .alt_r (ih a t r h.1) (ih b t r h.2)
    case nt x => exact .nt (ih _ t r h)

/-- choose the alternative `g` of an n-ary ordered choice: all earlier alternatives fail -/
theorem run_alts_pick (pre : List G) (g : G) (post : List G) {ts : List Token} {r : List Token}
    (hpre : ∀ a ∈ pre, Run a ts .no) (hg : Run g ts (.rest r)) : Run (G.alts (pre ++ g :: post)) ts (.rest r) := by
  induction pre with
  | nil =>
    cases post with
    | nil => exact hg
    | cons b bs => exact .alt_l hg
  | cons a as ih =>
    have hrest := ih (fun x hx => hpre x (by simp [hx]))
    have ha := hpre a (by simp)
    cases h : as ++ g :: post with
    | nil => simp at h
    | cons b bs =>
      rw [h] at hrest
      show Run (G.alts (a :: (as ++ g :: post))) ts (.rest r)
      rw [h]
      exact .alt_r ha hrest

theorem run_alts_first (N : Nat) (pre : List G) (g : G) (post : List G) {t : Token} {r0 r : List Token}
    (hpre : ∀ a ∈ pre, cantStart N a t = true) (hg : Run g (t :: r0) (.rest r)) :
    Run (G.alts (pre ++ g :: post)) (t :: r0) (.rest r) :=
  run_alts_pick pre g post (fun a ha => run_no_of_cantStart N a t r0 (hpre a ha)) hg

theorem tok_run {k : TokenKind} {p : Pos} {t : Token} {p' : Pos} (h : Tok k p t p') : Run (.tok k) p.ts (.rest p'.ts) := by
  cases h with
  | mk e t r hk => exact .tok_ok hk

theorem kw_run {s : String} {p p' : Pos} (h : Kw s p p') : Run (.kw s) p.ts (.rest p'.ts) := by
  cases h with
  | mk ht hv => cases ht with | mk e t r hk => exact .kw_ok ⟨hk, hv⟩

theorem dname_run {p : Pos} {n : Name} {p' : Pos} (h : DName p n p') : Run (.tok .name) p.ts (.rest p'.ts) := by
  cases h with
  | mk ht => exact tok_run ht

theorem holds_kind {k : TokenKind} {p : Pos} (hk : k ≠ .eof) (h : p.kind = k) : (Look.kind k).holds p.ts = true := by
  obtain ⟨e, ts⟩ := p
  cases ts with
  | nil => simp [Pos.kind] at h; exact absurd h.symm hk
  | cons t r => simpa [Look.holds, Pos.kind] using h

theorem not_holds_kind {k : TokenKind} {p : Pos} (h : p.kind ≠ k) : (Look.kind k).holds p.ts = false := by
  obtain ⟨e, ts⟩ := p
  cases ts with
  | nil => rfl
  | cons t r => simpa [Look.holds, Pos.kind] using h

theorem holds_kw {s : String} {p : Pos} (h : p.isName s) : (Look.kw s).holds p.ts = true := by
  obtain ⟨e, ts⟩ := p
  cases ts with
  | nil => simp [Pos.isName] at h
  | cons t r => simpa [Look.holds, Pos.isName] using h

theorem not_holds_kw {s : String} {p : Pos} (h : ¬ p.isName s) : (Look.kw s).holds p.ts = false := by
  obtain ⟨e, ts⟩ := p
  cases ts with
  | nil => rfl
  | cons t r => simpa [Look.holds, Pos.isName] using h

theorem ts_of_tok {k : TokenKind} {p : Pos} {t : Token} {p' : Pos} (h : Tok k p t p') : p.ts = t :: p'.ts ∧ t.kind = k := by
  cases h with
  | mk e t r hk => exact ⟨rfl, hk⟩

/-- `cantStart` reads only the kind of the token and, for a name, its text: the rest may stay abstract, so for a fixed
kind (and text) the test evaluates -/
theorem cantStart_of_kind {N : Nat} {g : G} {k : TokenKind} (h : ∀ s e v, cantStart N g ⟨k, s, e, v⟩ = true)
    {t : Token} (ht : t.kind = k) : cantStart N g t = true := by
  obtain ⟨_, s, e, v⟩ := t
  cases ht
  exact h s e v

theorem cantStart_of_name {N : Nat} {g : G} {v : String} (h : ∀ s e, cantStart N g ⟨.name, s, e, v⟩ = true)
    {t : Token} (hk : t.kind = .name) (hv : t.value = v) : cantStart N g t = true := by
  obtain ⟨_, s, e, _⟩ := t
  cases hk
  cases hv
  exact h s e

/-- the `i`-th alternative of an n-ary ordered choice, the earlier ones failing on the first token -/
theorem run_alts_nth (N : Nat) (gs : List G) (i : Nat) {g : G} (hi : gs[i]? = some g) {t : Token} {r0 r : List Token}
    (hpre : ∀ a ∈ gs.take i, cantStart N a t = true) (hg : Run g (t :: r0) (.rest r)) :
    Run (G.alts gs) (t :: r0) (.rest r) := by
  have hsplit : gs = gs.take i ++ g :: gs.drop (i + 1) := by
    obtain ⟨hlt, rfl⟩ := List.getElem?_eq_some_iff.mp hi
    rw [List.getElem_cons_drop, List.take_append_drop]
  rw [hsplit]
  exact run_alts_first N _ g _ hpre hg

theorem run_no_of_kind (N : Nat) (g : G) {k : TokenKind} {p : Pos} (hk : p.kind = k) (hne : k ≠ .eof)
    (h : ∀ s e v, cantStart N g ⟨k, s, e, v⟩ = true) : Run g p.ts .no := by
  obtain ⟨e, ts⟩ := p
  cases ts with
  | nil => simp [Pos.kind] at hk; exact absurd hk.symm hne
  | cons t r => exact run_no_of_cantStart N g t r (cantStart_of_kind h (by simpa [Pos.kind] using hk))

theorem run_no_of_name (N : Nat) (g : G) {s : String} {p : Pos} (hs : p.isName s)
    (h : ∀ b e, cantStart N g ⟨.name, b, e, s⟩ = true) : Run g p.ts .no := by
  obtain ⟨e, ts⟩ := p
  cases ts with
  | nil => simp [Pos.isName] at hs
  | cons t r => exact run_no_of_cantStart N g t r (cantStart_of_name h hs.1 hs.2)

theorem run_tok_no {k : TokenKind} {ts : List Token} : Run (.tok k) ts .no ↔ (Pos.mk 0 ts).kind ≠ k ∨ ts = [] := by
  constructor
  · intro h
    cases h with
    | tok_no hk => exact .inl (by simpa [Pos.kind] using hk)
    | tok_nil => exact .inr rfl
  · rintro (h | rfl)
    · cases ts with
      | nil => exact .tok_nil
      | cons t r => exact .tok_no (by simpa [Pos.kind] using h)
    · exact .tok_nil

theorem tok_no_of_kind {k : TokenKind} {p : Pos} (h : p.kind ≠ k) : Run (.tok k) p.ts .no := run_tok_no.mpr (.inl h)

theorem kind_ne_of_tok_no {k : TokenKind} (hk : k ≠ .eof) {p : Pos} (h : Run (.tok k) p.ts .no) : p.kind ≠ k :=
  (run_tok_no.mp h).elim id fun e => by rw [Pos.kind, e]; exact hk.symm

theorem kind_of_holds {k : TokenKind} {e : Nat} {ts : List Token} (h : (Look.kind k).holds ts = true) : (Pos.mk e ts).kind = k := by
  cases ts with
  | nil => simp [Look.holds] at h
  | cons t r => simpa [Look.holds, Pos.kind] using h

theorem kind_of_not_holds {k : TokenKind} (hk : k ≠ .eof) {p : Pos} (h : (Look.kind k).holds p.ts = false) : p.kind ≠ k := by
  obtain ⟨e, ts⟩ := p
  cases ts with
  | nil => simp [Pos.kind]; exact fun h => hk h.symm
  | cons t r => simpa [Look.holds, Pos.kind] using h

theorem isName_of_holds {s : String} {e : Nat} {ts : List Token} (h : (Look.kw s).holds ts = true) : (Pos.mk e ts).isName s := by
  cases ts with
  | nil => simp [Look.holds] at h
  | cons t r => simpa [Look.holds, Pos.isName] using h

theorem not_isName_of_not_holds {s : String} {p : Pos} (h : (Look.kw s).holds p.ts = false) : ¬ p.isName s := by
  obtain ⟨e, ts⟩ := p
  cases ts with
  | nil => simp [Pos.isName]
  | cons t r => simpa [Look.holds, Pos.isName] using h

theorem many_run_star {α} {D : Pos → α → Pos → Prop} {g : G} (hitem : ∀ p x p', D p x p' → Run g p.ts (.rest p'.ts))
    (hlt : ∀ p x p', D p x p' → p'.ts.length < p.ts.length) {p : Pos} {xs : List α} {p' : Pos} (h : Many D p xs p')
    (hno : Run g p'.ts .no) : Run (.star g) p.ts (.rest p'.ts) := by
  induction h with
  | nil => exact .star_done hno
  | cons hx _ ih => exact .star_more (hitem _ _ _ hx) (hlt _ _ _ hx) (ih hno)

theorem many_run_plus {α} {D : Pos → α → Pos → Prop} {g : G} (hitem : ∀ p x p', D p x p' → Run g p.ts (.rest p'.ts))
    (hlt : ∀ p x p', D p x p' → p'.ts.length < p.ts.length) {p : Pos} {xs : List α} {p' : Pos} (h : Many D p xs p')
    (hne : xs ≠ []) (hno : Run g p'.ts .no) : Run (G.plus g) p.ts (.rest p'.ts) := by
  cases h with
  | nil => exact absurd rfl hne
  | cons hx hm => exact .seq_ok (hitem _ _ _ hx) (many_run_star hitem hlt hm hno)

theorem delimited_plus_run {α} {D : Pos → α → Pos → Prop} {g : G} {opn close : TokenKind}
    (hitem : ∀ p x p', D p x p' → Run g p.ts (.rest p'.ts)) (hlt : ∀ p x p', D p x p' → p'.ts.length < p.ts.length)
    (hclose : ∀ s e v, cantStart 16 g ⟨close, s, e, v⟩ = true) (hce : close ≠ .eof)
    {p0 : Pos} {o : Token} {p1 : Pos} {xs : List α} {p2 : Pos} {cl : Token} {p3 : Pos}
    (ho : Tok opn p0 o p1) (hm : Many D p1 xs p2) (hne : xs ≠ []) (hc : Tok close p2 cl p3) :
    Run (G.seqs [.tok opn, G.plus g, .tok close]) p0.ts (.rest p3.ts) :=
  .seq_ok (tok_run ho) (.seq_ok (many_run_plus hitem hlt hm hne (run_no_of_kind 16 g (tok_kind hc) hce hclose)) (tok_run hc))

theorem many_run_star' {α} {D : Pos → α → Pos → Prop} {g : G} (hitem : ∀ p x p', D p x p' → Run g p.ts (.rest p'.ts))
    (hlt : ∀ p x p', D p x p' → p'.ts.length < p.ts.length) {p0 : Pos} {o : Token} {p1 : Pos} {xs : List α} {p2 : Pos}
    {cl : Token} {p3 : Pos} {opn close : TokenKind} (ho : Tok opn p0 o p1) (hm : Many D p1 xs p2) (hc : Tok close p2 cl p3)
    (hno : Run g p2.ts .no) : Run (G.seqs [.tok opn, .star g, .tok close]) p0.ts (.rest p3.ts) :=
  .seq_ok (tok_run ho) (.seq_ok (many_run_star hitem hlt hm hno) (tok_run hc))

theorem delimited_star_run {α} {D : Pos → α → Pos → Prop} {g : G} {opn close : TokenKind}
    (hitem : ∀ p x p', D p x p' → Run g p.ts (.rest p'.ts)) (hlt : ∀ p x p', D p x p' → p'.ts.length < p.ts.length)
    (hclose : ∀ t : Token, t.kind = close → cantStart 16 g t = true) (hce : close ≠ .eof)
    {p0 : Pos} {o : Token} {p1 : Pos} {xs : List α} {p2 : Pos} {cl : Token} {p3 : Pos}
    (ho : Tok opn p0 o p1) (hm : Many D p1 xs p2) (hc : Tok close p2 cl p3) :
    Run (G.seqs [.tok opn, .star g, .tok close]) p0.ts (.rest p3.ts) :=
  many_run_star' hitem hlt ho hm hc (run_no_of_kind 16 g (tok_kind hc) hce (fun _ _ _ => hclose _ rfl))

def valNT (c : Bool) : NT := if c then .constValue else .value
def listNT (c : Bool) : NT := if c then .constListValue else .listValue
def objNT (c : Bool) : NT := if c then .constObjectValue else .objectValue
def fieldNT (c : Bool) : NT := if c then .constObjectField else .objectField

theorem dvariable_run {p : Pos} {r : Name × Loc} {p' : Pos} (h : DVariable p r p') : Run (.nt .var) p.ts (.rest p'.ts) := by
  cases h with
  | mk hd hn => exact .nt (.seq_ok (tok_run hd) (dname_run hn))

/-- the alternatives of `Value[Const]`; `Value` has `Variable` in front -/
def valueAlts (c : Bool) : List G :=
  [.tok .int, .tok .float, .tok .string, .tok .blockString, .nt .booleanValue, .nt .enumValue, .nt (listNT c), .nt (objNT c)]

/-- the `i`-th alternative of a value, counted after `Variable`: nothing before it starts with `t` -/
theorem value_alt {c : Bool} (i : Nat) {g : G} (hi : (valueAlts c)[i]? = some g) {t : Token} {r0 r : List Token}
    (hpre : ∀ a ∈ (.nt .var :: valueAlts c).take (i + 1), cantStart 16 a t = true) (hg : Run g (t :: r0) (.rest r)) :
    Run (.nt (valNT c)) (t :: r0) (.rest r) := by
  refine .nt ?_
  cases c
  · exact run_alts_nth 16 (.nt .var :: valueAlts false) (i + 1) hi hpre hg
  · exact run_alts_nth 16 (valueAlts true) i hi (fun a ha => hpre a (List.mem_cons_of_mem _ ha)) hg

theorem all_cantStart_of_kind {N : Nat} {gs : List G} {k : TokenKind} (h : ∀ s e v, gs.all (cantStart N · ⟨k, s, e, v⟩) = true)
    {t : Token} (ht : t.kind = k) : ∀ a ∈ gs, cantStart N a t = true :=
  fun a ha => cantStart_of_kind (fun s e v => List.all_eq_true.mp (h s e v) a ha) ht

theorem all_cantStart_of_name {N : Nat} {gs : List G} {v : String} (h : ∀ s e, gs.all (cantStart N · ⟨.name, s, e, v⟩) = true)
    {t : Token} (hk : t.kind = .name) (hv : t.value = v) : ∀ a ∈ gs, cantStart N a t = true :=
  fun a ha => cantStart_of_name (fun s e => List.all_eq_true.mp (h s e) a ha) hk hv

/-- the items of a repetition started with at most `B` tokens ahead all start with at most `B` tokens ahead -/
theorem Many.bounded {α} {D : Pos → α → Pos → Prop} (hle : ∀ p x p', D p x p' → p'.ts.length ≤ p.ts.length) {B : Nat}
    {p : Pos} {xs : List α} {p' : Pos} (h : Many D p xs p') (hB : p.ts.length ≤ B) :
    Many (fun p x p' => p.ts.length ≤ B ∧ D p x p') p xs p' := by
  induction h with
  | nil => exact .nil
  | cons hx _ ih => exact .cons ⟨hB, hx⟩ (ih (Nat.le_trans (hle _ _ _ hx) hB))

/-- the `i`-th alternative, for a derivation whose first token has kind `k` -/
theorem value_alt_kind {c : Bool} {k : TokenKind} (i : Nat) {g : G} (hi : (valueAlts c)[i]? = some g) {p : Pos} {t : Token}
    {p1 p' : Pos} (h : Tok k p t p1) (hg : Run g p.ts (.rest p'.ts))
    (hpre : ∀ s e v, ((.nt .var :: valueAlts c).take (i + 1)).all (cantStart 16 · ⟨k, s, e, v⟩) = true) :
    Run (.nt (valNT c)) p.ts (.rest p'.ts) := by
  obtain ⟨hts, hk⟩ := ts_of_tok h
  rw [hts] at hg ⊢
  exact value_alt i hi (all_cantStart_of_kind hpre hk) hg

theorem value_no {c : Bool} {k : TokenKind} {p : Pos} (hk : p.kind = k) (hne : k ≠ .eof)
    (h : ∀ c s e v, cantStart 16 (rule (valNT c)) ⟨k, s, e, v⟩ = true) : Run (.nt (valNT c)) p.ts .no :=
  .nt (run_no_of_kind 16 _ hk hne (h c))

theorem dobjField_run_of {c : Bool} {p : Pos} {f : ObjField} {p' : Pos} (h : DObjField c p f p')
    (hv : ∀ {q v q'}, q.ts.length < p.ts.length → DValue c q v q' → Run (.nt (valNT c)) q.ts (.rest q'.ts)) :
    Run (.nt (fieldNT c)) p.ts (.rest p'.ts) := by
  cases h with
  | mk hn hc hval =>
    have := hv (by have := dname_lt hn; have := tok_lt hc; omega) hval
    cases c <;> exact .nt (.seq_ok (dname_run hn) (.seq_ok (tok_run hc) this))

/-- by induction on the number of tokens ahead; each case picks its alternative of `valueAlts` by the first token -/
theorem DValue.run : ∀ {c p v p'}, DValue c p v p' → Run (.nt (valNT c)) p.ts (.rest p'.ts) := by
  intro c p v p' h
  generalize hn : p.ts.length = n
  induction n using Nat.strongRecOn generalizing p v p' with
  | _ n ih =>
  subst hn
  cases h with
  | var h => exact .nt (.alt_l (dvariable_run h))
  | int h => exact value_alt_kind 0 rfl h (tok_run h) (fun _ _ _ => rfl)
  | float h => exact value_alt_kind 1 rfl h (tok_run h) (fun _ _ _ => rfl)
  | string h => exact value_alt_kind 2 rfl h (tok_run h) (fun _ _ _ => rfl)
  | blockString h => exact value_alt_kind 3 rfl h (tok_run h) (fun _ _ _ => rfl)
  | tru h =>
    cases h with
    | mk ht hv =>
      obtain ⟨hts, hk⟩ := ts_of_tok ht
      rw [hts]
      exact value_alt 4 rfl (all_cantStart_of_name (fun _ _ => rfl) hk hv) (.nt (.alt_l (.kw_ok ⟨hk, hv⟩)))
  | fls h =>
    cases h with
    | mk ht hv =>
      obtain ⟨hts, hk⟩ := ts_of_tok ht
      rw [hts]
      exact value_alt 4 rfl (all_cantStart_of_name (fun _ _ => rfl) hk hv)
        (.nt (.alt_r (.kw_no (by rw [hv]; simp)) (.kw_ok ⟨hk, hv⟩)))
  | enum h h1 h2 h3 =>
    obtain ⟨hts, hk⟩ := ts_of_tok h
    rw [hts]
    refine value_alt 5 rfl (fun a ha => ?_) (.nt (.nb_ok ⟨hk, by simp [h1, h2, h3]⟩))
    -- the alternatives before `EnumValue`: tokens of other kinds, and the names `true`, `false`
    simp only [valueAlts, List.take_succ_cons, List.take_zero, List.mem_cons, List.not_mem_nil, or_false] at ha
    rcases ha with rfl | rfl | rfl | rfl | rfl | rfl <;> simp [cantStart, rule, hk, h1, h2]
  | list ho hvs hc =>
    have hlt := tok_lt ho
    have hm := Many.bounded (fun _ _ _ h => Nat.le_of_lt (DValue.lt h)) (DValues.toMany hvs) (Nat.le_refl _)
    have hstar := many_run_star (g := .nt (valNT c)) (fun q _ _ h => ih _ (Nat.lt_of_le_of_lt h.1 hlt) h.2 rfl)
      (fun _ _ _ h => DValue.lt h.2) hm (value_no (tok_kind hc) (by decide) (fun c _ _ _ => by cases c <;> rfl))
    have hl : Run (.nt (listNT c)) p.ts (.rest p'.ts) := by
      cases c <;> exact .nt (.seq_ok (tok_run ho) (.seq_ok hstar (tok_run hc)))
    exact value_alt_kind 6 rfl ho hl (fun _ _ _ => by cases c <;> rfl)
  | obj ho hfs hc =>
    rename_i o p1 fs p2 cl
    have hlt := tok_lt ho
    have hm := Many.bounded (fun _ _ _ h => Nat.le_of_lt (DObjField.lt h)) (DObjFields.toMany hfs) (Nat.le_refl _)
    have hno : Run (.nt (fieldNT c)) p2.ts .no :=
      .nt (run_no_of_kind 16 _ (tok_kind hc) (by decide) (fun _ _ _ => by cases c <;> rfl))
    have hstar := many_run_star (g := .nt (fieldNT c))
      (fun q _ _ h => dobjField_run_of h.2 (fun hq hv => ih _ (by omega) hv rfl))
      (fun _ _ _ h => DObjField.lt h.2) hm hno
    have hl : Run (.nt (objNT c)) p.ts (.rest p'.ts) := by
      cases c <;> exact .nt (.seq_ok (tok_run ho) (.seq_ok hstar (tok_run hc)))
    exact value_alt_kind 7 rfl ho hl (fun _ _ _ => by cases c <;> rfl)

theorem DValues.run : ∀ {c p vs p'}, DValues c p vs p' → p'.kind = .bracketR → Run (.star (.nt (valNT c))) p.ts (.rest p'.ts) :=
  fun h hk => many_run_star (fun _ _ _ => DValue.run) (fun _ _ _ => DValue.lt) (DValues.toMany h)
    (value_no hk (by decide) (fun c _ _ _ => by cases c <;> rfl))

theorem DObjField.run : ∀ {c p f p'}, DObjField c p f p' → Run (.nt (fieldNT c)) p.ts (.rest p'.ts) :=
  fun h => dobjField_run_of h (fun _ hv => DValue.run hv)

theorem DObjFields.run : ∀ {c p fs p'}, DObjFields c p fs p' → p'.kind = .braceR → Run (.star (.nt (fieldNT c))) p.ts (.rest p'.ts) :=
  fun {c} _ _ _ h hk => many_run_star (fun _ _ _ => DObjField.run) (fun _ _ _ => DObjField.lt) (DObjFields.toMany h)
    (.nt (run_no_of_kind 16 _ hk (by decide) (fun _ _ _ => by cases c <;> rfl)))

theorem valNT_false : valNT false = .value := rfl
theorem valNT_true : valNT true = .constValue := rfl

theorem dargument_run {p : Pos} {a : Argument} {p' : Pos} (h : DArgument p a p') : Run (.nt .argument) p.ts (.rest p'.ts) := by
  cases h with
  | mk hn hc hv => exact .nt (.seq_ok (dname_run hn) (.seq_ok (tok_run hc) (DValue.run hv)))

theorem darguments_run {p : Pos} {as : List Argument} {p' : Pos} (h : DArguments p as p') :
    Run (.optIf (.kind .parenL) (.nt .arguments)) p.ts (.rest p'.ts) := by
  cases h with
  | none hk => exact .optIf_no (not_holds_kind hk)
  | some ho hm hne hc =>
    refine .optIf_yes (holds_kind (by decide) (tok_kind ho)) (.nt ?_)
    exact delimited_plus_run (fun _ _ _ => dargument_run) (fun _ _ _ => dargument_lt)
      (fun _ _ _ => rfl) (by decide) ho hm hne hc

theorem ddirective_run {p : Pos} {d : Directive} {p' : Pos} (h : DDirective p d p') : Run (.nt .directive) p.ts (.rest p'.ts) := by
  cases h with
  | mk ha hn hargs => exact .nt (.seq_ok (tok_run ha) (.seq_ok (dname_run hn) (darguments_run hargs)))

theorem ddirectives_run {p : Pos} {ds : List Directive} {p' : Pos} (h : DDirectives p ds p') :
    Run (.nt .directives) p.ts (.rest p'.ts) := by
  refine .nt ?_
  induction h with
  | nil hk => exact .starIf_done (not_holds_kind hk)
  | @cons p d p1 ds p2 hd _ ih =>
    have hk : p.kind = .at := by cases hd with | mk ha _ _ => exact tok_kind ha
    exact .starIf_more (holds_kind (by decide) hk) (ddirective_run hd) (ddirective_lt hd) ih

theorem dnamedType_run {p : Pos} {t : TypeRef} {p' : Pos} (h : DNamedType p t p') : Run (.nt .namedType) p.ts (.rest p'.ts) := by
  cases h with
  | mk hn => exact .nt (dname_run hn)

mutual
theorem DBaseType.run : ∀ {p t p'}, DBaseType p t p' →
    (Run (.nt .namedType) p.ts (.rest p'.ts) ∧ p.kind = .name) ∨ (Run (.nt .listType) p.ts (.rest p'.ts) ∧ p.kind = .bracketL)
  | _, _, _, .named h => .inl ⟨dnamedType_run h, dnamedType_kind h⟩
  | _, _, _, .list ho ht hc => .inr ⟨.nt (.seq_ok (tok_run ho) (.seq_ok (DType.run ht) (tok_run hc))), tok_kind ho⟩
theorem DType.run : ∀ {p t p'}, DType p t p' → Run (.nt .type) p.ts (.rest p'.ts)
  | _, _, _, .plain hb hk => by
      refine .nt ?_
      simp only [rule, G.alts]
      rcases DBaseType.run hb with ⟨hn, hkn⟩ | ⟨hl, hkl⟩
      · refine .alt_r (.nt (.alt_r (.seq_ok hn (tok_no_of_kind hk)) ?_)) (.alt_l hn)
        exact run_no_of_kind 16 _ hkn (by decide) (fun _ _ _ => rfl)
      · refine .alt_r (.nt (.alt_r ?_ (.seq_ok hl (tok_no_of_kind hk)))) (.alt_r ?_ hl)
        · exact run_no_of_kind 16 _ hkl (by decide) (fun _ _ _ => rfl)
        · exact run_no_of_kind 16 _ hkl (by decide) (fun _ _ _ => rfl)
  | _, _, _, .nonNull hb hbang => by
      refine .nt ?_
      simp only [rule, G.alts]
      rcases DBaseType.run hb with ⟨hn, hkn⟩ | ⟨hl, hkl⟩
      · exact .alt_l (.nt (.alt_l (.seq_ok hn (tok_run hbang))))
      · refine .alt_l (.nt (.alt_r ?_ (.seq_ok hl (tok_run hbang))))
        exact run_no_of_kind 16 _ hkl (by decide) (fun _ _ _ => rfl)
end

theorem dfragmentName_run {p : Pos} {n : Name} {p' : Pos} (h : DFragmentName p n p') :
    Run (.nt .fragmentName) p.ts (.rest p'.ts) := by
  cases h with
  | mk hN hne =>
    cases hN with
    | mk ht =>
      obtain ⟨hts, hk⟩ := ts_of_tok ht
      rw [hts]
      exact .nt (.nb_ok ⟨hk, by simpa using hne⟩)

theorem dtypeCondition_run {p : Pos} {t : Option TypeRef} {p' : Pos} (h : DTypeCondition p t p') :
    Run (.optIf (.kw "on") (.nt .typeCondition)) p.ts (.rest p'.ts) := by
  cases h with
  | none hno => exact .optIf_no (not_holds_kw hno)
  | some hk ht => exact .optIf_yes (holds_kw (kw_isName hk)) (.nt (.seq_ok (kw_run hk) (dnamedType_run ht)))

/-- a field does not start with `...` (nor with anything but a name) -/
theorem field_no {p : Pos} (hk : p.kind ≠ .name) : Run (.nt .field) p.ts .no := by
  refine .nt (.seq_ok (.opt_none (.nt (.seq_no (tok_no_of_kind hk)))) (.seq_no (tok_no_of_kind hk)))

mutual
theorem DSelectionSet.run : ∀ {p s p'}, DSelectionSet p s p' → Run (.nt .selectionSet) p.ts (.rest p'.ts)
  | _, _, _, .mk ho hs hne hc => by
      cases hs with
      | nil => exact absurd rfl hne
      | cons h hs' =>
        exact .nt (.seq_ok (tok_run ho) (.seq_ok (.seq_ok (DSelection.run h) (DSelections.run hs' (tok_kind hc))) (tok_run hc)))
theorem DSelections.run : ∀ {p ss p'}, DSelections p ss p' → p'.kind = .braceR → Run (.star (.nt .selection)) p.ts (.rest p'.ts)
  | _, _, _, .nil, hk => by
      refine .star_done (.nt ?_)
      simp only [rule, G.alts]
      refine .alt_r (field_no (by rw [hk]; decide)) (.alt_r ?_ ?_) <;>
        exact run_no_of_kind 16 _ hk (by decide) (fun _ _ _ => rfl)
  | _, _, _, .cons h hs, hk => .star_more (DSelection.run h) (DSelection.lt h) (DSelections.run hs hk)
theorem DSelection.run : ∀ {p s p'}, DSelection p s p' → Run (.nt .selection) p.ts (.rest p'.ts)
  | _, _, _, .field hN hk hA hD hS => by
      refine .nt (.alt_l (.nt ?_))
      exact .seq_ok (.opt_none (.nt (.seq_ok (dname_run hN) (tok_no_of_kind hk))))
        (.seq_ok (dname_run hN) (.seq_ok (darguments_run hA) (.seq_ok (ddirectives_run hD) (DOptSelectionSet.run hS))))
  | _, _, _, .aliased hAl hC hN hA hD hS => by
      refine .nt (.alt_l (.nt ?_))
      exact .seq_ok (.opt_some (.nt (.seq_ok (dname_run hAl) (tok_run hC))))
        (.seq_ok (dname_run hN) (.seq_ok (darguments_run hA) (.seq_ok (ddirectives_run hD) (DOptSelectionSet.run hS))))
  | _, _, _, .spread hSp hN hD => by
      refine .nt (.alt_r (field_no (by rw [tok_kind hSp]; decide)) (.alt_l (.nt ?_)))
      exact .seq_ok (tok_run hSp) (.seq_ok (dfragmentName_run hN) (ddirectives_run hD))
  | _, _, _, .inline (p1 := p1) hSp hT hD hS => by
      have hfn : Run (.nt .fragmentName) p1.ts .no := by
        cases hT with
        | none hno =>
          have hk : p1.kind = .at ∨ p1.kind = .braceL := by
            cases hD with
            | nil _ => cases hS with | mk ho _ _ _ => exact .inr (tok_kind ho)
            | cons hd _ => cases hd with | mk ha _ _ => exact .inl (tok_kind ha)
          rcases hk with hk | hk <;>
            exact run_no_of_kind 16 _ hk (by decide) (fun _ _ _ => rfl)
        | some hOn _ =>
          exact run_no_of_name 16 _ (kw_isName hOn) (fun _ _ => rfl)
      refine .nt (.alt_r (field_no (by rw [tok_kind hSp]; decide)) (.alt_r (.nt (.seq_ok (tok_run hSp) (.seq_no hfn))) (.nt ?_)))
      exact .seq_ok (tok_run hSp) (.seq_ok (dtypeCondition_run hT) (.seq_ok (ddirectives_run hD) (DSelectionSet.run hS)))
theorem DOptSelectionSet.run : ∀ {p s p'}, DOptSelectionSet p s p' →
    Run (.optIf (.kind .braceL) (.nt .selectionSet)) p.ts (.rest p'.ts)
  | _, _, _, .none hk => .optIf_no (not_holds_kind hk)
  | p, _, _, .some h => by
      have hk : p.kind = TokenKind.braceL := by cases h with | mk ho _ _ _ => exact tok_kind ho
      exact .optIf_yes (holds_kind (by decide) hk) (DSelectionSet.run h)
end

theorem dopType_run {p : Pos} {op : OpType} {p' : Pos} (h : DOpType p op p') : Run (.nt .operationType) p.ts (.rest p'.ts) := by
  refine .nt ?_
  simp only [rule, G.alts]
  cases h with
  | query hk => exact .alt_l (kw_run hk)
  | mutation hk =>
    cases hk with
    | mk ht hv =>
      obtain ⟨hts, hkk⟩ := ts_of_tok ht
      rw [hts]
      exact .alt_r (.kw_no (by rw [hv]; simp)) (.alt_l (.kw_ok ⟨hkk, hv⟩))
  | subscription hk =>
    cases hk with
    | mk ht hv =>
      obtain ⟨hts, hkk⟩ := ts_of_tok ht
      rw [hts]
      exact .alt_r (.kw_no (by rw [hv]; simp)) (.alt_r (.kw_no (by rw [hv]; simp)) (.kw_ok ⟨hkk, hv⟩))

theorem ddefault_run {p : Pos} {d : Option Value} {p' : Pos} (h : DDefault p d p') :
    Run (.optIf (.kind .equals) (.nt .defaultValue)) p.ts (.rest p'.ts) := by
  cases h with
  | none hk => exact .optIf_no (not_holds_kind hk)
  | some hq hv => exact .optIf_yes (holds_kind (by decide) (tok_kind hq)) (.nt (.seq_ok (tok_run hq) (DValue.run hv)))

theorem dvarDef_run {p : Pos} {v : VarDef} {p' : Pos} (h : DVarDef p v p') : Run (.nt .variableDefinition) p.ts (.rest p'.ts) := by
  cases h with
  | mk hv hc ht hd => exact .nt (.seq_ok (dvariable_run hv) (.seq_ok (tok_run hc) (.seq_ok (DType.run ht) (ddefault_run hd))))

theorem dvarDefs_run {p : Pos} {vs : List VarDef} {p' : Pos} (h : DVarDefs p vs p') :
    Run (.optIf (.kind .parenL) (.nt .variableDefinitions)) p.ts (.rest p'.ts) := by
  cases h with
  | none hk => exact .optIf_no (not_holds_kind hk)
  | some ho hm hne hc =>
    refine .optIf_yes (holds_kind (by decide) (tok_kind ho)) (.nt ?_)
    exact delimited_plus_run (fun _ _ _ => dvarDef_run) (fun _ _ _ => dvarDef_lt)
      (fun _ _ _ => rfl) (by decide) ho hm hne hc

theorem doptName_run {p : Pos} {n : Option Name} {p' : Pos} (h : DOptName p n p') :
    Run (.opt (.tok .name)) p.ts (.rest p'.ts) := by
  cases h with
  | none hk => exact .opt_none (tok_no_of_kind hk)
  | some hn => exact .opt_some (dname_run hn)

theorem ddescription_run {p : Pos} {d : Option String} {p' : Pos} (h : DDescription p d p') :
    Run (.opt (.nt .description)) p.ts (.rest p'.ts) := by
  cases h with
  | none h1 h2 => exact .opt_none (.nt (.alt_r (tok_no_of_kind h1) (tok_no_of_kind h2)))
  | string ht => exact .opt_some (.nt (.alt_l (tok_run ht)))
  | blockString ht =>
    refine .opt_some (.nt (.alt_r (tok_no_of_kind ?_) (tok_run ht)))
    rw [tok_kind ht]; decide

theorem dopTypeDef_run {p : Pos} {d : OpTypeDef} {p' : Pos} (h : DOpTypeDef p d p') :
    Run (.nt .operationTypeDefinition) p.ts (.rest p'.ts) := by
  cases h with
  | mk ho hc ht => exact .nt (.seq_ok (dopType_run ho) (.seq_ok (tok_run hc) (dnamedType_run ht)))

theorem sepBy_run {α} {sep : TokenKind} (hsep : sep ≠ .eof) {D : Pos → α → Pos → Prop} {g : G}
    (hitem : ∀ p x p', D p x p' → Run g p.ts (.rest p'.ts))
    {p : Pos} {xs : List α} {p' : Pos} (h : SepBy sep D p xs p') :
    Run (.seq g (.starIf (.kind sep) (.seq (.tok sep) g))) p.ts (.rest p'.ts) := by
  induction h with
  | one hx hk => exact .seq_ok (hitem _ _ _ hx) (.starIf_done (not_holds_kind hk))
  | cons hx hs _ ih =>
    cases ih with
    | seq_ok h1 h2 =>
      refine .seq_ok (hitem _ _ _ hx) (.starIf_more (holds_kind hsep (tok_kind hs)) (.seq_ok (tok_run hs) h1) ?_ h2)
      have := tok_lt hs
      have := Run.le h1 _ rfl
      omega

theorem kw_no_of {s : String} {p : Pos} (h : ¬ p.isName s) : Run (.kw s) p.ts .no := by
  obtain ⟨e, ts⟩ := p
  cases ts with
  | nil => exact .kw_nil
  | cons t r => exact .kw_no (by simpa [Pos.isName] using h)

theorem not_isName_of_kw {s s' : String} {p p' : Pos} (h : Kw s p p') (hne : s ≠ s') : ¬ p.isName s' := by
  cases h with
  | mk ht hv => cases ht with | mk e t r hk => intro hi; exact hne (hv.symm.trans hi.2)

theorem not_isName_of_kind {s : String} {p : Pos} (h : p.kind ≠ .name) : ¬ p.isName s := by
  obtain ⟨e, ts⟩ := p
  cases ts with
  | nil => simp [Pos.isName]
  | cons t r => intro hi; exact h hi.1

theorem dimplements_run {p : Pos} {ts : List TypeRef} {p' : Pos} (h : DImplements p ts p') :
    Run (.optIf (.kw "implements") (.nt .implementsInterfaces)) p.ts (.rest p'.ts) := by
  cases h with
  | none hno => exact .optIf_no (not_holds_kw hno)
  | plain hk hna hs =>
    refine .optIf_yes (holds_kw (kw_isName hk)) (.nt (.seq_ok (kw_run hk) (.seq_ok (.opt_none (tok_no_of_kind hna)) ?_)))
    exact sepBy_run (by decide) (fun _ _ _ => dnamedType_run) hs
  | leadingAmp hk ha hs =>
    refine .optIf_yes (holds_kw (kw_isName hk)) (.nt (.seq_ok (kw_run hk) (.seq_ok (.opt_some (tok_run ha)) ?_)))
    exact sepBy_run (by decide) (fun _ _ _ => dnamedType_run) hs

theorem dinputValueDef_run {p : Pos} {d : InputValueDef} {p' : Pos} (h : DInputValueDef p d p') :
    Run (.nt .inputValueDefinition) p.ts (.rest p'.ts) := by
  cases h with
  | mk hde hn hc ht hd hdirs =>
    exact .nt (.seq_ok (ddescription_run hde) (.seq_ok (dname_run hn) (.seq_ok (tok_run hc) (.seq_ok (DType.run ht)
      (.seq_ok (ddefault_run hd) (ddirectives_run hdirs))))))

/-- an item that starts with `Description? Name` does not start with a closing token -/
theorem descItem_no {g : G} {p : Pos} {close : TokenKind} (hc : close = .braceR ∨ close = .parenR) (hk : p.kind = close) :
    Run (G.seq (.opt (.nt .description)) (.seq (.tok .name) g)) p.ts .no := by
  have h1 : p.kind ≠ .string := by rcases hc with rfl | rfl <;> rw [hk] <;> decide
  have h2 : p.kind ≠ .blockString := by rcases hc with rfl | rfl <;> rw [hk] <;> decide
  have h3 : p.kind ≠ .name := by rcases hc with rfl | rfl <;> rw [hk] <;> decide
  exact .seq_ok (.opt_none (.nt (.alt_r (tok_no_of_kind h1) (tok_no_of_kind h2)))) (.seq_no (tok_no_of_kind h3))

theorem dargumentDefs_run {p : Pos} {ds : List InputValueDef} {p' : Pos} (h : DArgumentDefs p ds p') :
    Run (.optIf (.kind .parenL) (.nt .argumentsDefinition)) p.ts (.rest p'.ts) := by
  cases h with
  | none hk => exact .optIf_no (not_holds_kind hk)
  | some ho hm hne hc =>
    refine .optIf_yes (holds_kind (by decide) (tok_kind ho)) (.nt ?_)
    exact .seq_ok (tok_run ho) (.seq_ok (many_run_plus (fun _ _ _ => dinputValueDef_run) (fun _ _ _ => dinputValueDef_lt) hm hne
      (.nt (descItem_no (.inr rfl) (tok_kind hc)))) (tok_run hc))

theorem dfieldDef_run {p : Pos} {d : FieldDef} {p' : Pos} (h : DFieldDef p d p') :
    Run (.nt .fieldDefinition) p.ts (.rest p'.ts) := by
  cases h with
  | mk hde hn ha hc ht hdirs =>
    exact .nt (.seq_ok (ddescription_run hde) (.seq_ok (dname_run hn) (.seq_ok (dargumentDefs_run ha) (.seq_ok (tok_run hc)
      (.seq_ok (DType.run ht) (ddirectives_run hdirs))))))

theorem denumValueDef_run {p : Pos} {d : EnumValueDef} {p' : Pos} (h : DEnumValueDef p d p') :
    Run (.nt .enumValueDefinition) p.ts (.rest p'.ts) := by
  cases h with
  | mk hde hn hdirs => exact .nt (.seq_ok (ddescription_run hde) (.seq_ok (dname_run hn) (ddirectives_run hdirs)))

/-- `{ item* }` for an item that starts with `Description? Name` (field, input value and enum value definitions) -/
theorem braced_run {α} {D : Pos → α → Pos → Prop} {n : NT} {g : G}
    (hrule : rule n = .seq (.opt (.nt .description)) (.seq (.tok .name) g))
    (hitem : ∀ p x p', D p x p' → Run (.nt n) p.ts (.rest p'.ts)) (hlt : ∀ p x p', D p x p' → p'.ts.length < p.ts.length)
    {p : Pos} {xs : List α} {p' : Pos} (h : Braced D p xs p') :
    Run (G.seqs [.tok .braceL, .star (.nt n), .tok .braceR]) p.ts (.rest p'.ts) := by
  cases h with
  | mk ho hm hc => exact many_run_star' hitem hlt ho hm hc (.nt (hrule ▸ descItem_no (.inl rfl) (tok_kind hc)))

theorem dobjectDef_run {p : Pos} {d : ObjectDef} {p' : Pos} (h : DObjectDef p d p') :
    Run (.nt .objectTypeDefinition) p.ts (.rest p'.ts) := by
  cases h with
  | mk hde hk hn hi hd hb =>
    exact .nt (.seq_ok (ddescription_run hde) (.seq_ok (kw_run hk) (.seq_ok (dname_run hn) (.seq_ok (dimplements_run hi)
      (.seq_ok (ddirectives_run hd) (braced_run rfl (fun _ _ _ => dfieldDef_run) (fun _ _ _ => dfieldDef_lt) hb))))))

/-- a definition `Description? kw …` is not matched by `Description? kw' …` for another keyword -/
theorem descKw_no {p0 : Pos} {desc : Option String} {p1 : Pos} {s s' : String} {p2 : Pos} {g : G}
    (hDe : DDescription p0 desc p1) (hK : Kw s p1 p2) (hne : s ≠ s') :
    Run (G.seq (.opt (.nt .description)) (.seq (.kw s') g)) p0.ts .no :=
  .seq_ok (ddescription_run hDe) (.seq_no (kw_no_of (not_isName_of_kw hK hne)))

theorem kwHead_no {p0 : Pos} {desc : Option String} {p1 : Pos} {s s' : String} {p2 : Pos}
    (hDe : DDescription p0 desc p1) (hK : Kw s p1 p2) (hne : s ≠ s') : Run (G.kw s') p0.ts .no := by
  refine kw_no_of ?_
  cases hDe with
  | none _ _ => exact not_isName_of_kw hK hne
  | string ht => exact not_isName_of_kind (by rw [tok_kind ht]; decide)
  | blockString ht => exact not_isName_of_kind (by rw [tok_kind ht]; decide)

/-- … nor by `kw' …` -/
theorem kwFirst_no {p0 : Pos} {desc : Option String} {p1 : Pos} {s s' : String} {p2 : Pos} {g : G}
    (hDe : DDescription p0 desc p1) (hK : Kw s p1 p2) (hne : s ≠ s') : Run (G.seq (.kw s') g) p0.ts .no :=
  .seq_no (kwHead_no hDe hK hne)

/-- the description-less view of a keyword -/
theorem ddesc_none_of_kw {s : String} {p p' : Pos} (h : Kw s p p') : DDescription p none p :=
  .none (by rw [kw_kind h]; decide) (by rw [kw_kind h]; decide)

/-- what starts, after its description, with a keyword other than the operation types is no operation definition -/
theorem operation_no {p0 : Pos} {desc : Option String} {p1 : Pos} {s : String} {p2 : Pos}
    (hDe : DDescription p0 desc p1) (hK : Kw s p1 p2)
    (h1 : s ≠ "query") (h2 : s ≠ "mutation") (h3 : s ≠ "subscription") : Run (.nt .operationDefinition) p0.ts .no := by
  have hb : p0.kind ≠ .braceL := by
    cases hDe with
    | none _ _ => rw [kw_kind hK]; decide
    | string ht => rw [tok_kind ht]; decide
    | blockString ht => rw [tok_kind ht]; decide
  refine .nt (.alt_r (.nt (.seq_no (tok_no_of_kind hb))) (.seq_no (.nt ?_)))
  simp only [rule, G.alts]
  exact .alt_r (kwHead_no hDe hK h1) (.alt_r (kwHead_no hDe hK h2) (kwHead_no hDe hK h3))

/-- pick the alternative of `TypeSystemDefinition` that `h` matches: the earlier ones fail on the keyword -/
macro "tsd_chain " h:term ", " hDe:term ", " hK:term : tactic => `(tactic|
  repeat' first
    | exact $h
    | exact Run.alt_l $h
    | refine Run.alt_r (Run.nt (descKw_no $hDe $hK (by decide))) ?_
    | refine Run.alt_r (Run.nt (kwFirst_no $hDe $hK (by decide))) ?_)

/-- a type-system definition, given its keyword and the match of its own production -/
theorem tsd_run {p0 : Pos} {desc : Option String} {p1 : Pos} {s : String} {p2 p' : Pos}
    (hDe : DDescription p0 desc p1) (hK : Kw s p1 p2)
    (h1 : s ≠ "query") (h2 : s ≠ "mutation") (h3 : s ≠ "subscription") (h4 : s ≠ "fragment")
    (h : Run (.nt .typeSystemDefinition) p0.ts (.rest p'.ts)) : Run (.nt .definition) p0.ts (.rest p'.ts) := by
  exact .nt (.alt_r (operation_no hDe hK h1 h2 h3) (.alt_r (.nt (kwFirst_no hDe hK h4)) h))

theorem ddefinition_run {p : Pos} {d : Definition} {p' : Pos} (h : DDefinition p d p') :
    Run (.nt .definition) p.ts (.rest p'.ts) := by
  cases h with
  | query hS => exact .nt (.alt_l (.nt (.alt_l (DSelectionSet.run hS))))
  | operation hOp hN hV hD hS =>
    have hno : Run (.nt .selectionSet) p.ts .no :=
      run_no_of_kind 16 _ (dopType_kind hOp) (by decide) (fun _ _ _ => rfl)
    exact .nt (.alt_l (.nt (.alt_r hno (.seq_ok (dopType_run hOp) (.seq_ok (doptName_run hN) (.seq_ok (dvarDefs_run hV)
      (.seq_ok (ddirectives_run hD) (DSelectionSet.run hS))))))))
  | fragment hK hN hK2 hT hD hS =>
    have hDe := ddesc_none_of_kw hK
    have hop := operation_no hDe hK (by decide) (by decide) (by decide)
    have htc : Run (.nt .typeCondition) _ (.rest _) := .nt (.seq_ok (kw_run hK2) (dnamedType_run hT))
    exact .nt (.alt_r hop (.alt_l (.nt (.seq_ok (kw_run hK) (.seq_ok (dfragmentName_run hN) (.seq_ok htc
      (.seq_ok (ddirectives_run hD) (DSelectionSet.run hS))))))))
  | schema hK hD hO hM hne hC =>
    have hDe := ddesc_none_of_kw hK
    have hp : Run (.nt .schemaDefinition) p.ts (.rest p'.ts) := by
      refine .nt (.seq_ok (kw_run hK) (.seq_ok (ddirectives_run hD) ?_))
      exact delimited_plus_run (fun _ _ _ => dopTypeDef_run) (fun _ _ _ => dopTypeDef_lt)
        (fun _ _ _ => rfl) (by decide) hO hM hne hC
    refine tsd_run hDe hK (by decide) (by decide) (by decide) (by decide) (.nt ?_)
    simp only [rule, G.alts]
    tsd_chain hp, hDe, hK
  | scalar hDe hK hN hD =>
    have hp : Run (.nt .scalarTypeDefinition) p.ts (.rest p'.ts) :=
      .nt (.seq_ok (ddescription_run hDe) (.seq_ok (kw_run hK) (.seq_ok (dname_run hN) (ddirectives_run hD))))
    refine tsd_run hDe hK (by decide) (by decide) (by decide) (by decide) (.nt ?_)
    simp only [rule, G.alts]
    tsd_chain hp, hDe, hK
  | object hO =>
    have hp := dobjectDef_run hO
    cases hO with
    | mk hDe hK hN hI hD hB =>
      refine tsd_run hDe hK (by decide) (by decide) (by decide) (by decide) (.nt ?_)
      simp only [rule, G.alts]
      tsd_chain hp, hDe, hK
  | interface hDe hK hN hD hB =>
    have hp : Run (.nt .interfaceTypeDefinition) p.ts (.rest p'.ts) :=
      .nt (.seq_ok (ddescription_run hDe) (.seq_ok (kw_run hK) (.seq_ok (dname_run hN) (.seq_ok (ddirectives_run hD)
        (braced_run rfl (fun _ _ _ => dfieldDef_run) (fun _ _ _ => dfieldDef_lt) hB)))))
    refine tsd_run hDe hK (by decide) (by decide) (by decide) (by decide) (.nt ?_)
    simp only [rule, G.alts]
    tsd_chain hp, hDe, hK
  | union hDe hK hN hD hQ hS =>
    have hm : Run (.nt .unionMembers) _ (.rest p'.ts) := .nt (sepBy_run (by decide) (fun _ _ _ => dnamedType_run) hS)
    have hp : Run (.nt .unionTypeDefinition) p.ts (.rest p'.ts) :=
      .nt (.seq_ok (ddescription_run hDe) (.seq_ok (kw_run hK) (.seq_ok (dname_run hN) (.seq_ok (ddirectives_run hD)
        (.seq_ok (tok_run hQ) hm)))))
    refine tsd_run hDe hK (by decide) (by decide) (by decide) (by decide) (.nt ?_)
    simp only [rule, G.alts]
    tsd_chain hp, hDe, hK
  | enum hDe hK hN hD hB =>
    have hp : Run (.nt .enumTypeDefinition) p.ts (.rest p'.ts) :=
      .nt (.seq_ok (ddescription_run hDe) (.seq_ok (kw_run hK) (.seq_ok (dname_run hN) (.seq_ok (ddirectives_run hD)
        (braced_run rfl (fun _ _ _ => denumValueDef_run) (fun _ _ _ => denumValueDef_lt) hB)))))
    refine tsd_run hDe hK (by decide) (by decide) (by decide) (by decide) (.nt ?_)
    simp only [rule, G.alts]
    tsd_chain hp, hDe, hK
  | inputObject hDe hK hN hD hB =>
    have hp : Run (.nt .inputObjectTypeDefinition) p.ts (.rest p'.ts) :=
      .nt (.seq_ok (ddescription_run hDe) (.seq_ok (kw_run hK) (.seq_ok (dname_run hN) (.seq_ok (ddirectives_run hD)
        (braced_run rfl (fun _ _ _ => dinputValueDef_run) (fun _ _ _ => dinputValueDef_lt) hB)))))
    refine tsd_run hDe hK (by decide) (by decide) (by decide) (by decide) (.nt ?_)
    simp only [rule, G.alts]
    tsd_chain hp, hDe, hK
  | extend hK hO =>
    have hDe := ddesc_none_of_kw hK
    have hp : Run (.nt .typeExtensionDefinition) p.ts (.rest p'.ts) := .nt (.seq_ok (kw_run hK) (dobjectDef_run hO))
    refine tsd_run hDe hK (by decide) (by decide) (by decide) (by decide) (.nt ?_)
    simp only [rule, G.alts]
    tsd_chain hp, hDe, hK
  | directive hDe hK hA hN hAr hK2 hL =>
    have hl : Run (.nt .directiveLocations) _ (.rest p'.ts) := .nt (sepBy_run (by decide) (fun _ _ _ => dname_run) hL)
    have hp : Run (.nt .directiveDefinition) p.ts (.rest p'.ts) :=
      .nt (.seq_ok (ddescription_run hDe) (.seq_ok (kw_run hK) (.seq_ok (tok_run hA) (.seq_ok (dname_run hN)
        (.seq_ok (dargumentDefs_run hAr) (.seq_ok (kw_run hK2) hl))))))
    refine tsd_run hDe hK (by decide) (by decide) (by decide) (by decide) (.nt ?_)
    simp only [rule, G.alts]
    tsd_chain hp, hDe, hK

/-- **recogniser completeness** (big-step form): a document of the grammar is matched completely -/
theorem derivesDoc_run {toks : List Token} {eofPos : Nat} {d : Document} (h : DerivesDoc toks eofPos d) :
    Run (.nt .document) toks (.rest []) := by
  cases h with
  | mk hM hne =>
    have hno : Run (.nt .definition) ([] : List Token) .no := by
      refine .nt ?_
      simp only [rule, G.alts]
      refine .alt_r (.nt (.alt_r (.nt (.seq_no .tok_nil)) (.seq_no (.nt ?_)))) (.alt_r (.nt (.seq_no .kw_nil)) (.nt ?_))
      · simp only [rule, G.alts]; exact .alt_r .kw_nil (.alt_r .kw_nil .kw_nil)
      · simp only [rule, G.alts]
        have hd : Run (.opt (.nt .description)) ([] : List Token) (.rest []) := .opt_none (.nt (.alt_r .tok_nil .tok_nil))
        repeat' first
          | exact .seq_no .kw_nil
          | exact .seq_ok hd (.seq_no .kw_nil)
          | refine .alt_r (.nt (.seq_no .kw_nil)) ?_
          | refine .alt_r (.nt (.seq_ok hd (.seq_no .kw_nil))) ?_
          | exact .nt (.seq_ok hd (.seq_no .kw_nil))
    exact .nt (many_run_plus (fun _ _ _ => ddefinition_run) (fun _ _ _ => ddefinition_lt) hM hne hno)

end GqlModel.Grammar
