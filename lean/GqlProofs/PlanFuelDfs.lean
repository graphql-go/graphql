import GqlProofs.PlanFuel
/-! # Fuel: the depth-first pass needs, per level, the number of entries + 2 (`jdep`) -/
namespace GqlModel.Plan
open GqlModel.Exec GqlModel.Coerce

section
variable {c : Ctx} {pv : Option Vars} {rank : String → Nat} {F : Nat}

theorem svf_keys : ∀ {fs : List (String × PVal)} {gs : List (String × JVal)}, SVf c pv rank F fs gs →
    fs.map (·.1) = gs.map (·.1)
  | [], _, h => by cases h; rfl
  | _ :: _, _, h => by
    cases h with
    | cons _ h2 => simp [svf_keys h2]

theorem svl_length : ∀ {xs : List PVal} {js : List JVal}, SVl c pv rank F xs js → xs.length = js.length
  | [], _, h => by cases h; rfl
  | _ :: _, _, h => by
    cases h with
    | cons _ h2 => simp [svl_length h2]

end

mutual
/-- fuel that suffices for the depth-first pass over anything that stands for this value: per level, the number of entries + 2 -/
def jdep : JVal → Nat
  | .obj gs => gs.length + 2 + jmaxF gs
  | .list js => js.length + 2 + jmaxL js
  | _ => 1
def jmaxL : List JVal → Nat
  | [] => 0
  | x :: xs => max (jdep x) (jmaxL xs)
def jmaxF : List (String × JVal) → Nat
  | [] => 0
  | (_, x) :: xs => max (jdep x) (jmaxF xs)
end

theorem jdep_pos (j : JVal) : 1 ≤ jdep j := by
  cases j <;> simp only [jdep] <;> omega

theorem jmaxF_mem {gs : List (String × JVal)} {k : String} {x : JVal} (h : (k, x) ∈ gs) : jdep x ≤ jmaxF gs :=
  le_of_max_rec (h := jmaxF) (g := fun p => jdep p.2) (fun _ _ => rfl) h

theorem jlookup_mem {gs : List (String × JVal)} {k : String} {x : JVal} (h : JVal.lookup gs k = some x) : ∃ k', (k', x) ∈ gs := by
  obtain ⟨p, hp, rfl⟩ := Option.map_eq_some_iff.mp h
  exact ⟨p.1, List.mem_of_find?_eq_some hp⟩

theorem jmaxF_lookup {gs : List (String × JVal)} {k : String} {x : JVal} (h : JVal.lookup gs k = some x) : jdep x ≤ jmaxF gs := by
  obtain ⟨k', hm⟩ := jlookup_mem h
  exact jmaxF_mem hm

section
variable {c : Ctx} {pv : Option Vars} {rank : String → Nat} {F : Nat}

def FrcNF (c : Ctx) (pv : Option Vars) (rank : String → Nat) (F : Nat) (frc : Closure → MSt → Res PVal × MSt) : Prop :=
  ∀ cl j mst, Wit c pv rank F cl j → (frc cl mst).1 ≠ .fuelOut

structure DfsNF (c : Ctx) (pv : Option Vars) (rank : String → Nat) (F : Nat) (frc : Closure → MSt → Res PVal × MSt)
    (n : Nat) : Prop where
  val : ∀ v j mst, SV c pv rank F v j → jdep j ≤ n → (dfsVal frc n v mst).1 ≠ .fuelOut
  fields : ∀ ks fs gs mst, SVf c pv rank F fs gs → ks.length + 1 + jmaxF gs ≤ n → (dfsFields frc n ks fs mst).1 ≠ .fuelOut
  items : ∀ xs js acc mst, SVl c pv rank F xs js → xs.length + 1 + jmaxL js ≤ n → (dfsItems frc n xs acc mst).1 ≠ .fuelOut

theorem dfsNF {frc : Closure → MSt → Res PVal × MSt} (hf : FrcOK c pv rank F frc) (hn : FrcNF c pv rank F frc) :
    ∀ n, DfsNF c pv rank F frc n
  | 0 => by
    refine ⟨?_, ?_, ?_⟩
    · intro v j mst _ h; have := jdep_pos j; omega
    · intro ks fs gs mst _ h; omega
    · intro xs js acc mst _ h; omega
  | n + 1 => by
    have ih : DfsNF c pv rank F frc n := dfsNF hf hn n
    have descend : ∀ (x : PVal) (j : JVal) (mst : MSt), SV c pv rank F x j → jdep j ≤ n + 1 →
        (dfsDescend frc n x mst).1 ≠ .fuelOut := by
      intro x j mst hx hb
      cases hx with
      | leaf j => simp [dfsDescend]
      | deferred _ => simp [dfsDescend]
      | @obj fs gs hfs =>
        have hlen : (sortedKeys fs).length = gs.length := by
          rw [sortedKeys_length]
          have := congrArg List.length (svf_keys hfs)
          simpa using this
        exact andThen_ne_fuelOut (ih.fields (sortedKeys fs) fs gs mst hfs (by simp only [jdep] at hb; omega)) fun _ _ _ => by simp
      | @list xs js hxs =>
        have hlen := svl_length hxs
        exact andThen_ne_fuelOut (ih.items xs js [] mst hxs (by simp only [jdep] at hb; omega)) fun _ _ _ => by simp
    refine ⟨?_, ?_, ?_⟩
    · intro v j mst hv hb
      cases v with
      | deferred cl =>
        cases hv with
        | deferred hwit =>
          rw [dfsVal_deferred]
          refine andThen_ne_fuelOut (hn cl j mst hwit) fun x s hz => descend x j s ?_ hb
          have := (hf cl j mst hwit).1
          rw [hz] at this
          exact this
      | leaf j' => exact descend (.leaf j') j mst hv hb
      | list xs => rw [dfsVal_value (v := .list xs) (fun _ => nofun)]; exact descend (.list xs) j mst hv hb
      | obj fs => rw [dfsVal_value (v := .obj fs) (fun _ => nofun)]; exact descend (.obj fs) j mst hv hb
    · intro ks fs gs mst hfs hb
      cases ks with
      | nil => rw [dfsFields_nil]; nofun
      | cons k ks =>
        rw [dfsFields_cons]
        simp only [List.length_cons] at hb
        cases hl : lookupF fs k with
        | none => exact ih.fields ks fs gs mst hfs (by omega)
        | some v =>
          obtain ⟨j0, hj0, hsv0⟩ := svf_lookup hfs hl
          have hj0b := jmaxF_lookup hj0
          refine andThen_ne_fuelOut (ih.val v j0 mst hsv0 (by omega)) fun v' s hz =>
            ih.fields ks _ gs s (svf_setF (fun j hj => ?_) hfs hl) (by omega)
          have := ((dfs_forced hf n).val v j mst hj).1
          rw [hz] at this
          exact this
    · intro xs js acc mst hxs hb
      cases hxs with
      | nil => rw [dfsItems_nil]; nofun
      | @cons x j xs js hx hrest =>
        rw [dfsItems_cons]
        simp only [List.length_cons, jmaxL] at hb
        exact andThen_ne_fuelOut (ih.val x j mst hx (by omega)) fun x' s _ => ih.items xs js (acc ++ [x']) s hrest (by omega)

theorem frcNF_forceAll (hac : Acyclic c.frags rank) (hfr : FragsOK c pv) :
    FrcNF c pv rank F (forceAll c (recompute c.schema c.frags pv) F) :=
  fun cl j mst hwit => forceAll_nf hac hfr cl j hwit mst

end

end GqlModel.Plan
