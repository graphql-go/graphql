import GqlProofs.ExecLeaf
import GqlProofs.ExecStep
/-! C04: every value the execution algorithm produces conforms to schema and query (`response_conforms`),
by simultaneous induction on the fuel of the four mutually recursive functions. -/
namespace GqlModel.Exec

theorem conforms_null_of_nullable (c : Ctx) {t : GType} (nodes : List FieldNode) (h : t.isNonNull = false) :
    Conforms c t nodes .null := by
  cases t with
  | named n => exact .null
  | list t => exact .listNull
  | nonNull t => cases h

structure ConfP (c : Ctx) (fuel : Nat) : Prop where
  groups : ∀ dfr rt src path groups acc st fs st' (G : Groups),
    execGroups c fuel dfr rt src path groups acc st = (.ok fs, st') →
    (∀ g, g ∈ groups → g ∈ G) → FieldsConform c rt G acc → FieldsConform c rt G fs
  field : ∀ dfr rt src p fd nodes st v st',
    execField c fuel dfr rt src p fd nodes st = (.ok v, st') →
    (fd.name = "__typename" ∧ v = .str rt) ∨ (fd.name ≠ "__typename" ∧ Conforms c fd.type nodes v)
  complete : ∀ dfr t rt fname nodes p v st j st',
    complete c fuel dfr t rt fname nodes p v st = (.ok j, st') → Conforms c t nodes j
  items : ∀ dfr item rt fname nodes p xs i acc st js st',
    completeItems c fuel dfr item rt fname nodes p xs i acc st = (.ok js, st') →
    (∀ x, x ∈ acc → Conforms c item nodes x) → ∀ x, x ∈ js → Conforms c item nodes x

theorem conforms_of_absorbed (c : Ctx) {t : GType} (nodes : List FieldNode) {v : JVal}
    (h : Res.ok v = absorb t .fail) : Conforms c t nodes v := by
  rcases absorb_fail_cases t with ⟨-, ha⟩ | ⟨hnn, ha⟩
  · cases h.trans ha
  · cases h.trans ha
    exact conforms_null_of_nullable c nodes hnn

theorem confP_succ {c : Ctx} {fuel : Nat} (ih : ConfP c fuel) : ConfP c (fuel + 1) where
  groups := by
    intro dfr rt src path groups acc st fs st' G h hG hacc
    generalize hr : Res.ok fs = r at h
    cases GroupsStep.of_eq h with
    | nil => cases hr; exact hacc
    | skip _ h =>
      subst hr
      exact ih.groups _ _ _ _ _ _ _ _ _ G h (fun g hg => hG g (List.mem_cons_of_mem _ hg)) hacc
    | ok hh hfd hf h =>
      subst hr
      refine ih.groups _ _ _ _ _ _ _ _ _ G h (fun g hg => hG g (List.mem_cons_of_mem _ hg))
        (List.forall_mem_append.mpr ⟨hacc, List.forall_mem_singleton.mpr ?_⟩)
      have hname := fieldDef?_name hfd
      rcases ih.field _ _ _ _ _ _ _ _ _ hf with ⟨h1, h2⟩ | ⟨h1, h2⟩
      · subst h2
        exact .typename (hG _ List.mem_cons_self) hh (hname ▸ h1)
      · exact .field (hG _ List.mem_cons_self) hh (hname ▸ h1) hfd h2
    | fail | fuelOut => cases hr
  field := by
    intro dfr rt src p fd nodes st v st' h
    generalize hr : Res.ok v = r at h
    cases FieldStep.of_eq h with
    | typename hn => cases hr; exact .inl ⟨eq_of_beq hn, rfl⟩
    | resolverFails hn => exact .inr ⟨ne_of_beq_false hn, conforms_of_absorbed c nodes hr⟩
    | @value _ r1 _ hn _ hc =>
      refine .inr ⟨ne_of_beq_false hn, ?_⟩
      cases r1 with
      | ok j => cases hr; exact ih.complete _ _ _ _ _ _ _ _ _ _ hc
      | fail => exact conforms_of_absorbed c nodes hr
      | fuelOut => cases hr
  complete := by
    intro dfr t rt fname nodes p v st j st' h
    generalize hr : Res.ok j = r at h
    cases CompleteStep.of_eq h with
    | thunkErr | badFunc | thunkFail | nonNullNull | rejected => cases hr
    | thunkPass hc => subst hr; exact ih.complete _ _ _ _ _ _ _ _ _ _ hc
    | nonNullPass _ hc hne =>
      subst hr
      exact .nonNull (fun hj => hne (by rw [hj])) (ih.complete _ _ _ _ _ _ _ _ _ _ hc)
    | immediate _ hv =>
      cases hr
      cases hv with
      | nullList => exact .listNull
      | nullNamed => exact .null
      | leaf _ hleaf hs =>
        rcases serializeLeaf_legal _ _ _ _ hs with h0 | h1
        · rw [h0]; exact .null
        · exact .leaf hleaf h1
    | @items _ _ _ r1 _ hi =>
      cases r1 with
      | ok js => cases hr; exact .list (ih.items _ _ _ _ _ _ _ _ _ _ _ _ hi (List.forall_mem_nil _))
      | _ => cases hr
    | @object _ _ _ _ r1 _ _ _ ho hg =>
      cases r1 with
      | ok fs =>
        cases hr
        have hfs := ih.groups _ _ _ _ _ _ _ _ _ _ hg (fun g hg => hg) (List.forall_mem_nil _)
        cases ho with
        | abstract _ habs _ hobj hposs => exact .abstract habs hobj hposs hfs
        | object _ _ hobj => exact .object hobj hfs
      | _ => cases hr
  items := by
    intro dfr item rt fname nodes p xs i acc st js st' h hacc
    generalize hr : Res.ok js = r at h
    have hsnoc : ∀ {y}, Conforms c item nodes y → ∀ x, x ∈ acc ++ [y] → Conforms c item nodes x :=
      fun hy => List.forall_mem_append.mpr ⟨hacc, List.forall_mem_singleton.mpr hy⟩
    cases ItemsStep.of_eq h with
    | nil => cases hr; exact hacc
    | ok hc h => subst hr; exact ih.items _ _ _ _ _ _ _ _ _ _ _ _ h (hsnoc (ih.complete _ _ _ _ _ _ _ _ _ _ hc))
    | absorbed _ hnn h =>
      subst hr
      exact ih.items _ _ _ _ _ _ _ _ _ _ _ _ h (hsnoc (conforms_null_of_nullable c nodes hnn))
    | fail | fuelOut => cases hr

theorem confP (c : Ctx) : ∀ fuel, ConfP c fuel
  | 0 => by
    refine ⟨?_, ?_, ?_, ?_⟩
    · intro dfr rt src path groups acc st fs st' G h
      cases execGroups_zero.symm.trans h
    · intro dfr rt src p fd nodes st v st' h
      cases execField_zero.symm.trans h
    · intro dfr t rt fname nodes p v st j st' h
      cases complete_zero.symm.trans h
    · intro dfr item rt fname nodes p xs i acc st js st' h
      cases completeItems_zero.symm.trans h
  | fuel + 1 => confP_succ (confP c fuel)

theorem execGroups_conforms {c : Ctx} {fuel : Nat} {dfr : Bool} {rt : String} {src : GoVal} {path : Path}
    {groups G : Groups} {acc fs : List (String × JVal)} {st st' : St}
    (hrun : execGroups c fuel dfr rt src path groups acc st = (.ok fs, st')) (hsub : ∀ g, g ∈ groups → g ∈ G)
    (hacc : FieldsConform c rt G acc) : FieldsConform c rt G fs :=
  (confP c fuel).groups dfr rt src path groups acc st fs st' G hrun hsub hacc

end GqlModel.Exec
