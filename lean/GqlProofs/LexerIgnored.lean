import GqlProofs.LexerUtf8
import GqlModel.LexerSpec
/-! A test on the decoded rune is a test on the byte (`code_cases`); with that, M = S for `positionAfterWhitespace`
(`Spec.ignoredLen`) and `readName` (`Spec.nameLen`). -/
namespace GqlModel.Lexer
open GqlModel.Utf8 GqlModel.Lexer.Spec

theorem runeAt_nil : runeAt [] = (-1, 65533) := rfl

theorem runeAt_ascii (c : UInt8) (r : Bytes) (h : c.toNat < 128) : runeAt (c :: r) = ((c.toNat : Int), 1) := by
  simp [runeAt, h]

theorem runeAt_spec (c : UInt8) (r : Bytes) :
    (c.toNat < 128 ∧ runeAt (c :: r) = ((c.toNat : Int), 1)) ∨
    (128 ≤ c.toNat ∧ ∃ (code n : Nat), runeAt (c :: r) = ((code : Int), n) ∧ 128 ≤ code ∧ 1 ≤ n ∧ n ≤ r.length + 1 ∧
      (∀ b ∈ (c :: r).take n, 128 ≤ b.toNat) ∧
      (code = 0xFEFF ↔ ∃ r', c = 0xEF ∧ r = 0xBB :: 0xBF :: r') ∧ (code = 0xFEFF → n = 3)) := by
  by_cases h : c.toNat < 128
  · exact Or.inl ⟨h, runeAt_ascii c r h⟩
  · have h' : 128 ≤ c.toNat := by omega
    obtain ⟨h1, h2, h3, h4, h5, h6⟩ := decodeRune_high c r h'
    refine Or.inr ⟨h', (decodeRune (c :: r)).1, (decodeRune (c :: r)).2, ?_, h1, h2, by simpa using h3, h4, h5, h6⟩
    simp [runeAt, h]

/-! ### the code of the rune at a byte, compared with ASCII constants, is decided by the byte -/
section code
variable (c : UInt8) (r : Bytes)

theorem code_cases : (runeAt (c :: r)).1 = c.toNat ∨ (128 ≤ (runeAt (c :: r)).1 ∧ 128 ≤ (c.toNat : Int)) := by
  rcases runeAt_spec c r with ⟨h, e⟩ | ⟨h, code, n, e, hc, -⟩
  · exact .inl (by rw [e])
  · exact .inr ⟨by rw [e]; exact Int.ofNat_le.2 hc, Int.ofNat_le.2 h⟩

theorem code_eq (k : Int) (hk : k < 128) : (runeAt (c :: r)).1 = k ↔ (c.toNat : Int) = k := by
  have := code_cases c r; omega
theorem code_le (k : Int) (hk : k < 128) : (runeAt (c :: r)).1 ≤ k ↔ (c.toNat : Int) ≤ k := by
  have := code_cases c r; omega
theorem le_code (k : Int) (hk : k ≤ 128) : k ≤ (runeAt (c :: r)).1 ↔ k ≤ (c.toNat : Int) := by
  have := code_cases c r; omega
theorem code_lt (k : Int) (hk : k ≤ 128) : (runeAt (c :: r)).1 < k ↔ (c.toNat : Int) < k := by
  have := code_cases c r; omega
theorem lt_code (k : Int) (hk : k < 128) : k < (runeAt (c :: r)).1 ↔ k < (c.toNat : Int) := by
  have := code_cases c r; omega
theorem code_ne (k : Int) (hk : k < 128) : (runeAt (c :: r)).1 ≠ k ↔ (c.toNat : Int) ≠ k :=
  not_congr (code_eq c r k hk)
theorem width_ascii (h : c.toNat < 128) : (runeAt (c :: r)).2 = 1 := by rw [runeAt_ascii c r h]

/-! The same with a numeral on the right, as rewrite rules that turn the conditions of the Go code (on the rune) into
those of the grammar (on the byte): `simp only [code_eq_byte, …, Nat.reduceLT]`, the simproc deciding the side condition.
`no_index`: a numeral is a literal to `simp`'s index and would not match `OfNat.ofNat n`. -/

theorem toNat_eq_ofNat (n : Nat) (hn : n < 256) : (c.toNat : Int) = (OfNat.ofNat n : Int) ↔ c = OfNat.ofNat n := by
  rw [← UInt8.toNat_inj, UInt8.toNat_ofNat, Nat.mod_eq_of_lt hn]
  exact Int.ofNat_inj
theorem code_eq_byte (n : Nat) (hn : n < 128) :
    (runeAt (c :: r)).1 = (no_index (OfNat.ofNat n) : Int) ↔ c = OfNat.ofNat n :=
  (code_eq c r _ (Int.ofNat_lt.2 hn)).trans (toNat_eq_ofNat c n (Nat.lt_trans hn (by decide)))
theorem code_lt_byte (n : Nat) (hn : n < 129) :
    (runeAt (c :: r)).1 < (no_index (OfNat.ofNat n) : Int) ↔ c.toNat < OfNat.ofNat n :=
  (code_lt c r _ (Int.ofNat_le.2 (Nat.le_of_lt_succ hn))).trans Int.ofNat_lt
theorem code_gt_byte (n : Nat) (hn : n < 128) :
    (runeAt (c :: r)).1 > (no_index (OfNat.ofNat n) : Int) ↔ c.toNat > OfNat.ofNat n :=
  (lt_code c r _ (Int.ofNat_lt.2 hn)).trans Int.ofNat_lt
theorem code_le_byte (n : Nat) (hn : n < 128) :
    (runeAt (c :: r)).1 ≤ (no_index (OfNat.ofNat n) : Int) ↔ c.toNat ≤ OfNat.ofNat n :=
  (code_le c r _ (Int.ofNat_lt.2 hn)).trans Int.ofNat_le
theorem le_code_byte (n : Nat) (hn : n < 129) :
    (no_index (OfNat.ofNat n) : Int) ≤ (runeAt (c :: r)).1 ↔ OfNat.ofNat n ≤ c.toNat :=
  (le_code c r _ (Int.ofNat_le.2 (Nat.le_of_lt_succ hn))).trans Int.ofNat_le
end code

theorem code_eq_head (l : Bytes) (n : Nat) (hn : n < 128) :
    (runeAt l).1 = (no_index (OfNat.ofNat n) : Int) ↔ l.head? = some (OfNat.ofNat n) := by
  match l with
  | [] => exact ⟨fun h => absurd (show (0 : Int) ≤ -1 from (show (-1 : Int) = (n : Int) from h) ▸ Int.natCast_nonneg n) (by decide), nofun⟩
  | c :: r => rw [code_eq_byte c r n hn, List.head?_cons, Option.some.injEq]

theorem hasHigh_cons (c : UInt8) (l : Bytes) : hasHigh (c :: l) = (decide (128 ≤ c.toNat) || hasHigh l) := by
  simp [hasHigh]

theorem hasHigh_append (a b : Bytes) : hasHigh (a ++ b) = (hasHigh a || hasHigh b) := by
  simp [hasHigh]

@[simp] theorem hasHigh_nil : hasHigh [] = false := rfl

theorem hasHigh_of_mem {l : Bytes} {b : UInt8} (hb : b ∈ l) (h : 128 ≤ b.toNat) : hasHigh l = true := by
  simp only [hasHigh, List.any_eq_true]; exact ⟨b, hb, by simpa using h⟩

theorem hasHigh_take_head {c : UInt8} {r : Bytes} {n : Nat} (hge : 128 ≤ c.toNat) (hn : 1 ≤ n) :
    hasHigh ((c :: r).take n) = true := by
  obtain ⟨m, rfl⟩ : ∃ m, n = m + 1 := ⟨n - 1, by omega⟩
  rw [List.take_succ_cons, hasHigh_cons, decide_eq_true hge, Bool.true_or]

theorem hasHigh_take {l : Bytes} (n : Nat) (h : hasHigh l = false) : hasHigh (l.take n) = false := by
  simp only [hasHigh, List.any_eq_false] at h ⊢
  intro b hb; exact h b (List.mem_of_mem_take hb)

theorem hasHigh_drop {l : Bytes} (n : Nat) (h : hasHigh l = false) : hasHigh (l.drop n) = false := by
  simp only [hasHigh, List.any_eq_false] at h ⊢
  intro b hb; exact h b (List.mem_of_mem_drop hb)

theorem spanLen_eq_takeWhile (p : UInt8 → Bool) (l : Bytes) : spanLen p l = (l.takeWhile p).length := by
  induction l with
  | nil => rfl
  | cons c r ih => cases h : p c <;> simp [spanLen, h, ih]

theorem spanLen_le (p : UInt8 → Bool) (l : Bytes) : spanLen p l ≤ l.length :=
  spanLen_eq_takeWhile p l ▸ (List.takeWhile_sublist p).length_le

def commentLen : Bytes → Nat
  | [] => 0
  | c :: r => if isCommentByte c then commentLen r + 1 else 0

theorem commentLen_eq_spanLen (l : Bytes) : commentLen l = spanLen (fun c => decide (isCommentByte c)) l := by
  induction l with
  | nil => rfl
  | cons c r ih => simp [commentLen, spanLen, ih]

theorem ignoredLen_false_cons (d : UInt8) (t : Bytes) : ignoredLen false (d :: t) =
    if d = 9 ∨ d = 32 ∨ d = 10 ∨ d = 13 ∨ d = 44 then ignoredLen false t + 1
    else if d = 35 then ignoredLen true t + 1
    else if d = 0xEF then
      match t with
      | b1 :: b2 :: r' => if b1 = 0xBB ∧ b2 = 0xBF then ignoredLen false r' + 3 else 0
      | _ => 0
    else 0 := by
  -- the equation compiler splits `ignoredLen` on the nested pattern `b1 :: b2 :: r'`: one `rfl` per shape of the tail
  match t with
  | [] => rfl
  | [_] => rfl
  | _ :: _ :: _ => rfl

theorem ignoredLen_true_cons (c : UInt8) (r : Bytes) : ignoredLen true (c :: r) =
    if c = 10 ∨ c = 13 then ignoredLen false r + 1
    else if isCommentByte c then ignoredLen true r + 1
    else 0 := by
  match r with
  | [] => rfl
  | [_] => rfl
  | _ :: _ :: _ => rfl

theorem isCommentByte_iff (c : UInt8) : isCommentByte c ↔ (c.toNat = 9 ∨ 32 ≤ c.toNat) := by
  unfold isCommentByte; bnorm

theorem not_isCommentByte_of_lineTerminator {c : UInt8} (h : c = 10 ∨ c = 13) : ¬ isCommentByte c := by
  rcases h with rfl | rfl <;> decide

theorem ignoredLen_true (rest : Bytes) :
    ignoredLen true rest = commentLen rest + ignoredLen false (rest.drop (commentLen rest)) := by
  induction rest with
  | nil => rfl
  | cons c r ih =>
    rw [ignoredLen_true_cons, commentLen]
    by_cases h2 : isCommentByte c
    · rw [if_neg (fun h1 => not_isCommentByte_of_lineTerminator h1 h2), if_pos h2, if_pos h2, ih, List.drop_succ_cons]
      omega
    · rw [if_neg h2, if_neg h2, List.drop_zero, Nat.zero_add, ignoredLen_false_cons]
      -- what is not a comment byte is a control character other than TAB
      have ne : ∀ b : UInt8, isCommentByte b → ¬ c = b := fun b hb h => h2 (h ▸ hb)
      by_cases h1 : c = 10 ∨ c = 13
      · rw [if_pos h1, if_pos (h1.elim (fun h => .inr (.inr (.inl h))) (fun h => .inr (.inr (.inr (.inl h)))))]
      · have h3 : ¬ (c = 9 ∨ c = 32 ∨ c = 10 ∨ c = 13 ∨ c = 44) := by
          rintro (h | h | h | h | h)
          · exact ne 9 (by decide) h
          · exact ne 32 (by decide) h
          · exact h1 (.inl h)
          · exact h1 (.inr h)
          · exact ne 44 (by decide) h
        rw [if_neg h1, if_neg h3, if_neg (ne 35 (by decide)), if_neg (ne 0xEF (by decide))]

theorem commentLen_le (rest : Bytes) : commentLen rest ≤ rest.length := by
  rw [commentLen_eq_spanLen]; exact spanLen_le _ rest

theorem commentLen_high (n : Nat) (rest : Bytes) (hlen : n ≤ rest.length) (hall : ∀ b ∈ rest.take n, 128 ≤ b.toNat) :
    commentLen rest = n + commentLen (rest.drop n) := by
  have h : ∀ b ∈ rest.take n, decide (isCommentByte b) = true :=
    fun b hb => decide_eq_true (Or.inr (Nat.le_trans (by decide) (hall b hb)))
  rw [commentLen_eq_spanLen, commentLen_eq_spanLen, spanLen_eq_takeWhile, spanLen_eq_takeWhile]
  conv => lhs; rw [← List.take_append_drop n rest, List.takeWhile_append_of_pos h]
  rw [List.length_append, List.length_take, Nat.min_eq_left hlen]

/-- the cursors `res` after skipping the `L` bytes at the head of `rest`: they count for at most `L` runes, for exactly
`L` when all of them are ASCII -/
def Skips (rest : Bytes) (p rp : Nat) (res : Bytes × Nat × Nat) (L : Nat) : Prop :=
  ∃ k, res = (rest.drop L, p + L, rp + k) ∧ k ≤ L ∧ (hasHigh (rest.take L) = false → k = L)

theorem Skips.zero (rest : Bytes) (p rp : Nat) : Skips rest p rp (rest, p, rp) 0 := ⟨0, rfl, Nat.le_refl 0, fun _ => rfl⟩

/-- first the `n` bytes `hd`, which are `j` runes, then `L` more -/
theorem Skips.step {rest hd tail : Bytes} {p rp n j L : Nat} {res : Bytes × Nat × Nat} (hrest : rest = hd ++ tail)
    (hn : hd.length = n) (hj : j ≤ n) (hasc : hasHigh hd = false → j = n) (h : Skips tail (p + n) (rp + j) res L) :
    Skips rest p rp res (L + n) := by
  subst hrest hn
  obtain ⟨k, hk, hle, hk'⟩ := h
  rw [Nat.add_comm L]
  refine ⟨j + k, ?_, Nat.add_le_add hj hle, fun hh => ?_⟩
  · rw [hk, List.drop_length_add_append, Nat.add_assoc, Nat.add_assoc]
  · rw [List.take_length_add_append, hasHigh_append, Bool.or_eq_false_iff] at hh
    rw [hasc hh.1, hk' hh.2]

theorem Skips.append {rest t : Bytes} {p rp q rq L1 L2 : Nat} {res : Bytes × Nat × Nat}
    (h1 : Skips rest p rp (t, q, rq) L1) (h2 : Skips t q rq res L2) : Skips rest p rp res (L1 + L2) := by
  obtain ⟨k1, e1, hle1, hk1⟩ := h1
  obtain ⟨k2, e2, hle2, hk2⟩ := h2
  cases e1
  refine ⟨k1 + k2, ?_, Nat.add_le_add hle1 hle2, fun hh => ?_⟩
  · rw [e2, List.drop_drop, Nat.add_assoc, Nat.add_assoc]
  · rw [List.take_add, hasHigh_append, Bool.or_eq_false_iff] at hh
    rw [hk1 hh.1, hk2 hh.2]

theorem Skips.rune {c : UInt8} {r : Bytes} {p rp n L : Nat} {res : Bytes × Nat × Nat} (hge : 128 ≤ c.toNat) (hn1 : 1 ≤ n)
    (hn2 : n ≤ r.length + 1) (h : Skips ((c :: r).drop n) (p + n) (rp + 1) res L) : Skips (c :: r) p rp res (L + n) := by
  refine Skips.step (List.take_append_drop n (c :: r)).symm ?_ hn1 (fun hh => ?_) h
  · rw [List.length_take]; exact Nat.min_eq_left hn2
  · rw [hasHigh_take_head hge hn1] at hh; cases hh

theorem skipComment_spec : ∀ (f : Nat) (rest : Bytes) (p rp : Nat), rest.length < f →
    Skips rest p rp (skipComment f rest p rp) (commentLen rest) := by
  intro f
  induction f with
  | zero => intro rest p rp h; omega
  | succ f ih =>
    intro rest p rp hlen
    match rest with
    | [] => exact .zero [] p rp
    | c :: r =>
      simp only [skipComment, ne_eq, reduceCtorEq, not_false_eq_true, true_and]
      simp only [code_eq_byte, code_gt_byte, Nat.reduceLT]
      have hcond : (¬ c = 0 ∧ (c.toNat > 31 ∨ c = 9) ∧ ¬ c = 10 ∧ ¬ c = 13) ↔ isCommentByte c := by
        rw [isCommentByte_iff]; bnorm; omega
      by_cases hcm : isCommentByte c
      · rw [if_pos (hcond.2 hcm)]
        rcases runeAt_spec c r with ⟨hlt, hr⟩ | ⟨hge, code, n, hr, -, hn1, hn2, hall, -, -⟩
        · rw [hr, commentLen, if_pos hcm]
          exact Skips.step (hd := [c]) rfl rfl (Nat.le_refl 1) (fun _ => rfl) (ih r (p + 1) (rp + 1) (Nat.lt_of_succ_lt_succ hlen))
        · rw [hr, commentLen_high n (c :: r) hn2 hall, Nat.add_comm n]
          exact Skips.rune hge hn1 hn2 (ih ((c :: r).drop n) (p + n) (rp + 1)
            (by rw [List.length_drop]; simp only [List.length_cons] at hlen ⊢; omega))
      · rw [if_neg (fun h => hcm (hcond.1 h)), commentLen, if_neg hcm]
        exact .zero _ p rp

theorem code_eq_bom (c : UInt8) (r : Bytes) :
    (runeAt (c :: r)).1 = 0xFEFF ↔ ∃ r', c = 0xEF ∧ r = 0xBB :: 0xBF :: r' := by
  rcases runeAt_spec c r with ⟨hlt, hr⟩ | ⟨-, code, n, hr, -, -, -, -, hbom, -⟩
  · rw [hr]
    constructor
    · intro h; simp only at h; omega
    · rintro ⟨r', rfl, -⟩; exact absurd hlt (by decide)
  · rw [hr, ← hbom]; exact Int.ofNat_inj

theorem isIgnoredCode_iff (c : UInt8) (r : Bytes) : isIgnoredCode (runeAt (c :: r)).1 ↔
    ((c = 9 ∨ c = 32 ∨ c = 10 ∨ c = 13 ∨ c = 44) ∨ ∃ r', c = 0xEF ∧ r = 0xBB :: 0xBF :: r') := by
  unfold isIgnoredCode
  simp only [code_eq_bom, code_eq_byte, Nat.reduceLT]
  exact or_comm

theorem paw_spec : ∀ (f : Nat) (rest : Bytes) (p rp : Nat), rest.length < f →
    ∃ k, positionAfterWhitespace f rest p rp = (rest.drop (ignoredLen false rest), p + ignoredLen false rest, rp + k) ∧
      k ≤ ignoredLen false rest ∧ (hasHigh (rest.take (ignoredLen false rest)) = false → k = ignoredLen false rest) := by
  intro f
  induction f with
  | zero => intro rest p rp h; omega
  | succ f ih =>
    intro rest p rp hlen
    match rest with
    | [] => exact ⟨0, by simp [positionAfterWhitespace, ignoredLen]⟩
    | c :: r =>
      simp only [List.length_cons] at hlen
      simp only [positionAfterWhitespace, ne_eq, reduceCtorEq, not_false_eq_true, if_true]
      by_cases hws : (c = 9 ∨ c = 32 ∨ c = 10 ∨ c = 13 ∨ c = 44)
      · -- white space, line terminator, comma
        have hlt : c.toNat < 128 := by rcases hws with rfl | rfl | rfl | rfl | rfl <;> decide
        rw [ignoredLen_false_cons, if_pos ((isIgnoredCode_iff c r).mpr (Or.inl hws)), if_pos hws, width_ascii c r hlt]
        exact Skips.step (hd := [c]) rfl rfl (Nat.le_refl 1) (fun _ => rfl) (ih r (p + 1) (rp + 1) (by omega))
      · by_cases hbom : ∃ r', c = 0xEF ∧ r = 0xBB :: 0xBF :: r'
        · -- BOM
          rw [ignoredLen_false_cons, if_neg hws, if_pos ((isIgnoredCode_iff c r).mpr (Or.inr hbom))]
          obtain ⟨r', rfl, rfl⟩ := hbom
          have hw : (runeAt (0xEF :: 0xBB :: 0xBF :: r')).2 = 3 := by
            simp [runeAt, decodeRune_bom]
          rw [hw]
          simp (decide := true) only [if_true, if_false]
          exact Skips.step (hd := [0xEF, 0xBB, 0xBF]) rfl rfl (by decide) (fun hh => absurd hh (by decide))
            (ih r' (p + 3) (rp + 1) (by simp at hlen; omega))
        · rw [if_neg (by rw [isIgnoredCode_iff]; exact fun h => h.elim hws hbom)]
          simp only [code_eq_byte, Nat.reduceLT]
          by_cases h35 : c = 35
          · -- comment
            subst h35
            rw [ignoredLen_false_cons, if_neg hws, if_pos rfl, if_pos rfl, width_ascii 35 r (by decide), ignoredLen_true]
            have h1 := skipComment_spec f r (p + 1) (rp + 1) (by omega)
            obtain ⟨k1, hk1, -, -⟩ := id h1
            have h2 := ih (r.drop (commentLen r)) (p + 1 + commentLen r) (rp + 1 + k1)
              (by rw [List.length_drop]; omega)
            simp only [List.drop_succ_cons, List.drop_zero]
            rw [hk1] at h1 ⊢
            exact Skips.step (hd := [35]) rfl rfl (Nat.le_refl 1) (fun _ => rfl) (h1.append h2)
          · -- no Ignored here: `EF` not followed by `BB BF` is no BOM
            have hz : ignoredLen false (c :: r) = 0 := by
              rw [ignoredLen_false_cons, if_neg hws, if_neg h35]
              by_cases hef : c = 0xEF
              · rw [if_pos hef]
                match r with
                | [] => rfl
                | [_] => rfl
                | b1 :: b2 :: r' => exact if_neg fun h => hbom ⟨r', hef, by rw [h.1, h.2]⟩
              · rw [if_neg hef]
            rw [if_neg h35, hz]
            exact Skips.zero _ p rp

theorem isNameStart_iff (c : UInt8) (r : Bytes) : isNameStart (runeAt (c :: r)).1 ↔ isNameStartByte c := by
  unfold isNameStart isNameStartByte
  simp only [code_eq_byte, code_le_byte, le_code_byte, Nat.reduceLT]

theorem isDigitCode_iff (c : UInt8) (r : Bytes) : isDigitCode (runeAt (c :: r)).1 ↔ isDigitByte c := by
  unfold isDigitCode isDigitByte
  simp only [code_le_byte, le_code_byte, Nat.reduceLT]

theorem isNameCont_iff (c : UInt8) (r : Bytes) : isNameCont (runeAt (c :: r)).1 ↔ isNameContByte c := by
  unfold isNameContByte
  rw [← isNameStart_iff c r, ← isDigitCode_iff c r]
  unfold isNameCont isNameStart isDigitCode
  exact ⟨fun h => h.elim (fun a => .inl (.inl a)) fun h => h.elim .inr fun h => .inl (.inr h),
    fun h => h.elim (fun h => h.elim .inl fun h => .inr (.inr h)) fun d => .inr (.inl d)⟩

theorem nameLen_cons (c : UInt8) (r : Bytes) :
    nameLen (c :: r) = if isNameContByte c then nameLen r + 1 else 0 := by
  simp [nameLen, spanLen]

theorem digitsLen_cons (c : UInt8) (r : Bytes) :
    digitsLen (c :: r) = if isDigitByte c then digitsLen r + 1 else 0 := by
  simp [digitsLen, spanLen]

theorem digitsLen_le (bs : Bytes) : digitsLen bs ≤ bs.length := spanLen_le _ bs

theorem readNameLoop_spec : ∀ (r : Bytes) (eb er : Nat), readNameLoop r eb er = (eb + nameLen r, er + nameLen r) := by
  intro r
  induction r with
  | nil => intro eb er; simp [readNameLoop, nameLen, spanLen]
  | cons c r ih =>
    intro eb er
    rw [readNameLoop, nameLen_cons]
    simp only [isNameCont_iff]
    split
    · rw [ih]; simp only [Prod.mk.injEq]; omega
    · simp

theorem readName_spec (c : UInt8) (r : Bytes) (p rp : Nat) (h : isNameStartByte c) :
    readName (c :: r) p rp = makeToken .name rp (rp + nameLen (c :: r)) ((c :: r).take (nameLen (c :: r))) := by
  have hcont : isNameContByte c := Or.inl h
  simp only [readName, List.drop_succ_cons, List.drop_zero, readNameLoop_spec, nameLen_cons, hcont, if_true]
  congr 1
  · omega
  · congr 1; omega

end GqlModel.Lexer
