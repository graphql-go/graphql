import GqlProofs.LexerLexeme
/-! M = S: the `Lex` closure iterated like the parser does = the spec's token stream,
outside the two rune/byte known-finding classes. -/
namespace GqlModel.Lexer
open GqlModel.Lexer.Spec

theorem readTokenF_unfold (fuel : Nat) (body : Bytes) (p : Nat) :
    readTokenF fuel body p =
      if (positionAfterWhitespace fuel (body.drop p) p p).1 = [] then
        .ok (makeToken .eof (positionAfterWhitespace fuel (body.drop p) p p).2.1 (positionAfterWhitespace fuel (body.drop p) p p).2.1 [])
      else readTokenAt fuel (positionAfterWhitespace fuel (body.drop p) p p).1 (positionAfterWhitespace fuel (body.drop p) p p).2.1
        (positionAfterWhitespace fuel (body.drop p) p p).2.2 := rfl

/-- one step of the token stream: what `readToken` returns at byte offset `off`, in terms of the spec scan there; `k` is
the number of runes the Ignored gap of `g` bytes counts for, `off + k` the rune cursor after it, which a NAME carries (D-03a) -/
theorem readToken_spec (body : Bytes) (off : Nat) :
    let rest := body.drop off
    let g := ignoredLen false rest
    ∃ k, k ≤ g ∧ (hasHigh (rest.take g) = false → k = g) ∧
      match rest.drop g with
      | [] => readToken body off = .ok (makeToken .eof (off + g) (off + g) [])
      | c :: r =>
        match token (c :: r) with
        | .ok (kind, len, v) =>
          readToken body off = .ok (makeToken kind (if kind = .name then off + k else off + g)
            ((if kind = .name then off + k else off + g) + len) v)
        | .error (o, ek) =>
          ∃ q, readToken body off = .error ⟨q, ek⟩ ∧ (hasHigh ((c :: r).take o) = false → k = g → q = off + g + o) := by
  intro rest g
  have hfl : rest.length < body.length + 1 := by simp only [rest, List.length_drop]; omega
  obtain ⟨k, hk, hle, hasc⟩ := paw_spec (body.length + 1) rest off off hfl
  refine ⟨k, hle, hasc, ?_⟩
  unfold readToken
  rw [readTokenF_unfold]
  show match rest.drop g with
    | [] => _
    | c :: r => _
  simp only [show body.drop off = rest from rfl, hk]
  match hd : rest.drop g with
  | [] => simp; rfl
  | c :: r =>
    simp only [reduceCtorEq, if_false]
    have hl2 : (c :: r).length < body.length + 1 := by
      rw [← hd]; simp only [List.length_drop]; omega
    have := readTokenAt_agrees (body.length + 1) c r (off + g) (off + k) hl2
    match ht : token (c :: r) with
    | .ok (kind, len, v) => rw [this.ok ht]
    | .error (o, ek) =>
      obtain ⟨q, hq, hpos⟩ := this.error ht
      exact ⟨q, hq, fun h1 h2 => hpos h1 (by omega)⟩

theorem lexLoopG_eof (f : Nat) (rest : Bytes) (off : Nat) (h : rest.drop (ignoredLen false rest) = []) :
    lexLoopG (f + 1) rest off =
      ⟨[(rest.take (ignoredLen false rest), makeToken .eof (off + ignoredLen false rest) (off + ignoredLen false rest) [])], none⟩ := by
  simp only [lexLoopG, h]

theorem lexLoopG_err (f : Nat) (rest : Bytes) (off : Nat) {c : UInt8} {r : Bytes} {o : Nat} {k : ErrKind}
    (h : rest.drop (ignoredLen false rest) = c :: r) (ht : token (c :: r) = .error (o, k)) :
    lexLoopG (f + 1) rest off =
      ⟨[], some (rest.take (ignoredLen false rest + o), ⟨off + ignoredLen false rest + o, k⟩)⟩ := by
  simp only [lexLoopG, h, ht]

theorem lexLoopG_ok (f : Nat) (rest : Bytes) (off : Nat) {c : UInt8} {r : Bytes} {kind : TokenKind} {len : Nat} {v : Bytes}
    (h : rest.drop (ignoredLen false rest) = c :: r) (ht : token (c :: r) = .ok (kind, len, v)) :
    lexLoopG (f + 1) rest off =
      ⟨(rest.take (ignoredLen false rest),
          makeToken kind (off + ignoredLen false rest) (off + ignoredLen false rest + len) v) ::
          (lexLoopG f ((c :: r).drop len) (off + ignoredLen false rest + len)).tokens,
        (lexLoopG f ((c :: r).drop len) (off + ignoredLen false rest + len)).err⟩ := by
  simp only [lexLoopG, h, ht]

/-- **M = S on the token stream**, as long as no NAME token follows an Ignored gap containing a byte ≥ 0x80
(D-03a); the error site always agrees, the error offset when no byte ≥ 0x80 lies between the last token and it. -/
theorem lexLoop_spec (body : Bytes) : ∀ (f off : Nat),
    (∀ gt ∈ (lexLoopG f (body.drop off) off).tokens, gt.2.kind = .name → hasHigh gt.1 = false) →
    ∃ e, lexLoop f body off = ⟨(lexLoopG f (body.drop off) off).tokens.map (·.2), e⟩ ∧
      e.map (·.kind) = (lexLoopG f (body.drop off) off).err.map (·.2.kind) ∧
      ((∀ ge, (lexLoopG f (body.drop off) off).err = some ge → hasHigh ge.1 = false) →
        e = (lexLoopG f (body.drop off) off).err.map (·.2)) := by
  intro f
  induction f with
  | zero => intro off _; exact ⟨some ⟨off, .fuel⟩, by simp [lexLoop, lexLoopG], by simp [lexLoopG], by simp [lexLoopG]⟩
  | succ f ih =>
    intro off hname
    obtain ⟨k, hle, hasc, hstep⟩ := readToken_spec body off
    match hd : (body.drop off).drop (ignoredLen false (body.drop off)) with
    | [] =>
      rw [hd] at hstep; simp only at hstep
      rw [lexLoopG_eof f _ off hd]
      refine ⟨none, ?_, rfl, fun _ => rfl⟩
      simp [lexLoop, hstep, makeToken]
    | c :: r =>
      rw [hd] at hstep; simp only at hstep
      match ht : token (c :: r) with
      | .error (o, ek) =>
        rw [ht] at hstep; simp only at hstep
        obtain ⟨q, hq, hpos⟩ := hstep
        rw [lexLoopG_err f _ off hd ht]
        refine ⟨some ⟨q, ek⟩, by simp [lexLoop, hq], rfl, ?_⟩
        intro hh
        have hh' := hh _ rfl
        simp only at hh'
        rw [List.take_add, hasHigh_append, hd] at hh'
        simp only [Bool.or_eq_false_iff] at hh'
        have := hpos hh'.2 (hasc hh'.1)
        simp [this]
      | .ok (kind, len, v) =>
        rw [ht] at hstep; simp only at hstep
        rw [lexLoopG_ok f _ off hd ht] at hname ⊢
        have hkind : kind ≠ .eof := token_ne_eof ht
        have hstart : (if kind = .name then off + k else off + ignoredLen false (body.drop off)) =
            off + ignoredLen false (body.drop off) := by
          by_cases hn : kind = .name
          · have := hname _ (List.mem_cons_self ..) (by simpa [makeToken] using hn)
            simp only at this
            rw [if_pos hn, hasc this]
          · rw [if_neg hn]
        rw [hstart] at hstep
        have hdrop : body.drop (off + ignoredLen false (body.drop off) + len) = (c :: r).drop len := by
          rw [← hd, List.drop_drop, List.drop_drop, Nat.add_assoc]
        have ih' := ih (off + ignoredLen false (body.drop off) + len)
          (by rw [hdrop]; intro gt hgt; exact hname gt (List.mem_cons_of_mem _ hgt))
        rw [hdrop] at ih'
        obtain ⟨e, he, hek, hee⟩ := ih'
        refine ⟨e, ?_, hek, hee⟩
        simp only [lexLoop, hstep, makeToken, hkind, if_false, he, List.map_cons]

end GqlModel.Lexer
