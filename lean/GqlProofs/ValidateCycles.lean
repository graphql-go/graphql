import GqlProofs.CycleFrame
/-! # Helper lemmas for C02 / C09: the cycle DFS of NoFragmentCycles

`detect_spec`: `spreadPath` / `spreadPathIndexByName` are restored on return; an error is reported only on a back edge to a
fragment on the current path, which lies on a cycle; without a new error the finished ("black") fragments stay closed under
defined successors and acyclic. Hence `cycleRun_spec`: with unique fragment names, `errs ≠ [] ↔ Cyclic`. The unconditional
frame facts (`detect_frame`, `cycleRun_no_oof`) are in `GqlProofs/CycleFrame.lean`. -/
namespace GqlModel.Validate.Graph

/-- the names of the fragments on the current path (the keys of `spreadPathIndexByName`) -/
def keys (st : CState) : List String := st.index.map Prod.fst

theorem lookup_none_iff (k : String) (l : List (String × Nat)) :
    List.lookup k l = none ↔ k ∉ l.map Prod.fst := by
  rw [List.lookup_eq_none_iff, List.mem_map]
  exact ⟨fun h ⟨p, hp, e⟩ => bne_iff_ne.1 (h p hp) e.symm, fun h p hp => bne_iff_ne.2 fun e => h ⟨p, hp, e.symm⟩⟩

theorem lookup_some_mem {k : String} {l : List (String × Nat)} {v : Nat} (h : List.lookup k l = some v) :
    k ∈ l.map Prod.fst := by
  by_cases hk : k ∈ l.map Prod.fst
  · exact hk
  · rw [(lookup_none_iff k l).2 hk] at h; cases h

theorem filter_keys_ne (l : List (String × Nat)) (k : String) (h : k ∉ l.map Prod.fst) :
    l.filter (fun p => p.1 != k) = l :=
  List.filter_eq_self.2 fun p hp => bne_iff_ne.2 fun e => h (List.mem_map.2 ⟨p, hp, e⟩)

theorem defined_of_edge {tbl : List Frag} {a b : String} (h : SpreadEdge tbl a b) : Defined tbl a := by
  rcases spreadEdge_iff.1 h with ⟨f, hf, _⟩
  exact lookupFrag_mem_names hf

theorem Reaches.defined {tbl : List Frag} {b c : String} (h : Reaches tbl b c) (hc : Defined tbl c) : Defined tbl b := by
  cases h with
  | refl => exact hc
  | step e _ => exact defined_of_edge e

/-- closed under edges into DEFINED fragments (undefined spread names are never entered) -/
def ClosedP (tbl : List Frag) (B : String → Prop) : Prop :=
  ∀ a b, B a → SpreadEdge tbl a b → Defined tbl b → B b

def AcycP (tbl : List Frag) (B : String → Prop) : Prop := ∀ a, B a → ¬ ReachesPlus tbl a a

theorem closed_reach {tbl : List Frag} {B : String → Prop} (hcl : ClosedP tbl B) {a c : String}
    (h : Reaches tbl a c) (hc : Defined tbl c) (ha : B a) : B c := by
  induction h with
  | refl => exact ha
  | step e hr ih =>
    rename_i a b c
    exact ih hc (hcl _ _ ha e (hr.defined hc))

/-- finished fragments: visited and no longer on the current path -/
def Black (st : CState) (x : String) : Prop := x ∈ st.visited ∧ x ∉ keys st

def BlackOK (tbl : List Frag) (st : CState) : Prop := ClosedP tbl (Black st) ∧ AcycP tbl (Black st)

theorem BlackOK.congr {tbl : List Frag} {st st' : CState} (h : ∀ x, Black st x ↔ Black st' x)
    (hb : BlackOK tbl st) : BlackOK tbl st' :=
  ⟨fun a b ha e d => (h b).1 (hb.1 a b ((h a).2 ha) e d), fun a ha => hb.2 a ((h a).2 ha)⟩

/-- what holds when `detectCycleRecursive(g)` is entered -/
structure Pre (tbl : List Frag) (fuel : Nat) (g : Frag) (st : CState) : Prop where
  self : lookupFrag tbl g.name.value = some g
  fresh : g.name.value ∉ st.visited
  offPath : g.name.value ∉ keys st
  fuelOK : unc (fragNames tbl) st.visited < fuel
  pathReach : ∀ k, k ∈ keys st → Reaches tbl k g.name.value

/-- what a stretch of the DFS from `st` to `st'` leaves behind; `extra` is what it establishes besides, if it reports
nothing -/
structure Eff (tbl : List Frag) (st st' : CState) (extra : Prop) : Prop where
  path : st'.path = st.path
  index : st'.index = st.index
  mono : ∀ x, x ∈ st.visited → x ∈ st'.visited
  errs : ∃ new, st'.errs = st.errs ++ new ∧ (new ≠ [] → Cyclic tbl) ∧
    (new = [] → BlackOK tbl st → BlackOK tbl st' ∧ extra)

def DSpec (tbl : List Frag) (fuel : Nat) (rec : Frag → CState → CState) : Prop :=
  ∀ g st, Pre tbl fuel g st → Eff tbl st (rec g st) (Black (rec g st) g.name.value)

theorem black_mono {st st' : CState} (hidx : st'.index = st.index) (hm : ∀ x, x ∈ st.visited → x ∈ st'.visited)
    {x : String} (h : Black st x) : Black st' x :=
  ⟨hm x h.1, by unfold keys; rw [hidx]; exact h.2⟩

theorem step_spec {tbl : List Frag} {fuel : Nat} {rec : Frag → CState → CState}
    (hrec : DSpec tbl fuel rec) (f : Frag)
    (hself : lookupFrag tbl f.name.value = some f) (st : CState) (sp : Spread)
    (hsp : sp.name ∈ spreadNames f.sel)
    (hpath : ∀ k, k ∈ keys st → Reaches tbl k f.name.value)
    (hfuel : unc (fragNames tbl) st.visited < fuel) :
    Eff tbl st (stepSpread tbl rec st sp) (Defined tbl sp.name → Black (stepSpread tbl rec st sp) sp.name) := by
  have hedge : SpreadEdge tbl f.name.value sp.name := spreadEdge_iff.2 ⟨f, hself, hsp⟩
  unfold stepSpread
  split
  · rename_i hnone
    have hoff : sp.name ∉ keys st := (lookup_none_iff _ _).1 hnone
    by_cases hv : sp.name ∈ st.visited
    · simp only [hv, if_true]
      refine ⟨by simp, rfl, fun x hx => hx, [], by simp, by simp, fun _ hb => ⟨hb, fun _ => ⟨hv, hoff⟩⟩⟩
    · simp only [hv, if_false]
      cases hl : lookupFrag tbl sp.name with
      | none =>
        refine ⟨by simp, rfl, fun x hx => hx, [], by simp, by simp, fun _ hb => ⟨hb, fun hd => ?_⟩⟩
        rcases lookupFrag_of_mem_names hd with ⟨g, hg⟩
        rw [hl] at hg; cases hg
      | some g =>
        have hg := lookupFrag_some hl
        have hpre : Pre tbl fuel g { st with path := st.path ++ [sp] } :=
          ⟨by rw [hg.2]; exact hl, by rw [hg.2]; exact hv, by rw [hg.2]; exact hoff, hfuel,
           fun k hk => by rw [hg.2]; exact (hpath k hk).tail hedge⟩
        have he := hrec g _ hpre
        refine ⟨?_, he.index, he.mono, ?_⟩
        · show (rec g _).path.dropLast = st.path
          rw [he.path]; simp
        · rcases he.errs with ⟨new, h1, h2, h3⟩
          refine ⟨new, h1, h2, fun hn hb => ?_⟩
          have := h3 hn hb
          refine ⟨this.1, fun _ => ?_⟩
          rw [← hg.2]
          exact this.2
  · rename_i ci hsome
    have hk : sp.name ∈ keys st := lookup_some_mem hsome
    refine ⟨rfl, rfl, fun x hx => hx, _, rfl, fun _ => ?_, fun hn => by simp at hn⟩
    exact ⟨f.name.value, sp.name, hedge, hpath _ hk⟩

theorem loop_spec {tbl : List Frag} {fuel : Nat} {rec : Frag → CState → CState}
    (hrec : DSpec tbl fuel rec) (f : Frag)
    (hself : lookupFrag tbl f.name.value = some f) (sps : List Spread) (st : CState)
    (hsp : ∀ sp, sp ∈ sps → sp.name ∈ spreadNames f.sel)
    (hpath : ∀ k, k ∈ keys st → Reaches tbl k f.name.value)
    (hfuel : unc (fragNames tbl) st.visited < fuel) :
    Eff tbl st (sps.foldl (stepSpread tbl rec) st)
      (∀ sp, sp ∈ sps → Defined tbl sp.name → Black (sps.foldl (stepSpread tbl rec) st) sp.name) := by
  induction sps generalizing st with
  | nil =>
    exact ⟨rfl, rfl, fun x hx => hx, [], by simp, by simp, fun _ hb => ⟨hb, fun sp h => by cases h⟩⟩
  | cons sp rest ih =>
    have h1 := step_spec hrec f hself st sp (hsp sp List.mem_cons_self) hpath hfuel
    have hkeys : keys (stepSpread tbl rec st sp) = keys st := by unfold keys; rw [h1.index]
    have hfuel' : unc (fragNames tbl) (stepSpread tbl rec st sp).visited < fuel :=
      Nat.lt_of_le_of_lt (unc_mono _ h1.mono) hfuel
    have h2 := ih (stepSpread tbl rec st sp) (fun sp' h => hsp sp' (List.mem_cons_of_mem _ h))
      (by rw [hkeys]; exact hpath) hfuel'
    simp only [List.foldl_cons]
    refine ⟨h2.path.trans h1.path, h2.index.trans h1.index, fun x hx => h2.mono x (h1.mono x hx), ?_⟩
    rcases h1.errs with ⟨n1, e1, c1, b1⟩
    rcases h2.errs with ⟨n2, e2, c2, b2⟩
    refine ⟨n1 ++ n2, by rw [e2, e1, List.append_assoc], fun hne => ?_, fun hnil hb => ?_⟩
    · by_cases hn1 : n1 = []
      · subst hn1; exact c2 (by simpa using hne)
      · exact c1 hn1
    · have hn1 : n1 = [] := (List.append_eq_nil_iff.1 hnil).1
      have hn2 : n2 = [] := (List.append_eq_nil_iff.1 hnil).2
      have s1 := b1 hn1 hb
      have s2 := b2 hn2 s1.1
      refine ⟨s2.1, fun sp' hmem hd => ?_⟩
      rcases List.mem_cons.1 hmem with rfl | hmem
      · exact black_mono h2.index h2.mono (s1.2 hd)
      · exact s2.2 sp' hmem hd

theorem detect_spec (tbl : List Frag) (fuel : Nat) : DSpec tbl fuel (detect tbl fuel) := by
  induction fuel with
  | zero => intro g st h; exact absurd h.fuelOK (Nat.not_lt_zero _)
  | succ fuel ih =>
    intro g st hpre
    have hgn : g.name.value ∈ fragNames tbl := lookupFrag_mem_names hpre.self
    have hlt : unc (fragNames tbl) (g.name.value :: st.visited) < fuel := by
      have := unc_cons_lt (fragNames tbl) st.visited g.name.value hgn hpre.fresh
      have := hpre.fuelOK
      omega
    simp only [detect, detectBody]
    split
    · -- a fragment without spreads: finished at once
      rename_i hempty
      have hnos : ∀ b, ¬ SpreadEdge tbl g.name.value b := by
        intro b hb
        rcases spreadEdge_iff.1 hb with ⟨f', hf', hb'⟩
        rw [hpre.self] at hf'; cases hf'
        rcases (mem_fragmentSpreads_names g.sel b).2 hb' with hm
        rw [List.isEmpty_iff.1 hempty] at hm
        cases hm
      refine ⟨rfl, rfl, fun x hx => List.mem_cons_of_mem _ hx, [], by simp, by simp, fun _ hb => ⟨⟨?_, ?_⟩, ?_⟩⟩
      · intro a b ha e d
        rcases List.mem_cons.1 ha.1 with h | h
        · exact absurd (h ▸ e) (hnos b)
        · exact ⟨List.mem_cons_of_mem _ (hb.1 a b ⟨h, ha.2⟩ e d).1, (hb.1 a b ⟨h, ha.2⟩ e d).2⟩
      · intro a ha
        rcases List.mem_cons.1 ha.1 with h | h
        · rintro ⟨b, e, _⟩; exact hnos b (h ▸ e)
        · exact hb.2 a ⟨h, ha.2⟩
      · exact ⟨List.mem_cons_self, hpre.offPath⟩
    · rename_i hne
      -- state at the start of the spread loop
      let st1 : CState := { st with visited := g.name.value :: st.visited,
                                    index := (g.name.value, st.path.length) :: st.index }
      have hkeys1 : keys st1 = g.name.value :: keys st := rfl
      have hloop := loop_spec ih g hpre.self (fragmentSpreads g.sel) st1
        (fun sp h => (mem_fragmentSpreads_names g.sel sp.name).1 (List.mem_map.2 ⟨sp, h, rfl⟩))
        (by
          intro k hk
          rw [hkeys1] at hk
          rcases List.mem_cons.1 hk with rfl | hk
          · exact .refl _
          · exact hpre.pathReach k hk)
        hlt
      have hblack1 : ∀ x, Black st x ↔ Black st1 x := by
        intro x
        constructor
        · rintro ⟨h1, h2⟩
          refine ⟨List.mem_cons_of_mem _ h1, ?_⟩
          rw [hkeys1]
          intro h
          rcases List.mem_cons.1 h with rfl | h
          · exact hpre.fresh h1
          · exact h2 h
        · rintro ⟨h1, h2⟩
          rw [hkeys1] at h2
          have hx : x ≠ g.name.value := fun e => h2 (e ▸ List.mem_cons_self)
          rcases List.mem_cons.1 h1 with h | h
          · exact absurd h hx
          · exact ⟨h, fun hk => h2 (List.mem_cons_of_mem _ hk)⟩
      have hidx : ((fragmentSpreads g.sel).foldl (stepSpread tbl (detect tbl fuel)) st1).index.filter
          (fun p => p.1 != g.name.value) = st.index := by
        rw [hloop.index]
        show ((g.name.value, st.path.length) :: st.index).filter (fun p => p.1 != g.name.value) = st.index
        simp only [List.filter_cons, bne_self_eq_false, Bool.false_eq_true, if_false]
        exact filter_keys_ne _ _ hpre.offPath
      refine ⟨hloop.path, hidx, fun x hx => hloop.mono x (List.mem_cons_of_mem _ hx), ?_⟩
      rcases hloop.errs with ⟨new, e1, c1, b1⟩
      refine ⟨new, e1, c1, fun hn hb => ?_⟩
      have hb1 := b1 hn (hb.congr hblack1)
      -- the final state: index restored, so `g` turns black
      let st2 := (fragmentSpreads g.sel).foldl (stepSpread tbl (detect tbl fuel)) st1
      have hkeys2 : keys st2 = g.name.value :: keys st := by
        show st2.index.map Prod.fst = _
        rw [hloop.index]; rfl
      have hgv : g.name.value ∈ st2.visited := hloop.mono _ List.mem_cons_self
      -- the final black set: the index is `st.index` again
      have hBlackFinal : ∀ x, Black { st2 with index := st2.index.filter (fun p => p.1 != g.name.value) } x ↔
          (Black st2 x ∨ x = g.name.value) := by
        intro x
        show (x ∈ st2.visited ∧ x ∉ (st2.index.filter (fun p => p.1 != g.name.value)).map Prod.fst) ↔ _
        rw [hidx]
        constructor
        · rintro ⟨h1, h2⟩
          by_cases hx : x = g.name.value
          · exact .inr hx
          · refine .inl ⟨h1, ?_⟩
            rw [hkeys2]
            intro h
            rcases List.mem_cons.1 h with h | h
            · exact hx h
            · exact h2 h
        · rintro (⟨h1, h2⟩ | rfl)
          · rw [hkeys2] at h2
            exact ⟨h1, fun h => h2 (List.mem_cons_of_mem _ h)⟩
          · exact ⟨hgv, hpre.offPath⟩
      have hsucc : ∀ b, SpreadEdge tbl g.name.value b → Defined tbl b → Black st2 b := by
        intro b e d
        rcases spreadEdge_iff.1 e with ⟨f', hf', hb'⟩
        rw [hpre.self] at hf'; cases hf'
        rcases List.mem_map.1 ((mem_fragmentSpreads_names g.sel b).2 hb') with ⟨sp, hsp, rfl⟩
        exact hb1.2 sp hsp d
      have hgnb : ¬ Black st2 g.name.value := by
        rintro ⟨_, h2⟩
        rw [hkeys2] at h2
        exact h2 List.mem_cons_self
      refine ⟨⟨?_, ?_⟩, (hBlackFinal _).2 (.inr rfl)⟩
      · intro a b ha e d
        rw [hBlackFinal] at ha ⊢
        rcases ha with ha | rfl
        · exact .inl (hb1.1.1 a b ha e d)
        · exact .inl (hsucc b e d)
      · intro a ha
        rw [hBlackFinal] at ha
        rcases ha with ha | rfl
        · exact hb1.1.2 a ha
        · rintro ⟨b, e, hr⟩
          exact hgnb (closed_reach hb1.1.1 hr hgn (hsucc b e (hr.defined hgn)))

/-- the invariant of the loop over the definitions (the `FragmentDefinition` visitor) -/
structure TopInv (tbl : List Frag) (st : CState) : Prop where
  index : st.index = []
  sound : st.errs ≠ [] → Cyclic tbl
  complete : st.errs = [] → BlackOK tbl st

theorem cycleRun_top (tbl : List Frag) (hnd : (fragNames tbl).Nodup) (defs : List Frag)
    (hsub : ∀ f, f ∈ defs → f ∈ tbl) (st : CState) (hinv : TopInv tbl st) :
    let st' := defs.foldl (fun st f => if f.name.value ∈ st.visited then st else detect tbl (tbl.length + 1) f st) st
    TopInv tbl st' ∧ (∀ x, x ∈ st.visited → x ∈ st'.visited) ∧ ∀ f, f ∈ defs → f.name.value ∈ st'.visited := by
  induction defs generalizing st with
  | nil => exact ⟨hinv, fun x hx => hx, fun f h => by cases h⟩
  | cons f rest ih =>
    simp only [List.foldl_cons]
    have hrest : ∀ g, g ∈ rest → g ∈ tbl := fun g hg => hsub g (List.mem_cons_of_mem _ hg)
    by_cases hv : f.name.value ∈ st.visited
    · simp only [hv, if_true]
      have := ih hrest st hinv
      refine ⟨this.1, this.2.1, fun g hg => ?_⟩
      rcases List.mem_cons.1 hg with rfl | hg
      · exact this.2.1 _ hv
      · exact this.2.2 g hg
    · simp only [hv, if_false]
      have hft : f ∈ tbl := hsub f List.mem_cons_self
      have hfuel := unc_lt_fuel tbl st.visited
      have hkeys : keys st = [] := by unfold keys; rw [hinv.index]; rfl
      have hpre : Pre tbl (tbl.length + 1) f st :=
        ⟨lookupFrag_self hnd hft, hv, by rw [hkeys]; simp, hfuel, by rw [hkeys]; intro k hk; cases hk⟩
      have he := detect_spec tbl (tbl.length + 1) f st hpre
      have hfr := detect_frame tbl (tbl.length + 1) f st hft hv hfuel
      have hinv' : TopInv tbl (detect tbl (tbl.length + 1) f st) := by
        rcases he.errs with ⟨new, e1, c1, b1⟩
        refine ⟨he.index.trans hinv.index, fun hne => ?_, fun hnil => ?_⟩
        · by_cases hn : new = []
          · subst hn
            rw [e1, List.append_nil] at hne
            exact hinv.sound hne
          · exact c1 hn
        · rw [e1] at hnil
          have h1 := (List.append_eq_nil_iff.1 hnil)
          exact (b1 h1.2 (hinv.complete h1.1)).1
      have := ih hrest _ hinv'
      refine ⟨this.1, fun x hx => this.2.1 x (he.mono x hx), fun g hg => ?_⟩
      rcases List.mem_cons.1 hg with rfl | hg
      · exact this.2.1 _ hfr.2.2
      · exact this.2.2 g hg

/-- **NoFragmentCycles is exact** (unique fragment names): the DFS reports an error iff the spread graph is cyclic -/
theorem cycleRun_spec (tbl : List Frag) (hnd : (fragNames tbl).Nodup) :
    (cycleRun tbl).errs ≠ [] ↔ Cyclic tbl := by
  have hinit : TopInv tbl CState.init :=
    ⟨rfl, fun h => absurd rfl h, fun _ =>
      ⟨fun a b ha _ _ => absurd ha.1 (by simp [CState.init]), fun a ha => absurd ha.1 (by simp [CState.init])⟩⟩
  have h : TopInv tbl (cycleRun tbl) ∧ (∀ x, x ∈ CState.init.visited → x ∈ (cycleRun tbl).visited) ∧
      ∀ f, f ∈ tbl → f.name.value ∈ (cycleRun tbl).visited :=
    cycleRun_top tbl hnd tbl (fun _ h => h) CState.init hinit
  constructor
  · exact h.1.sound
  · rintro ⟨a, b, e, hr⟩
    intro hnil
    have hb := h.1.complete hnil
    have hd : Defined tbl a := defined_of_edge e
    rcases List.mem_map.1 hd with ⟨f, hf, hfa⟩
    have hvis : a ∈ (cycleRun tbl).visited := hfa ▸ h.2.2 f hf
    have hk : keys (cycleRun tbl) = [] := by unfold keys; rw [h.1.index]; rfl
    exact hb.2 a ⟨hvis, by rw [hk]; simp⟩ ⟨b, e, hr⟩

end GqlModel.Validate.Graph
