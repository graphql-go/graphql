import GqlProofs.RoundTripLexNumber
import GqlProofs.RoundTripQuote
import GqlProofs.RoundTripBlock
import GqlProofs.LexerQuote
/-! # C08 byte level — STRING and BLOCK_STRING tokens of printed text are lexemes of the grammar -/
namespace GqlModel.RoundTrip
open GqlModel.Lexer GqlModel.Printer

theorem string_lexeme (cs : Chars) {rest : List UInt8} (hr : rest.head? ≠ some 34) :
    Lexeme .string (utf8 (quoteC cs)) (utf8 cs) rest := by
  rw [utf8_quoteC]
  exact .string (quoteBody_strChars (utf8 cs)) fun _ => hr

theorem block_lexeme (j : Nat) {t : Chars} (rest : List UInt8) (h : descBlockSafeC t = true) :
    Lexeme .blockString (utf8 (indentIter j (descText t))) (utf8 t) rest := by
  have hs : Block.blockSafeB (utf8 t) = true := by rw [blockSafe_utf8]; exact h
  have := Lexeme.block rest (Block.blockRaw_lex (2 * j) _ hs)
  rw [Block.blockStringValue_blockRaw _ _ hs] at this
  rw [utf8_descText]; exact this

end GqlModel.RoundTrip
