import GqlProofs.SchemaBuiltType
import GqlProofs.SchemaSubtype
/-! C11: from the closure the reducer computes to `Consistent (dump …)`: `Good` is the invariant of a finished type map,
with one lemma per clause of `Consistent` (§D1 … §D6). -/
namespace GqlModel.SchemaBuild

variable {cfg : Config}

/-- what `NewSchema` / `AppendType` establish about the type map they return -/
structure Good (cfg : Config) (tm : TM) : Prop where
  inv : Inv cfg tm
  closed : ∀ i ∈ tm, ClosedE cfg tm i
  query : ∃ q, cfg.query = some q ∧ q ∈ tm
  mutation : ∀ q, cfg.mutation = some q → q ∈ tm
  subscription : ∀ q, cfg.subscription = some q → q ∈ tm
  schemaType : idSchema ∈ tm
  dirArgs : ∀ t ∈ dirArgTypes cfg, isInputType cfg t = true ∧ Resolved cfg tm t
  asserted : assertAll cfg tm = none


theorem Good.safe {tm : TM} (g : Good cfg tm) : Safe (cfg := cfg) tm := ⟨g.inv, g.closed⟩

/-! ## §D1  unique legal names -/

theorem keysDistinct_iff : ∀ {l : List (String × Nat)},
    BuiltSchema.keysDistinct l = true ↔ l.Pairwise (fun a b => a.1 ≠ b.1)
  | [] => by simp [BuiltSchema.keysDistinct]
  | q :: rest => by
    simp only [BuiltSchema.keysDistinct, Bool.and_eq_true, Bool.not_eq_true', List.any_eq_false, beq_iff_eq,
      List.pairwise_cons, keysDistinct_iff (l := rest), ne_comm, ne_eq]

theorem Good.namesOk {tm : TM} (g : Good cfg tm) (hwt : cfg.wellTyped = true) : (dump cfg ⟨tm⟩).namesOk = true := by
  unfold BuiltSchema.namesOk
  rw [Bool.and_eq_true]
  refine ⟨?_, ?_⟩
  · rw [List.all_eq_true]
    intro p hp
    rw [dump_typeMap] at hp
    obtain ⟨i, hi, rfl⟩ := List.mem_map.mp hp
    have hn := ctorErr_none_name (g.inv.1 i hi)
    obtain ⟨hv, hname⟩ := nameOf_eq_of_ne hn
    simp only [dump_get, Bool.and_eq_true, beq_iff_eq]
    refine ⟨⟨?_, rfl⟩, wellTyped_named hwt i⟩
    rw [hname]; exact hv
  · rw [dump_typeMap]
    exact keysDistinct_iff.mpr (List.pairwise_map.mpr g.inv.2)

/-! ## §D2  closed under reference -/

theorem Good.closedOk {tm : TM} (g : Good cfg tm) : (dump cfg ⟨tm⟩).closed = true := by
  have optRoot : ∀ (o : Option Nat), (∀ q, o = some q → q ∈ tm) →
      (match o with | some q => (dump cfg ⟨tm⟩).inMap q | none => true) = true := by
    intro o h
    cases o with
    | none => rfl
    | some q => exact dump_inMap (s := ⟨tm⟩) g.inv (h q rfl)
  unfold BuiltSchema.closed
  simp only [Bool.and_eq_true]
  refine ⟨⟨⟨⟨?_, ?_⟩, ?_⟩, ?_⟩, ?_⟩
  · rw [List.all_eq_true, dump_ids]
    intro i hi
    obtain ⟨hm, hr⟩ := (g.closed i hi).built
    simp only [dump_get, Bool.and_eq_true, List.all_eq_true]
    refine ⟨⟨?_, ?_⟩, ?_⟩
    · intro t ht
      obtain ⟨j, hj, _, hm⟩ := hr t ht
      unfold BuiltSchema.refOk
      rw [hj]
      exact dump_inMap (s := ⟨tm⟩) g.inv hm
    · intro j hj
      exact dump_inMap (s := ⟨tm⟩) g.inv (hm j (List.mem_append_left _ hj)).1
    · intro j hj
      exact dump_inMap (s := ⟨tm⟩) g.inv (hm j (List.mem_append_right _ hj)).1
  · obtain ⟨q, hq, hm⟩ := g.query
    have : (dump cfg ⟨tm⟩).query = some q := hq
    rw [this]
    exact dump_inMap (s := ⟨tm⟩) g.inv hm
  · exact optRoot _ g.mutation
  · exact optRoot _ g.subscription
  · rw [List.all_eq_true]
    intro t ht
    have ht' : t ∈ dirArgTypes cfg := ht
    obtain ⟨_, j, hj, _, hm⟩ := g.dirArgs t ht'
    unfold BuiltSchema.refOk
    rw [hj]
    exact dump_inMap (s := ⟨tm⟩) g.inv hm

/-! ## §D3  the built-in introspection types are registered -/

theorem get_builtin (cfg : Config) {i : Nat} (h : i < nBuiltin) : cfg.get i = (builtinTypes[i]?).getD dfltType := by
  unfold Config.get Config.table
  rw [List.getElem?_append_left (by have : builtinTypes.length = 13 := rfl; unfold nBuiltin at h; omega)]

def builtinEdge (i j : Nat) : Bool :=
  let t := (builtinTypes[i]?).getD dfltType
  t.kind == .object && formGiven t.form && t.fields.any (fun f => f.present && f.type.build.strip == .named j)

def builtinName (k : Nat) : String :=
  let t := (builtinTypes[k]?).getD dfltType
  if validName t.name then t.name else ""

theorem nameOf_builtin (cfg : Config) {k : Nat} (h : k < nBuiltin) : nameOf cfg k = builtinName k := by
  unfold nameOf builtinName
  rw [get_builtin cfg h]

theorem fieldsOf_complete {i : Nat} {fs : List BField} (h : fieldsOf cfg i = .ok fs)
    (hform : formGiven (cfg.get i).form = true) :
    ∀ f ∈ (cfg.get i).fields, f.present = true → ∃ b ∈ fs, b.type = f.type.build := by
  obtain ⟨rfl, _⟩ := defineFieldsLoop_ok (fieldsOf_loop h)
  intro f hf hp
  refine ⟨_, List.mem_map_of_mem (List.mem_filter.mpr ⟨?_, hp⟩), rfl⟩
  rw [givenFields, if_pos hform]
  exact hf

theorem Good.builtin_step {tm : TM} (g : Good cfg tm) {i j : Nat} (he : builtinEdge i j = true) (hlt : i < nBuiltin)
    (hi : i ∈ tm) : j ∈ tm := by
  unfold builtinEdge at he
  simp only [Bool.and_eq_true, beq_iff_eq, List.any_eq_true] at he
  obtain ⟨⟨hk, hform⟩, f, hf, hp, hs⟩ := he
  rw [← get_builtin cfg hlt] at hk hform hf
  obtain ⟨b, hb, hbt⟩ := fieldsOf_complete ((g.closed i hi).noFail.fieldsOf hk) hform f hf hp
  obtain ⟨j', hj', _, hm⟩ := (g.closed i hi).built.2 b.type (field_type_mem_typeRefs hb)
  rw [hbt, hs] at hj'
  cases hj'; exact hm

theorem Good.hasBuiltins {tm : TM} (g : Good cfg tm) : (dump cfg ⟨tm⟩).hasBuiltins = true := by
  have named : ∀ k n, k ∈ tm → k < nBuiltin → builtinName k = n → ((dump cfg ⟨tm⟩).lookup n).isSome = true := by
    intro k n hk hlt hn
    rw [dump_lookup, ← hn, ← nameOf_builtin cfg hlt, lookup_of_mem g.inv.2 hk]
    rfl
  -- the edges of the built-in graph that are followed (each `builtin_step`: the edge, then `i < nBuiltin`):
  -- __Schema → __Type → {__TypeKind, String, __Field, __InputValue, __EnumValue}, __Schema → __Directive →
  -- __DirectiveLocation, __Field → Boolean; `named` then read the ten names off `builtinName`
  have h5 : idSchema ∈ tm := g.schemaType
  have h6 : idType ∈ tm := g.builtin_step (i := idSchema) (by decide +kernel) (by decide +kernel) h5
  have h11 : idDirective ∈ tm := g.builtin_step (i := idSchema) (by decide +kernel) (by decide +kernel) h5
  have h7 : idTypeKind ∈ tm := g.builtin_step (i := idType) (by decide +kernel) (by decide +kernel) h6
  have h0 : idString ∈ tm := g.builtin_step (i := idType) (by decide +kernel) (by decide +kernel) h6
  have h8 : idField ∈ tm := g.builtin_step (i := idType) (by decide +kernel) (by decide +kernel) h6
  have h9 : idInputValue ∈ tm := g.builtin_step (i := idType) (by decide +kernel) (by decide +kernel) h6
  have h10 : idEnumValue ∈ tm := g.builtin_step (i := idType) (by decide +kernel) (by decide +kernel) h6
  have h12 : idDirectiveLocation ∈ tm := g.builtin_step (i := idDirective) (by decide +kernel) (by decide +kernel) h11
  have h3 : idBoolean ∈ tm := g.builtin_step (i := idField) (by decide +kernel) (by decide +kernel) h8
  unfold BuiltSchema.hasBuiltins
  simp only [introspectionNames, List.all_cons, List.all_nil, Bool.and_true, Bool.and_eq_true]
  exact ⟨named _ _ h5 (by decide +kernel) (by decide +kernel), named _ _ h6 (by decide +kernel) (by decide +kernel), named _ _ h7 (by decide +kernel) (by decide +kernel),
    named _ _ h8 (by decide +kernel) (by decide +kernel), named _ _ h9 (by decide +kernel) (by decide +kernel), named _ _ h10 (by decide +kernel) (by decide +kernel),
    named _ _ h11 (by decide +kernel) (by decide +kernel), named _ _ h12 (by decide +kernel) (by decide +kernel), named _ _ h0 (by decide +kernel) (by decide +kernel),
    named _ _ h3 (by decide +kernel) (by decide +kernel)⟩

/-! ## §D4  output / input position discipline -/

theorem dump_leafKind (s : St) (t : TRef) : (dump cfg s).leafKindB t = leafKind cfg t := by
  unfold BuiltSchema.leafKindB leafKind
  cases t.strip <;> simp [dump_get, builtType]

theorem dump_outputRef (s : St) (t : TRef) : (dump cfg s).outputRef t = isOutputType cfg t := by
  unfold BuiltSchema.outputRef isOutputType; rw [dump_leafKind]

theorem dump_inputRef (s : St) (t : TRef) : (dump cfg s).inputRef t = isInputType cfg t := by
  unfold BuiltSchema.inputRef isInputType; rw [dump_leafKind]

theorem builtType_interfaces_kind (hwt : cfg.wellTyped = true) (i : Nat) :
    ∀ j ∈ (builtType cfg i).interfaces, kindOf cfg j = .interface := by
  intro j hj
  obtain ⟨hk, is, hi, hj⟩ := mem_builtType_interfaces hj
  exact (wellTyped_refs hwt i j ((interfacesOf_ok hi).1 j hj)).1 hk

theorem builtType_members_kind (hwt : cfg.wellTyped = true) (i : Nat) :
    ∀ j ∈ (builtType cfg i).members, kindOf cfg j = .object := by
  intro j hj
  obtain ⟨hk, ms, hi, hj⟩ := mem_builtType_members hj
  exact (wellTyped_refs hwt i j ((membersOf_ok hi).1 j hj)).2 hk

theorem Good.positionsOk {tm : TM} (g : Good cfg tm) (hwt : cfg.wellTyped = true) :
    (dump cfg ⟨tm⟩).positionsOk = true := by
  unfold BuiltSchema.positionsOk
  rw [Bool.and_eq_true, List.all_eq_true, List.all_eq_true]
  refine ⟨?_, ?_⟩
  · intro i _
    obtain ⟨h1, h2⟩ := builtType_positions i
    simp only [dump_get, Bool.and_eq_true, List.all_eq_true, dump_outputRef, dump_inputRef, beq_iff_eq]
    refine ⟨⟨⟨?_, h2⟩, ?_⟩, ?_⟩
    · intro f hf
      exact ⟨(h1 f hf).1, (h1 f hf).2⟩
    · intro j hj
      exact builtType_interfaces_kind hwt i j hj
    · intro j hj
      exact builtType_members_kind hwt i j hj
  · intro t ht
    have ht' : t ∈ dirArgTypes cfg := ht
    rw [dump_inputRef]
    exact (g.dirArgs t ht').1

theorem mem_objects (cfg : Config) {tm : TM} {o : Nat} : o ∈ TM.objects cfg tm ↔ o ∈ tm ∧ kindOf cfg o = .object := by
  unfold TM.objects; simp [List.mem_filter]

theorem mem_abstracts (cfg : Config) {tm : TM} {a : Nat} : a ∈ TM.abstracts cfg tm ↔ a ∈ tm ∧ (kindOf cfg a).isAbstract = true := by
  unfold TM.abstracts; simp [List.mem_filter]

theorem mem_implsOf (cfg : Config) {tm : TM} {n : String} {p : Nat} :
    p ∈ implsOf cfg tm n ↔ (p ∈ tm ∧ kindOf cfg p = .object) ∧ ∃ j ∈ orNil (interfacesOf cfg p), nameOf cfg j = n := by
  unfold implsOf TM.sortedObjects
  simp only [List.mem_flatMap, List.mem_map, List.mem_filter, mem_sortBy, mem_objects, beq_iff_eq]
  constructor
  · rintro ⟨o, ho, j, ⟨hj, hn⟩, rfl⟩
    exact ⟨ho, j, hj, hn⟩
  · rintro ⟨ho, j, hj, hn⟩
    exact ⟨p, ho, j, ⟨hj, hn⟩, rfl⟩

theorem Good.mem_impls {tm : TM} (g : Good cfg tm) {a p : Nat} (ha : a ∈ tm) :
    p ∈ implsOf cfg tm (nameOf cfg a) ↔ (p ∈ tm ∧ kindOf cfg p = .object) ∧ a ∈ orNil (interfacesOf cfg p) := by
  rw [mem_implsOf]
  constructor
  · rintro ⟨⟨hp, hk⟩, j, hj, hn⟩
    refine ⟨⟨hp, hk⟩, ?_⟩
    have hjm := ((g.closed p hp).built.1 j (List.mem_append_left _ (builtType_interfaces hk ▸ hj))).1
    exact inv_name_inj g.inv hjm ha hn ▸ hj
  · rintro ⟨hp, hj⟩
    exact ⟨hp, a, hj, rfl⟩

/-- declared subtyping, read off the configuration -/
def declaredPossibleOf (cfg : Config) (a o : Nat) : Bool :=
  match kindOf cfg a with
  | .interface => (orNil (interfacesOf cfg o)).contains a
  | .union => (orNil (membersOf cfg a)).contains o
  | _ => false

theorem dump_declaredPossible (s : St) {a o : Nat} (hko : kindOf cfg o = .object) :
    (dump cfg s).declaredPossible a o = declaredPossibleOf cfg a o := by
  unfold BuiltSchema.declaredPossible declaredPossibleOf
  simp only [dump_get]
  rw [builtType_kind]
  cases hka : kindOf cfg a <;> simp [builtType, hko, hka]

theorem Good.possibleTypes_mem {tm : TM} (g : Good cfg tm) (hwt : cfg.wellTyped = true) {a p : Nat} (ha : a ∈ tm)
    (hp : p ∈ possibleTypesOf cfg tm a) :
    p ∈ tm ∧ kindOf cfg p = .object ∧ declaredPossibleOf cfg a p = true := by
  unfold possibleTypesOf at hp
  unfold declaredPossibleOf
  cases hka : kindOf cfg a with
  | interface =>
    simp only [hka] at hp ⊢
    obtain ⟨⟨h1, h2⟩, h3⟩ := (g.mem_impls ha).mp hp
    exact ⟨h1, h2, by simpa using h3⟩
  | union =>
    simp only [hka] at hp ⊢
    have hpb : p ∈ (builtType cfg a).members := builtType_members hka ▸ hp
    exact ⟨((g.closed a ha).built.1 p (List.mem_append_right _ hpb)).1, builtType_members_kind hwt a p hpb, by simpa using hp⟩
  | scalar => simp [hka] at hp
  | object => simp [hka] at hp
  | enum => simp [hka] at hp
  | inputObject => simp [hka] at hp
  | list => simp [hka] at hp
  | nonNull => simp [hka] at hp

/-- `PossibleTypes(a)` holds a registered object iff the object declares `a` / is listed by the union `a` -/
theorem Good.possibleTypes_iff {tm : TM} (g : Good cfg tm) {a o : Nat} (ha : a ∈ tm) (ho : o ∈ tm)
    (hko : kindOf cfg o = .object) : (possibleTypesOf cfg tm a).contains o = declaredPossibleOf cfg a o := by
  unfold possibleTypesOf declaredPossibleOf
  cases hka : kindOf cfg a with
  | interface =>
    simp only
    rw [Bool.eq_iff_iff]
    simp only [List.contains_iff_mem]
    rw [g.mem_impls ha]
    exact ⟨fun h => h.2, fun h => ⟨⟨ho, hko⟩, h⟩⟩
  | union => rfl
  | scalar => simp
  | object => simp
  | enum => simp
  | inputObject => simp
  | list => simp
  | nonNull => simp

/-- the by-name scan used while the schema is being built agrees with the declarations -/
theorem Good.scan_agree {tm : TM} (g : Good cfg tm) (hwt : cfg.wellTyped = true) {a o : Nat} (ha : a ∈ tm) (ho : o ∈ tm)
    (hko : kindOf cfg o = .object) : isPossibleScan cfg tm a o = declaredPossibleOf cfg a o := by
  rw [← g.possibleTypes_iff ha ho hko]
  unfold isPossibleScan
  rw [Bool.eq_iff_iff]
  simp only [List.any_eq_true, beq_iff_eq, List.contains_iff_mem]
  constructor
  · rintro ⟨p, hp, hn⟩
    obtain ⟨hpm, _, _⟩ := g.possibleTypes_mem hwt ha hp
    have := inv_name_inj g.inv hpm ho hn
    rw [← this]; exact hp
  · intro h
    exact ⟨o, h, rfl⟩

theorem find_map_key {α β : Type} [BEq α] [LawfulBEq α] (f : α → β) (l : List α) (a : α) (ha : a ∈ l) :
    (l.map (fun x => (x, f x))).find? (fun p => p.1 == a) = some (a, f a) := by
  have hfind : l.find? (· == a) = some a := by
    obtain ⟨b, hb⟩ := Option.isSome_iff_exists.mp (List.find?_isSome (p := (· == a)).mpr ⟨a, ha, beq_self_eq_true a⟩)
    rw [hb, eq_of_beq (List.find?_some (p := (· == a)) hb)]
  rw [List.find?_map]
  exact congrArg (Option.map _) hfind

theorem dump_possibleOf {tm : TM} {a : Nat} (ha : a ∈ TM.abstracts cfg tm) :
    (dump cfg ⟨tm⟩).possibleOf a = possibleTypesOf cfg tm a := by
  unfold BuiltSchema.possibleOf
  have : (dump cfg ⟨tm⟩).possibleTypes = (TM.abstracts cfg tm).map (fun a => (a, possibleTypesOf cfg tm a)) := rfl
  rw [this, find_map_key _ _ a ha]
  rfl

/-- the finished table `possibleTypeMap` answers like the scan -/
theorem Good.final_eq_scan {tm : TM} (g : Good cfg tm) {a o : Nat} (ha : a ∈ TM.abstracts cfg tm) :
    isPossibleFinal cfg tm a o = isPossibleScan cfg tm a o := by
  unfold isPossibleFinal possibleMap
  have hfind : ((TM.abstracts cfg tm).map (fun a => (nameOf cfg a, (possibleTypesOf cfg tm a).map (nameOf cfg)))).find?
      (fun p => p.1 == nameOf cfg a) = some (nameOf cfg a, (possibleTypesOf cfg tm a).map (nameOf cfg)) := by
    rw [List.find?_map]
    exact congrArg (Option.map _) (find_of_pairwise_key (nameOf cfg) (g.inv.2.filter _) ha)
  rw [hfind]
  unfold isPossibleScan
  rw [Bool.eq_iff_iff]
  simp only [List.contains_iff_mem, List.mem_map, List.any_eq_true, beq_iff_eq]

/-! ## §D5  interface conformance -/

theorem Good.conformanceOk {tm : TM} (g : Good cfg tm) (hwt : cfg.wellTyped = true) :
    (dump cfg ⟨tm⟩).conformanceOk = true := by
  unfold BuiltSchema.conformanceOk
  rw [List.all_eq_true]
  intro o ho
  unfold BuiltSchema.objectIds at ho
  rw [List.mem_filter, dump_ids, dump_get] at ho
  obtain ⟨hom, hko⟩ := ho
  have hko' : kindOf cfg o = .object := by simpa [builtType_kind] using hko
  rw [List.all_eq_true]
  intro i hi
  rw [dump_get] at hi
  have hkfun : (fun j => ((dump cfg ⟨tm⟩).get j).kind) = kindOf cfg := by
    funext j; rw [dump_get]; rfl
  rw [hkfun, dump_get, dump_get]
  -- what the model asserted
  have hass := g.asserted
  unfold assertAll at hass
  rw [List.findSome?_eq_none_iff] at hass
  have h1 := hass o ((mem_objects cfg).mpr ⟨hom, hko'⟩)
  rw [List.findSome?_eq_none_iff] at h1
  have hi' : i ∈ orNil (interfacesOf cfg o) := builtType_interfaces hko' ▸ hi
  have h2 := h1 i hi'
  have him : i ∈ tm := ((g.closed o hom).built.1 i (List.mem_append_left _ hi)).1
  -- transfer to the declared relation
  have : conformsTo (kindOf cfg) (dump cfg ⟨tm⟩).declaredPossible (builtType cfg o) (builtType cfg i) =
      conformsTo (kindOf cfg) (isPossibleScan cfg tm) (builtType cfg o) (builtType cfg i) := by
    refine conformsTo_congr _ _ _ _ _ fun ofield hofm f hf a x hx ha hka hkx => ?_
    obtain ⟨x', hx', _, hxm⟩ := (g.closed o hom).built.2 _ (field_type_mem_typeRefs hofm)
    obtain ⟨a', ha', _, ham⟩ := (g.closed i him).built.2 _ (field_type_mem_typeRefs hf)
    rw [hx] at hx'; cases hx'
    rw [ha] at ha'; cases ha'
    rw [dump_declaredPossible _ hkx, g.scan_agree hwt ham hxm hkx]
  rw [this, h2]
  rfl

/-! ## §D6  possible-type coherence -/

theorem dump_objectIds (tm : TM) : (dump cfg ⟨tm⟩).objectIds = TM.objects cfg tm := by
  unfold BuiltSchema.objectIds TM.objects
  rw [dump_ids]
  apply List.filter_congr
  intro i _
  rw [dump_get]; rfl

theorem dump_abstractIds (tm : TM) : (dump cfg ⟨tm⟩).abstractIds = TM.abstracts cfg tm := by
  unfold BuiltSchema.abstractIds TM.abstracts
  rw [dump_ids]
  apply List.filter_congr
  intro i _
  rw [dump_get]; rfl

theorem dump_isPossible_mem {tm : TM} {a o : Nat} (ha : a ∈ TM.abstracts cfg tm) (ho : o ∈ TM.objects cfg tm) :
    (dump cfg ⟨tm⟩).isPossible.contains (a, o) = isPossibleFinal cfg tm a o := by
  have : (dump cfg ⟨tm⟩).isPossible = (TM.abstracts cfg tm).flatMap (fun a =>
      ((TM.objects cfg tm).filter (isPossibleFinal cfg tm a)).map (fun o => (a, o))) := rfl
  rw [this, Bool.eq_iff_iff]
  simp only [List.contains_iff_mem, List.mem_flatMap, List.mem_map, List.mem_filter, Prod.mk.injEq]
  constructor
  · rintro ⟨a', _, o', ⟨_, hf⟩, rfl, rfl⟩
    exact hf
  · intro h
    exact ⟨a, ha, o, ⟨ho, h⟩, rfl, rfl⟩

theorem Good.possibleOk {tm : TM} (g : Good cfg tm) (hwt : cfg.wellTyped = true) : (dump cfg ⟨tm⟩).possibleOk = true := by
  unfold BuiltSchema.possibleOk
  rw [List.all_eq_true]
  intro a ha
  rw [dump_abstractIds] at ha
  have ham : a ∈ tm := ((mem_abstracts cfg).mp ha).1
  rw [Bool.and_eq_true, List.all_eq_true, List.all_eq_true]
  refine ⟨?_, ?_⟩
  · intro o ho
    rw [dump_objectIds] at ho
    obtain ⟨hom, hko⟩ := (mem_objects cfg).mp ho
    rw [dump_possibleOf ha, dump_declaredPossible _ hko, g.possibleTypes_iff ham hom hko, dump_isPossible_mem ha ho,
      g.final_eq_scan ha, g.scan_agree hwt ham hom hko]
    simp
  · intro p hp
    rw [dump_possibleOf ha] at hp
    obtain ⟨_, hkp, hd⟩ := g.possibleTypes_mem hwt ham hp
    rw [dump_declaredPossible _ hkp]
    exact hd

theorem Good.consistent {tm : TM} (g : Good cfg tm) (hwt : cfg.wellTyped = true) : (dump cfg ⟨tm⟩).Consistent = true := by
  unfold BuiltSchema.Consistent
  rw [g.namesOk hwt, g.closedOk, g.hasBuiltins, g.positionsOk hwt, g.conformanceOk hwt, g.possibleOk hwt]
  rfl

end GqlModel.SchemaBuild
