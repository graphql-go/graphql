import GqlProofs.ParserBehaved
import GqlProofs.ParserCorrect
/-! Viability of the text before the blamed token (C18, "not earlier"), Value sub-grammar: when `parseValueLiteral`
rejects at the end of its input, the input can be completed to a value.  Derivations are re-based onto a longer token
list by `…app` (values have no look-ahead conditions, so appending is unconditional). -/
namespace GqlModel.Parser
open GqlModel.Grammar

/-- the same position with `X` appended to the tokens ahead -/
def _root_.GqlModel.Grammar.Pos.app (p : Pos) (X : List Token) : Pos := ⟨p.e, p.ts ++ X⟩

theorem start_app {p : Pos} (h : p.ts ≠ []) (X : List Token) : (p.app X).start = p.start := by
  obtain ⟨e, ts⟩ := p
  cases ts with
  | nil => exact absurd rfl h
  | cons t r => rfl

theorem tok_app {k : TokenKind} {p : Pos} {t : Token} {p' : Pos} (h : Tok k p t p') (X : List Token) :
    Tok k (p.app X) t (p'.app X) := by
  cases h with
  | mk e t r hk => exact .mk e t (r ++ X) hk

theorem kw_app {s : String} {p p' : Pos} (h : Kw s p p') (X : List Token) : Kw s (p.app X) (p'.app X) := by
  cases h with
  | mk ht hv => exact .mk (tok_app ht X) hv

theorem dname_app {p : Pos} {n : Name} {p' : Pos} (h : DName p n p') (X : List Token) : DName (p.app X) n (p'.app X) := by
  cases h with
  | mk ht =>
    have := DName.mk (tok_app ht X)
    rw [start_app (tok_ne ht)] at this
    exact this

theorem dvariable_app {p : Pos} {r : Name × Loc} {p' : Pos} (h : DVariable p r p') (X : List Token) :
    DVariable (p.app X) r (p'.app X) := by
  cases h with
  | mk hd hn =>
    have := DVariable.mk (tok_app hd X) (dname_app hn X)
    rw [start_app (tok_ne hd)] at this
    exact this

mutual
theorem DValue.app : ∀ {c p v p'}, DValue c p v p' → ∀ X, DValue c (p.app X) v (p'.app X)
  | _, _, _, _, .var h, X => .var (dvariable_app h X)
  | c, _, _, _, .int h, X => by have := DValue.int (c := c) (tok_app h X); rw [start_app (tok_ne h)] at this; exact this
  | c, _, _, _, .float h, X => by have := DValue.float (c := c) (tok_app h X); rw [start_app (tok_ne h)] at this; exact this
  | c, _, _, _, .string h, X => by have := DValue.string (c := c) (tok_app h X); rw [start_app (tok_ne h)] at this; exact this
  | c, _, _, _, .blockString h, X => by
      have := DValue.blockString (c := c) (tok_app h X); rw [start_app (tok_ne h)] at this; exact this
  | c, _, _, _, .tru h, X => by have := DValue.tru (c := c) (kw_app h X); rw [start_app (kw_ne h)] at this; exact this
  | c, _, _, _, .fls h, X => by have := DValue.fls (c := c) (kw_app h X); rw [start_app (kw_ne h)] at this; exact this
  | c, _, _, _, .enum h h1 h2 h3, X => by
      have := DValue.enum (c := c) (tok_app h X) h1 h2 h3; rw [start_app (tok_ne h)] at this; exact this
  | c, _, _, _, .list ho hvs hc, X => by
      have := DValue.list (tok_app ho X) (DValues.app hvs X) (tok_app hc X); rw [start_app (tok_ne ho)] at this; exact this
  | c, _, _, _, .obj ho hfs hc, X => by
      have := DValue.obj (tok_app ho X) (DObjFields.app hfs X) (tok_app hc X); rw [start_app (tok_ne ho)] at this; exact this
theorem DValues.app : ∀ {c p vs p'}, DValues c p vs p' → ∀ X, DValues c (p.app X) vs (p'.app X)
  | _, _, _, _, .nil, _ => .nil
  | _, _, _, _, .cons hv hvs, X => .cons (DValue.app hv X) (DValues.app hvs X)
theorem DObjFields.app : ∀ {c p fs p'}, DObjFields c p fs p' → ∀ X, DObjFields c (p.app X) fs (p'.app X)
  | _, _, _, _, .nil, _ => .nil
  | _, _, _, _, .cons hf hfs, X => .cons (DObjField.app hf X) (DObjFields.app hfs X)
theorem DObjField.app : ∀ {c p f p'}, DObjField c p f p' → ∀ X, DObjField c (p.app X) f (p'.app X)
  | _, _, _, _, .mk hn hc hv, X => by
      have := DObjField.mk (dname_app hn X) (tok_app hc X) (DValue.app hv X)
      rw [start_app ((dname_steps hn).ne)] at this; exact this
end

theorem unexpected_err0 {α} {σ : PState} {pos : Nat} {b : Bool} (h : (unexpected : P α) σ = .error (.syntax pos b 0)) : σ.toks = [] := by
  simp at h; exact h.2.2

/-- completing the loop of `reverse` that failed at the end of the input (the closing token is added by the caller) -/
theorem many_completion {α} {close : TokenKind} {item : P α} {D : Pos → α → Pos → Prop} {L : Pos → List α → Pos → Prop}
    (hnil : ∀ {p}, L p [] p) (hcons : ∀ {p x p1 xs p2}, D p x p1 → L p1 xs p2 → L p (x :: xs) p2)
    (hs : SndN item D) (happ : ∀ {p x p'}, D p x p' → ∀ X, D (p.app X) x (p'.app X))
    (hcpl : ∀ σ pos b, item σ = .error (.syntax pos b 0) → ∃ comp, ∀ X, ∃ x e', D ⟨σ.prevEnd, σ.toks ++ comp ++ X⟩ x ⟨e', X⟩) :
    ∀ (k : Nat) (σ : PState) (pos : Nat) (b : Bool), many close item k σ = .error (.syntax pos b 0) →
      ∃ comp, ∀ X, ∃ xs e', L ⟨σ.prevEnd, σ.toks ++ comp ++ X⟩ xs ⟨e', X⟩ := by
  intro k
  induction k with
  | zero => intro σ pos b h; cases h
  | succ k ih =>
    intro σ pos b h
    simp only [many] at h
    rcases bind_error.mp h with h1 | ⟨sk, σ1, h1, h2⟩
    · exact absurd h1 skip_ne_error
    · cases sk
      · have hσ1 : σ1 = σ := (skip_false.mp h1).2
        subst hσ1
        simp only [Bool.false_eq_true, if_false] at h2
        rcases bind_error.mp h2 with h3 | ⟨x, σ2, h3, h4⟩
        · obtain ⟨comp, hc⟩ := hcpl _ _ _ h3
          refine ⟨comp, fun X => ?_⟩
          obtain ⟨x, e', hx⟩ := hc X
          exact ⟨[x], e', hcons hx hnil⟩
        · rcases bind_error.mp h4 with h5 | ⟨xs, σ3, _, h6⟩
          · obtain ⟨comp, hc⟩ := ih _ _ _ h5
            obtain ⟨hD, hat⟩ := hs _ _ _ h3
            refine ⟨comp, fun X => ?_⟩
            obtain ⟨xs, e', hxs⟩ := hc X
            have := happ hD (comp ++ X)
            simp only [Pos.app, PState.pos, ← List.append_assoc] at this
            exact ⟨x :: xs, e', hcons this hxs⟩
          · cases h6
      · cases h2

theorem parseName_err0 {σ : PState} {pos : Nat} {b : Bool} (h : parseName σ = .error (.syntax pos b 0)) : σ.toks = [] := by
  simp only [parseName] at h
  rcases bind_error.mp h with h1 | ⟨t, σ1, _, h2⟩
  · exact expect_err0 h1
  · simp [bind_error] at h2

/-- the name token used in completions -/
def nameTok : Token := sampleTok .name
/-- the int token used in completions -/
def intTok : Token := sampleTok .int

/-- **Value completion**: a value parse that fails at the end of the input can be completed to a value -/
theorem parseValueLiteral_completion (c : Bool) : ∀ (n : Nat) (σ : PState) (pos : Nat) (b : Bool),
    parseValueLiteral c n σ = .error (.syntax pos b 0) →
      ∃ comp, ∀ X, ∃ v e', DValue c ⟨σ.prevEnd, σ.toks ++ comp ++ X⟩ v ⟨e', X⟩ := by
  intro n
  induction n with
  | zero => intro σ pos b h; cases h
  | succ n ih =>
    intro σ pos b h
    cases hts : σ.toks with
    | nil =>
      -- nothing there at all: any scalar will do
      refine ⟨[intTok], fun X => ?_⟩
      have := DValue.int (c := c) (Tok.mk σ.prevEnd intTok X rfl)
      exact ⟨_, _, by simpa using this⟩
    | cons t r =>
      have hcur : σ.cur = t := cur_cons hts
      simp only [parseValueLiteral] at h
      rw [bind_eq_of_ok (cur_run σ), hcur] at h
      have hfield : ∀ σf posf bf, parseObjectFieldWith (parseValueLiteral c n) σf = .error (.syntax posf bf 0) →
          ∃ comp, ∀ X, ∃ f e', DObjField c ⟨σf.prevEnd, σf.toks ++ comp ++ X⟩ f ⟨e', X⟩ := by
        intro σf posf bf hf
        simp only [parseObjectFieldWith] at hf
        rw [bind_eq_of_ok (cur_run σf)] at hf
        rcases bind_error.mp hf with g1 | ⟨nm, σ1, g1, g2⟩
        · -- no name: supply a whole field
          have he := parseName_err0 g1
          refine ⟨[nameTok, sampleTok .colon, intTok], fun X => ?_⟩
          rw [he]
          exact ⟨_, _, .mk (.mk (Tok.mk σf.prevEnd nameTok _ rfl)) (Tok.mk _ (sampleTok .colon) _ rfl)
            (DValue.int (c := c) (Tok.mk _ intTok X rfl))⟩
        · obtain ⟨hN, hat1⟩ := parseName_snd _ _ _ g1
          rcases bind_error.mp g2 with g3 | ⟨cl, σ2, g3, g4⟩
          · -- name, then the end: `: 1`
            have he := expect_err0 g3
            refine ⟨[sampleTok .colon, intTok], fun X => ?_⟩
            have hN' := dname_app hN ([sampleTok .colon, intTok] ++ X)
            simp only [Pos.app, PState.pos, he, List.nil_append] at hN'
            have := DObjField.mk hN' (Tok.mk _ (sampleTok .colon) _ rfl) (DValue.int (c := c) (Tok.mk _ intTok X rfl))
            exact ⟨_, _, by simpa [List.append_assoc] using this⟩
          · obtain ⟨hC, hat2⟩ := (expect_ok (by decide)).mp g3
            rcases bind_error.mp g4 with g5 | ⟨v, σ3, _, g6⟩
            · obtain ⟨comp, hc⟩ := ih _ _ _ g5
              refine ⟨comp, fun X => ?_⟩
              obtain ⟨v, e', hv⟩ := hc X
              have hN' := dname_app hN (comp ++ X)
              have hC' := tok_app hC (comp ++ X)
              simp only [Pos.app, PState.pos, ← List.append_assoc] at hN' hC'
              exact ⟨_, _, .mk hN' hC' hv⟩
            · simp [bind_error] at g6
      cases hk : t.kind <;> simp only [hk] at h
      case bracketL =>
        rcases bind_error.mp h with h1 | ⟨vs, σ1, _, h2⟩
        · simp only [reverse] at h1
          rcases bind_error.mp h1 with g1 | ⟨o, σa, g1, g2⟩
          · have := expect_err0 g1; rw [hts] at this; cases this
          · obtain ⟨hO, hat⟩ := (expect_ok (by decide)).mp g1
            rw [bind_eq_of_ok (cur_run σa)] at g2
            simp only [Bool.false_eq_true, false_and, if_false] at g2
            rw [bind_eq_of_ok (loopFuel_run σa)] at g2
            rcases bind_error.mp g2 with g3 | ⟨nodes, σ2, _, g4⟩
            · obtain ⟨comp, hc⟩ := many_completion (L := DValues c) .nil .cons
                (parseValueLiteral_snd c n) (fun h X => DValue.app h X) ih _ _ _ _ g3
              refine ⟨comp ++ [sampleTok .bracketR], fun X => ?_⟩
              obtain ⟨vs, e', hvs⟩ := hc (sampleTok .bracketR :: X)
              have hO' := tok_app hO (comp ++ sampleTok .bracketR :: X)
              simp only [List.append_assoc] at hvs
              simp only [Pos.app, PState.pos] at hO'
              have := DValue.list hO' hvs (Tok.mk e' (sampleTok .bracketR) X rfl)
              exact ⟨_, _, by simpa [List.append_assoc, hts] using this⟩
            · simp at g4
        · simp [bind_error] at h2
      case braceL =>
        rcases bind_error.mp h with g1 | ⟨o, σa, g1, g2⟩
        · have := expect_err0 g1; rw [hts] at this; cases this
        · obtain ⟨hO, hat⟩ := (expect_ok (by decide)).mp g1
          rw [bind_eq_of_ok (loopFuel_run σa)] at g2
          rcases bind_error.mp g2 with g3 | ⟨nodes, σ2, _, g4⟩
          · obtain ⟨comp, hc⟩ := many_completion (L := DObjFields c) .nil .cons
              (parseObjectFieldWith_snd (parseValueLiteral_snd c n)) (fun h X => DObjField.app h X) hfield _ _ _ _ g3
            refine ⟨comp ++ [sampleTok .braceR], fun X => ?_⟩
            obtain ⟨fs, e', hfs⟩ := hc (sampleTok .braceR :: X)
            have hO' := tok_app hO (comp ++ sampleTok .braceR :: X)
            simp only [List.append_assoc] at hfs
            simp only [Pos.app, PState.pos] at hO'
            have := DValue.obj hO' hfs (Tok.mk e' (sampleTok .braceR) X rfl)
            exact ⟨_, _, by simpa [List.append_assoc, hts] using this⟩
          · simp [bind_error] at g4
      case dollar =>
        split at h
        · simp [hts] at h
        · rename_i hc
          have hcf : c = false := Bool.eq_false_iff.mpr hc
          subst hcf
          rcases bind_error.mp h with g1 | ⟨rv, σ1, _, g2⟩
          · simp only [parseVariable] at g1
            rw [bind_eq_of_ok (cur_run σ)] at g1
            rcases bind_error.mp g1 with q1 | ⟨d, σa, q1, q2⟩
            · have := expect_err0 q1; rw [hts] at this; cases this
            · obtain ⟨hD, hat⟩ := (expect_ok (by decide)).mp q1
              rcases bind_error.mp q2 with q3 | ⟨nm, σb, _, q4⟩
              · have he := parseName_err0 q3
                refine ⟨[nameTok], fun X => ?_⟩
                have hD' := tok_app hD ([nameTok] ++ X)
                simp only [Pos.app, PState.pos, he, List.nil_append] at hD'
                have := DValue.var (.mk hD' (.mk (Tok.mk _ nameTok X rfl)))
                exact ⟨_, _, by simpa [List.append_assoc, hts] using this⟩
              · simp [bind_error] at q4
          · simp at g2
      case name =>
        repeat' split at h
        all_goals simp [bind_error, hts] at h
      all_goals simp [bind_error, hts] at h

/-! ## `parser.ParseValue`: the reported token is the first at which the text stops being the beginning of a value -/

def ViablePrefix (ts : List Token) : Prop := ∃ rest eofPos d, DerivesDoc (ts ++ rest) eofPos d

/-- `ts` is the beginning of a value (followed by anything) -/
def ViableValuePrefix (c : Bool) (ts : List Token) : Prop := ∃ rest v p', DValue c ⟨0, ts ++ rest⟩ v p'

/-- not later: with the blamed token the text is no longer the beginning of a value -/
theorem parseValue_not_later (c : Bool) (toks : List Token) (eofPos pos : Nat) (b : Bool) (l : Nat)
    (h : parseValue c (initState toks eofPos) = .error (.syntax pos b l)) (hl : 0 < l) :
    ¬ ViableValuePrefix c (toks.take (toks.length - l + 1)) := by
  rintro ⟨rest, v, p', hd⟩
  obtain ⟨l', g, _, _⟩ := action_error_local (parseValue c) h hl rest eofPos
  have := parseValue_cmp c (initState (toks.take (toks.length - l + 1) ++ rest) eofPos) v p' (by simpa [initState, PState.pos] using hd)
  rw [this] at g
  cases g

/-- not earlier: the tokens before the blamed one are the beginning of a value -/
theorem parseValue_not_earlier (c : Bool) (toks : List Token) (eofPos pos : Nat) (b : Bool) (l : Nat)
    (h : parseValue c (initState toks eofPos) = .error (.syntax pos b l)) :
    ViableValuePrefix c (toks.take (toks.length - l)) := by
  let T := toks.take (toks.length - l)
  cases hr : parseValue c (initState T eofPos) with
  | ok r =>
    obtain ⟨v, σ1⟩ := r
    exact ⟨[], v, σ1.pos, by simpa [initState, PState.pos, T] using (parseValue_snd c _ _ _ hr).1⟩
  | error e =>
    cases e with
    | fuel =>
      exact absurd hr ((inferInstance : NFb T.length (parseValue c)).nf (initState T eofPos) (Nat.le_refl _))
    | «syntax» pos' b' l' =>
      have hl0 : l' = 0 := action_truncated (parseValue c) h eofPos pos' b' l' hr
      subst hl0
      obtain ⟨comp, hc⟩ := parseValueLiteral_completion c _ _ _ _ hr
      obtain ⟨v, e', hv⟩ := hc []
      exact ⟨comp, v, ⟨e', []⟩, by simpa [initState] using hv⟩

end GqlModel.Parser
