import GqlProofs.Normalize
/-! C06 (normaliser): `getVariableValues` on the user's definitions followed by
the synthetic ones, with `SynthArgs` merged over the client's variables, yields the client's coerced map extended by
the coerced client form of every extracted literal — or the same error. -/
namespace GqlModel.Normalize
open GqlModel.Coerce

theorem getVariableValuesGo_append (s : Schema) (inputs : Vars) : ∀ (ds1 ds2 : List VarDef) (acc : Vars),
    getVariableValuesGo s inputs (ds1 ++ ds2) acc =
      match getVariableValuesGo s inputs ds1 acc with
      | .error e => .error e
      | .ok a => getVariableValuesGo s inputs ds2 a := by
  intro ds1
  induction ds1 with
  | nil => intro ds2 acc; rfl
  | cons d ds ih =>
    intro ds2 acc
    simp only [List.cons_append, getVariableValuesGo]
    cases getVariableValue s d (lookupD inputs d.var.value) with
    | error e => rfl
    | ok v => exact ih ds2 _

theorem getVariableValuesGo_congr_inputs (s : Schema) (in1 in2 : Vars) : ∀ (ds : List VarDef) (acc : Vars),
    (∀ d ∈ ds, lookupD in1 d.var.value = lookupD in2 d.var.value) →
    getVariableValuesGo s in1 ds acc = getVariableValuesGo s in2 ds acc := by
  intro ds
  induction ds with
  | nil => intro acc _; rfl
  | cons d ds ih =>
    intro acc h
    simp only [getVariableValuesGo]
    rw [h d List.mem_cons_self]
    cases getVariableValue s d (lookupD in2 d.var.value) with
    | error e => rfl
    | ok v => exact ih _ (fun d' hd' => h d' (List.mem_cons_of_mem _ hd'))

theorem lookupD_append_not_mem (a b : List (String × JVal)) (k : String) (h : ∀ p ∈ a, p.1 ≠ k) :
    lookupD (a ++ b) k = lookupD b k := by
  rw [lookupD_append, JVal.lookup, List.find?_eq_none.mpr fun p hp => by simpa using h p hp]; rfl

theorem lookupD_append_mem (a b : List (String × JVal)) (k : String) (v : JVal)
    (hnd : (a.map (·.1)).Nodup) (hm : (k, v) ∈ a) : lookupD (a ++ b) k = v := by
  rw [lookupD_append, JVal.lookup, find_of_nodup_key (·.1) a (k, v) hnd hm]; rfl

/-- the coerced variable map of the normalised request: the client's map plus one entry per extracted literal -/
def extendVars (s : Schema) (es : List Entry) (acc : Vars) : Vars :=
  es.foldl (fun a e => JVal.insertSorted e.name (coerceValue s e.type (lti e.lit)) a) acc

theorem extendVars_eq (s : Schema) (es : List Entry) (acc : Vars) :
    extendVars s es acc =
      (es.map (fun e => (e.name, coerceValue s e.type (lti e.lit)))).foldl
        (fun a p => JVal.insertSorted p.1 p.2 a) acc := by
  unfold extendVars
  rw [List.foldl_map]

theorem getVariableValue_nodefault (s : Schema) (d : VarDef) (tr : TypeRef) (input : JVal)
    (ht : d.type = some tr) (hd : d.default = none) (hi : isInputType s (typeOfRef tr) = true)
    (hv : isValidInputValue s (typeOfRef tr) input = true) :
    getVariableValue s d input = .ok (coerceValue s (typeOfRef tr) input) := by
  unfold getVariableValue
  rw [ht]
  simp only [hi, hv, Bool.not_true, Bool.false_eq_true, if_false, if_true]
  rw [hd]
  cases input.isNull <;> rfl

theorem synthDefs_go (s : Schema) (inputs' : Vars) : ∀ (es : List Entry) (acc : Vars),
    (∀ e ∈ es, lookupD inputs' e.name = lti e.lit) →
    (∀ e ∈ es, isInputType s e.type = true ∧ isValidInputValue s e.type (lti e.lit) = true) →
    getVariableValuesGo s inputs' (es.map mkVarDef) acc = .ok (extendVars s es acc) := by
  intro es
  induction es with
  | nil => intro acc _ _; rfl
  | cons e es ih =>
    intro acc hin hok
    obtain ⟨h1, h2⟩ := hok e List.mem_cons_self
    have hv : getVariableValue s (mkVarDef e) (lookupD inputs' (mkVarDef e).var.value) =
        .ok (coerceValue s e.type (lti e.lit)) := by
      have : (mkVarDef e).var.value = e.name := rfl
      rw [this, hin e List.mem_cons_self]
      have := getVariableValue_nodefault s (mkVarDef e) (typeRefOf e.type) (lti e.lit) rfl rfl
        (by rw [typeOfRef_typeRefOf]; exact h1) (by rw [typeOfRef_typeRefOf]; exact h2)
      rw [typeOfRef_typeRefOf] at this
      exact this
    simp only [List.map_cons, getVariableValuesGo, hv]
    rw [ih _ (fun e' he' => hin e' (List.mem_cons_of_mem _ he')) (fun e' he' => hok e' (List.mem_cons_of_mem _ he'))]
    rfl

/-- names other than the synthetic ones keep their value -/
theorem lookupD_extendVars_other (s : Schema) (es : List Entry) (acc : Vars) (x : String)
    (h : ∀ e ∈ es, e.name ≠ x) : lookupD (extendVars s es acc) x = lookupD acc x := by
  rw [extendVars_eq, lookupD_foldl, lookupD_append_not_mem]
  intro p hp
  obtain ⟨e, he, rfl⟩ := List.mem_map.mp (List.mem_reverse.mp hp)
  exact h e he

/-- every synthetic variable holds the coerced client form of its literal -/
theorem realises_extendVars (s : Schema) (es : List Entry) (acc : Vars) (hnd : (es.map (·.name)).Nodup) :
    Realises s (extendVars s es acc) es := by
  intro e he
  rw [extendVars_eq, lookupD_foldl]
  apply lookupD_append_mem
  · rw [List.map_reverse, List.map_map]
    exact List.pairwise_reverse.mpr (hnd.imp Ne.symm)
  · exact List.mem_reverse.mpr (List.mem_map.mpr ⟨e, he, rfl⟩)

theorem getVariableValues_extra (s : Schema) (vars : List VarDef) (extra inputs : Vars)
    (h : ∀ d ∈ vars, ∀ p ∈ extra, p.1 ≠ d.var.value) :
    getVariableValues s vars (extra ++ inputs) = getVariableValues s vars inputs := by
  unfold getVariableValues
  exact getVariableValuesGo_congr_inputs s _ _ vars [] (fun d hd => lookupD_append_not_mem _ _ _ (h d hd))

/-- the user's definitions come first and do not read the synthetic inputs: they coerce as in the client's request, and
the definitions after them go on from their result -/
theorem getVariableValues_user_first (s : Schema) (vars ds : List VarDef) (es : List Entry) (inputs : Vars)
    (hfresh : ∀ e ∈ es, e.name ∉ userVarNames vars) :
    getVariableValues s (vars ++ ds) (es.map (fun e => (e.name, lti e.lit)) ++ inputs) =
      match getVariableValues s vars inputs with
      | .error e => .error e
      | .ok v => getVariableValuesGo s (es.map (fun e => (e.name, lti e.lit)) ++ inputs) ds v := by
  have hsame := getVariableValues_extra s vars (es.map (fun e => (e.name, lti e.lit))) inputs (fun d hd p hp heq => by
    obtain ⟨e, he, rfl⟩ := List.mem_map.mp hp
    exact hfresh e he ((show e.name = d.var.value from heq) ▸ List.mem_map.mpr ⟨d, hd, rfl⟩))
  unfold getVariableValues at hsame ⊢
  rw [getVariableValuesGo_append, hsame]

/-- `getVariableValues` of the normalised operation on (SynthArgs over the client's variables): the
client's own result, extended by the synthetic variables — or the client's own error. -/
theorem getVariableValues_normalised (s : Schema) (vars : List VarDef) (es : List Entry) (inputs : Vars)
    (hfresh : ∀ e ∈ es, e.name ∉ userVarNames vars) (hnd : (es.map (·.name)).Nodup)
    (hok : ∀ e ∈ es, isInputType s e.type = true ∧ isValidInputValue s e.type (lti e.lit) = true) :
    getVariableValues s (vars ++ es.map mkVarDef) (es.map (fun e => (e.name, lti e.lit)) ++ inputs) =
      match getVariableValues s vars inputs with
      | .error e => .error e
      | .ok v => .ok (extendVars s es v) := by
  rw [getVariableValues_user_first s vars _ es inputs hfresh]
  cases getVariableValues s vars inputs with
  | error e => rfl
  | ok v =>
    simp only []
    apply synthDefs_go
    · intro e he
      apply lookupD_append_mem
      · have : (es.map (fun e => (e.name, lti e.lit))).map (·.1) = es.map (·.name) := by
          simp [List.map_map, Function.comp_def]
        rw [this]; exact hnd
      · exact List.mem_map.mpr ⟨e, he, rfl⟩
    · exact hok

end GqlModel.Normalize
