import GqlProofs.CoerceBasic
/-! C05: every Int-typed position of a coerced value holds null or an integer within 32 bits (structural
version of `int_range`): lists, non-null wrappers, nested input objects; values copied from schema defaults are
covered by a premise on the schema (the library copies them uncoerced). -/
namespace GqlModel.Coerce

def intOK : JVal → Bool
  | .null => true
  | .int i => inInt32 i
  | _ => false

/-- every position of declared type Int inside `r` (read against type `t`) holds null or a 32-bit integer -/
def rangeStep (s : Schema) (self : GType → JVal → Bool) : GType → JVal → Bool
  | .nonNull t, r => rangeStep s self t r
  | .list t, r =>
    match r with
    | .list xs => xs.all (rangeStep s self t)
    | _ => true
  | .named n, r =>
    match s.find? n with
    | some (.scalar _ .int _) => intOK r
    | some (.inputObject _ fields _) =>
      match r with
      | .obj kv => fields.all (fun f => self f.type (lookupD kv f.name))
      | _ => true
    | _ => true

def intsInRangeF (s : Schema) : Nat → GType → JVal → Bool := iter (fun _ _ => true) (rangeStep s)

/-- fuel-free: any fuel above the nesting depth of `r` -/
def intsInRange (s : Schema) (t : GType) (r : JVal) : Bool := intsInRangeF s (odepth r + 1) t r

/-- schema premise: the configured input-field defaults respect the Int range -/
def defaultsInRange (s : Schema) : Prop :=
  ∀ n nm fields d, s.find? n = some (.inputObject nm fields d) →
    ∀ f ∈ fields, ∀ dv, f.default = some dv → ∀ m, intsInRangeF s m f.type dv = true

theorem intOK_intOfDec (m : Int) (e : Nat) : intOK (intOfDec m e) = true := by
  unfold intOfDec
  simp only
  split
  · rfl
  · rename_i hc
    simp only [Bool.or_eq_true, decide_eq_true_eq, not_or, Int.not_lt] at hc
    have hp : (0 : Int) < 10 ^ e := Int.pow_pos (by decide)
    simp only [intOK, inInt32, Bool.and_eq_true, decide_eq_true_eq]
    constructor
    · -- minInt32 * p ≤ m → minInt32 ≤ m.tdiv p
      have : (minInt32 * 10 ^ e).tdiv (10 ^ e) ≤ m.tdiv (10 ^ e) := Int.tdiv_le_tdiv hp hc.1
      rwa [Int.mul_tdiv_cancel _ (Int.ne_of_gt hp)] at this
    · have : m.tdiv (10 ^ e) ≤ (maxInt32 * 10 ^ e).tdiv (10 ^ e) := Int.tdiv_le_tdiv hp hc.2
      rwa [Int.mul_tdiv_cancel _ (Int.ne_of_gt hp)] at this

theorem intOK_coerceInt (v : JVal) : intOK (coerceInt v) = true := by
  cases v with
  | bool b => cases b <;> rfl
  | int j =>
    simp only [coerceInt]
    split
    · assumption
    · rfl
  | dec m e => exact intOK_intOfDec m e
  | str x =>
    simp only [coerceInt]
    split
    · rfl
    · split
      · exact intOK_intOfDec _ _
      · rfl
  | _ => rfl

theorem coerceInt_range (v : JVal) (i : Int) (h : coerceInt v = .int i) : inInt32 i = true := by
  have := intOK_coerceInt v
  rwa [h] at this

theorem parseLiteral_int_range (l : Value) (i : Int) (h : parseLiteral .int l = .int i) : inInt32 i = true := by
  cases l <;> simp only [parseLiteral] at h <;> try (cases h)
  split at h
  · split at h
    · rename_i hj; simp only [JVal.int.injEq] at h; subst h; exact hj
    · cases h
  · cases h

theorem rangeStep_null (s : Schema) (self : GType → JVal → Bool) (t : GType) : rangeStep s self t .null = true := by
  induction t with
  | nonNull t ih => simpa [rangeStep] using ih
  | list t ih => simp [rangeStep]
  | named n =>
    simp only [rangeStep]
    split <;> simp [intOK]

theorem intsInRangeF_null (s : Schema) (n : Nat) (t : GType) : intsInRangeF s n t .null = true := by
  cases n with
  | zero => rfl
  | succ n => exact rangeStep_null s _ t

theorem fieldEntry_cases (f : InputFieldS) (c : JVal) :
    (c.isNull = false ∧ fieldEntry f c = some (f.name, c)) ∨
    (c.isNull = true ∧ (f.default.getD .null).isNull = false ∧ fieldEntry f c = some (f.name, f.default.getD .null)) ∨
    (c.isNull = true ∧ (f.default.getD .null).isNull = true ∧ fieldEntry f c = none) := by
  unfold fieldEntry entryOf
  cases hc : c.isNull
  · left; simp [hc]
  · right
    cases hd : (f.default.getD .null).isNull
    · left; simp [hd]
    · right; simp [hd]

/-! ## lookup in a map built by assignments -/

theorem lookup_cons (k : String) (v : JVal) (l : List (String × JVal)) (k' : String) :
    JVal.lookup ((k, v) :: l) k' = if k == k' then some v else JVal.lookup l k' := by
  simp only [JVal.lookup, List.find?_cons]
  cases k == k' <;> rfl

theorem lookup_insertSorted (k : String) (v : JVal) (l : List (String × JVal)) (k' : String) :
    JVal.lookup (JVal.insertSorted k v l) k' = if k == k' then some v else JVal.lookup l k' := by
  induction l with
  | nil => exact lookup_cons k v [] k'
  | cons p ps ih =>
    obtain ⟨k0, v0⟩ := p
    simp only [JVal.insertSorted]
    split
    · exact lookup_cons ..
    · split
      · next h => rw [lookup_cons, lookup_cons, ← eq_of_beq h]; cases k == k' <;> rfl
      · next h => rw [lookup_cons, ih, lookup_cons]; by_cases hk : k = k' <;> by_cases h0 : k0 = k' <;> simp_all

theorem lookupD_insertSorted (k : String) (v : JVal) (l : List (String × JVal)) (k' : String) :
    lookupD (JVal.insertSorted k v l) k' = if k == k' then v else lookupD l k' := by
  simp only [lookupD, lookup_insertSorted]
  by_cases h : (k == k') = true <;> simp [h]

theorem lookupD_append (a b : List (String × JVal)) (k : String) :
    lookupD (a ++ b) k = (JVal.lookup a k).getD (lookupD b k) := by
  simp only [lookupD, JVal.lookup, List.find?_append]
  cases a.find? (fun p => p.1 == k) <;> rfl

/-- a map filled by assignments answers like the list of the assignments read backwards: the last one wins -/
theorem lookupD_foldl (es acc : List (String × JVal)) (k : String) :
    lookupD (es.foldl (fun acc e => JVal.insertSorted e.1 e.2 acc) acc) k = lookupD (es.reverse ++ acc) k := by
  induction es generalizing acc with
  | nil => rfl
  | cons e es ih =>
    rw [List.foldl_cons, ih, List.reverse_cons, List.append_assoc, lookupD_append, lookupD_append, lookupD_insertSorted]
    congr 1
    simp only [lookupD, JVal.lookup, List.singleton_append, List.find?_cons]
    cases e.1 == k <;> rfl

theorem lookupD_entries (fields : List InputFieldS) (c : InputFieldS → JVal) (acc : List (String × JVal))
    (hnd : (fields.map (·.name)).Nodup) (f : InputFieldS) (hf : f ∈ fields) :
    lookupD ((fields.filterMap (fun f => fieldEntry f (c f))).foldl (fun acc e => JVal.insertSorted e.1 e.2 acc) acc) f.name =
      match fieldEntry f (c f) with
      | some e => e.2
      | none => lookupD acc f.name := by
  have hkey : ∀ (g : InputFieldS) (e : String × JVal), fieldEntry g (c g) = some e → e.1 = g.name := by
    intro g e he
    rcases fieldEntry_cases g (c g) with ⟨_, h⟩ | ⟨_, _, h⟩ | ⟨_, _, h⟩ <;> rw [h] at he
    · cases he; rfl
    · cases he; rfl
    · cases he
  rw [lookupD_foldl, lookupD_append, JVal.lookup,
    findLast_filterMap_of_nodup_key (·.name) (fun e : String × JVal => e.1) _ hkey hnd hf]
  cases fieldEntry f (c f) <;> rfl

theorem rangeStep_coerce (s : Schema) (hwf : inputFieldsNodup s)
    (selfC : GType → JVal → JVal) (selfR : GType → JVal → Bool)
    (ihC : ∀ t v, selfR t (selfC t v) = true) (ihN : ∀ t, selfR t .null = true)
    (ihD : ∀ n nm fields d, s.find? n = some (.inputObject nm fields d) →
      ∀ f ∈ fields, ∀ dv, f.default = some dv → selfR f.type dv = true) :
    ∀ t v, rangeStep s selfR t (coerceStep s selfC t v) = true := by
  intro t
  induction t with
  | nonNull t ih =>
    intro v
    simp only [coerceStep, rangeStep]
    split
    · exact rangeStep_null s selfR t
    · exact ih v
  | list t ih =>
    intro v
    cases v with
    | null => simp [coerceStep, rangeStep]
    | list xs =>
      simp only [coerceStep, rangeStep, List.all_eq_true, List.mem_map]
      rintro r ⟨x, _, rfl⟩
      exact ih x
    | _ => simp [coerceStep, rangeStep, ih]
  | named n =>
    intro v
    simp only [coerceStep]
    split
    · exact rangeStep_null s selfR _
    · simp only [rangeStep]
      cases hf : s.find? n with
      | none => rfl
      | some td =>
        cases td with
        | scalar nm k d =>
          cases k <;> simp only [parseValue]
          exact intOK_coerceInt v
        | inputObject nm fields d =>
          have hentry : ∀ (c : InputFieldS → JVal), (∀ f, selfR f.type (c f) = true) →
              fields.all (fun f => selfR f.type
                (lookupD (mkObj (fields.filterMap (fun f => fieldEntry f (c f)))) f.name)) = true := by
            intro c hc
            simp only [List.all_eq_true]
            intro f hfm
            rw [mkObj, lookupD_entries fields c [] (hwf n nm fields d hf) f hfm]
            rcases fieldEntry_cases f (c f) with ⟨_, h⟩ | ⟨_, hdn, h⟩ | ⟨_, _, h⟩ <;> rw [h]
            · exact hc f
            · simp only
              cases hdv : f.default with
              | none => rw [hdv] at hdn; simp [JVal.isNull] at hdn
              | some dv => simpa using ihD n nm fields d hf f hfm dv hdv
            · simpa [lookupD, JVal.lookup] using ihN f.type
          cases v with
          | obj kv => exact hentry (fun f => selfC f.type (lookupD kv f.name)) (fun f => ihC _ _)
          | _ => exact hentry (fun _ => .null) (fun f => ihN f.type)
        | _ => rfl

theorem coerceValueF_intsInRange (s : Schema) (hwf : inputFieldsNodup s) (hd : defaultsInRange s) :
    ∀ (n : Nat) (t : GType) (v : JVal), intsInRangeF s n t (coerceValueF s n t v) = true := by
  intro n
  induction n with
  | zero => intro t v; rfl
  | succ n ih =>
    intro t v
    exact rangeStep_coerce s hwf _ _ ih (intsInRangeF_null s n) (fun n' nm fields d hf f hfm dv hdv => hd n' nm fields d hf f hfm dv hdv n) t v

end GqlModel.Coerce
