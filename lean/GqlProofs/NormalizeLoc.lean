import GqlProofs.RequestSim
/-! C06: the executor model does not look at source locations. Two selections with the same `stripLoc` image are related
by the relation of `SelRel` (same variable map), variable definitions and fragment tables with the same image evaluate
alike / are related; hence two documents with the same image are requests the executor cannot tell apart
(`reqSim_stripEq`, behind `execute_ignores_locations` of Props/C06). -/
namespace GqlModel.Normalize
open GqlModel.Coerce GqlModel.Exec

theorem RSel_of_stripEq (s : Schema) (vars : Vars) : ∀ (x y : Selection) (P : String), x.stripLoc = y.stripLoc →
    RSel s vars vars P x y :=
  fun x y P h => RSel_of_image s vars vars x y P h (fun _ _ => rfl)
theorem ROpt_of_stripEq (s : Schema) (vars : Vars) : ∀ (x y : Option SelectionSet) (P : String),
    SelectionSet.stripLocOpt x = SelectionSet.stripLocOpt y → ROpt s vars vars P x y :=
  fun x y P h => ROpt_of_image s vars vars x y P h (fun _ _ => rfl)
theorem RSet_of_stripEq (s : Schema) (vars : Vars) : ∀ (x y : SelectionSet) (P : String), x.stripLoc = y.stripLoc →
    RSet s vars vars P x y :=
  fun x y P h => RSet_of_image s vars vars x y P h (fun _ _ => rfl)
theorem RList_of_stripEq (s : Schema) (vars : Vars) : ∀ (xs ys : List Selection) (P : String),
    Selection.stripLocList xs = Selection.stripLocList ys → RList s vars vars P xs ys :=
  fun xs ys P h => RList_of_image s vars vars xs ys P h (fun _ _ => rfl)

/-! Each fact is proved for a definition against its own location-free image; two definitions with the same image then
agree through it. -/

theorem typeOfRef_strip (t : TypeRef) : typeOfRef t.stripLoc = typeOfRef t ∧ t.stripLoc.render = t.render := by
  induction t with
  | named n l => exact ⟨rfl, rfl⟩
  | list t l ih => simp only [TypeRef.stripLoc, typeOfRef, TypeRef.render, ih.1, ih.2, and_self]
  | nonNull t l ih => simp only [TypeRef.stripLoc, typeOfRef, TypeRef.render, ih.1, ih.2, and_self]

theorem getVariableValue_strip (s : Schema) (a : VarDef) (input : JVal) :
    getVariableValue s a.stripLoc input = getVariableValue s a input := by
  obtain ⟨av, avl, at_, ad, al⟩ := a
  cases at_ with
  | none => rfl
  | some t =>
    unfold getVariableValue
    dsimp only [VarDef.stripLoc, Name.stripLoc, Option.map_some]
    rw [(typeOfRef_strip t).1, (typeOfRef_strip t).2]
    cases ad with
    | none => rfl
    | some d =>
      cases input.isNull
      · rfl
      · dsimp only [Option.map_some]
        rw [valueFromAST_strip]

theorem getVariableValuesGo_strip (s : Schema) (inputs : Vars) : ∀ (as : List VarDef) (acc : Vars),
    getVariableValuesGo s inputs (as.map VarDef.stripLoc) acc = getVariableValuesGo s inputs as acc
  | [], _ => rfl
  | a :: as, acc => by
    have hv : a.stripLoc.var.value = a.var.value := rfl
    simp only [List.map_cons, getVariableValuesGo, getVariableValue_strip, hv]
    cases getVariableValue s a (lookupD inputs a.var.value) with
    | error e => rfl
    | ok v => exact getVariableValuesGo_strip s inputs as _

theorem getVariableValues_of_stripEq (s : Schema) (inputs : Vars) (as bs : List VarDef)
    (h : as.map VarDef.stripLoc = bs.map VarDef.stripLoc) : getVariableValues s bs inputs = getVariableValues s as inputs := by
  unfold getVariableValues
  rw [← getVariableValuesGo_strip s inputs bs, ← h, getVariableValuesGo_strip]

def SE (a b : Definition) : Prop := a.stripLoc = b.stripLoc

theorem All2.of_map_eq {α β : Type} (f : α → β) : ∀ (xs ys : List α), xs.map f = ys.map f → All2 (fun a b => f a = f b) xs ys
  | [], [], _ => trivial
  | x :: xs, y :: ys, h => by
    simp only [List.map_cons, List.cons.injEq] at h
    exact ⟨h.1, All2.of_map_eq f xs ys h.2⟩
  | [], _ :: _, h => by simp at h
  | _ :: _, [], h => by simp at h

theorem defKind_strip (d : Definition) : defKind d.stripLoc = defKind d := by
  cases d with
  | operation _ name _ _ _ _ => cases name <;> rfl
  | _ => rfl

theorem SE.kind (a b : Definition) (h : SE a b) : defKind b = defKind a := by
  rw [← defKind_strip b, ← h, defKind_strip]

theorem SE.operation {op : OpType} {name : Option Name} {vars : List VarDef} {dirs : List Directive} {sel : SelectionSet}
    {loc : Loc} {b : Definition} (h : SE (.operation op name vars dirs sel loc) b) :
    ∃ name' vars' dirs' sel' loc', b = .operation op name' vars' dirs' sel' loc' ∧
      vars.map VarDef.stripLoc = vars'.map VarDef.stripLoc ∧ sel.stripLoc = sel'.stripLoc := by
  cases b with
  | operation op' name' vars' dirs' sel' loc' =>
    injection h with hop _ hvars _ hsel _
    exact ⟨name', vars', dirs', sel', loc', hop ▸ rfl, hvars, hsel⟩
  | _ => cases h

def stripEntry (p : String × Definition) : String × Definition := (p.1, p.2.stripLoc)

theorem fragments_strip (d : Document) : d.stripLoc.fragments = d.fragments.map stripEntry := by
  rw [fragments_eq, fragments_eq, List.map_filterMap]
  show (d.defs.map Definition.stripLoc).filterMap fragOf = _
  rw [List.filterMap_map]
  exact congrArg (List.filterMap · d.defs) (funext fun x => by cases x <;> rfl)

theorem frag?_strip (c : Ctx) (n : String) :
    ({ c with frags := c.frags.map stripEntry } : Ctx).frag? n =
      (c.frag? n).map (fun p => (p.1.stripLoc, p.2.stripLoc)) := by
  unfold Ctx.frag?
  have hp : ((fun p : String × Definition => p.1 == n) ∘ stripEntry) = fun p => p.1 == n := rfl
  simp only [List.filter_map, hp, List.getLast?_map]
  cases (c.frags.filter (fun p => p.1 == n)).getLast? with
  | none => rfl
  | some p =>
    obtain ⟨k, d⟩ := p
    cases d <;> rfl

theorem fragsRel_of_stripEq (c : Ctx) (frags' : List (String × Definition))
    (h : c.frags.map stripEntry = frags'.map stripEntry) : FragsRel c c.vars frags' := by
  intro n
  have hn := frag?_strip c n
  rw [h, show ({ c with frags := frags'.map stripEntry } : Ctx) =
    { ctx' c c.vars frags' with frags := (ctx' c c.vars frags').frags.map stripEntry } from rfl, frag?_strip] at hn
  cases h1 : c.frag? n with
  | none =>
    cases h2 : (ctx' c c.vars frags').frag? n with
    | none => exact Or.inl ⟨rfl, rfl⟩
    | some q => rw [h1, h2] at hn; cases hn
  | some p =>
    cases h2 : (ctx' c c.vars frags').frag? n with
    | none => rw [h1, h2] at hn; cases hn
    | some q =>
      rw [h1, h2] at hn
      injection Option.some.inj hn with ht hs
      exact Or.inr ⟨p.1, p.2, q.1, q.2, rfl, rfl,
        fun rt => condApplies_of_stripEq c.schema (some p.1) (some q.1) (congrArg some ht.symm) rt,
        fun rt => RSet_of_stripEq c.schema c.vars p.2 q.2 rt hs.symm⟩
theorem reqSim_stripEq (s : Schema) (w : World) (opName : String) (d1 d2 : Document) (inputs : Vars)
    (h : d1.stripLoc = d2.stripLoc) : ReqSim s w opName d1 inputs d2 inputs := by
  have hfrags : d1.fragments.map stripEntry = d2.fragments.map stripEntry := by
    rw [← fragments_strip, ← fragments_strip, h]
  refine ReqSim.of_rel SE.kind (All2.of_map_eq Definition.stripLoc _ _ (congrArg Document.defs h)) fun a b _ hab => ?_
  refine ⟨SE.kind a b hab, fun op name vars dirs sel loc ha => ?_⟩
  subst ha
  obtain ⟨name', vars', dirs', sel', loc', rfl, hvars, hss⟩ := hab.operation
  refine ⟨name', vars', dirs', sel', loc', rfl, fun root _ => ?_⟩
  rw [getVariableValues_of_stripEq s inputs vars vars' hvars]
  cases getVariableValues s vars inputs with
  | error e => rfl
  | ok v =>
    exact ⟨v, rfl, fragsRel_of_stripEq ⟨s, d1.fragments, v, w⟩ d2.fragments hfrags,
      by simpa only [List.length_map] using (congrArg List.length hfrags).symm, RSet_of_stripEq s v sel sel' root hss⟩

end GqlModel.Normalize
