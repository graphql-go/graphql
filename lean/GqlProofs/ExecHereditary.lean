import GqlModel.Invocations
import GqlProofs.ExecErr
import GqlProofs.ExecLog
import GqlProofs.ExecRoot
/-! C20: a property of positions that every executed selection set establishes for its own position holds
hereditarily — at every position at or below an object reached from a resolver value, wherever the completed value
holds an object at that place (`HeredOf`, `heredP`, by simultaneous induction on fuel).  "Every reached position is
resolved" (`ResP`, ExecResolved) and "`__typename` names the runtime type" (`TnP`, ExecTypename) are its instances. -/
namespace GqlModel.Exec

section
variable {c : Ctx} {rt k : String} {groups : Groups} {nodes : List FieldNode} {node : FieldNode} {fd : FieldDefS}

theorem Selected.mem (h : Selected c rt groups k nodes node fd) : (k, nodes) ∈ groups := h.1
theorem Selected.head (h : Selected c rt groups k nodes node fd) : nodes.head? = some node := h.2.1
theorem Selected.fieldDef (h : Selected c rt groups k nodes node fd) : fieldDef? c.schema rt node.name = some fd := h.2.2.1
theorem Selected.not_typename (h : Selected c rt groups k nodes node fd) : fd.name ≠ "__typename" := h.2.2.2

theorem Selected.of_mem {groups' : Groups} (h : Selected c rt groups k nodes node fd) (hm : (k, nodes) ∈ groups') :
    Selected c rt groups' k nodes node fd := ⟨hm, h.2⟩
end

theorem ObjAt.prefix {c : Ctx} {t : GType} {p : Path} {v : GoVal} {ot : String} {o : GoVal} {p' : Path}
    (h : ObjAt c t p v ot o p') : p <+: p' := by
  induction h with
  | thunk _ ih | nonNull _ ih => exact ih
  | item _ _ ih => exact (List.prefix_append _ _).trans ih
  | object | abstract => exact List.prefix_refl _

theorem PosFrom.prefix {c : Ctx} {rt0 : String} {src0 : GoVal} {path0 : Path} {G0 : Groups}
    {rt : String} {src : GoVal} {path : Path} {G : Groups}
    (h : PosFrom c rt0 src0 path0 G0 rt src path G) : path0 <+: path := by
  induction h with
  | base => exact List.prefix_refl _
  | child _ _ _ ho ih =>
    exact ih.trans ((List.prefix_append _ _).trans ho.prefix)

theorem PosFrom.head_cases {c : Ctx} {rt rt' : String} {src src' : GoVal} {path path' : Path} {groups G' : Groups}
    (h : PosFrom c rt src path groups rt' src' path' G') :
    (rt' = rt ∧ src' = src ∧ path' = path ∧ G' = groups) ∨
    ∃ k nodes node fd v ot o p', Selected c rt groups k nodes node fd ∧ c.world.outcome src fd.name = .value v ∧
      ObjAt c fd.type (path ++ [.key k]) v ot o p' ∧
      PosFrom c ot o p' (collectMerged c ot nodes) rt' src' path' G' := by
  induction h with
  | base => exact .inl ⟨rfl, rfl, rfl, rfl⟩
  | child hq hsel hout hobj ih =>
    right
    rcases ih with ⟨rfl, rfl, rfl, rfl⟩ | ⟨k, nodes, node, fd, v, ot, o, p', h1, h2, h3, h4⟩
    · exact ⟨_, _, _, _, _, _, _, _, hsel, hout, hobj, .base⟩
    · exact ⟨k, nodes, node, fd, v, ot, o, p', h1, h2, h3, .child h4 hsel hout hobj⟩

section
variable {c : Ctx} {t : GType} {n ot : String} {p p' : Path} {v o : GoVal}

theorem ObjAt.of_thunk (h : ObjAt c t p (.thunk (.ok v)) ot o p') : ObjAt c t p v ot o p' := by
  generalize hw : GoVal.thunk (.ok v) = w at h
  induction h with
  | thunk h _ => cases hw; exact h
  | nonNull _ ih => exact .nonNull (ih hw)
  | item => cases hw
  | object hf | abstract hf => subst hw; cases hf

theorem ObjAt.of_nonNull (hf : v.isFunc = false) (h : ObjAt c (.nonNull t) p v ot o p') : ObjAt c t p v ot o p' := by
  cases h with
  | thunk => cases hf
  | nonNull h => exact h

theorem ObjAt.not_leaf (h : ObjAt c (.named n) p v ot o p') (hf : v.isFunc = false)
    (hleaf : c.schema.isLeaf n = true) : False := by
  cases h with
  | thunk => cases hf
  | object _ _ hobj => cases (isLeaf_not_object hleaf).symm.trans hobj
  | abstract _ _ habs => cases (isLeaf_not_abstract hleaf).symm.trans habs

theorem ObjAt.of_runtimeObject {ot' : String} (h : ObjAt c (.named n) p v ot' o p') (hf : v.isFunc = false)
    (hrun : RuntimeObject c v n ot) : ot' = ot ∧ o = v ∧ p' = p := by
  cases h with
  | thunk => cases hf
  | object _ _ hobj =>
    cases hrun with
    | abstract _ habs => cases (isAbstract_not_object habs).symm.trans hobj
    | object => exact ⟨rfl, rfl, rfl⟩
  | abstract _ _ habs hrt =>
    cases hrun with
    | abstract _ _ hot =>
      cases hot.symm.trans hrt
      exact ⟨rfl, rfl, rfl⟩
    | object _ hnabs => cases hnabs.symm.trans habs

end

section
variable {c : Ctx} {fuel : Nat} {dfr : Bool} {rt : String} {nodes : List FieldNode} {p : Path} {st st' : St}
  {fs : List (String × JVal)}

theorem execGroups_ok_mem_acc {src : GoVal} {path : Path} {groups : Groups} {acc : List (String × JVal)}
    (h : execGroups c fuel dfr rt src path groups acc st = (.ok fs, st')) {e : String × JVal} (he : e ∈ acc) :
    e ∈ fs := by
  obtain ⟨m, -, -, rfl, -⟩ := execGroups_ok_run h
  exact List.mem_append_left _ he

theorem completeItems_ok_getElem_acc {t : GType} {fname : String} {xs : List GoVal} {i : Nat} {acc js : List JVal}
    (h : completeItems c fuel dfr t rt fname nodes p xs i acc st = (.ok js, st')) {k : Nat} {y : JVal}
    (hy : acc[k]? = some y) : js[k]? = some y := by
  obtain ⟨m, -, -, rfl, -⟩ := completeItems_ok_run h
  exact List.getElem?_append_left (List.getElem?_eq_some_iff.mp hy).1 ▸ hy

end

/-- `Q rt' path' G' fs'` at every position at or below an object reached from `v`, where `j` holds the object `fs'` -/
def HeredOf (Q : String → Path → Groups → List (String × JVal) → Prop) (c : Ctx) (t : GType) (p : Path) (v : GoVal)
    (nodes : List FieldNode) (j : JVal) : Prop :=
  ∀ ot o p', ObjAt c t p v ot o p' →
    ∀ rt' src' path' G', PosFrom c ot o p' (collectMerged c ot nodes) rt' src' path' G' →
      ∀ rel fs', path' = p ++ rel → ValAt j rel (.obj fs') → Q rt' path' G' fs'

/-- what a selection set that succeeded with fields `fs` guarantees for each of its selected fields -/
def GroupsH (Q : String → Path → Groups → List (String × JVal) → Prop) (c : Ctx) (rt : String) (src : GoVal) (path : Path)
    (groups : Groups) (fs : List (String × JVal)) : Prop :=
  ∀ k nodes node fd, Selected c rt groups k nodes node fd → ∀ v, c.world.outcome src fd.name = .value v →
    ∃ x, (k, x) ∈ fs ∧ HeredOf Q c fd.type (path ++ [.key k]) v nodes x

section
variable {Q Q' : String → Path → Groups → List (String × JVal) → Prop} {c : Ctx} {t : GType} {p : Path} {v : GoVal}
  {nodes : List FieldNode} {j : JVal}

theorem HeredOf.imp (hq : ∀ rt path G fs, Q rt path G fs → Q' rt path G fs) (h : HeredOf Q c t p v nodes j) :
    HeredOf Q' c t p v nodes j :=
  fun ot o p' ho rt' src' path' G' hpos rel fs' hrel hval => hq _ _ _ _ (h ot o p' ho rt' src' path' G' hpos rel fs' hrel hval)

theorem HeredOf.null : HeredOf Q c t p v nodes .null :=
  fun _ _ _ _ _ _ _ _ _ _ _ _ hval => by cases hval

/-- from the fields to the whole object, given the property at the object's own position -/
theorem GroupsH.hered {rt rt' : String} {src src' : GoVal} {path path' rel : Path} {groups G' : Groups}
    {fs fs' : List (String × JVal)} (hg : GroupsH Q c rt src path groups fs) (hbase : Q rt path groups fs)
    (hn : (fs.map (·.1)).Nodup) (hpos : PosFrom c rt src path groups rt' src' path' G')
    (hrel : path' = path ++ rel) (hval : ValAt (.obj fs) rel (.obj fs')) : Q rt' path' G' fs' := by
  rcases hpos.head_cases with
    ⟨rfl, rfl, rfl, rfl⟩ | ⟨k, nodes, node, fd, v, ot, o, p', hsel, hout, hobj, hbelow⟩
  · cases List.self_eq_append_right.mp hrel
    cases hval
    exact hbase
  · obtain ⟨x, hx, hh⟩ := hg k nodes node fd hsel v hout
    obtain ⟨rel', rfl⟩ := rel_cons_of_prefix hrel (hobj.prefix.trans hbelow.prefix)
    cases hval with
    | key hx' hval' =>
      cases mem_unique_of_keys_nodup hn hx hx'
      exact hh ot o p' hobj rt' src' path' G' hbelow rel' fs' (by rw [hrel, List.append_assoc]; rfl) hval'
end

/-- the property may depend on the log, monotonically; `QL log` is established by every selection set run from the
empty accumulator -/
structure HeredP (QL : List LogEntry → String → Path → Groups → List (String × JVal) → Prop) (c : Ctx) (fuel : Nat) :
    Prop where
  groups : ∀ dfr rt src path groups acc st fs st',
    execGroups c fuel dfr rt src path groups acc st = (.ok fs, st') → GroupsH (QL st'.log) c rt src path groups fs
  field : ∀ dfr rt src p fd nodes st j st',
    execField c fuel dfr rt src p fd nodes st = (.ok j, st') → fd.name ≠ "__typename" →
    ∀ v, c.world.outcome src fd.name = .value v → HeredOf (QL st'.log) c fd.type p v nodes j
  complete : ∀ dfr t rt fname nodes p v st j st',
    complete c fuel dfr t rt fname nodes p v st = (.ok j, st') → HeredOf (QL st'.log) c t p v nodes j
  /-- `i = acc.length`: as in `ErrP.items` -/
  items : ∀ dfr item rt fname nodes p xs i acc st js st',
    completeItems c fuel dfr item rt fname nodes p xs i acc st = (.ok js, st') → i = acc.length →
    ∀ m x, xs[m]? = some x → ∃ y, js[i + m]? = some y ∧ HeredOf (QL st'.log) c item (p ++ [.idx (i + m)]) x nodes y

section
variable {QL : List LogEntry → String → Path → Groups → List (String × JVal) → Prop} {c : Ctx}
  (hmono : ∀ log log' rt path G fs, log <:+ log' → QL log rt path G fs → QL log' rt path G fs)
  (hbase : ∀ fuel dfr rt src path groups st fs st', execGroups c fuel dfr rt src path groups [] st = (.ok fs, st') →
    (fs.map (·.1)).Nodup → QL st'.log rt path groups fs)
include hmono hbase

/-- A selected field of the first group is covered by that field's execution, one of the other groups by the rest of
the selection set; an object value is covered by its selection set, a list by its items. -/
theorem heredP_succ {fuel : Nat} (ih : HeredP QL c fuel) : HeredP QL c (fuel + 1) where
  groups := by
    intro dfr rt src path groups acc st fs st' h k nodes node fd hsel
    cases GroupsStep.of_eq h with
    | nil => cases hsel.mem
    | skip hno h =>
      rcases List.mem_cons.mp hsel.mem with hm | hm
      · cases hm
        exact absurd hsel.fieldDef (hno node fd hsel.head)
      · exact ih.groups _ _ _ _ _ _ _ _ _ h k nodes node fd (hsel.of_mem hm)
    | @ok _ _ rest _ _ _ node0 fd0 v0 st1 hh hfd hf hrest =>
      rcases List.mem_cons.mp hsel.mem with hm | hm
      · cases hm
        cases hh.symm.trans hsel.head
        cases hfd.symm.trans hsel.fieldDef
        obtain ⟨new, hl, -⟩ := (logP c fuel).groups _ _ _ _ _ _ _ _ _ hrest
        have hmem : (k, v0) ∈ fs := execGroups_ok_mem_acc hrest (List.mem_append_right _ List.mem_cons_self)
        exact fun v hv => ⟨v0, hmem, (ih.field _ _ _ _ _ _ _ _ _ hf hsel.not_typename v hv).imp
          fun _ _ _ _ => hmono _ _ _ _ _ _ ⟨new, hl.symm⟩⟩
      · exact ih.groups _ _ _ _ _ _ _ _ _ hrest k nodes node fd (hsel.of_mem hm)
  field := by
    intro dfr rt src p fd nodes st j st' h hn v hv
    generalize hr : Res.ok j = r at h
    cases FieldStep.of_eq h with
    | typename hn' => exact absurd (eq_of_beq hn') hn
    | resolverFails _ ho => cases ho.symm.trans hv
    | value _ ho hc =>
      cases ho.symm.trans hv
      rcases absorb_ok_cases hr.symm with rfl | ⟨-, rfl⟩
      · exact ih.complete _ _ _ _ _ _ _ _ _ _ hc
      · exact HeredOf.null
  complete := by
    intro dfr t rt fname nodes p v st j st' h
    generalize hr : Res.ok j = r at h
    cases CompleteStep.of_eq h with
    | thunkErr | badFunc | thunkFail | nonNullNull | rejected => cases hr
    | thunkPass hc =>
      cases hr
      exact fun ot o p' ho => ih.complete _ _ _ _ _ _ _ _ _ _ hc ot o p' ho.of_thunk
    | nonNullPass hf hc =>
      cases hr
      exact fun ot o p' ho => ih.complete _ _ _ _ _ _ _ _ _ _ hc ot o p' (ho.of_nonNull hf)
    | immediate hf hv =>
      cases hr
      cases hv with
      | nullList | nullNamed => exact HeredOf.null
      | leaf _ hleaf => exact fun ot o p' ho => (ho.not_leaf hf hleaf).elim
    | items hi =>
      obtain ⟨js, rfl, rfl⟩ := Res.mapOk_ok_cases hr.symm
      -- a position below a list lies below one of its items
      intro ot o p' ho rt' src' path' G' hpos rel fs' hrel hval
      cases ho with
      | @item _ _ _ i x _ _ _ hx hox =>
        obtain ⟨y, hy, hh⟩ := ih.items _ _ _ _ _ _ _ _ _ _ _ _ hi rfl i x hx
        rw [Nat.zero_add] at hy hh
        obtain ⟨rel', rfl⟩ := rel_cons_of_prefix hrel (hox.prefix.trans hpos.prefix)
        cases hval with
        | idx hy' hval' =>
          cases hy.symm.trans hy'
          exact hh ot o p' hox rt' src' path' G' hpos rel' fs' (by rw [hrel, List.append_assoc]; rfl) hval'
    | object hf _ hrun hg =>
      obtain ⟨fs, rfl, rfl⟩ := Res.mapOk_ok_cases hr.symm
      -- only positions at or below the runtime object matter; its own position has the property by `hbase`
      intro ot' o p' ho rt' src' path' G' hpos rel fs' hrel hval
      obtain ⟨rfl, rfl, rfl⟩ := ho.of_runtimeObject hf hrun
      have hkeys := execGroups_ok_keys_nodup hg (collectMerged_keys_nodup c _ nodes)
      exact (ih.groups _ _ _ _ _ _ _ _ _ hg).hered (hbase _ _ _ _ _ _ _ _ _ hg hkeys) hkeys hpos hrel hval
  items := by
    intro dfr item rt fname nodes p xs i acc st js st' h hi m x hm
    cases xs with
    | nil => cases hm
    | cons x0 xs' =>
      obtain ⟨y0, st1, hy0, hrest⟩ : ∃ y0 st1, HeredOf (QL st1.log) c item (p ++ [.idx i]) x0 nodes y0 ∧
          completeItems c fuel dfr item rt fname nodes p xs' (i + 1) (acc ++ [y0]) st1 = (.ok js, st') := by
        cases ItemsStep.of_eq h with
        | ok hc h => exact ⟨_, _, ih.complete _ _ _ _ _ _ _ _ _ _ hc, h⟩
        | absorbed _ _ h => exact ⟨_, _, HeredOf.null, h⟩
      cases m with
      | zero =>
        cases hm
        obtain ⟨new, hl, -⟩ := (logP c fuel).items _ _ _ _ _ _ _ _ _ _ _ _ hrest
        refine ⟨y0, ?_, hy0.imp fun _ _ _ _ => hmono _ _ _ _ _ _ ⟨new, hl.symm⟩⟩
        rw [hi, Nat.add_zero]
        exact completeItems_ok_getElem_acc hrest List.getElem?_concat_length
      | succ m =>
        have := ih.items _ _ _ _ _ _ _ _ _ _ _ _ hrest (by rw [hi, List.length_append]; rfl) m x hm
        rwa [Nat.add_assoc, Nat.add_comm 1 m] at this

theorem heredP : ∀ fuel, HeredP QL c fuel
  | 0 => by
    refine ⟨?_, ?_, ?_, ?_⟩
    · intro dfr rt src path groups acc st fs st' h; cases execGroups_zero.symm.trans h
    · intro dfr rt src p fd nodes st j st' h; cases execField_zero.symm.trans h
    · intro dfr t rt fname nodes p v st j st' h; cases complete_zero.symm.trans h
    · intro dfr item rt fname nodes p xs i acc st js st' h; cases completeItems_zero.symm.trans h
  | fuel + 1 => heredP_succ hmono hbase (heredP fuel)
end

end GqlModel.Exec
