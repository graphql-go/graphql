import GqlModel.Conforms
/-! Request level: `execute` = `requestCtx` (operation, root type, coerced variables) followed by `execGroups` on the
root selection. Shared by C01, C04, C13, C20. -/
namespace GqlModel.Exec
open GqlModel.Coerce

def respond : Res (List (String × JVal)) × St → Response
  | (.ok fs, st) => .result (some fs) st.errs.reverse st.log.reverse st.kfThunk
  | (.fail, st) => .result none st.errs.reverse st.log.reverse st.kfThunk
  | (.fuelOut, _) => .fuelOut

theorem requestCtx_eq_some_iff {s : Schema} {doc : Document} {opName : String} {inputs : Vars} {w : World} {c : Ctx}
    {root : String} {sel : SelectionSet} :
    requestCtx s doc opName inputs w = some (c, root, sel) ↔
      ∃ op nm varDefs dirs loc vars, selectOperation doc opName = .ok (.operation op nm varDefs dirs sel loc) ∧
        s.rootFor op.toString = some root ∧ getVariableValues s varDefs inputs = .ok vars ∧
        c = { schema := s, frags := doc.fragments, vars := vars, world := w } := by
  unfold requestCtx
  constructor
  · intro h
    split at h
    · rename_i op nm varDefs dirs sel' loc hsel
      split at h
      · cases h
      · rename_i root' hroot
        split at h
        · cases h
        · rename_i vars hv
          cases h
          exact ⟨op, nm, varDefs, dirs, loc, vars, hsel, hroot, hv, rfl⟩
    · cases h
  · rintro ⟨op, nm, varDefs, dirs, loc, vars, hsel, hroot, hv, rfl⟩
    simp only [hsel, hroot, hv]

theorem execute_cases (s : Schema) (doc : Document) (opName : String) (inputs : Vars) (w : World) :
    (∃ c root sel, requestCtx s doc opName inputs w = some (c, root, sel) ∧ ∀ fuel,
      execute s doc opName inputs w fuel =
        respond (execGroups c fuel false root .nil [] (rootGroups c root sel) [] St.empty)) ∨
    (requestCtx s doc opName inputs w = none ∧ ∃ what, ∀ fuel, execute s doc opName inputs w fuel = .requestError what) := by
  unfold requestCtx execute
  cases selectOperation doc opName with
  | error e => exact .inr ⟨rfl, _, fun _ => rfl⟩
  | ok d =>
    cases d with
    | operation op nm varDefs dirs sel loc =>
      simp only
      cases s.rootFor op.toString with
      | none => exact .inr ⟨rfl, _, fun _ => rfl⟩
      | some root =>
        simp only
        cases getVariableValues s varDefs inputs with
        | error e => exact .inr ⟨rfl, _, fun _ => rfl⟩
        | ok vars =>
          refine .inl ⟨_, _, _, rfl, fun fuel => ?_⟩
          simp only [rootGroups]
          rcases execGroups _ fuel false root .nil [] _ [] St.empty with ⟨r, st⟩
          cases r <;> rfl
    | _ => exact .inr ⟨rfl, _, fun _ => rfl⟩

theorem execute_result {s : Schema} {doc : Document} {opName : String} {inputs : Vars} {w : World} {fuel : Nat}
    {data : Option (List (String × JVal))} {errs : List (Path × Bool)} {log : List LogEntry} {kf : List Path}
    (h : execute s doc opName inputs w fuel = .result data errs log kf) :
    ∃ c root sel r st, requestCtx s doc opName inputs w = some (c, root, sel) ∧
      execGroups c fuel false root .nil [] (rootGroups c root sel) [] St.empty = (r, st) ∧
      errs = st.errs.reverse ∧ log = st.log.reverse ∧ kf = st.kfThunk ∧
      ((∃ fs, r = .ok fs ∧ data = some fs) ∨ (r = .fail ∧ data = none)) := by
  rcases execute_cases s doc opName inputs w with ⟨c, root, sel, hc, he⟩ | ⟨-, what, hw⟩
  · rw [he] at h
    rcases hr : execGroups c fuel false root .nil [] (rootGroups c root sel) [] St.empty with ⟨r, st⟩
    rw [hr] at h
    refine ⟨c, root, sel, r, st, hc, hr, ?_⟩
    cases r with
    | ok fs => cases h; exact ⟨rfl, rfl, rfl, .inl ⟨fs, rfl, rfl⟩⟩
    | fail => cases h; exact ⟨rfl, rfl, rfl, .inr ⟨rfl, rfl⟩⟩
    | fuelOut => cases h
  · rw [hw] at h; cases h

theorem execute_result_some {s : Schema} {doc : Document} {opName : String} {inputs : Vars} {w : World} {fuel : Nat}
    {data : List (String × JVal)} {errs : List (Path × Bool)} {log : List LogEntry} {kf : List Path}
    (h : execute s doc opName inputs w fuel = .result (some data) errs log kf) :
    ∃ c root sel st, requestCtx s doc opName inputs w = some (c, root, sel) ∧
      execGroups c fuel false root .nil [] (rootGroups c root sel) [] St.empty = (.ok data, st) ∧
      errs = st.errs.reverse ∧ log = st.log.reverse := by
  obtain ⟨c, root, sel, r, st, hc, hr, herrs, hlog, -, hd⟩ := execute_result h
  obtain ⟨fs, rfl, hfs⟩ | ⟨-, hnone⟩ := hd
  · cases hfs; exact ⟨c, root, sel, st, hc, hr, herrs, hlog⟩
  · cases hnone

end GqlModel.Exec
