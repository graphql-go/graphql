import GqlModel.TwoWorlds
namespace GqlModel.Exec

theorem getAt_nil (v : JVal) : v.getAt [] = some v := by cases v <;> rfl

theorem getAt_null_cons (seg : PathSeg) (r : Path) : JVal.getAt .null (seg :: r) = none := by cases seg <;> rfl

theorem getAt_obj_cons (k : String) (v : JVal) (m : List (String × JVal)) (k' : String) (r : Path) :
    (JVal.obj ((k, v) :: m)).getAt (.key k' :: r) =
      if k == k' then v.getAt r else (JVal.obj m).getAt (.key k' :: r) := by
  simp only [JVal.getAt, JVal.lookup, List.find?]
  cases k == k' <;> rfl

theorem getAt_obj_cons_self (k : String) (v : JVal) (m : List (String × JVal)) (r : Path) :
    (JVal.obj ((k, v) :: m)).getAt (.key k :: r) = v.getAt r := by
  rw [getAt_obj_cons]; simp

theorem getAt_obj_cons_other {k k0 : String} (hk : k ≠ k0) (v : JVal) (m : List (String × JVal)) (r : Path) :
    (JVal.obj ((k, v) :: m)).getAt (.key k0 :: r) = (JVal.obj m).getAt (.key k0 :: r) := by
  rw [getAt_obj_cons, beq_false_of_ne hk]
  rfl

theorem getAt_obj_idx (fs : List (String × JVal)) (i : Nat) (r : Path) : (JVal.obj fs).getAt (.idx i :: r) = none := rfl
theorem getAt_list_key (xs : List JVal) (k : String) (r : Path) : (JVal.list xs).getAt (.key k :: r) = none := rfl

theorem getAt_list_idx (xs : List JVal) (i : Nat) (r : Path) :
    (JVal.list xs).getAt (.idx i :: r) = (xs[i]?).bind (fun v => v.getAt r) := by
  simp only [JVal.getAt]
  cases xs[i]? <;> rfl

theorem getAt_list_pre_self (pre : List JVal) (y : JVal) (m : List JVal) (r : Path) :
    (JVal.list (pre ++ y :: m)).getAt (.idx pre.length :: r) = y.getAt r := by
  rw [getAt_list_idx, List.getElem?_append_right (Nat.le_refl _), Nat.sub_self]; rfl

theorem getAt_append : ∀ (a b : Path) (j : JVal), j.getAt (a ++ b) = (j.getAt a).bind (fun v => v.getAt b)
  | [], b, j => by simp [getAt_nil]
  | seg :: a, b, j => by
    cases j with
    | obj fs =>
      cases seg with
      | idx i => rfl
      | key k =>
        simp only [List.cons_append, JVal.getAt]
        cases JVal.lookup fs k with
        | none => rfl
        | some x => exact getAt_append a b x
    | list xs =>
      cases seg with
      | key k => rfl
      | idx i =>
        simp only [List.cons_append, JVal.getAt]
        cases xs[i]? with
        | none => rfl
        | some x => exact getAt_append a b x
    | _ => cases seg <;> rfl

theorem getAt_below_null {j : JVal} {r' r'' : Path} (hp : r' <+: r'') (hne : r' ≠ r'') (h : j.getAt r' = some .null) :
    j.getAt r'' = none := by
  obtain ⟨t, rfl⟩ := hp
  cases t with
  | nil => simp at hne
  | cons s t => rw [getAt_append, h]; exact getAt_null_cons s t

theorem getAt_nil_ne_null {j : JVal} (h : j ≠ .null) : j.getAt [] ≠ some .null := by
  rw [getAt_nil]
  exact fun e => h (Option.some.inj e)

end GqlModel.Exec
