import GqlProofs.PrinterBlock
import GqlProofs.LexerBlock
/-! The lexer's block-string scan of a printed block-safe description ends exactly at the printed closing quotes and
returns the text between the quotes verbatim (no premature `"""`, no `\"""` escape, no rejected control byte). -/
namespace GqlModel.Printer.Block
open GqlModel.Lexer GqlModel.Lexer.Spec

def okByte (c : UInt8) : Prop := ¬ (c.toNat < 32 ∧ c ≠ 9 ∧ c ≠ 10 ∧ c ≠ 13)

theorem starts3_cons3 (a b c : UInt8) (r : Bytes) : starts3 (a :: b :: c :: r) = (a == 34 && b == 34 && c == 34) := rfl

theorem hasTriple_cons (c : UInt8) (r : Bytes) : hasTripleQuote (c :: r) = (starts3 (c :: r) || hasTripleQuote r) := rfl

theorem starts3_iff (l : Bytes) :
    starts3 l = true ↔ l.head? = some 34 ∧ (l.drop 1).head? = some 34 ∧ (l.drop 2).head? = some 34 := by
  match l with
  | [] => simp [starts3]
  | [_] => simp [starts3]
  | [_, _] => simp [starts3]
  | _ :: _ :: _ :: _ => simp [starts3, and_assoc]

theorem starts3_append (a b : Bytes) (h : 3 ≤ a.length) : starts3 (a ++ b) = starts3 a := by
  match a, h with
  | _ :: _ :: _ :: _, _ => rfl

/-- The premise is about `b ++ ""`: no `"""` may arise together with the first two closing quotes either.  For a
block-safe text this is what "the last byte is not a quote" gives (`noTriple_append_quotes`). -/
theorem blockLex_plain : ∀ b : Bytes, hasTripleQuote (b ++ [34, 34]) = false → b.getLast? ≠ some 92 →
    (∀ c ∈ b, okByte c) → BlockLex (b ++ [34, 34, 34]) b
  | [], _, _, _ => .close
  | c :: b', h1, h2, h3 => by
    rw [List.cons_append, hasTriple_cons, Bool.or_eq_false_iff] at h1
    -- the first three bytes of `x ++ """` are those of `x ++ ""` when `x` is not empty
    have e : b' ++ [34, 34, 34] = (b' ++ [34, 34]) ++ [34] := by simp
    have h2' : b'.getLast? ≠ some 92 := by
      cases b' with
      | nil => simp
      | cons x xs => simpa using h2
    refine .char c (fun h => ?_) (h3 c (by simp)) (fun h => ?_)
      (blockLex_plain b' h1.2 h2' fun x hx => h3 x (by simp [hx]))
    · have := (starts3_iff (c :: (b' ++ [34, 34, 34]))).mpr ⟨by rw [h.1]; rfl, by simpa using h.2.1, by simpa using h.2.2⟩
      rw [e, ← List.cons_append, starts3_append _ _ (by simp), h1.1] at this; cases this
    · cases b' with
      | nil => exact h2 (by rw [h.1]; rfl)
      | cons x xs =>
        have : starts3 ((x :: xs) ++ [34, 34, 34]) = true := (starts3_iff _).mpr h.2
        have h12 := h1.2
        rw [List.cons_append, hasTriple_cons, Bool.or_eq_false_iff] at h12
        rw [e, starts3_append _ _ (by simp)] at this
        exact absurd (this.symm.trans h12.1) (by decide)

theorem hasTriple_cons_ne {c : UInt8} (hc : c ≠ 34) (r : Bytes) : hasTripleQuote (c :: r) = hasTripleQuote r := by
  rw [hasTriple_cons]
  have : starts3 (c :: r) = false := by
    match r with
    | [] => rfl
    | [_] => rfl
    | a :: b :: _ => simp [starts3, hc]
  simp [this]

theorem hasTriple_spaces_append (k : Nat) (x : Bytes) : hasTripleQuote (spaces k ++ x) = hasTripleQuote x := by
  induction k with
  | zero => simp [spaces]
  | succ n ih =>
    have : spaces (n + 1) = 32 :: spaces n := by simp [spaces, List.replicate_succ]
    rw [this, List.cons_append, hasTriple_cons_ne (by decide), ih]

theorem starts3_append_sep (x : UInt8) (a : Bytes) {c : UInt8} (hc : c ≠ 34) (b : Bytes) :
    starts3 (x :: (a ++ c :: b)) = starts3 (x :: a) := by
  match a with
  | [] =>
    match b with
    | [] => rfl
    | y :: _ => simp [starts3, hc]
  | [y] => simp [starts3, hc]
  | y :: z :: _ => rfl

theorem hasTriple_append_sep : ∀ (a : Bytes) {c : UInt8} (_ : c ≠ 34) (b : Bytes),
    hasTripleQuote (a ++ c :: b) = (hasTripleQuote a || hasTripleQuote b)
  | [], c, hc, b => by simp [hasTriple_cons_ne hc, hasTripleQuote]
  | x :: a, c, hc, b => by
    rw [List.cons_append, hasTriple_cons, hasTriple_cons, starts3_append_sep x a hc b,
      hasTriple_append_sep a hc b, Bool.or_assoc]

theorem hasTriple_joinLines : ∀ ls : List Bytes, hasTripleQuote (joinLines ls) = ls.any hasTripleQuote
  | [] => rfl
  | [l] => by simp [joinLines]
  | l :: m :: ls => by
    have ih := hasTriple_joinLines (m :: ls)
    simp only [joinLines, List.any_cons] at ih ⊢
    rw [hasTriple_append_sep l (by decide), ih]

theorem hasTriple_indentedLines (k : Nat) (z : Bytes) : ∀ ls : List Bytes,
    hasTripleQuote (indentedLines k ls ++ 10 :: z) = (ls.any hasTripleQuote || hasTripleQuote z)
  | [] => by simp [indentedLines, hasTriple_cons_ne]
  | l :: ls => by
    have ih := hasTriple_indentedLines k z ls
    obtain ⟨y, hy⟩ := indentedLines_head k ls z
    rw [hy, hasTriple_cons_ne (by decide)] at ih
    simp only [indentedLines, List.cons_append, List.append_assoc]
    rw [hasTriple_cons_ne (by decide), hy, ← List.append_assoc, hasTriple_append_sep _ (by decide),
      hasTriple_spaces_append, ih]
    simp [Bool.or_assoc]

theorem noTriple_append_quotes : ∀ x : Bytes, hasTripleQuote x = false → x.getLast? ≠ some 34 →
    hasTripleQuote (x ++ [34, 34]) = false
  | [], _, _ => by decide
  | [a], _, h2 => by
    have : a ≠ 34 := by simpa using h2
    simp [hasTripleQuote, starts3, this]
  | [a, b], _, h2 => by
    have : b ≠ 34 := by simpa using h2
    simp [hasTripleQuote, starts3, this]
  | a :: b :: c :: r, h1, h2 => by
    rw [hasTriple_cons, Bool.or_eq_false_iff] at h1
    have ih := noTriple_append_quotes (b :: c :: r) h1.2 (by simpa using h2)
    rw [List.cons_append, hasTriple_cons, ih]
    have : starts3 (a :: ((b :: c :: r) ++ [34, 34])) = starts3 (a :: b :: c :: r) := rfl
    rw [this, h1.1]; rfl

theorem getLast_indented (k : Nat) (x : Bytes) : (x ++ 10 :: spaces k).getLast? ≠ some 92 := by
  rw [List.getLast?_append, List.getLast?_cons, spaces, List.getLast?_replicate]
  cases k <;> simp

theorem okByte_of_safe {c : UInt8} (h : 32 ≤ c.toNat ∨ c = 9 ∨ c = 10) : okByte c := by
  intro ⟨h1, h2, h3, _⟩
  rcases h with h | h | h
  · omega
  · exact h2 h
  · exact h3 h

theorem mem_indentedLines (k : Nat) : ∀ (ls : List Bytes) (c : UInt8), c ∈ indentedLines k ls →
    c = 10 ∨ c = 32 ∨ ∃ l ∈ ls, c ∈ l
  | [], c, h => by simp [indentedLines] at h
  | l :: ls, c, h => by
    simp only [indentedLines, List.cons_append, List.mem_cons, List.mem_append] at h
    rcases h with h | (h | h) | h
    · exact Or.inl h
    · right; left; simp [spaces] at h; exact h.2
    · right; right; exact ⟨l, by simp, h⟩
    · rcases mem_indentedLines k ls c h with h | h | ⟨m, hm, hc⟩
      · exact Or.inl h
      · exact Or.inr (Or.inl h)
      · exact Or.inr (Or.inr ⟨m, by simp [hm], hc⟩)

theorem blockRaw_lex (k : Nat) (d : Bytes) (h : blockSafeB d = true) :
    BlockLex (blockRaw k d ++ [34, 34, 34]) (blockRaw k d) := by
  have hf := safeFacts_of_blockSafeB h
  have hjoin := joinLines_splitLF d
  apply blockLex_plain
  · rcases hf.shape with ⟨l, hs, _, h34, _⟩ | ⟨first, second, rest', hs, _⟩
    · have hnc : d.contains 10 = false := by
        cases hc : d.contains 10 with
        | false => rfl
        | true => obtain ⟨a, b, r, e⟩ := (contains_lf_iff d).mp hc; rw [hs] at e; simp at e
      rw [hs] at hjoin; simp only [joinLines] at hjoin; subst hjoin
      simp only [blockRaw, hnc, Bool.false_eq_true, if_false]
      exact noTriple_append_quotes _ hf.noTriple h34
    · have hc : d.contains 10 = true := (contains_lf_iff d).mpr ⟨first, second, rest', hs⟩
      have hlines : (splitLF d).any hasTripleQuote = false := by
        rw [← hasTriple_joinLines, hjoin]; exact hf.noTriple
      simp only [blockRaw, hc, if_true, List.append_assoc, List.cons_append]
      rw [hasTriple_indentedLines, hlines, hasTriple_spaces_append]
      decide
  · rcases hf.shape with ⟨l, hs, _, _, h92⟩ | ⟨first, second, rest', hs, _⟩
    · have hnc : d.contains 10 = false := by
        cases hc : d.contains 10 with
        | false => rfl
        | true => obtain ⟨a, b, r, e⟩ := (contains_lf_iff d).mp hc; rw [hs] at e; simp at e
      rw [hs] at hjoin; simp only [joinLines] at hjoin; subst hjoin
      simp only [blockRaw, hnc, Bool.false_eq_true, if_false]
      exact h92
    · have hc : d.contains 10 = true := (contains_lf_iff d).mpr ⟨first, second, rest', hs⟩
      simp only [blockRaw, hc, if_true]
      exact getLast_indented k _
  · intro c hc
    by_cases hnl : d.contains 10 = true
    · simp only [blockRaw, hnl, if_true, List.mem_append, List.mem_cons] at hc
      rcases hc with hc | hc | hc
      · rcases mem_indentedLines k _ c hc with h | h | ⟨l, hl, hcl⟩
        · subst h; exact okByte_of_safe (Or.inr (Or.inr rfl))
        · subst h; exact okByte_of_safe (Or.inl (by decide))
        · exact okByte_of_safe (hf.bytesOK c (mem_splitLF d l c hl hcl).1)
      · subst hc; exact okByte_of_safe (Or.inr (Or.inr rfl))
      · simp [spaces] at hc; rw [hc.2]; exact okByte_of_safe (Or.inl (by decide))
    · simp only [blockRaw, hnl] at hc
      exact okByte_of_safe (hf.bytesOK c hc)

theorem blockBody_blockRaw (k : Nat) (d rest : Bytes) (h : blockSafeB d = true) :
    blockBody (blockRaw k d ++ 34 :: 34 :: 34 :: rest) = .ok ((blockRaw k d).length + 3, blockRaw k d) := by
  simpa using blockBody_complete (blockRaw_lex k d h) rest

end GqlModel.Printer.Block
