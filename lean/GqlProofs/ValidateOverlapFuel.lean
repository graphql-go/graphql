import GqlProofs.ValidateOverlapInv
/-! # C09 / C19: the overlap recursion never exhausts `fuelFor d`

Potential argument. `remaining` = number of memo keys of the finite universe not yet logged; every executed
`collectConflictsBetweenFieldsAndFragment` / `collectConflictsBetweenFragments` body logs a fresh key, so it strictly
decreases `remaining`, and nothing ever increases it. Between two memo bodies the only recursion is
`findConflict → findConflictsBetweenSubSelectionSets → findConflict` on strictly nested sub-selections (`localCost`).
So a call needs at most `remaining * (nSets d + 2) + localCost` levels of recursion. Needs distinct
selection-set locations (the model's stand-in for pointer identity): otherwise the cache could hand back the
collection of a different selection set. -/
namespace GqlModel.Validate.Overlap
open GqlModel.Validate.Graph

mutual
theorem length_belowSel : ∀ x : Selection, (belowSel x).length = setsSel x
  | .field _ _ _ _ sel _ => by simp only [belowSel, setsSel]; exact length_belowOpt sel
  | .spread .. => by simp [belowSel, setsSel]
  | .inline _ _ ss _ => by simp only [belowSel, setsSel]; exact length_belowSet ss
theorem length_belowSet : ∀ x : SelectionSet, (belowSet x).length = setsSet x
  | .mk sels _ => by simp only [belowSet, setsSet, List.length_cons]; rw [length_belowSels sels]; omega
theorem length_belowOpt : ∀ x : Option SelectionSet, (belowOpt x).length = setsOpt x
  | none => by simp [belowOpt, setsOpt]
  | some ss => by simp only [belowOpt, setsOpt]; exact length_belowSet ss
theorem length_belowSels : ∀ x : List Selection, (belowSels x).length = setsSels x
  | [] => by simp [belowSels, setsSels]
  | x :: xs => by
    simp only [belowSels, setsSels, List.length_append]
    rw [length_belowSel x, length_belowSels xs]
end

theorem sets_le_sel : ∀ (y : Selection) (x : SelectionSet), x ∈ belowSel y → setsSet x ≤ setsSel y :=
  fun y x hx => length_belowSet x ▸ length_belowSel y ▸ (below_sublist_sel y x hx).length_le
theorem sets_le_set : ∀ (y : SelectionSet) (x : SelectionSet), x ∈ belowSet y → setsSet x ≤ setsSet y :=
  fun y x hx => length_belowSet x ▸ length_belowSet y ▸ (below_sublist_set y x hx).length_le
theorem sets_le_opt : ∀ (y : Option SelectionSet) (x : SelectionSet), x ∈ belowOpt y → setsSet x ≤ setsOpt y :=
  fun y x hx => length_belowSet x ▸ length_belowOpt y ▸ (below_sublist_opt y x hx).length_le
theorem sets_le_sels : ∀ (y : List Selection) (x : SelectionSet), x ∈ belowSels y → setsSet x ≤ setsSels y :=
  fun y x hx => length_belowSet x ▸ length_belowSels y ▸ (below_sublist_sels y x hx).length_le

theorem setsSet_le_nSets {d : Document} {ss : SelectionSet} (h : ss ∈ allSets d) : setsSet ss ≤ nSets d :=
  length_belowSet ss ▸ (below_sublist_allSets h).length_le

def AccBelow (n : Nat) (fields : List (String × List FieldOcc)) : Prop :=
  ∀ kf, kf ∈ fields → ∀ a, a ∈ kf.2 → setsOpt a.node.sel + 1 ≤ n

theorem AccSpec.below {n : Nat} {acc acc' : Acc} {direct : List FieldOcc} {shallow : List String}
    (h : AccSpec acc acc' direct shallow) (hacc : AccBelow n acc.fields)
    (hd : ∀ a s', a ∈ direct → a.node.sel = some s' → setsSet s' + 1 ≤ n) (hn : 1 ≤ n) : AccBelow n acc'.fields := by
  intro kf hkf a ha
  rcases h.occs a (mem_occsOf.2 ⟨kf, hkf, ha⟩) with h' | h'
  · rcases mem_occsOf.1 h' with ⟨kf', hkf', ha'⟩
    exact hacc kf' hkf' a ha'
  · cases hs : a.node.sel with
    | none => exact hn
    | some s' => exact hd a s' h' hs

theorem collectSel_below (e : Env) (n : Nat) : ∀ (pt : Option String) (x : Selection) (acc : Acc),
    setsSel x + 1 ≤ n → AccBelow n acc.fields → AccBelow n (collectSel e pt x acc).fields := by
  intro pt x acc hn hacc
  refine (collectSel_spec e pt x acc).below hacc (fun a s' ha hs => ?_) (by omega)
  have := sets_le_sel x s' (direct_sel_below_sel e pt x a s' ha hs)
  omega

theorem collectSels_below (e : Env) (n : Nat) : ∀ (pt : Option String) (x : List Selection) (acc : Acc),
    setsSels x + 1 ≤ n → AccBelow n acc.fields → AccBelow n (collectSels e pt x acc).fields := by
  intro pt x acc hn hacc
  refine (collectSels_spec e pt x acc).below hacc (fun a s' ha hs => ?_) (by omega)
  have := sets_le_sels x s' (direct_sel_below_sels e pt x a s' ha hs)
  omega

theorem collectInfo_below (e : Env) (pt : Option String) (ss : SelectionSet) :
    AccBelow (setsSet ss) (collectInfo e pt ss).fields := by
  cases ss with
  | mk sels l =>
    exact collectSels_below e _ pt sels ⟨[], []⟩ (by simp only [setsSet]; omega) (by intro kf hkf; cases hkf)

variable {d : Document} {e : Env}

theorem getInfo_exact (hloc : locsDistinct d = true) {st : OState} (hinv : Inv d e st) (pt : Option String)
    {ss : SelectionSet} (hss : ss ∈ allSets d) : ∃ pt', (getInfo e pt ss st).2 = collectInfo e pt' ss := by
  unfold getInfo
  split
  · rename_i i hi
    rcases hinv.cacheExact _ (lookup_mem' _ _ _ hi) with ⟨ss', pt', hss', hl, he⟩
    have : ss = ss' := eq_of_loc_eq (of_decide_eq_true hloc) hss hss' hl
    subst this
    exact ⟨pt', he⟩
  · exact ⟨pt, rfl⟩

def remaining (d : Document) (e : Env) (st : OState) : Nat :=
  ((univFF d).length - st.logFF.length) + ((univBF e.tbl).length - st.logBF.length)

def localCost : Call → Nat
  | .fc _ _ a _ => setsOpt a.node.sel + 1
  | _ => 0

def need (d : Document) (R : Nat) (c : Call) : Nat := R * (nSets d + 2) + localCost c

structure Grows (st st' : OState) : Prop where
  ff : st.logFF.length ≤ st'.logFF.length
  bf : st.logBF.length ≤ st'.logBF.length
  oof : st'.oof = st.oof

theorem Grows.trans {a b c : OState} (h1 : Grows a b) (h2 : Grows b c) : Grows a c :=
  ⟨Nat.le_trans h1.ff h2.ff, Nat.le_trans h1.bf h2.bf, h2.oof.trans h1.oof⟩

theorem Grows.remaining {st st' : OState} (h : Grows st st') : remaining d e st' ≤ remaining d e st := by
  exact Nat.add_le_add (Nat.sub_le_sub_left h.ff _) (Nat.sub_le_sub_left h.bf _)

theorem localCost_le_of_wf {c : Call} (h : WFCall d c) : localCost c ≤ nSets d + 1 := by
  cases c with
  | fc x key a b =>
    simp only [localCost]
    cases hs : a.node.sel with
    | none => simp [setsOpt]
    | some ss =>
      have := setsSet_le_nSets (h.1 ss hs)
      simp only [setsOpt]; omega
  | ff => simp [localCost]
  | bf => simp [localCost]

theorem betweenCalls_cost (x : Bool) (i1 i2 : FieldsInfo) (n : Nat) (h1 : AccBelow n i1.fields) :
    ∀ c, c ∈ betweenCalls x i1 i2 → localCost c ≤ n := by
  intro c hc
  rcases mem_betweenCalls hc with ⟨k, fs1, fs2, a, b, hk1, _, ha, _, rfl⟩
  exact h1 _ hk1 a ha

theorem mem_ff_map {excl : Bool} {i : FieldsInfo} {fs : List String} {c : Call}
    (h : c ∈ fs.map (fun f => Call.ff excl i f)) : localCost c = 0 := by
  rcases List.mem_map.1 h with ⟨f, _, rfl⟩; rfl

theorem getInfo_grows (e : Env) (pt : Option String) (ss : SelectionSet) (st : OState) :
    Grows st (getInfo e pt ss st).1 := by
  obtain ⟨c, h⟩ := getInfo_cache_only e pt ss st
  rw [h]; exact ⟨Nat.le_refl _, Nat.le_refl _, rfl⟩

/-- a memo body that runs has logged a fresh key: one unit of the potential is spent, and that pays for any chain of
`findConflict`s below it -/
theorem need_below_memo {fuel R R' : Nat} {c0 c : Call} (hR : R' + 1 ≤ R) (h0 : localCost c0 = 0)
    (hfuel : need d R c0 < fuel + 1) (hwf : WFCall d c) : need d R' c < fuel := by
  have hl := localCost_le_of_wf hwf
  have hm := Nat.mul_le_mul_right (nSets d + 2) hR
  rw [Nat.succ_mul] at hm
  simp only [need, h0] at hfuel ⊢
  omega

theorem markFF_remaining {st : OState} {id : Loc} {frag : String} {x : Bool} (h : Inv d e (markFF st id frag x)) :
    Grows st (markFF st id frag x) ∧ remaining d e (markFF st id frag x) + 1 ≤ remaining d e st := by
  have hcnt := h.counts.1
  simp only [OState.cntFF, markFF, List.length_cons, ← length_univFF] at hcnt
  refine ⟨⟨by simp [markFF], Nat.le_refl _, rfl⟩, ?_⟩
  simp only [remaining, markFF, List.length_cons]
  omega

theorem markBF_remaining {st : OState} {n1 n2 : String} {x : Bool} (h : Inv d e (markBF st n1 n2 x)) :
    Grows st (markBF st n1 n2 x) ∧ remaining d e (markBF st n1 n2 x) + 1 ≤ remaining d e st := by
  have hcnt := h.counts.2
  simp only [OState.cntBF, markBF, List.length_cons, ← length_univBF] at hcnt
  refine ⟨⟨Nat.le_refl _, by simp [markBF], rfl⟩, ?_⟩
  simp only [remaining, markBF, List.length_cons]
  omega

/-- a call whose fuel exceeds `remaining * (nSets d + 2) + localCost` never reaches fuel 0: the field `oof` of `Grows`
(its log lengths are what the induction needs of the calls before) -/
theorem Runs.fuel (hloc : locsDistinct d = true) (hT : ∀ f, f ∈ e.tbl → f.sel ∈ allSets d) {n : Nat}
    {cs : List Call} {st st' : OState} {out : List Conflict} (h : Runs e n cs st st' out) :
    ∀ R0, (∀ c, c ∈ cs → WFCall d c ∧ need d R0 c < n) → Inv d e st → remaining d e st ≤ R0 → Grows st st' := by
  induction h with
  | nil | ffHit | bfSkip => exact fun _ _ _ _ => ⟨Nat.le_refl _, Nat.le_refl _, rfl⟩
  | cons h1 _ ih1 ih2 =>
    intro R0 hcs hinv hR
    have hc := hcs _ (.head _)
    have g1 := ih1 R0 (List.forall_mem_singleton.2 hc) hinv hR
    exact g1.trans (ih2 R0 (fun c h => hcs c (.tail _ h)) (h1.inv hT (List.forall_mem_singleton.2 hc.1) hinv)
      (Nat.le_trans g1.remaining hR))
  | oof => exact fun _ hcs => absurd (hcs _ (.head _)).2 (Nat.not_lt_zero _)
  | fcLoud | fcLeaf => exact fun _ _ _ _ => ⟨Nat.le_refl _, Nat.le_refl _, rfl⟩
  | fcSub x a b st s1 s2 _ hs1 hs2 hg1 hg2 _ ih =>
    intro R0 hcs hinv hR
    subst hg1 hg2
    obtain ⟨hc, hfuel⟩ := hcs _ (.head _)
    have g1 := getInfo_inv hinv.withFC a.subParent (hc.1 s1 hs1)
    have g2 := getInfo_inv g1.1 b.subParent (hc.2 s2 hs2)
    rcases getInfo_exact hloc hinv.withFC a.subParent (hc.1 s1 hs1) with ⟨pt', hex⟩
    have hg0 : Grows st _ := Grows.trans (b := tick st) ⟨Nat.le_refl _, Nat.le_refl _, rfl⟩
      ((getInfo_grows e a.subParent s1 (tick st)).trans (getInfo_grows e b.subParent s2 _))
    refine hg0.trans (ih R0 (fun c hc => ⟨ssList_wf _ g1.2 g2.2 c hc, ?_⟩) g2.1 (Nat.le_trans hg0.remaining hR))
    simp only [need, localCost, hs1, setsOpt] at hfuel
    unfold need
    rcases mem_ssList.1 hc with hc | ⟨f, _, rfl⟩ | ⟨f, _, rfl⟩ | ⟨f1, _, f2, _, rfl⟩
    · have := betweenCalls_cost _ _ _ _ (hex ▸ collectInfo_below e pt' s1) c hc
      omega
    all_goals simp only [localCost]; omega
  | ffUndef x info frag st hnew =>
    exact fun _ hcs hinv _ => have hc := (hcs _ (.head _)).1; (markFF_remaining (hinv.withFF hnew hc.1.id hc.2)).1
  | ffSame x info frag st f hnew hl hg =>
    intro _ hcs hinv _
    subst hg
    have hc := (hcs _ (.head _)).1
    exact (markFF_remaining (hinv.withFF hnew hc.1.id hc.2)).1.trans (getInfo_grows e _ f.sel _)
  | ffOpen x info frag st f hnew hl hg _ _ ih =>
    intro R0 hcs hinv hR
    subst hg
    obtain ⟨hc, hfuel⟩ := hcs _ (.head _)
    have hinv1 := hinv.withFF hnew hc.1.id hc.2
    have hm := markFF_remaining hinv1
    have g := getInfo_inv hinv1 (namedOf e.s f.typeCond) (hT f (lookupFrag_some hl).1)
    have hg2 := getInfo_grows e (namedOf e.s f.typeCond) f.sel (markFF st info.id frag x)
    refine hm.1.trans (hg2.trans (ih (remaining d e (markFF st info.id frag x)) (fun c hc' => ?_) g.1 hg2.remaining))
    have hwf := ffList_wf _ hc.1 g.2 c hc'
    exact ⟨hwf, need_below_memo (Nat.le_trans hm.2 hR) rfl hfuel hwf⟩
  | bfOpen x n1 n2 st f1 f2 hl1 hl2 hne hnew hg1 hg2 _ ih =>
    intro R0 hcs hinv hR
    subst hg1 hg2
    have hfuel := (hcs _ (.head _)).2
    have hinv1 := hinv.withBF hne hnew (lookupFrag_mem_names hl1) (lookupFrag_mem_names hl2)
    have hm := markBF_remaining hinv1
    have g1 := getInfo_inv hinv1 (namedOf e.s f1.typeCond) (hT f1 (lookupFrag_some hl1).1)
    have g2 := getInfo_inv g1.1 (namedOf e.s f2.typeCond) (hT f2 (lookupFrag_some hl2).1)
    have hgr := (getInfo_grows e (namedOf e.s f1.typeCond) f1.sel (markBF st n1 n2 x)).trans
      (getInfo_grows e (namedOf e.s f2.typeCond) f2.sel _)
    refine hm.1.trans (hgr.trans (ih (remaining d e (markBF st n1 n2 x)) (fun c hc' => ?_) g2.1 hgr.remaining))
    have hwf := bfList_wf _ _ _ g1.2 g2.2 c hc'
    exact ⟨hwf, need_below_memo (Nat.le_trans hm.2 hR) rfl hfuel hwf⟩

theorem remaining_le (st : OState) : remaining d e st ≤ memoPotential d + (univBF e.tbl).length - 2 * (nFrags d * nFrags d) := by
  unfold remaining memoPotential
  rw [length_univFF]
  omega

theorem visitSet_fuel (hloc : locsDistinct d = true) (hT : ∀ f, f ∈ e.tbl → f.sel ∈ allSets d) (fuel : Nat)
    (hfuel : ((univFF d).length + (univBF e.tbl).length + 1) * (nSets d + 2) < fuel + 1)
    (pt : Option String) {ss : SelectionSet} (hss : ss ∈ allSets d) (st : OState) (hinv : Inv d e st) :
    Grows st (visitSet e fuel pt ss st).1 := by
  have g := getInfo_inv hinv pt hss
  have hg0 := getInfo_grows e pt ss st
  refine hg0.trans ((visitSet_runs fuel pt ss st).fuel hloc hT
    ((univFF d).length + (univBF e.tbl).length) (fun c hc => ?_) g.1 ?_)
  · have hwf := visList_wf g.2 c hc
    refine ⟨hwf, ?_⟩
    have hl := localCost_le_of_wf hwf
    unfold need
    rw [Nat.succ_mul] at hfuel
    omega
  · unfold remaining; omega

theorem fuelFor_enough (d : Document) :
    ((univFF d).length + (univBF (fragDefs d)).length + 1) * (nSets d + 2) < fuelFor d + 1 := by
  rw [length_univFF, length_univBF]
  unfold fuelFor memoPotential nFrags
  omega

theorem overlapRun_fuel (hloc : locsDistinct d = true) (hT : ∀ f, f ∈ e.tbl → f.sel ∈ allSets d) (fuel : Nat)
    (hfuel : ((univFF d).length + (univBF e.tbl).length + 1) * (nSets d + 2) < fuel + 1)
    (sets : List (TCtx × SelectionSet)) (hsets : ∀ cs, cs ∈ sets → cs.2 ∈ allSets d) :
    (overlapRun e fuel sets).1.oof = false := by
  induction sets using snoc_induction with
  | nil => rfl
  | snoc sets cs ih =>
    have hs : ∀ x, x ∈ sets → x.2 ∈ allSets d := fun x hx => hsets x (List.mem_append_left _ hx)
    rw [(overlapRun_snoc e fuel sets cs).1]
    exact (visitSet_fuel hloc hT fuel hfuel cs.1.parent (hsets cs (List.mem_append_right _ List.mem_cons_self)) _
      (overlapRun_inv hT fuel sets hs)).oof.trans (ih hs)

end GqlModel.Validate.Overlap
