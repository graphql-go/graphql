import GqlProofs.NormalizeExec
/-! Requests the executor cannot tell apart. Operation selection reads of a definition only its `defKind`; `runOp` is what
`execute` does once the operation is selected. `OpSim` relates the selected operations of two requests (same root, variables
that coerce alike, fragment tables and root selections related); `ReqSim` adds that the two documents select alike. Related
requests get the same response, and `ExecUniform` passes from the first to the second. -/
namespace GqlModel.Normalize
open GqlModel.Coerce GqlModel.Exec

inductive DefKind where
  | op (name : Option String)
  | frag
  | other

def defKind : Definition → DefKind
  | .operation _ name _ _ _ _ => .op (name.map (·.value))
  | .fragment .. => .frag
  | _ => .other

theorem selectOperation_go_cons (opName : String) (d : Definition) (ds : List Definition) (cur : Option Definition) :
    selectOperation.go opName (d :: ds) cur =
      match defKind d with
      | .op name =>
        if opName == "" && cur.isSome then .error .mustProvideName
        else if opName == "" || name == some opName then selectOperation.go opName ds (some d)
        else selectOperation.go opName ds cur
      | .frag => selectOperation.go opName ds cur
      | .other => .error .notExecutable := by
  cases d <;> rfl

theorem optRel_isSome {α β : Type} {R : α → β → Prop} : ∀ {a : Option α} {b : Option β}, Option.Rel R a b →
    b.isSome = a.isSome
  | _, _, .some _ => rfl
  | _, _, .none => rfl

theorem selectOperation_go_rel {R : Definition → Definition → Prop} (hR : ∀ d d', R d d' → defKind d' = defKind d) (opName : String) :
    ∀ (defs defs' : List Definition) (cur cur' : Option Definition), All2 R defs defs' → Option.Rel R cur cur' →
    (∃ e, selectOperation.go opName defs cur = .error e ∧ selectOperation.go opName defs' cur' = .error e) ∨
    (∃ r r', selectOperation.go opName defs cur = .ok r ∧ selectOperation.go opName defs' cur' = .ok r' ∧
      Option.Rel R r r')
  | [], [], cur, cur', _, hc => Or.inr ⟨cur, cur', rfl, rfl, hc⟩
  | d :: ds, d' :: ds', cur, cur', h, hc => by
    have ih := selectOperation_go_rel hR opName ds ds'
    rw [selectOperation_go_cons, selectOperation_go_cons, hR d d' h.1, optRel_isSome hc]
    cases defKind d with
    | op name =>
      dsimp only
      by_cases h1 : (opName == "" && cur.isSome) = true
      · rw [if_pos h1, if_pos h1]; exact Or.inl ⟨_, rfl, rfl⟩
      · rw [if_neg h1, if_neg h1]
        by_cases h2 : (opName == "" || name == some opName) = true
        · rw [if_pos h2, if_pos h2]; exact ih _ _ h.2 (.some h.1)
        · rw [if_neg h2, if_neg h2]; exact ih _ _ h.2 hc
    | frag => exact ih _ _ h.2 hc
    | other => exact Or.inl ⟨_, rfl, rfl⟩
  | [], _ :: _, _, _, h, _ => h.elim
  | _ :: _, [], _, _, h, _ => h.elim

theorem selectOperation_rel {R : Definition → Definition → Prop} (hR : ∀ d d', R d d' → defKind d' = defKind d)
    (opName : String) (doc doc' : Document) (h : All2 R doc.defs doc'.defs) :
    (∃ e, selectOperation doc opName = .error e ∧ selectOperation doc' opName = .error e) ∨
    (∃ d d', selectOperation doc opName = .ok d ∧ selectOperation doc' opName = .ok d' ∧ R d d') := by
  unfold selectOperation
  rcases selectOperation_go_rel hR opName doc.defs doc'.defs none none h .none with ⟨e, h1, h2⟩ | ⟨r, r', h1, h2, hq⟩
  · rw [h1, h2]; exact Or.inl ⟨e, rfl, rfl⟩
  · rw [h1, h2]
    cases hq with
    | none => exact Or.inl ⟨_, rfl, rfl⟩
    | some hr => exact Or.inr ⟨_, _, rfl, rfl, hr⟩

def fragOf : Definition → Option (String × Definition)
  | .fragment n t ds s l => some (n.value, .fragment n t ds s l)
  | _ => none

theorem fragments_eq (d : Document) : d.fragments = d.defs.filterMap fragOf := by
  unfold Document.fragments
  congr 1

theorem frag_mem_doc {c : Ctx} {doc : Document} (hc : c.frags = doc.fragments) {n : String} {tc : TypeRef}
    {sel : SelectionSet} (h : c.frag? n = some (tc, sel)) :
    ∃ nm ds l, nm.value = n ∧ Definition.fragment nm tc ds sel l ∈ doc.defs := by
  obtain ⟨nm, ds, l, hm⟩ := frag_mem c n tc sel h
  rw [hc, fragments_eq] at hm
  obtain ⟨d, hd, hfo⟩ := List.mem_filterMap.mp hm
  have e : Definition.fragment nm tc ds sel l = d := by cases d <;> cases hfo <;> rfl
  subst e
  exact ⟨nm, ds, l, (Prod.mk.inj (Option.some.inj hfo)).1, hd⟩

def runOp (s : Schema) (frags : List (String × Definition)) (inputs : Vars) (w : World) (fuel : Nat) : Definition → Response
  | .operation op _ varDefs _ sel _ =>
    (match s.rootFor op.toString with
    | none => .requestError "noRootType"
    | some root =>
      match getVariableValues s varDefs inputs with
      | .error e => .requestError ("variables: " ++ e)
      | .ok vars =>
        let c : Ctx := { schema := s, frags := frags, vars := vars, world := w }
        let groups := (collect c root sel ([], [])).1
        match execGroups c fuel false root .nil [] groups [] St.empty with
        | (.ok fs, st) => .result (some fs) st.errs.reverse st.log.reverse st.kfThunk
        | (.fail, st) => .result none st.errs.reverse st.log.reverse st.kfThunk
        | (.fuelOut, _) => .fuelOut)
  | _ => .requestError "noOperation"

theorem execute_eq (s : Schema) (doc : Document) (opName : String) (inputs : Vars) (w : World) (fuel : Nat) :
    execute s doc opName inputs w fuel =
      match selectOperation doc opName with
      | .error e => .requestError (reprStr e)
      | .ok d => runOp s doc.fragments inputs w fuel d := by
  unfold execute
  cases selectOperation doc opName with
  | error e => rfl
  | ok d => cases d <;> rfl

theorem runOp_other (s : Schema) (frags : List (String × Definition)) (inputs : Vars) (w : World) (fuel : Nat)
    {d : Definition} (h : ∀ n, defKind d ≠ .op n) : runOp s frags inputs w fuel d = .requestError "noOperation" := by
  cases d with
  | operation _ name _ _ _ _ => exact absurd rfl (h _)
  | _ => rfl

theorem defKind_op {d : Definition} {n : Option String} (h : defKind d = .op n) :
    ∃ op name vars dirs sel loc, d = .operation op name vars dirs sel loc := by
  cases d with
  | operation op name vars dirs sel loc => exact ⟨op, name, vars, dirs, sel, loc, rfl⟩
  | _ => cases h

/-- the premise that stands for OverlappingFieldsCanBeMerged: in the ORIGINAL execution every set of field nodes merged
under one response key has one field name, hereditarily -/
def ExecUniform (s : Schema) (doc : Document) (opName : String) (inputs : Vars) (w : World) : Prop :=
  ∀ op name vars dirs sel loc root v,
    selectOperation doc opName = .ok (.operation op name vars dirs sel loc) →
    s.rootFor op.toString = some root → getVariableValues s vars inputs = .ok v →
    HUAll ⟨s, doc.fragments, v, w⟩ root (collect ⟨s, doc.fragments, v, w⟩ root sel ([], [])).1

/-- `d'` is an operation exactly when `d` is, on the same root; its variables fail to coerce with the same error, or coerce to
a map under which fragment tables and root selection sets are related -/
def OpSim (s : Schema) (w : World) (frags frags' : List (String × Definition)) (inputs inputs' : Vars)
    (d d' : Definition) : Prop :=
  defKind d' = defKind d ∧
  ∀ op name vars dirs sel loc, d = .operation op name vars dirs sel loc →
    ∃ name' vars' dirs' sel' loc', d' = .operation op name' vars' dirs' sel' loc' ∧
      ∀ root, s.rootFor op.toString = some root →
        match getVariableValues s vars inputs with
        | .error e => getVariableValues s vars' inputs' = .error e
        | .ok v => ∃ v', getVariableValues s vars' inputs' = .ok v' ∧ FragsRel ⟨s, frags, v, w⟩ v' frags' ∧
            frags'.length = frags.length ∧ RSet s v v' root sel sel'

def OpUniform (s : Schema) (w : World) (frags : List (String × Definition)) (inputs : Vars) (d : Definition) : Prop :=
  ∀ op name vars dirs sel loc root v, d = .operation op name vars dirs sel loc → s.rootFor op.toString = some root →
    getVariableValues s vars inputs = .ok v → HUAll ⟨s, frags, v, w⟩ root (collect ⟨s, frags, v, w⟩ root sel ([], [])).1

section
variable {s : Schema} {w : World} {frags frags' : List (String × Definition)} {inputs inputs' : Vars} {d d' : Definition}

theorem OpSim.runOp (h : OpSim s w frags frags' inputs inputs' d d') (hu : OpUniform s w frags inputs d) (fuel : Nat) :
    runOp s frags' inputs' w fuel d' = runOp s frags inputs w fuel d := by
  cases hk : defKind d with
  | op n =>
    obtain ⟨op, name, vars, dirs, sel, loc, rfl⟩ := defKind_op hk
    obtain ⟨name', vars', dirs', sel', loc', rfl, hop⟩ := h.2 _ _ _ _ _ _ rfl
    simp only [Normalize.runOp]
    cases hroot : s.rootFor op.toString with
    | none => rfl
    | some root =>
      have hop := hop root hroot
      cases hv : getVariableValues s vars inputs with
      | error e => rw [hv] at hop; rw [hop]
      | ok v =>
        rw [hv] at hop
        obtain ⟨v', hv', hfr, hlen, hrel⟩ := hop
        have hsim := execGroups_sim ⟨s, frags, v, w⟩ v' frags' hfr hlen fuel false root .nil [] _ _ [] St.empty
          (collect_sim ⟨s, frags, v, w⟩ v' frags' hfr hlen root sel sel' [] [] [] hrel trivial).1
          (hu op name vars dirs sel loc root v rfl hroot hv)
        rw [show ctx' ⟨s, frags, v, w⟩ v' frags' = ⟨s, frags', v', w⟩ from rfl] at hsim
        simp only [hv', hsim]
  | _ => rw [runOp_other (d := d) _ _ _ _ _ (by rw [hk]; nofun), runOp_other (d := d') _ _ _ _ _ (by rw [h.1, hk]; nofun)]

theorem OpSim.uniform (h : OpSim s w frags frags' inputs inputs' d d') (hu : OpUniform s w frags inputs d) :
    OpUniform s w frags' inputs' d' := by
  intro op name' vars' dirs' sel' loc' root v' hd' hroot hv'
  subst hd'
  obtain ⟨op0, name, vars, dirs, sel, loc, rfl⟩ := defKind_op (d := d) h.1.symm
  obtain ⟨_, _, _, _, _, hd, hop⟩ := h.2 _ _ _ _ _ _ rfl
  cases hd
  have hop := hop root hroot
  cases hv : getVariableValues s vars inputs with
  | error e => rw [hv] at hop; exact nomatch hop.symm.trans hv'
  | ok v =>
    rw [hv] at hop
    obtain ⟨v'', hv'', hfr, hlen, hrel⟩ := hop
    cases Except.ok.inj (hv''.symm.trans hv')
    exact fun k => HU_transfer ⟨s, frags, v, w⟩ v' frags' hfr hlen k root _ _
      (collect_sim ⟨s, frags, v, w⟩ v' frags' hfr hlen root sel sel' [] [] [] hrel trivial).1
      (hu op name vars dirs sel loc root v rfl hroot hv)

theorem OpSim.same (hin : ∀ op name vars dirs sel loc, d = .operation op name vars dirs sel loc →
    getVariableValues s vars inputs' = getVariableValues s vars inputs) : OpSim s w frags frags inputs inputs' d d := by
  refine ⟨rfl, fun op name vars dirs sel loc hd => ⟨name, vars, dirs, sel, loc, hd, fun root _ => ?_⟩⟩
  rw [hin _ _ _ _ _ _ hd]
  cases getVariableValues s vars inputs with
  | error e => rfl
  | ok v =>
    exact ⟨v, rfl, fragsRel_same ⟨s, frags, v, w⟩ v (fun _ _ _ _ _ _ => rfl), rfl,
      RSet_refl s v v sel root (fun _ _ => rfl)⟩

end

def ReqSim (s : Schema) (w : World) (opName : String) (doc : Document) (inputs : Vars) (doc' : Document) (inputs' : Vars) :
    Prop :=
  (∃ e, selectOperation doc opName = .error e ∧ selectOperation doc' opName = .error e) ∨
  ∃ d d', selectOperation doc opName = .ok d ∧ selectOperation doc' opName = .ok d' ∧
    OpSim s w doc.fragments doc'.fragments inputs inputs' d d'

section
variable {s : Schema} {w : World} {opName : String} {doc doc' : Document} {inputs inputs' : Vars}

theorem ReqSim.of_rel {R : Definition → Definition → Prop} (hR : ∀ d d', R d d' → defKind d' = defKind d)
    (h : All2 R doc.defs doc'.defs)
    (hop : ∀ d d', selectOperation doc opName = .ok d → R d d' → OpSim s w doc.fragments doc'.fragments inputs inputs' d d') :
    ReqSim s w opName doc inputs doc' inputs' := by
  rcases selectOperation_rel hR opName doc doc' h with he | ⟨d, d', h1, h2, hr⟩
  · exact Or.inl he
  · exact Or.inr ⟨d, d', h1, h2, hop d d' h1 hr⟩

theorem execUniform_iff : ExecUniform s doc opName inputs w ↔
    ∀ d, selectOperation doc opName = .ok d → OpUniform s w doc.fragments inputs d :=
  ⟨fun h _ hd op name vars dirs sel loc root v he => h op name vars dirs sel loc root v (he ▸ hd),
   fun h op name vars dirs sel loc root v hd => h _ hd op name vars dirs sel loc root v rfl⟩

theorem ReqSim.refl : ReqSim s w opName doc inputs doc inputs := by
  unfold ReqSim
  cases selectOperation doc opName with
  | error e => exact Or.inl ⟨e, rfl, rfl⟩
  | ok d => exact Or.inr ⟨d, d, rfl, rfl, OpSim.same fun _ _ _ _ _ _ _ => rfl⟩

theorem ReqSim.execute (h : ReqSim s w opName doc inputs doc' inputs') (hu : ExecUniform s doc opName inputs w)
    (fuel : Nat) : execute s doc' opName inputs' w fuel = execute s doc opName inputs w fuel := by
  rw [execute_eq, execute_eq]
  rcases h with ⟨e, h1, h2⟩ | ⟨d, d', h1, h2, hop⟩ <;> rw [h1, h2]
  exact hop.runOp (execUniform_iff.mp hu d h1) fuel

theorem ReqSim.uniform (h : ReqSim s w opName doc inputs doc' inputs') (hu : ExecUniform s doc opName inputs w) :
    ExecUniform s doc' opName inputs' w := by
  refine execUniform_iff.mpr fun d' hd' => ?_
  rcases h with ⟨e, _, h2⟩ | ⟨d, d0, h1, h2, hop⟩
  · exact nomatch h2.symm.trans hd'
  · cases Except.ok.inj (h2.symm.trans hd')
    exact hop.uniform (execUniform_iff.mp hu d h1)

end

end GqlModel.Normalize
