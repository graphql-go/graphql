import GqlModel.Introspection
import GqlProofs.ListCount
import GqlProofs.CoerceNum
/-! # Helper lemmas for C10's `default_roundtrip`

1. numbers: the decimal renderings `intChars`, `intChars ++ ".0"`, `decChars` parse back (`parseNum`) to what they came from;
2. strings: `readString` undoes `quoteChars`;
3. the reader: `readLit (printLit l) = some l` for every well-formed literal.

The values (`coerceLit t (astFromValue t v) = v` for every conformant `v`) are in `IntrospectionValues.lean`.
(`parseNum` is the model `Introspection`'s own parser; the coercion model has `parseDec` / `parseFloatLit`, with their
round trips in GqlProofs/CoerceNum.lean. The two models' `decChars` are the same function (`decChars_eq_coerce`), and the
shape of a decimal text is proved once, there: `Coerce.decChars_shape`.) -/
namespace GqlModel.Introspection

/-! ## numbers -/

/-- the model's digit functions are core's, so the facts about them are core's -/
theorem isDigit_eq_isDigit (c : Char) : isDigit c = c.isDigit := by
  simp [isDigit, Char.isDigit, UInt32.le_iff_toNat_le]

theorem natOfDigits_eq_ofDigitChars (cs : Chars) : natOfDigits cs = Nat.ofDigitChars 10 cs 0 := by
  simp [natOfDigits, Nat.ofDigitChars_eq_foldl, digitVal, Nat.mul_comm]

theorem digitChar_eq_digitChar : ∀ d, d < 10 → digitChar d = Nat.digitChar d := by decide

theorem natCharsAux_eq_toDigitsCore : ∀ (fuel n : Nat) (acc : Chars), natCharsAux fuel n acc = Nat.toDigitsCore 10 fuel n acc := by
  intro fuel
  induction fuel with
  | zero => intro n acc; rfl
  | succ fuel ih =>
    intro n acc
    simp only [natCharsAux, Nat.toDigitsCore, ih, ← digitChar_eq_digitChar (n % 10) (Nat.mod_lt _ (by decide))]
    by_cases h : n < 10
    · simp [h, Nat.div_eq_of_lt h, Nat.mod_eq_of_lt h]
    · have : n / 10 ≠ 0 := by omega
      simp [h, this]

theorem natChars_eq_toDigits (n : Nat) : natChars n = Nat.toDigits 10 n := natCharsAux_eq_toDigitsCore _ _ _

theorem natChars_spec (n : Nat) :
    natChars n ≠ [] ∧ (∀ c ∈ natChars n, isDigit c = true) ∧ natOfDigits (natChars n) = n := by
  rw [natOfDigits_eq_ofDigitChars, natChars_eq_toDigits]
  exact ⟨Nat.toDigits_ne_nil, fun c hc => isDigit_eq_isDigit c ▸ Nat.isDigit_of_mem_toDigits (by decide) (by decide) hc,
    Nat.ofDigitChars_ten_toDigits⟩

/-- the text that follows does not continue a run of `p`-characters -/
def stops (p : Char → Bool) : Chars → Prop
  | [] => True
  | c :: _ => p c = false

theorem takeWhile_append_delim {p : Char → Bool} (xs rest : Chars) (h : ∀ x ∈ xs, p x = true)
    (hr : stops p rest) :
    (xs ++ rest).takeWhile p = xs ∧ (xs ++ rest).dropWhile p = rest := by
  cases rest with
  | nil => simp [takeWhile_all p xs h, dropWhile_all p xs h]
  | cons c rest => exact ⟨takeWhile_append_stop p xs c rest h hr, dropWhile_append_stop p xs c rest h hr⟩

/-- digits, optionally preceded by `-`, followed by text that is no digit: the model's case split on that text -/
theorem parseNum_sign (neg : Bool) (ds rest : Chars) (hne : ds ≠ []) (hall : ∀ c ∈ ds, isDigit c = true)
    (hr : stops isDigit rest) :
    parseNum ((if neg then ['-'] else []) ++ (ds ++ rest)) =
      match (generalizing := false) rest with
      | [] => some (neg, natOfDigits ds, 0)
      | c :: fp =>
        if c = '.' then
          (if fp.isEmpty || !fp.all isDigit then none else some (neg, natOfDigits (ds ++ fp), fp.length))
        else none := by
  obtain ⟨d, ds', rfl⟩ := List.exists_cons_of_ne_nil hne
  have hdm : d ≠ '-' := by intro h; subst h; exact absurd (hall '-' (by simp)) (by decide)
  obtain ⟨htw, hdw⟩ := takeWhile_append_delim (d :: ds') rest hall hr
  cases neg
  · simp only [Bool.false_eq_true, if_false, List.nil_append, parseNum, List.cons_append, List.head?_cons]
    have : (some d == some '-') = false := by simp [hdm]
    simp only [this, Bool.false_eq_true, if_false]
    rw [← List.cons_append, htw, hdw]
    cases rest <;> simp
  · simp only [if_true, parseNum, List.cons_append, List.nil_append, List.head?_cons, List.tail_cons]
    simp only [show (some '-' == some '-') = true from by decide, if_true]
    rw [← List.cons_append, htw, hdw]
    cases rest <;> simp

theorem parseNum_signed (neg : Bool) (ds : Chars) (hne : ds ≠ []) (hall : ∀ c ∈ ds, isDigit c = true) :
    parseNum ((if neg then ['-'] else []) ++ ds) = some (neg, natOfDigits ds, 0) := by
  simpa using parseNum_sign neg ds [] hne hall trivial

theorem parseNum_signed_frac (neg : Bool) (ds fs : Chars) (hne : ds ≠ []) (hall : ∀ c ∈ ds, isDigit c = true)
    (hfne : fs ≠ []) (hfall : ∀ c ∈ fs, isDigit c = true) :
    parseNum ((if neg then ['-'] else []) ++ ds ++ '.' :: fs) = some (neg, natOfDigits (ds ++ fs), fs.length) := by
  rw [List.append_assoc, parseNum_sign neg ds ('.' :: fs) hne hall (by decide : isDigit '.' = false)]
  have h1 : fs.isEmpty = false := by cases fs <;> simp_all
  simp [h1, List.all_eq_true.mpr hfall]

theorem intChars_eq (i : Int) : intChars i = (if decide (i < 0) then ['-'] else []) ++ natChars i.natAbs := by
  unfold intChars
  by_cases h : i < 0 <;> simp [h]

theorem parseNum_intChars (i : Int) : parseNum (intChars i) = some (decide (i < 0), i.natAbs, 0) := by
  obtain ⟨hne, hall, hval⟩ := natChars_spec i.natAbs
  rw [intChars_eq, parseNum_signed _ _ hne hall, hval]

theorem signed_natAbs (i : Int) : (if decide (i < 0) = true then -((i.natAbs : Nat) : Int) else ((i.natAbs : Nat) : Int)) = i := by
  by_cases h : i < 0 <;> simp [h] <;> omega


theorem decChars_eq_coerce (m : Int) (e : Nat) : decChars m e = Coerce.decChars m e := by
  simp only [decChars, Coerce.decChars, natChars_eq_toDigits]
  split <;> rfl

theorem decChars_eq (m : Int) (e : Nat) :
    ∃ ip fs, decChars m e = (if decide (m < 0) then ['-'] else []) ++ ip ++ '.' :: fs ∧ ip ≠ [] ∧
      (∀ c ∈ ip, isDigit c = true) ∧ fs.length = e ∧ (∀ c ∈ fs, isDigit c = true) ∧ natOfDigits (ip ++ fs) = m.natAbs := by
  obtain ⟨ip, fs, heq, hne, ha, hlen, hb, hval⟩ := Coerce.decChars_shape m e
  refine ⟨ip, fs, ?_, hne, fun c hc => isDigit_eq_isDigit c ▸ ha c hc, hlen, fun c hc => isDigit_eq_isDigit c ▸ hb c hc,
    natOfDigits_eq_ofDigitChars _ ▸ hval⟩
  rw [decChars_eq_coerce, heq]
  by_cases h : m < 0 <;> simp [h]

theorem parseNum_decChars (m : Int) (e : Nat) (he : e > 0) :
    parseNum (decChars m e) = some (decide (m < 0), m.natAbs, e) := by
  obtain ⟨ip, fs, heq, hne, hall, hlen, hfall, hval⟩ := decChars_eq m e
  rw [heq, parseNum_signed_frac _ _ _ hne hall (by intro h; subst h; simp at hlen; omega) hfall, hval, hlen]

theorem numToJVal_dec (m : Int) (e : Nat) (he : e > 0) (hm : m % 10 ≠ 0) :
    numToJVal (decide (m < 0), m.natAbs, e) = .dec m e := by
  simp only [numToJVal, signed_natAbs]
  obtain ⟨k, rfl⟩ : ∃ k, e = k + 1 := ⟨e - 1, by omega⟩
  simp [mkDec, hm]

theorem parseNum_intChars_dot0 (i : Int) :
    parseNum (intChars i ++ ['.', '0']) = some (decide (i < 0), i.natAbs * 10, 1) := by
  obtain ⟨hne, hall, hval⟩ := natChars_spec i.natAbs
  rw [intChars_eq]
  have := parseNum_signed_frac (decide (i < 0)) (natChars i.natAbs) ['0'] hne hall (by simp) (by intro c hc; simp at hc; subst hc; decide)
  simp only [List.append_assoc] at this ⊢
  rw [this, natOfDigits_eq_ofDigitChars, Nat.ofDigitChars_append, ← natOfDigits_eq_ofDigitChars, hval]
  simp [Nat.ofDigitChars, Nat.mul_comm]

theorem numToJVal_int10 (i : Int) : numToJVal (decide (i < 0), i.natAbs * 10, 1) = .int i := by
  simp only [numToJVal]
  have h : (if decide (i < 0) = true then -((i.natAbs * 10 : Nat) : Int) else ((i.natAbs * 10 : Nat) : Int)) = i * 10 := by
    by_cases h : i < 0 <;> simp [h] <;> omega
  rw [h]
  simp [mkDec]

theorem readString_u (h1 h2 h3 h4 : Char) (a b c d : Nat) (rest acc : Chars)
    (e1 : hexVal h1 = some a) (e2 : hexVal h2 = some b) (e3 : hexVal h3 = some c) (e4 : hexVal h4 = some d) :
    readString ('\\' :: 'u' :: h1 :: h2 :: h3 :: h4 :: rest) acc =
      readString rest (Char.ofNat (((a * 16 + b) * 16 + c) * 16 + d) :: acc) := by
  rw [readString.eq_def]
  simp [e1, e2, e3, e4]

theorem readString_esc_quote (rest acc : Chars) : readString ('\\' :: '"' :: rest) acc = readString rest ('"' :: acc) := by
  rw [readString.eq_def]; simp
theorem readString_esc_backslash (rest acc : Chars) : readString ('\\' :: '\\' :: rest) acc = readString rest ('\\' :: acc) := by
  rw [readString.eq_def]; simp
theorem readString_esc_b (rest acc : Chars) : readString ('\\' :: 'b' :: rest) acc = readString rest ('\x08' :: acc) := by
  rw [readString.eq_def]; simp
theorem readString_esc_f (rest acc : Chars) : readString ('\\' :: 'f' :: rest) acc = readString rest ('\x0c' :: acc) := by
  rw [readString.eq_def]; simp
theorem readString_esc_n (rest acc : Chars) : readString ('\\' :: 'n' :: rest) acc = readString rest ('\n' :: acc) := by
  rw [readString.eq_def]; simp
theorem readString_esc_r (rest acc : Chars) : readString ('\\' :: 'r' :: rest) acc = readString rest ('\r' :: acc) := by
  rw [readString.eq_def]; simp
theorem readString_esc_t (rest acc : Chars) : readString ('\\' :: 't' :: rest) acc = readString rest ('\t' :: acc) := by
  rw [readString.eq_def]; simp

theorem readString_plain (c : Char) (rest acc : Chars) (h1 : c ≠ '"') (h2 : c ≠ '\\') (h3 : c ≠ '\n') (h4 : c ≠ '\r') :
    readString (c :: rest) acc = readString rest (c :: acc) := by
  rw [readString.eq_def]
  simp [h1, h2, h3, h4]

theorem readString_quote (rest acc : Chars) : readString ('"' :: rest) acc = some (acc.reverse, rest) := by
  rw [readString.eq_def]; simp

theorem hexVal_hexDigit : ∀ d, d < 16 → hexVal (hexDigit d) = some d := by decide

theorem hexVal_zero : hexVal '0' = some 0 := by decide

theorem readString_esc (c : Char) (tail acc : Chars) :
    readString (escChar c ++ tail) acc = readString tail (c :: acc) := by
  unfold escChar
  by_cases h1 : c = '"'
  · subst h1; simp [readString_esc_quote]
  by_cases h2 : c = '\\'
  · subst h2; simp [readString_esc_backslash]
  by_cases h3 : c = '\x08'
  · subst h3; simp [readString_esc_b]
  by_cases h4 : c = '\x0c'
  · subst h4; simp [readString_esc_f]
  by_cases h5 : c = '\n'
  · subst h5; simp [readString_esc_n]
  by_cases h6 : c = '\r'
  · subst h6; simp [readString_esc_r]
  by_cases h7 : c = '\t'
  · subst h7; simp [readString_esc_t]
  simp only [h1, h2, h3, h4, h5, h6, h7, if_false]
  by_cases h8 : c.toNat < 0x20 ∨ c.toNat = 0x7f
  · simp only [h8, if_true]
    have ha := hexVal_hexDigit (c.toNat / 16) (by omega)
    have hb := hexVal_hexDigit (c.toNat % 16) (by omega)
    simp only [List.cons_append, List.nil_append]
    rw [readString_u _ _ _ _ _ _ _ _ _ _ hexVal_zero hexVal_zero ha hb]
    have : ((0 * 16 + 0) * 16 + c.toNat / 16) * 16 + c.toNat % 16 = c.toNat := by omega
    rw [this, Char.ofNat_toNat]
  · simp only [h8, if_false, List.cons_append, List.nil_append]
    exact readString_plain c tail acc h1 h2 h5 h6

theorem readString_quoted (s : Chars) : ∀ (acc rest : Chars),
    readString (s.flatMap escChar ++ '"' :: rest) acc = some (acc.reverse ++ s, rest) := by
  induction s with
  | nil => intro acc rest; simp [readString_quote]
  | cons c s ih =>
    intro acc rest
    simp only [List.flatMap_cons, List.append_assoc]
    rw [readString_esc, ih]
    simp

/-! ## reader: unfolding lemmas -/

theorem skipWs_cons_nonws (c : Char) (cs : Chars) (h : isWs c = false) : skipWs (c :: cs) = c :: cs := by
  simp [skipWs, h]

theorem skipWs_cons_ws (c : Char) (cs : Chars) (h : isWs c = true) : skipWs (c :: cs) = skipWs cs := by
  simp [skipWs, h]

theorem readValue_unfold (fuel : Nat) (cs r : Chars) (c : Char) (h : skipWs cs = c :: r) :
    readValue (fuel + 1) cs =
      if c = '[' then (readList fuel r).map (fun p => (Lit.list p.1, p.2))
      else if c = '{' then (readFields fuel r).map (fun p => (Lit.obj p.1, p.2))
      else if c = '"' then (readString r []).map (fun p => (Lit.str (String.ofList p.1), p.2))
      else if isDigit c || c == '-' then
        (if validNumText ((c :: r).takeWhile isNumChar) then
          some (.num (String.ofList ((c :: r).takeWhile isNumChar)), (c :: r).dropWhile isNumChar) else none)
      else if isNameStart c then
        (if (c :: r).takeWhile isNameChar = "true".toList then some (.bool true, (c :: r).dropWhile isNameChar)
         else if (c :: r).takeWhile isNameChar = "false".toList then some (.bool false, (c :: r).dropWhile isNameChar)
         else if (c :: r).takeWhile isNameChar = "null".toList then none
         else some (.enum (String.ofList ((c :: r).takeWhile isNameChar)), (c :: r).dropWhile isNameChar))
      else none := by
  rw [readValue.eq_def]; simp only [h]

theorem readList_unfold (fuel : Nat) (cs r : Chars) (c : Char) (h : skipWs cs = c :: r) :
    readList (fuel + 1) cs =
      if c = ']' then some ([], r)
      else (readValue fuel (c :: r)).bind (fun p => (readList fuel p.2).map (fun q => (p.1 :: q.1, q.2))) := by
  rw [readList.eq_def]; simp only [h]

theorem readFields_close (fuel : Nat) (cs r : Chars) (h : skipWs cs = '}' :: r) :
    readFields (fuel + 1) cs = some ([], r) := by
  rw [readFields.eq_def]; simp only [h]; simp

theorem readFields_field (fuel : Nat) (cs r r' : Chars) (c : Char) (h : skipWs cs = c :: r) (hc : isNameStart c = true)
    (h2 : skipWs ((c :: r).dropWhile isNameChar) = ':' :: r') :
    readFields (fuel + 1) cs =
      (readValue fuel r').bind (fun p => (readFields fuel p.2).map (fun q =>
        ((String.ofList ((c :: r).takeWhile isNameChar), p.1) :: q.1, q.2))) := by
  have hne : c ≠ '}' := by intro h; subst h; revert hc; decide
  rw [readFields.eq_def]; simp only [h, hne, if_false, hc, if_true, h2]

theorem readValue_skip_space (fuel : Nat) (cs : Chars) : readValue fuel (' ' :: cs) = readValue fuel cs := by
  cases fuel with
  | zero => rw [readValue.eq_def, readValue.eq_def]
  | succ fuel =>
    rw [readValue.eq_def, readValue.eq_def (fuel + 1) cs]
    simp only [skipWs_cons_ws ' ' cs (by decide)]


def numHead : Chars → Bool
  | c :: _ => isDigit c || c == '-'
  | [] => false

mutual
/-- a well-formed literal: what `printLit` prints of it the reader reads back (`readValue_print`) -/
def litOK : Lit → Bool
  | .num t => validNumText t.toList && t.toList.all isNumChar && numHead t.toList
  | .str _ => true
  | .bool _ => true
  | .enum n => validName n && n != "true" && n != "false" && n != "null"
  | .list xs => litsOK xs
  | .obj fs => fieldsOK fs
def litsOK : List Lit → Bool
  | [] => true
  | x :: xs => litOK x && litsOK xs
def fieldsOK : List (String × Lit) → Bool
  | [] => true
  | (k, x) :: rest => validName k && litOK x && fieldsOK rest
end

def printElems : List Lit → Chars
  | [] => []
  | [x] => printLit x
  | x :: y :: r => printLit x ++ ',' :: ' ' :: printElems (y :: r)

def printFieldElems : List (String × Lit) → Chars
  | [] => []
  | [(k, x)] => k.toList ++ ':' :: ' ' :: printLit x
  | (k, x) :: y :: r => k.toList ++ ':' :: ' ' :: printLit x ++ ',' :: ' ' :: printFieldElems (y :: r)

mutual
/-- fuel that `readValue` needs to read the printed literal back (`readValue_print`): one unit per literal, element list
and field list entered -/
def need : Lit → Nat
  | .list xs => 1 + needL xs
  | .obj fs => 1 + needF fs
  | _ => 1
def needL : List Lit → Nat
  | [] => 1
  | x :: xs => 1 + max (need x) (needL xs)
def needF : List (String × Lit) → Nat
  | [] => 1
  | (_, x) :: rest => 1 + max (need x) (needF rest)
end

/-- the text that follows a token ends it -/
def delim (rest : Chars) : Prop :=
  match rest with
  | [] => True
  | c :: _ => isNumChar c = false ∧ isNameChar c = false

/-- none of the characters the reader dispatches on before it tries a number or a name -/
structure TokenStart (c : Char) : Prop where
  notWs : isWs c = false
  ne_rbracket : c ≠ ']'
  ne_rbrace : c ≠ '}'
  ne_lbracket : c ≠ '['
  ne_lbrace : c ≠ '{'
  ne_quote : c ≠ '"'

theorem numStart_good (c : Char) (h : (isDigit c || c == '-') = true) : TokenStart c := by
  have hn : (48 ≤ c.toNat ∧ c.toNat ≤ 57) ∨ c.toNat = 45 := by
    simp only [isDigit, Bool.or_eq_true, decide_eq_true_eq, beq_iff_eq] at h
    rcases h with h | h
    · exact Or.inl h
    · subst h; right; decide
  have key : ∀ d : Char, (d.toNat < 45 ∨ d.toNat > 57 ∨ d.toNat = 46 ∨ d.toNat = 47) → c ≠ d := by
    intro d hd heq; subst heq; omega
  refine ⟨?_, key _ (by decide), key _ (by decide), key _ (by decide), key _ (by decide), key _ (by decide)⟩
  simp only [isWs, Bool.or_eq_false_iff, beq_eq_false_iff_ne, ne_eq]
  exact ⟨⟨⟨⟨key _ (by decide), key _ (by decide)⟩, key _ (by decide)⟩, key _ (by decide)⟩, key _ (by decide)⟩

theorem nameStart_good (c : Char) (h : isNameStart c = true) :
    TokenStart c ∧ (isDigit c || c == '-') = false ∧ isNameChar c = true := by
  have hn : (65 ≤ c.toNat ∧ c.toNat ≤ 90) ∨ (97 ≤ c.toNat ∧ c.toNat ≤ 122) ∨ c.toNat = 95 := by
    simpa [isNameStart] using h
  have key : ∀ d : Char, (d.toNat < 65 ∨ d.toNat > 122 ∨ d.toNat = 91 ∨ d.toNat = 93 ∨ d.toNat = 92 ∨ d.toNat = 94 ∨ d.toNat = 96) → c ≠ d := by
    intro d hd heq; subst heq; omega
  refine ⟨⟨?_, key _ (by decide), key _ (by decide), key _ (by decide), key _ (by decide), key _ (by decide)⟩, ?_, ?_⟩
  · simp only [isWs, Bool.or_eq_false_iff, beq_eq_false_iff_ne, ne_eq]
    exact ⟨⟨⟨⟨key _ (by decide), key _ (by decide)⟩, key _ (by decide)⟩, key _ (by decide)⟩, key _ (by decide)⟩
  · simp only [Bool.or_eq_false_iff, beq_eq_false_iff_ne, ne_eq, isDigit, decide_eq_false_iff_not]
    exact ⟨by omega, key _ (by decide)⟩
  · simp [isNameChar, h]

theorem delim_stops_num {rest : Chars} (h : delim rest) : stops isNumChar rest := by
  cases rest with
  | nil => trivial
  | cons d r => exact h.1

theorem delim_stops_name {rest : Chars} (h : delim rest) : stops isNameChar rest := by
  cases rest with
  | nil => trivial
  | cons d r => exact h.2

theorem validName_spec {n : String} (h : validName n = true) :
    ∃ c cs, n.toList = c :: cs ∧ isNameStart c = true ∧ ∀ x ∈ c :: cs, isNameChar x = true := by
  unfold validName at h
  split at h
  · simp at h
  · rename_i c cs heq
    simp only [Bool.and_eq_true, List.all_eq_true] at h
    refine ⟨c, cs, heq, h.1, ?_⟩
    intro x hx
    rcases List.mem_cons.mp hx with rfl | hx
    · exact (nameStart_good _ h.1).2.2
    · exact h.2 x hx

theorem printLit_head : ∀ (l : Lit), litOK l = true → ∃ c cs, printLit l = c :: cs ∧ isWs c = false ∧ c ≠ ']' ∧ c ≠ '}' := by
  intro l h
  cases l with
  | num t =>
    simp only [litOK, Bool.and_eq_true] at h
    obtain ⟨⟨_, _⟩, h3⟩ := h
    rcases ht : t.toList with _ | ⟨c, cs⟩
    · simp [ht, numHead] at h3
    · simp only [ht, numHead] at h3
      have := numStart_good c h3
      exact ⟨c, cs, by simp [printLit, ht], this.notWs, this.ne_rbracket, this.ne_rbrace⟩
  | str s => exact ⟨'"', _, rfl, by decide, by decide, by decide⟩
  | bool b =>
    cases b
    · exact ⟨'f', ['a', 'l', 's', 'e'], rfl, by decide, by decide, by decide⟩
    · exact ⟨'t', ['r', 'u', 'e'], rfl, by decide, by decide, by decide⟩
  | «enum» n =>
    simp only [litOK, Bool.and_eq_true] at h
    obtain ⟨c, cs, heq, hs, _⟩ := validName_spec h.1.1.1
    have := (nameStart_good c hs).1
    exact ⟨c, cs, by simp [printLit, heq], this.notWs, this.ne_rbracket, this.ne_rbrace⟩
  | list xs => exact ⟨'[', _, rfl, by decide, by decide, by decide⟩
  | obj fs => exact ⟨'{', _, rfl, by decide, by decide, by decide⟩

theorem printElems_head (x : Lit) (xs : List Lit) (h : litOK x = true) :
    ∃ c cs, printElems (x :: xs) = c :: cs ∧ isWs c = false ∧ c ≠ ']' ∧ c ≠ '}' := by
  obtain ⟨c, cs, heq, h1, h2, h3⟩ := printLit_head x h
  cases xs with
  | nil => exact ⟨c, cs, by simp [printElems, heq], h1, h2, h3⟩
  | cons y r => exact ⟨c, _, by simp [printElems, heq]; rfl, h1, h2, h3⟩

theorem join_printLits : ∀ (xs : List Lit), litsOK xs = true → joinNonEmpty [',', ' '] (printLits xs) = printElems xs := by
  intro xs
  induction xs with
  | nil => intro _; rfl
  | cons x xs ih =>
    intro h
    simp only [litsOK, Bool.and_eq_true] at h
    obtain ⟨c, cs, heq, _⟩ := printLit_head x h.1
    simp only [printLits, joinNonEmpty]
    have hxe : (printLit x).isEmpty = false := by simp [heq]
    simp only [hxe, Bool.false_eq_true, if_false]
    rw [ih h.2]
    cases xs with
    | nil => simp [printElems]
    | cons y r =>
      simp only [litsOK, Bool.and_eq_true] at h
      obtain ⟨c, cs, heq, _⟩ := printElems_head y r h.2.1
      simp [heq, printElems]


theorem printFieldElems_head (k : String) (x : Lit) (fs : List (String × Lit)) (h : validName k = true) :
    ∃ c cs, printFieldElems ((k, x) :: fs) = c :: cs ∧ isWs c = false ∧ c ≠ ']' ∧ c ≠ '}' := by
  obtain ⟨c, cs, heq, hs, _⟩ := validName_spec h
  have := (nameStart_good c hs).1
  cases fs with
  | nil => exact ⟨c, _, by simp [printFieldElems, heq]; rfl, this.notWs, this.ne_rbracket, this.ne_rbrace⟩
  | cons y r => exact ⟨c, _, by simp [printFieldElems, heq]; rfl, this.notWs, this.ne_rbracket, this.ne_rbrace⟩

theorem join_printFields : ∀ (fs : List (String × Lit)), fieldsOK fs = true →
    joinNonEmpty [',', ' '] (printFields fs) = printFieldElems fs := by
  intro fs
  induction fs with
  | nil => intro _; rfl
  | cons p fs ih =>
    obtain ⟨k, x⟩ := p
    intro h
    simp only [fieldsOK, Bool.and_eq_true] at h
    obtain ⟨c, cs, heq, _⟩ := validName_spec h.1.1
    simp only [printFields, joinNonEmpty]
    have hxe : (k.toList ++ ':' :: ' ' :: printLit x).isEmpty = false := by simp [heq]
    simp only [hxe, Bool.false_eq_true, if_false]
    rw [ih h.2]
    cases fs with
    | nil => simp [printFieldElems]
    | cons y r =>
      obtain ⟨k', x'⟩ := y
      simp only [fieldsOK, Bool.and_eq_true] at h
      obtain ⟨c', cs', heq', _⟩ := printFieldElems_head k' x' r h.2.1.1
      simp [heq', printFieldElems]

theorem readList_skip (fuel : Nat) (cs : Chars) : readList fuel (',' :: ' ' :: cs) = readList fuel cs := by
  cases fuel with
  | zero => rw [readList.eq_def, readList.eq_def]
  | succ fuel =>
    rw [readList.eq_def, readList.eq_def (fuel + 1) cs]
    simp only [skipWs_cons_ws ',' _ (by decide), skipWs_cons_ws ' ' cs (by decide)]

theorem readFields_skip (fuel : Nat) (cs : Chars) : readFields fuel (',' :: ' ' :: cs) = readFields fuel cs := by
  cases fuel with
  | zero => rw [readFields.eq_def, readFields.eq_def]
  | succ fuel =>
    rw [readFields.eq_def, readFields.eq_def (fuel + 1) cs]
    simp only [skipWs_cons_ws ',' _ (by decide), skipWs_cons_ws ' ' cs (by decide)]

theorem delim_comma (cs : Chars) : delim (',' :: cs) := by simp [delim]; decide
theorem delim_rbracket (cs : Chars) : delim (']' :: cs) := by simp [delim]; decide
theorem delim_rbrace (cs : Chars) : delim ('}' :: cs) := by simp [delim]; decide

theorem readValue_name (fuel : Nat) (c : Char) (cs rest : Chars) (hs : isNameStart c = true)
    (hall : ∀ x ∈ c :: cs, isNameChar x = true) (hd : stops isNameChar rest) :
    readValue (fuel + 1) (c :: cs ++ rest) =
      if c :: cs = "true".toList then some (.bool true, rest)
      else if c :: cs = "false".toList then some (.bool false, rest)
      else if c :: cs = "null".toList then none
      else some (.enum (String.ofList (c :: cs)), rest) := by
  obtain ⟨hg, hnum, _⟩ := nameStart_good c hs
  obtain ⟨htw, hdw⟩ := takeWhile_append_delim (p := isNameChar) (c :: cs) rest hall hd
  rw [List.cons_append, readValue_unfold fuel _ _ _ (skipWs_cons_nonws c (cs ++ rest) hg.notWs), ← List.cons_append, htw, hdw]
  simp only [hg.ne_lbracket, hg.ne_lbrace, hg.ne_quote, hnum, hs, if_false, if_true, Bool.false_eq_true]

mutual
theorem readValue_print : ∀ (l : Lit), litOK l = true → ∀ (fuel : Nat) (rest : Chars), need l ≤ fuel → delim rest →
    readValue fuel (printLit l ++ rest) = some (l, rest)
  | .num t, h, fuel, rest, hf, hd => by
    obtain ⟨fuel, rfl⟩ : ∃ k, fuel = k + 1 := ⟨fuel - 1, by simp [need] at hf; omega⟩
    simp only [litOK, Bool.and_eq_true] at h
    obtain ⟨⟨hv, hall⟩, h3⟩ := h
    rcases ht : t.toList with _ | ⟨c, cs⟩
    · simp [ht, numHead] at h3
    · simp only [ht, numHead] at h3 hall hv
      have hg := numStart_good c h3
      have hsk : skipWs (printLit (.num t) ++ rest) = c :: (cs ++ rest) := by
        simp only [printLit, ht, List.cons_append]; exact skipWs_cons_nonws _ _ hg.notWs
      rw [readValue_unfold fuel _ _ _ hsk]
      simp only [hg.ne_lbracket, hg.ne_lbrace, hg.ne_quote, if_false, h3, if_true]
      have hd' := delim_stops_num hd
      obtain ⟨htw, hdw⟩ := takeWhile_append_delim (p := isNumChar) (c :: cs) rest (List.all_eq_true.mp hall) hd'
      rw [← List.cons_append, htw, hdw]
      simp only [hv, if_true]
      rw [← ht, String.ofList_toList]
  | .str s, h, fuel, rest, hf, hd => by
    obtain ⟨fuel, rfl⟩ : ∃ k, fuel = k + 1 := ⟨fuel - 1, by simp [need] at hf; omega⟩
    have hsk : skipWs (printLit (.str s) ++ rest) = '"' :: (s.toList.flatMap escChar ++ '"' :: rest) := by
      simp only [printLit, quoteChars, List.cons_append, List.append_assoc]
      exact skipWs_cons_nonws _ _ (by decide)
    rw [readValue_unfold fuel _ _ _ hsk]
    simp only [show ('"' : Char) ≠ '[' from by decide, show ('"' : Char) ≠ '{' from by decide, if_false, if_true]
    rw [readString_quoted]
    simp [String.ofList_toList]
  | .bool b, h, fuel, rest, hf, hd => by
    obtain ⟨fuel, rfl⟩ : ∃ k, fuel = k + 1 := ⟨fuel - 1, by simp [need] at hf; omega⟩
    cases b
    · exact (readValue_name fuel 'f' ['a', 'l', 's', 'e'] rest (by decide) (by decide) (delim_stops_name hd)).trans
        (by simp)
    · exact (readValue_name fuel 't' ['r', 'u', 'e'] rest (by decide) (by decide) (delim_stops_name hd)).trans
        (by simp)
  | .enum n, h, fuel, rest, hf, hd => by
    obtain ⟨fuel, rfl⟩ : ∃ k, fuel = k + 1 := ⟨fuel - 1, by simp [need] at hf; omega⟩
    simp only [litOK, Bool.and_eq_true, bne_iff_ne, ne_eq] at h
    obtain ⟨⟨⟨hv, hnt⟩, hnf⟩, hnn⟩ := h
    obtain ⟨c, cs, heq, hs, hall⟩ := validName_spec hv
    rw [printLit, heq, readValue_name fuel c cs rest hs hall (delim_stops_name hd), ← heq]
    simp only [mt String.toList_injective hnt, mt String.toList_injective hnf, mt String.toList_injective hnn, if_false,
      String.ofList_toList]
  | .list xs, h, fuel, rest, hf, hd => by
    obtain ⟨fuel, rfl⟩ : ∃ k, fuel = k + 1 := ⟨fuel - 1, by simp [need] at hf; omega⟩
    simp only [litOK] at h
    have hsk : skipWs (printLit (.list xs) ++ rest) = '[' :: (printElems xs ++ ']' :: rest) := by
      simp only [printLit, join_printLits xs h, List.cons_append, List.append_assoc]
      exact skipWs_cons_nonws _ _ (by decide)
    rw [readValue_unfold fuel _ _ _ hsk]
    simp only [if_true]
    rw [readList_print xs h fuel rest (by simp [need] at hf; omega)]
    rfl
  | .obj fs, h, fuel, rest, hf, hd => by
    obtain ⟨fuel, rfl⟩ : ∃ k, fuel = k + 1 := ⟨fuel - 1, by simp [need] at hf; omega⟩
    simp only [litOK] at h
    have hsk : skipWs (printLit (.obj fs) ++ rest) = '{' :: (printFieldElems fs ++ '}' :: rest) := by
      simp only [printLit, join_printFields fs h, List.cons_append, List.append_assoc]
      exact skipWs_cons_nonws _ _ (by decide)
    rw [readValue_unfold fuel _ _ _ hsk]
    simp only [show ('{' : Char) ≠ '[' from by decide, if_false, if_true]
    rw [readFields_print fs h fuel rest (by simp [need] at hf; omega)]
    rfl
theorem readList_print : ∀ (xs : List Lit), litsOK xs = true → ∀ (fuel : Nat) (rest : Chars), needL xs ≤ fuel →
    readList fuel (printElems xs ++ ']' :: rest) = some (xs, rest)
  | [], _, fuel, rest, hf => by
    obtain ⟨fuel, rfl⟩ : ∃ k, fuel = k + 1 := ⟨fuel - 1, by simp [needL] at hf; omega⟩
    have hsk : skipWs (printElems [] ++ ']' :: rest) = ']' :: rest := skipWs_cons_nonws _ _ (by decide)
    rw [readList_unfold fuel _ _ _ hsk]; simp
  | x :: xs, h, fuel, rest, hf => by
    obtain ⟨fuel, rfl⟩ : ∃ k, fuel = k + 1 := ⟨fuel - 1, by simp [needL] at hf; omega⟩
    simp only [litsOK, Bool.and_eq_true] at h
    simp only [needL] at hf
    obtain ⟨c, cs, heq, hws, hc1, _⟩ := printLit_head x h.1
    -- the text after the element: either the closing bracket or `, ` and the remaining elements
    have key : ∀ (R : Chars), delim R → readList fuel R = some (xs, rest) →
        readList (fuel + 1) (printLit x ++ R) = some (x :: xs, rest) := by
      intro R hR hRead
      have hsk : skipWs (printLit x ++ R) = c :: (cs ++ R) := by
        rw [heq, List.cons_append]; exact skipWs_cons_nonws _ _ hws
      have := readValue_print x h.1 fuel R (by omega) hR
      rw [heq, List.cons_append] at this
      rw [readList_unfold fuel _ _ _ hsk, this]
      simp only [hc1, if_false, Option.bind_some, hRead, Option.map_some]
    cases xs with
    | nil => exact key (']' :: rest) (delim_rbracket rest) (readList_print [] rfl fuel rest (by simp [needL] at hf ⊢; omega))
    | cons y r =>
      simp only [printElems, List.append_assoc, List.cons_append]
      refine key (',' :: ' ' :: (printElems (y :: r) ++ ']' :: rest)) (delim_comma _) ?_
      rw [readList_skip]
      exact readList_print (y :: r) h.2 fuel rest (by omega)
theorem readFields_print : ∀ (fs : List (String × Lit)), fieldsOK fs = true → ∀ (fuel : Nat) (rest : Chars), needF fs ≤ fuel →
    readFields fuel (printFieldElems fs ++ '}' :: rest) = some (fs, rest)
  | [], _, fuel, rest, hf => by
    obtain ⟨fuel, rfl⟩ : ∃ k, fuel = k + 1 := ⟨fuel - 1, by simp [needF] at hf; omega⟩
    exact readFields_close fuel _ rest (skipWs_cons_nonws _ _ (by decide))
  | (k, x) :: fs, h, fuel, rest, hf => by
    obtain ⟨fuel, rfl⟩ : ∃ k, fuel = k + 1 := ⟨fuel - 1, by simp [needF] at hf; omega⟩
    simp only [fieldsOK, Bool.and_eq_true] at h
    simp only [needF] at hf
    obtain ⟨c, cs, heq, hs, hall⟩ := validName_spec h.1.1
    have hg := (nameStart_good c hs).1
    -- the text after the field: either the closing brace or `, ` and the remaining fields
    have key : ∀ (R : Chars), delim R → (readFields fuel R = some (fs, rest)) →
        readFields (fuel + 1) (k.toList ++ ':' :: ' ' :: (printLit x ++ R)) = some ((k, x) :: fs, rest) := by
      intro R hR hRead
      have hsk : skipWs (k.toList ++ ':' :: ' ' :: (printLit x ++ R)) = c :: (cs ++ ':' :: ' ' :: (printLit x ++ R)) := by
        simp only [heq, List.cons_append]; exact skipWs_cons_nonws _ _ hg.notWs
      have htd := takeWhile_append_delim (p := isNameChar) (c :: cs) (':' :: ' ' :: (printLit x ++ R)) hall (show isNameChar ':' = false by decide)
      have h2 : skipWs ((c :: (cs ++ ':' :: ' ' :: (printLit x ++ R))).dropWhile isNameChar) = ':' :: (' ' :: (printLit x ++ R)) := by
        rw [← List.cons_append, htd.2]; exact skipWs_cons_nonws _ _ (by decide)
      rw [readFields_field fuel _ _ _ _ hsk hs h2, readValue_skip_space,
        readValue_print x h.1.2 fuel R (by omega) hR]
      simp only [Option.bind_some, hRead, Option.map_some]
      rw [← List.cons_append, htd.1, ← heq, String.ofList_toList]
    cases fs with
    | nil =>
      simp only [printFieldElems, List.append_assoc, List.cons_append]
      exact key ('}' :: rest) (delim_rbrace rest) (readFields_print [] rfl fuel rest (by simp [needF] at hf ⊢; omega))
    | cons y r =>
      obtain ⟨k', x'⟩ := y
      simp only [printFieldElems, List.append_assoc, List.cons_append]
      refine key (',' :: ' ' :: (printFieldElems ((k', x') :: r) ++ '}' :: rest)) (delim_comma _) ?_
      rw [readFields_skip]
      exact readFields_print ((k', x') :: r) h.2 fuel rest (by omega)
end

theorem printLit_len_pos (l : Lit) (h : litOK l = true) : 1 ≤ (printLit l).length := by
  obtain ⟨c, cs, heq, _⟩ := printLit_head l h
  simp [heq]

mutual
theorem need_le : ∀ (l : Lit), litOK l = true → need l ≤ (printLit l).length
  | .num t, h => by simpa [need] using printLit_len_pos _ h
  | .str s, h => by simpa [need] using printLit_len_pos _ h
  | .bool b, h => by simpa [need] using printLit_len_pos _ h
  | .enum n, h => by simpa [need] using printLit_len_pos _ h
  | .list xs, h => by
    simp only [litOK] at h
    have := needL_le xs h
    simp only [need, printLit, join_printLits xs h, List.length_cons, List.length_append, List.length_nil]
    omega
  | .obj fs, h => by
    simp only [litOK] at h
    have := needF_le fs h
    simp only [need, printLit, join_printFields fs h, List.length_cons, List.length_append, List.length_nil]
    omega
theorem needL_le : ∀ (xs : List Lit), litsOK xs = true → needL xs ≤ (printElems xs).length + 1
  | [], _ => by simp [needL, printElems]
  | [x], h => by
    simp only [litsOK, Bool.and_eq_true] at h
    have h1 := need_le x h.1
    have h2 := printLit_len_pos x h.1
    simp only [needL, printElems]
    omega
  | x :: y :: r, h => by
    simp only [litsOK, Bool.and_eq_true] at h
    have h1 := need_le x h.1
    have h3 := needL_le (y :: r) (by simp [litsOK, h.2])
    simp only [needL, printElems, List.length_append, List.length_cons] at h3 ⊢
    omega
theorem needF_le : ∀ (fs : List (String × Lit)), fieldsOK fs = true → needF fs ≤ (printFieldElems fs).length + 1
  | [], _ => by simp [needF, printFieldElems]
  | [(k, x)], h => by
    simp only [fieldsOK, Bool.and_eq_true] at h
    have h1 := need_le x h.1.2
    simp only [needF, printFieldElems, List.length_append, List.length_cons]
    omega
  | (k, x) :: y :: r, h => by
    have hyr : fieldsOK (y :: r) = true := by
      obtain ⟨k', x'⟩ := y
      simp only [fieldsOK, Bool.and_eq_true] at h ⊢
      exact h.2
    simp only [fieldsOK, Bool.and_eq_true] at h
    have h1 := need_le x h.1.2
    have h3 := needF_le (y :: r) hyr
    simp only [needF, printFieldElems, List.length_append, List.length_cons] at h3 ⊢
    omega
end

/-- the reader reads back every well-formed literal from its printed text -/
theorem readLit_printLit (l : Lit) (h : litOK l = true) : readLit (printLit l) = some l := by
  unfold readLit
  have := readValue_print l h ((printLit l).length + 1) [] (by have := need_le l h; omega) trivial
  rw [List.append_nil] at this
  rw [this]
  rfl

end GqlModel.Introspection
