import GqlProofs.Validate
/-! # UniqueInputFieldNames: the visitor with its `knownNameStack` = the recursive per-object report

`valueErrs v` is the report written by plain recursion over the value (each object literal starts from an empty
name map; nested values are reported between the fields, in visitor order). `fold_value` shows that the fold of
`uifStep` over the event stream — push on ObjectValue enter, pop on leave — computes exactly that and restores the
stack and the current map: the stack discipline is right. `mem_valueErrs` relates the report to the declarative
reading "every object literal at any depth". -/
namespace GqlModel.Validate

def uifRule : String := "UniqueInputFieldNames"

/-- the name map after one more field name -/
def knownPlus (known : NameMap) (nm : Name) : NameMap :=
  match known.get? nm.value with
  | some _ => known
  | none => known ++ [nm]

def fieldErr (known : NameMap) (nm : Name) : List VErr :=
  match known.get? nm.value with
  | some f => [⟨uifRule, [f.loc, nm.loc]⟩]
  | none => []

mutual
def valueErrs : Value → List VErr
  | .obj fs _ => fieldsErrs [] fs
  | .list vs _ => listErrs vs
  | _ => []
def listErrs : List Value → List VErr
  | [] => []
  | v :: vs => valueErrs v ++ listErrs vs
def fieldsErrs (known : NameMap) : List ObjField → List VErr
  | [] => []
  | .mk nm v _ :: fs => fieldErr known nm ++ valueErrs v ++ fieldsErrs (knownPlus known nm) fs
end

def knownAfter (known : NameMap) : List ObjField → NameMap
  | [] => known
  | .mk nm _ _ :: fs => knownAfter (knownPlus known nm) fs

theorem uifStep_objField (st : UifState) (nm : Name) :
    uifStep st (.objField nm) = ⟨st.knownNameStack, knownPlus st.knownNames nm, st.errs ++ fieldErr st.knownNames nm⟩ := by
  simp only [uifStep, uniqStep, knownPlus, fieldErr]
  cases h : NameMap.get? st.knownNames nm.value <;> simp [uifRule]

mutual
theorem fold_value (v : Value) (st : UifState) :
    (inputEvents v).foldl uifStep st = ⟨st.knownNameStack, st.knownNames, st.errs ++ valueErrs v⟩ := by
  match v with
  | .obj fs lc =>
    unfold inputEvents valueErrs
    simp only [List.foldl_cons, List.foldl_append, List.foldl_nil]
    rw [fold_fields fs]
    simp [uifStep]
  | .list vs lc =>
    unfold inputEvents valueErrs
    exact fold_list vs st
  | .var _ _ => simp [inputEvents, valueErrs]
  | .int _ _ => simp [inputEvents, valueErrs]
  | .float _ _ => simp [inputEvents, valueErrs]
  | .str _ _ => simp [inputEvents, valueErrs]
  | .bool _ _ => simp [inputEvents, valueErrs]
  | .enum _ _ => simp [inputEvents, valueErrs]
theorem fold_list (vs : List Value) (st : UifState) :
    (inputEventsList vs).foldl uifStep st = ⟨st.knownNameStack, st.knownNames, st.errs ++ listErrs vs⟩ := by
  match vs with
  | [] => simp [inputEventsList, listErrs]
  | v :: rest =>
    unfold inputEventsList listErrs
    rw [List.foldl_append, fold_value v, fold_list rest]
    simp [List.append_assoc]
theorem fold_fields (fs : List ObjField) (st : UifState) :
    (inputEventsFields fs).foldl uifStep st
      = ⟨st.knownNameStack, knownAfter st.knownNames fs, st.errs ++ fieldsErrs st.knownNames fs⟩ := by
  match fs with
  | [] => simp [inputEventsFields, fieldsErrs, knownAfter]
  | .mk nm v lc :: rest =>
    unfold inputEventsFields fieldsErrs knownAfter
    rw [List.foldl_cons, List.foldl_append, uifStep_objField, fold_value v, fold_fields rest]
    simp [List.append_assoc]
end

theorem fold_values (vs : List Value) (st : UifState) :
    ((vs.flatMap inputEvents).foldl uifStep st) = ⟨st.knownNameStack, st.knownNames, st.errs ++ vs.flatMap valueErrs⟩ := by
  induction vs generalizing st with
  | nil => simp
  | cons v rest ih =>
    simp only [List.flatMap_cons, List.foldl_append]
    rw [fold_value, ih]
    simp [List.append_assoc]

theorem uniqueInputFieldNames_M_eq_rec (s : Schema) (d : Document) :
    uniqueInputFieldNames_M s d = (topValues s d).flatMap valueErrs := by
  unfold uniqueInputFieldNames_M
  rw [fold_values]
  simp

/-! ## declarative reading -/

theorem fieldErr_knownPlus (known : NameMap) (nm : Name) (names : List Name) :
    dupErrsFrom uifRule known (nm :: names) = fieldErr known nm ++ dupErrsFrom uifRule (knownPlus known nm) names := by
  unfold fieldErr knownPlus NameMap.get?
  rw [dupErrsFrom]
  cases h : List.find? (fun y => y.value == nm.value) known <;> simp

mutual
theorem mem_valueErrs (e : VErr) (v : Value) :
    e ∈ valueErrs v ↔ ∃ fs ∈ objectsDeep v, e ∈ dupErrs uifRule (fs.map (·.name)) := by
  match v with
  | .obj fs lc =>
    unfold valueErrs objectsDeep
    rw [mem_fieldsErrs e [] fs]
    simp [dupErrs]
  | .list vs lc =>
    unfold valueErrs objectsDeep
    exact mem_listErrs e vs
  | .var _ _ => simp [valueErrs, objectsDeep]
  | .int _ _ => simp [valueErrs, objectsDeep]
  | .float _ _ => simp [valueErrs, objectsDeep]
  | .str _ _ => simp [valueErrs, objectsDeep]
  | .bool _ _ => simp [valueErrs, objectsDeep]
  | .enum _ _ => simp [valueErrs, objectsDeep]
theorem mem_listErrs (e : VErr) (vs : List Value) :
    e ∈ listErrs vs ↔ ∃ fs ∈ objectsDeepList vs, e ∈ dupErrs uifRule (fs.map (·.name)) := by
  match vs with
  | [] => simp [listErrs, objectsDeepList]
  | v :: rest =>
    unfold listErrs objectsDeepList
    rw [List.mem_append, mem_valueErrs e v, mem_listErrs e rest]
    simp only [List.mem_append]
    constructor
    · rintro (⟨fs, h1, h2⟩ | ⟨fs, h1, h2⟩)
      · exact ⟨fs, Or.inl h1, h2⟩
      · exact ⟨fs, Or.inr h1, h2⟩
    · rintro ⟨fs, h1 | h1, h2⟩
      · exact Or.inl ⟨fs, h1, h2⟩
      · exact Or.inr ⟨fs, h1, h2⟩
theorem mem_fieldsErrs (e : VErr) (known : NameMap) (fs : List ObjField) :
    e ∈ fieldsErrs known fs ↔
      e ∈ dupErrsFrom uifRule known (fs.map (·.name)) ∨ ∃ gs ∈ objectsDeepFields fs, e ∈ dupErrs uifRule (gs.map (·.name)) := by
  match fs with
  | [] => simp [fieldsErrs, objectsDeepFields, dupErrsFrom]
  | .mk nm v lc :: rest =>
    unfold fieldsErrs objectsDeepFields
    simp only [List.map_cons, ObjField.name]
    rw [fieldErr_knownPlus, List.mem_append, List.mem_append, List.mem_append, mem_valueErrs e v,
      mem_fieldsErrs e (knownPlus known nm) rest]
    simp only [List.mem_append]
    constructor
    · rintro ((h | ⟨gs, h1, h2⟩) | (h | ⟨gs, h1, h2⟩))
      · exact Or.inl (Or.inl h)
      · exact Or.inr ⟨gs, Or.inl h1, h2⟩
      · exact Or.inl (Or.inr h)
      · exact Or.inr ⟨gs, Or.inr h1, h2⟩
    · rintro ((h | h) | ⟨gs, h1 | h1, h2⟩)
      · exact Or.inl (Or.inl h)
      · exact Or.inr (Or.inl h)
      · exact Or.inl (Or.inr ⟨gs, h1, h2⟩)
      · exact Or.inr (Or.inr ⟨gs, h1, h2⟩)
end

theorem uniqueInputFieldNames_M_mem (s : Schema) (d : Document) (e : VErr) :
    e ∈ uniqueInputFieldNames_M s d ↔
      ∃ fs ∈ (topValues s d).flatMap objectsDeep, e ∈ dupErrs uifRule (fs.map (·.name)) := by
  rw [uniqueInputFieldNames_M_eq_rec]
  simp only [List.mem_flatMap, mem_valueErrs]
  constructor
  · rintro ⟨v, hv, fs, hfs, he⟩; exact ⟨fs, ⟨v, hv, hfs⟩, he⟩
  · rintro ⟨fs, ⟨v, hv, hfs⟩, he⟩; exact ⟨v, hv, fs, hfs, he⟩

end GqlModel.Validate
