import GqlModel.Plan
import GqlProofs.CoerceArgs
import GqlProofs.PlanInv
/-! # Plan-time collection (`collectInto` of plan.go, model `GqlModel.Plan`) = `CollectFields` (`GqlModel.Exec.collect`)

The simulation is proved once, for both regimes of the planner:

* specialised plan (`planVars = some vars`, `Plan.specialise`): no premise on directives — every `@skip/@include` is folded with
  the request's variables, which is literally what `Exec.included` does;
* static plan (`planVars = none`, `PlanQuery` on a document without variable-driven directives): every directive argument is
  variable-free (`setDynamic = false`, deep), so folding with the empty variable map gives the same answer for every request.

In both regimes `planDirectives` never leaves a run-time predicate: all `pred`s are `[]` (`FpOK.pred`).

The chain guard (`chain.has(fragName)`, commit 8e56ec3) is shown inert on fragment tables whose spread graph is acyclic, stated
with a rank function: `Acyclic frags rank` = every fragment spread anywhere inside a fragment's body (at any depth, also below
fields) has a smaller rank than the fragment. On such tables a field node's chain only contains fragments of larger rank than
anything spread below that node (`ChainOK`), so the guard never fires. -/
namespace GqlModel.Plan
open GqlModel.Exec GqlModel.Coerce

/-- the groups a request sees: field plans whose run-time predicate holds under the request's variables -/
def liveGroups (s : Schema) (vars : Vars) (fps : List FieldPlan) : Groups :=
  groupsOf (fps.filter (fun fp => fp.pred.eval s vars))

mutual
/-- every fragment name spread anywhere inside a selection (also below fields and inline fragments) -/
def selSpreads : Selection → List String
  | .field _ _ _ _ none _ => []
  | .field _ _ _ _ (some ss) _ => setSpreads ss
  | .spread n _ _ => [n.value]
  | .inline _ _ ss _ => setSpreads ss
def setSpreads : SelectionSet → List String
  | .mk sels _ => selsSpreads sels
def selsSpreads : List Selection → List String
  | [] => []
  | x :: rest => selSpreads x ++ selsSpreads rest
end

/-- the spread graph of the fragment table is acyclic, witnessed by a rank (all valid documents: rule NoFragmentCycles) -/
def Acyclic (frags : List (String × Definition)) (rank : String → Nat) : Prop :=
  ∀ n tc sel, fragOf frags n = some (tc, sel) → ∀ m ∈ setSpreads sel, rank m < rank n

/-- every fragment on the chain outranks every fragment spread in `names` -/
def ChainOK (rank : String → Nat) (ch : Chain) (names : List String) : Prop :=
  ∀ F ∈ ch, ∀ G ∈ names, rank G < rank F

/-- the planner's regime: specialised with the request's variables, or static on variable-free directives -/
def Regime (pv : Option Vars) (vars : Vars) (dyn : Bool) : Prop := pv = some vars ∨ (pv = none ∧ dyn = false)

theorem Regime.mono {pv : Option Vars} {vars : Vars} {a b : Bool} (h : Regime pv vars a) (hab : a = false → b = false) :
    Regime pv vars b := by
  rcases h with h | ⟨h1, h2⟩
  · exact .inl h
  · exact .inr ⟨h1, hab h2⟩

theorem fragOf_eq (c : Ctx) (n : String) : c.frag? n = fragOf c.frags n := rfl

theorem ifVal_static (s : Schema) (vars : Vars) (d : Directive) (h : astHasVariables d.args = false) :
    ifVal s [] d = ifVal s vars d := by
  unfold ifVal
  rw [getArgumentValues_static s ifArg d.args [] vars h]

theorem lastDir_mem {n : String} {dirs : List Directive} {d : Directive} (h : lastDir n dirs = some d) : d ∈ dirs := by
  unfold lastDir at h
  exact (List.mem_filter.1 (List.mem_of_getLast? h)).1

theorem included_eq (s : Schema) (vars : Vars) (dirs : List Directive) :
    included s vars dirs =
      !((match lastDir "skip" dirs with | some d => ifVal s vars d == some true | none => false) ||
        (match lastDir "include" dirs with | some d => ifVal s vars d == some false | none => false)) := rfl

theorem planDir_eq (s : Schema) (pv : Option Vars) (vars : Vars) (want : Bool) (n : String) (dirs : List Directive)
    (h : Regime pv vars (dirsDynamic dirs)) :
    planDir s pv want (lastDir n dirs) =
      (none, match lastDir n dirs with | some d => ifVal s vars d == some want | none => false) := by
  cases hd : lastDir n dirs with
  | none => rfl
  | some d =>
    rcases h with h | ⟨h1, h2⟩
    · subst h; simp [planDir]
    · subst h1
      have hm := lastDir_mem hd
      have hv : astHasVariables d.args = false := by
        unfold dirsDynamic at h2
        have := List.any_eq_false.1 h2 d hm
        simpa using this
      simp [planDir, hv, ifVal_static s vars d hv]

/-- in either regime `planDirectives` decides the occurrence at plan time, exactly as `Exec.included` does per request -/
theorem planDirectives_eq (s : Schema) (pv : Option Vars) (vars : Vars) (dirs : List Directive)
    (h : Regime pv vars (dirsDynamic dirs)) :
    planDirectives s pv dirs = (none, !included s vars dirs) := by
  unfold planDirectives
  rw [planDir_eq s pv vars true "skip" dirs h, planDir_eq s pv vars false "include" dirs h, included_eq]
  cases (match lastDir "skip" dirs with | some d => ifVal s vars d == some true | none => false) <;>
  cases (match lastDir "include" dirs with | some d => ifVal s vars d == some false | none => false) <;> rfl

/-- what a field plan produced by `collectInto` for parent type `rt` looks like, in either regime; `P` is an invariant of
(node, chain) pairs -/
structure FpOK (s : Schema) (rt : String) (P : FieldNode → Chain → Prop) (fp : FieldPlan) : Prop where
  pred : fp.pred = []
  head : ∃ n0 ch0 rest, fp.nodes = (n0, ch0) :: rest ∧ fp.fieldName = n0.name ∧ fp.fieldDef = fieldDef? s rt n0.name ∧
    fp.args = (match fieldDef? s rt n0.name with
      | some d => planArguments s d.args n0.args
      | none => .empty)
  keys : ∀ x ∈ fp.nodes, x.1.key = fp.key
  nodes : ∀ x ∈ fp.nodes, P x.1 x.2

theorem FpOK.eval {s : Schema} {rt : String} {P : FieldNode → Chain → Prop} {fp : FieldPlan} (h : FpOK s rt P fp) (vars : Vars) :
    fp.pred.eval s vars = true := by rw [h.pred]; rfl

theorem FpOK.head_node {s : Schema} {rt : String} {P : FieldNode → Chain → Prop} {fp : FieldPlan} (h : FpOK s rt P fp) :
    ∃ n0, fp.fieldNodes.head? = some n0 ∧ fp.fieldDef = fieldDef? s rt n0.name := by
  obtain ⟨n0, ch0, tl, hnodes, -, hdef, -⟩ := h.head
  exact ⟨n0, by simp [FieldPlan.fieldNodes, hnodes], hdef⟩

theorem fpOK_addField {s : Schema} {rt : String} {P : FieldNode → Chain → Prop} {fps : List FieldPlan} {f : FieldNode}
    {ch : Chain} (hfps : ∀ fp ∈ fps, FpOK s rt P fp) (hP : P f ch) :
    ∀ fp ∈ addField s rt fps f ch [], FpOK s rt P fp := by
  intro fp hfp
  unfold addField at hfp
  by_cases h : fps.any (fun fp => fp.key == f.key) = true
  · rw [if_pos h] at hfp
    obtain ⟨fp0, h0, rfl⟩ := List.mem_map.1 hfp
    have ok := hfps fp0 h0
    by_cases hk : (fp0.key == f.key) = true
    · simp only [hk, if_true]
      obtain ⟨n0, ch0, rest, hn, h1, h2, h3⟩ := ok.head
      refine ⟨ok.pred, ⟨n0, ch0, rest ++ [(f, ch)], by simp [hn], h1, h2, h3⟩, ?_, ?_⟩
      · intro x hx
        rcases List.mem_append.1 hx with hx | hx
        · exact ok.keys x hx
        · simp only [List.mem_singleton] at hx; subst hx; exact (beq_iff_eq.1 hk).symm
      · intro x hx
        rcases List.mem_append.1 hx with hx | hx
        · exact ok.nodes x hx
        · simp only [List.mem_singleton] at hx; subst hx; exact hP
    · simp only [hk]; exact ok
  · rw [if_neg h] at hfp
    rcases List.mem_append.1 hfp with hfp | hfp
    · exact hfps fp hfp
    · simp only [List.mem_singleton] at hfp
      subst hfp
      refine ⟨rfl, ⟨f, ch, [], rfl, rfl, rfl, rfl⟩, ?_, ?_⟩
      · intro x hx; simp only [List.mem_singleton] at hx; subst hx; rfl
      · intro x hx; simp only [List.mem_singleton] at hx; subst hx; exact hP

theorem liveGroups_eq_groupsOf {s : Schema} {vars : Vars} {fps : List FieldPlan} (h : ∀ fp ∈ fps, fp.pred = []) :
    liveGroups s vars fps = groupsOf fps := by
  unfold liveGroups
  congr 1
  apply List.filter_eq_self.2
  intro fp hfp
  rw [h fp hfp]; rfl

section sim
variable (c : Ctx) (pv : Option Vars) (rt : String) (rank : String → Nat)

/-- invariant of a stored (node, chain) pair: its sub-selection is in the regime and its chain outranks everything spread below it -/
def NodeOK (f : FieldNode) (ch : Chain) : Prop :=
  ∀ sel, f.sel = some sel → Regime pv c.vars (setDynamic sel) ∧ ChainOK rank ch (setSpreads sel)

/-- the planner's accumulator and the algorithm's accumulator agree -/
def CollectSim (pa : PAcc) (sa : Groups × List String) : Prop :=
  groupsOf pa.1 = sa.1 ∧ pa.2 = sa.2 ∧ ∀ fp ∈ pa.1, FpOK c.schema rt (NodeOK c pv rank) fp

/-- the two spread expanders agree on every name that the chain outranks -/
def ExpSim (expP : String → Pred → Chain → PAcc → PAcc) (expS : String → Groups × List String → Groups × List String) : Prop :=
  ∀ n ch pa sa, CollectSim c pv rt rank pa sa → (∀ F ∈ ch, rank n < rank F) → CollectSim c pv rt rank (expP n [] ch pa) (expS n sa)

variable {c pv rt rank}
variable {expP : String → Pred → Chain → PAcc → PAcc} {expS : String → Groups × List String → Groups × List String}

theorem andPred_nil : andPred [] (predOf none) = [] := rfl

mutual
theorem collectSelP_sim (he : ExpSim c pv rt rank expP expS) : ∀ (x : Selection) (ch : Chain) (pa : PAcc)
    (sa : Groups × List String), CollectSim c pv rt rank pa sa → Regime pv c.vars (selDynamic x) → ChainOK rank ch (selSpreads x) →
    CollectSim c pv rt rank (collectSelP c.schema pv rt expP x [] ch pa) (collectSel c rt expS x sa)
  | .field alias name args dirs sel loc, ch, (fps, vis), (g, vis'), hs, hr, hc => by
    have hd : Regime pv c.vars (dirsDynamic dirs) := hr.mono (by
      cases sel <;> simp only [selDynamic, Bool.or_eq_false_iff] <;> intro h
      · exact h
      · exact h.1)
    obtain ⟨h1, h2, h3⟩ := hs
    simp only at h1 h2 h3
    simp only [collectSelP, collectSel, planDirectives_eq c.schema pv c.vars dirs hd]
    by_cases hi : included c.schema c.vars dirs = true
    · simp only [hi, Bool.not_true, if_true, andPred_nil]
      refine ⟨?_, h2, ?_⟩
      · simp only [groupsOf_addField, h1]
      · apply fpOK_addField h3
        intro ss hss
        simp only at hss
        subst hss
        refine ⟨hr.mono (by simp only [selDynamic, Bool.or_eq_false_iff]; exact fun h => h.2), ?_⟩
        simpa only [selSpreads] using hc
    · have hi' : included c.schema c.vars dirs = false := by simpa using hi
      simp only [hi', Bool.not_false, Bool.false_eq_true, if_false]
      exact ⟨h1, h2, h3⟩
  | .inline tc dirs (.mk inner l1) l2, ch, pa, sa, hs, hr, hc => by
    have hd : Regime pv c.vars (dirsDynamic dirs) := hr.mono (by
      simp only [selDynamic, Bool.or_eq_false_iff]; exact fun h => h.1)
    simp only [collectSelP, collectSel, planDirectives_eq c.schema pv c.vars dirs hd]
    by_cases hi : included c.schema c.vars dirs = true
    · simp only [hi, Bool.not_true, Bool.true_and, andPred_nil]
      by_cases hca : condApplies c.schema tc rt = true
      · simp only [hca, if_true, collectSetP, collectSet]
        exact collectListP_sim he inner ch pa sa hs
          (hr.mono (by simp only [selDynamic, setDynamic, Bool.or_eq_false_iff]; exact fun h => h.2))
          (by simpa only [selSpreads, setSpreads] using hc)
      · simp only [hca, Bool.false_eq_true, if_false]; exact hs
    · have hi' : included c.schema c.vars dirs = false := by simpa using hi
      simp only [hi', Bool.not_false, Bool.false_and, Bool.false_eq_true, if_false]
      exact hs
  | .spread name dirs l, ch, pa, sa, hs, hr, hc => by
    have hd : Regime pv c.vars (dirsDynamic dirs) := hr.mono (by simp only [selDynamic]; exact fun h => h)
    simp only [collectSelP, collectSel, planDirectives_eq c.schema pv c.vars dirs hd]
    by_cases hi : included c.schema c.vars dirs = true
    · simp only [hi, Bool.not_true, if_true, andPred_nil]
      exact he name.value ch pa sa hs (fun F hF => hc F hF name.value (by simp [selSpreads]))
    · have hi' : included c.schema c.vars dirs = false := by simpa using hi
      simp only [hi', Bool.not_false, Bool.false_eq_true, if_false]
      exact hs
theorem collectListP_sim (he : ExpSim c pv rt rank expP expS) : ∀ (xs : List Selection) (ch : Chain) (pa : PAcc)
    (sa : Groups × List String), CollectSim c pv rt rank pa sa → Regime pv c.vars (selsDynamic xs) → ChainOK rank ch (selsSpreads xs) →
    CollectSim c pv rt rank (collectListP c.schema pv rt expP xs [] ch pa) (collectList c rt expS xs sa)
  | [], _, _, _, hs, _, _ => by simp only [collectListP, collectList]; exact hs
  | x :: rest, ch, pa, sa, hs, hr, hc => by
    simp only [collectListP, collectList]
    refine collectListP_sim he rest ch _ _
      (collectSelP_sim he x ch pa sa hs
        (hr.mono (by simp only [selsDynamic, Bool.or_eq_false_iff]; exact fun h => h.1))
        (fun F hF G hG => hc F hF G (by simp only [selsSpreads, List.mem_append]; exact .inl hG)))
      (hr.mono (by simp only [selsDynamic, Bool.or_eq_false_iff]; exact fun h => h.2))
      (fun F hF G hG => hc F hF G (by simp only [selsSpreads, List.mem_append]; exact .inr hG))
end

theorem collectSetP_sim (he : ExpSim c pv rt rank expP expS) (sel : SelectionSet) (ch : Chain) (pa : PAcc)
    (sa : Groups × List String) (hs : CollectSim c pv rt rank pa sa) (hr : Regime pv c.vars (setDynamic sel))
    (hc : ChainOK rank ch (setSpreads sel)) :
    CollectSim c pv rt rank (collectSetP c.schema pv rt expP sel [] ch pa) (collectSet c rt expS sel sa) := by
  cases sel with
  | mk sels l =>
    simp only [collectSetP, collectSet]
    exact collectListP_sim he sels ch pa sa hs (by simpa only [setDynamic] using hr) (by simpa only [setSpreads] using hc)

/-- regime of the fragment table: specialised, or every fragment body variable-free -/
def FragsOK (c : Ctx) (pv : Option Vars) : Prop :=
  ∀ n tc sel, fragOf c.frags n = some (tc, sel) → Regime pv c.vars (setDynamic sel)

/-- **`chain_guard_inert_on_acyclic` at the level of one spread**: on an acyclic fragment table the planner's expander (visited set AND
chain guard) is the algorithm's expander (visited set only), for every fuel -/
theorem expandP_sim (hac : Acyclic c.frags rank) (hfr : FragsOK c pv) :
    ∀ fuel, ExpSim c pv rt rank (expandP c.schema c.frags pv rt fuel) (expandSpread c rt fuel)
  | 0 => fun n ch pa sa hs _ => by simp only [expandP, expandSpread]; exact hs
  | fuel + 1 => fun n ch (fps, vis) (g, vis') hs hch => by
    obtain ⟨h1, h2, h3⟩ := hs
    simp only at h1 h2 h3
    subst h2
    have hnch : ch.contains n = false := by
      cases hcn : ch.contains n with
      | false => rfl
      | true => exact absurd (hch n (List.contains_iff_mem.1 hcn)) (Nat.lt_irrefl _)
    simp only [expandP, expandSpread, hnch, Bool.or_false, fragOf_eq]
    by_cases hv : vis.contains n = true
    · simp only [hv, if_true]; exact ⟨h1, rfl, h3⟩
    · simp only [hv, Bool.false_eq_true, if_false]
      rcases hf : fragOf c.frags n with _ | ⟨tc, sel⟩
      · exact ⟨h1, rfl, h3⟩
      · simp only
        by_cases hca : condApplies c.schema (some tc) rt = true
        · simp only [hca, if_true]
          refine collectSetP_sim (expandP_sim hac hfr fuel) sel (n :: ch) (fps, n :: vis) (g, n :: vis) ⟨h1, rfl, h3⟩
            (hfr n tc sel hf) ?_
          intro F hF G hG
          rcases List.mem_cons.1 hF with rfl | hF
          · exact hac _ tc sel hf G hG
          · exact Nat.lt_trans (hac n tc sel hf G hG) (hch F hF)
        · simp only [hca, Bool.false_eq_true, if_false]; exact ⟨h1, rfl, h3⟩

theorem collectInto_sim (hac : Acyclic c.frags rank) (hfr : FragsOK c pv) (sel : SelectionSet) (ch : Chain) (pa : PAcc)
    (sa : Groups × List String) (hs : CollectSim c pv rt rank pa sa) (hr : Regime pv c.vars (setDynamic sel))
    (hc : ChainOK rank ch (setSpreads sel)) :
    CollectSim c pv rt rank (collectInto c.schema c.frags pv rt sel ch pa) (collect c rt sel sa) :=
  collectSetP_sim (expandP_sim hac hfr _) sel ch pa sa hs hr hc

theorem sim_nil : CollectSim c pv rt rank ([], []) ([], []) := ⟨rfl, rfl, fun _ h => by cases h⟩

/-- `planMergedSelectionsForType` = `collectMerged`, and the planned fields satisfy the invariant again -/
theorem planMerged_sim (hac : Acyclic c.frags rank) (hfr : FragsOK c pv) (nodes : List (FieldNode × Chain))
    (hn : ∀ x ∈ nodes, NodeOK c pv rank x.1 x.2) :
    groupsOf (planMerged c.schema c.frags pv rt nodes) = collectMerged c rt (nodes.map (·.1)) ∧
    ∀ fp ∈ planMerged c.schema c.frags pv rt nodes, FpOK c.schema rt (NodeOK c pv rank) fp := by
  have key : ∀ (nodes : List (FieldNode × Chain)) (pa : PAcc) (sa : Groups × List String),
      (∀ x ∈ nodes, NodeOK c pv rank x.1 x.2) → CollectSim c pv rt rank pa sa →
      CollectSim c pv rt rank
        (nodes.foldl (fun acc n => match n.1.sel with
          | some sel => collectInto c.schema c.frags pv rt sel n.2 acc
          | none => acc) pa)
        ((nodes.map (·.1)).foldl (fun acc n => match n.sel with
          | some sel => collect c rt sel acc
          | none => acc) sa) := by
    intro nodes
    induction nodes with
    | nil => intro pa sa _ hs; exact hs
    | cons x rest ih =>
      intro pa sa hn hs
      simp only [List.foldl_cons, List.map_cons]
      apply ih _ _ (fun y hy => hn y (List.mem_cons_of_mem _ hy))
      have hx := hn x List.mem_cons_self
      cases hsel : x.1.sel with
      | none => exact hs
      | some sel =>
        obtain ⟨hr, hc⟩ := hx sel hsel
        exact collectInto_sim hac hfr sel x.2 pa sa hs hr hc
  have := key nodes ([], []) ([], []) hn sim_nil
  exact ⟨this.1, this.2.2⟩

/-- no run-time predicate is left, so these are the groups a request sees, whatever its variables -/
theorem liveGroups_planMerged (hac : Acyclic c.frags rank) (hfr : FragsOK c pv) (nodes : List (FieldNode × Chain))
    (hn : ∀ x ∈ nodes, NodeOK c pv rank x.1 x.2) (vars : Vars) :
    liveGroups c.schema vars (planMerged c.schema c.frags pv rt nodes) = collectMerged c rt (nodes.map (·.1)) := by
  obtain ⟨h1, h2⟩ := planMerged_sim (rt := rt) hac hfr nodes hn
  rw [liveGroups_eq_groupsOf (fun fp hfp => (h2 fp hfp).pred), h1]

/-- `planSelectionSet` (the root selection, empty chain) = `collect` from the empty accumulator -/
theorem planSelectionSet_sim (hac : Acyclic c.frags rank) (hfr : FragsOK c pv) (sel : SelectionSet)
    (hr : Regime pv c.vars (setDynamic sel)) :
    groupsOf (planSelectionSet c.schema c.frags pv rt sel) = (collect c rt sel ([], [])).1 ∧
    ∀ fp ∈ planSelectionSet c.schema c.frags pv rt sel, FpOK c.schema rt (NodeOK c pv rank) fp := by
  have := collectInto_sim (rt := rt) hac hfr sel [] ([], []) ([], []) sim_nil hr (fun _ h => by cases h)
  exact ⟨this.1, this.2.2⟩

end sim

end GqlModel.Plan
