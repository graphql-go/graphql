import GqlProofs.PlanForced
namespace GqlModel.Plan
open GqlModel.Exec GqlModel.Coerce

theorem setAt_obj (fs : List (String × PVal)) (seg : PathSeg) (rest : Path) (v : PVal) :
    ∃ gs, (PVal.obj fs).setAt (seg :: rest) v = .obj gs := by
  cases seg with
  | key k =>
    simp only [PVal.setAt]
    cases lookupF fs k with
    | none => exact ⟨_, rfl⟩
    | some x => exact ⟨_, rfl⟩
  | idx i => exact ⟨_, rfl⟩

theorem bfsEntries_obj {frc : Closure → MSt → Res PVal × MSt} (p : Path) :
    ∀ (segs : List PathSeg) (root : PVal) (q : List Path) (mst : MSt), (∃ fs, root = .obj fs) →
    ∀ x, (bfsEntries frc p segs root q mst).1 = .ok x → ∃ gs, x.1 = .obj gs
  | [], root, q, mst, h => yields_ok (Q := fun x : PVal × List Path => ∃ gs, x.1 = .obj gs) h
  | seg :: rest, root, q, mst, h => by
    rw [bfsEntries_cons]
    cases hg : root.getAt (p ++ [seg]) with
    | none => exact bfsEntries_obj p rest root q mst h
    | some y =>
      cases y with
      | deferred cl =>
        refine Yields.andThen (Q := fun _ => True) (fun _ _ => trivial) fun v mst1 _ => bfsEntries_obj p rest _ _ mst1 ?_
        obtain ⟨fs, rfl⟩ := h
        obtain ⟨s0, r0, hpe⟩ : ∃ s0 r0, p ++ [seg] = s0 :: r0 := by
          cases p with
          | nil => exact ⟨seg, [], rfl⟩
          | cons a b => exact ⟨a, b ++ [seg], rfl⟩
        rw [hpe]; exact setAt_obj fs s0 r0 v
      | leaf _ => exact bfsEntries_obj p rest root _ mst h
      | list _ => exact bfsEntries_obj p rest root _ mst h
      | obj _ => exact bfsEntries_obj p rest root _ mst h

theorem bfsLoop_obj {frc : Closure → MSt → Res PVal × MSt} :
    ∀ (n : Nat) (root : PVal) (q : List Path) (mst : MSt), (∃ fs, root = .obj fs) →
    ∀ x, (bfsLoop frc n root q mst).1 = .ok x → ∃ gs, x = .obj gs
  | 0, root, q, mst, _ => yields_fuelOut (Q := fun x : PVal => ∃ gs, x = .obj gs)
  | n + 1, root, [], mst, h => yields_ok (Q := fun x : PVal => ∃ gs, x = .obj gs) h
  | n + 1, root, p :: q, mst, h => by
    rw [bfsLoop_cons]
    cases hg : root.getAt p with
    | none => exact bfsLoop_obj n root q mst h
    | some cont =>
      exact Yields.andThen (bfsEntries_obj p (childSegs cont) root q mst h) fun y mst1 hy => bfsLoop_obj n y.1 y.2 mst1 hy

section roots
variable {c : Ctx} {pv : Option Vars} {rank : String → Nat} {F : Nat}

theorem svf_toJ_eq {pfs : List (String × PVal)} {fs js : List (String × JVal)} (h : SVf c pv rank F pfs fs)
    (hj : PVal.fieldsToJ? pfs = some js) : js = fs := by
  have hnd := noDefFields_of_toJ? pfs js hj
  have := svf_toJ h hnd
  rw [hj] at this
  exact Option.some.inj this

theorem allDf_of_pend {P dM Pout D : Fx} (hP : P.AllDf) (h : Fx.Perm P (dM.app (Pout.app D))) : dM.AllDf :=
  (Fx.AllDf.of_perm h.symm hP).left

/-- A root walk `y` of M (from `mst`) against the algorithm's walk `x` of the root groups (from `st`), outside D-04c. M may run out
of fuel on its own, in a dethunk pass. Otherwise: the same class of result; M's data holds no closure and read as a JSON value is the
algorithm's; the algorithm's effects are M's plus dropped ones, and outside deferred values they coincide in order. -/
def RootSim (c : Ctx) (pv : Option Vars) (rank : String → Nat) (F : Nat) (st : St) (mst : MSt)
    (x : Res (List (String × JVal)) × St) (y : Res (List (String × PVal)) × MSt) : Prop :=
  x.1 ≠ .fuelOut → x.2.kfThunk = st.kfThunk → y.1 = .fuelOut ∨
    (OkRel (fun pfs fs => SVf c pv rank F pfs fs ∧ PVal.fieldsToJ? pfs = some fs) x.1 y.1 ∧
      ∃ dS dM D, x.2 = St.app dS st ∧ MExt mst y.2 dM ∧ Fx.Perm (fxS dS) (dM.app D) ∧ (fxS dS).nd = dM.nd)

theorem mRootMut_sim (hac : Acyclic c.frags rank) (hfr : FragsOK c pv) (rt : String) :
    ∀ (fuel : Nat), fuel ≤ F → ∀ (fps : List FieldPlan) (accS : List (String × JVal)) (acc : List (String × PVal))
    (st : St) (mst : MSt), (∀ fp ∈ fps, FpOK c.schema rt (NodeOK c pv rank) fp) → SVf c pv rank F acc accS →
    PVal.fieldsToJ? acc = some accS →
    RootSim c pv rank F st mst (execGroups c fuel false rt .nil [] (groupsOf fps) accS st)
      (mRootMut c (recompute c.schema c.frags pv) F fuel rt fps acc mst)
  | 0, _, fps, accS, acc, st, mst, _, _, _ => by rw [execGroups_zero]; exact fun hr => absurd rfl hr
  | fuel + 1, hle, [], accS, acc, st, mst, _, hacc, haccJ => by
    show RootSim _ _ _ _ _ _ (execGroups c (fuel + 1) false rt .nil [] [] accS st) _
    rw [execGroups_nil, mRootMut_nil]
    exact fun _ _ => .inr ⟨⟨acc, rfl, hacc, haccJ⟩,
      St.empty, Fx.nil, Fx.nil, (St.empty_app _).symm, MExt.refl mst, by simpa [fxS_empty] using Fx.Perm.refl Fx.nil, rfl⟩
  | fuel + 1, hle, fp :: rest, accS, acc, st, mst, hok, hacc, haccJ => by
    have hle' : fuel ≤ F := Nat.le_of_succ_le hle
    have hfp := hok fp List.mem_cons_self
    have hrest : ∀ fp' ∈ rest, FpOK c.schema rt (NodeOK c pv rank) fp' := fun fp' hm => hok fp' (List.mem_cons_of_mem _ hm)
    obtain ⟨n0, hh, hdef⟩ := hfp.head_node
    have hp := hfp.eval c.vars
    show RootSim _ _ _ _ _ _ (execGroups c (fuel + 1) false rt .nil [] ((fp.key, fp.fieldNodes) :: groupsOf rest) accS st) _
    cases hfd : fp.fieldDef with
    | none =>
      rw [execGroups_unknown hh (by rw [← hdef, hfd]), mRootMut_skip (.inr hfd)]
      exact mRootMut_sim hac hfr rt fuel hle' rest accS acc st mst hrest hacc haccJ
    | some fd =>
      rw [execGroups_field hh (by rw [← hdef, hfd]), mRootMut_field hp hfd, List.nil_append]
      have hf : RunSim (OkRel (SV c pv rank F)) (pend c F) false Fx.nil st mst
          (execField c fuel false rt .nil [PathSeg.key fp.key] fd fp.fieldNodes st)
          (mField c (recompute c.schema c.frags pv) fuel false rt .nil [PathSeg.key fp.key] [(rt, fp.key)] fp fd mst) :=
        (simP hac hfr fuel hle').field false rt .nil [PathSeg.key fp.key] [(rt, fp.key)] fp fd st mst hfp hfd
      have hk1 := kfExt_field c fuel false rt .nil [PathSeg.key fp.key] fd fp.fieldNodes st
      have hnd := (nodupP (c := c) (alt := (recompute c.schema c.frags pv)) (altND_recompute _ _ _) fuel).field false rt .nil
        [PathSeg.key fp.key] [(rt, fp.key)] fp fd mst
      generalize execField c fuel false rt .nil [PathSeg.key fp.key] fd fp.fieldNodes st = xS at hf hk1 ⊢
      generalize mField c (recompute c.schema c.frags pv) fuel false rt .nil [PathSeg.key fp.key] [(rt, fp.key)] fp fd mst = yM
        at hf hnd ⊢
      obtain ⟨r1, st1⟩ := xS
      obtain ⟨rM1, mst1⟩ := yM
      intro hr hkf
      cases r1 with
      | fuelOut => exact absurd rfl hr
      | fail =>
        obtain ⟨hb, d1, dM1, e1, m1, ⟨D1, p1⟩, n1⟩ := hf (by simp) hkf
        cases hb
        simp only [resPend_fail, Fx.app_nil, Fx.nil_app] at p1
        exact .inr ⟨rfl, d1, dM1, D1, e1, m1, p1, n1 rfl⟩
      | ok j =>
        rw [andThen_ok] at hr hkf ⊢
        obtain ⟨hs1, hkf2⟩ := KfExt.same hk1 (kfExt_groups c fuel false rt .nil [] (groupsOf rest) _ st1) hkf
        obtain ⟨⟨x, hx, hsv⟩, d1, dM1, e1, m1, ⟨D1, p1⟩, n1⟩ := hf (by simp) hs1
        cases hx
        simp only [resPend_ok, Fx.app_nil] at p1
        rw [andThen_ok]
        -- force everything the field deferred, now
        have hd := dfs_forced (forceAll_forced (c := c) (pv := pv) (rank := rank) (F := F) hac hfr) F
        obtain ⟨hd1, hd0⟩ := hd.val x j mst1 hsv
        have hd2 := (dfsS (frcFlat_forceAll (c := c) (alt := (recompute c.schema c.frags pv)) (altND_recompute _ _ _) F) F).val x mst1 (hnd x rfl)
        generalize dfsVal (forceAll c (recompute c.schema c.frags pv) F) F x mst1 = z at hd0 hd1 hd2 ⊢
        obtain ⟨r2, mst2⟩ := z
        cases r2 with
        | fail => exact absurd hd1 id
        | fuelOut => exact .inl rfl
        | ok x' =>
          obtain ⟨dM2, D2, m2, p2⟩ := hd0
          have hsv' : SV c pv rank F x' j := hd1
          have hno : NoDef x' := hd2 x' rfl
          rw [pend_noDef x' hno] at p2
          have hdf2 : dM2.AllDf := allDf_of_pend (pend_allDf x) p2
          rw [andThen_ok]
          rcases mRootMut_sim hac hfr rt fuel hle' rest _ _ st1 mst2 hrest (svf_append hsv' hacc)
            (fieldsToJ?_append haccJ (sv_toJ hsv' hno)) hr hkf2 with ih | ⟨ihd, d3, dM3, D3, e3, m3, p3, n3⟩
          · exact .inl ih
          · refine .inr ⟨ihd, St.app d3 d1, dM3.app (dM2.app dM1), D3.app (D1.app D2),
              e3.trans (by rw [show st1 = St.app d1 st from e1, St.app_assoc]), (m1.trans m2).trans m3, ?_, ?_⟩
            · rw [fxS_app]
              have t2 : Fx.Perm ((fxS d3).app (fxS d1)) ((dM3.app D3).app ((dM2.app dM1).app (Fx.nil.app (D1.app D2)))) :=
                Fx.Perm.app p3 (perm_seq p1 p2)
              have t3 : Fx.Perm ((dM3.app D3).app ((dM2.app dM1).app (Fx.nil.app (D1.app D2))))
                  ((dM3.app (dM2.app dM1)).app (D3.app (D1.app D2))) := by
                simpa [Fx.flat] using Fx.rearr [dM3, D3, dM2.app dM1, D1.app D2] [0, 1, 2, 3] [0, 2, 1, 3] (by decide)
              exact t2.trans t3
            · rw [fxS_app, Fx.nd_app, Fx.nd_app, Fx.nd_app, n3, n1 rfl, hdf2.nd, Fx.nil_app]

theorem runPlan_sim (hac : Acyclic c.frags rank) (hfr : FragsOK c pv) (q : Plan)
    (sel : SelectionSet) (hroot : q.root = planSelectionSet c.schema c.frags pv q.rootType sel)
    (hreg : Regime pv c.vars (setDynamic sel)) (mst : MSt) :
    RootSim c pv rank F St.empty mst
      (execGroups c F false q.rootType .nil [] (collect c q.rootType sel ([], [])).1 [] St.empty)
      (runPlan c (recompute c.schema c.frags pv) q F mst) := by
  -- phase one by `simP` (a mutation: `mRootMut_sim`), the dethunk pass by `bfsLoop_forced` (`dfsId`: nothing left to do), no closure
  -- left by `bfsLoop_settles`, then the two accounts are glued (`perm_seq`)
  obtain ⟨hgo, hfps⟩ := planSelectionSet_sim (rt := q.rootType) hac hfr sel hreg
  rw [← hgo, ← hroot]
  rw [← hroot] at hfps
  rw [runPlan_eq]
  intro hr hkf
  by_cases hmut : q.isMutation = true
  · simp only [hmut, if_true]
    have hm := mRootMut_sim (F := F) hac hfr q.rootType F (Nat.le_refl _) q.root [] [] St.empty mst hfps .nil rfl hr hkf
    generalize mRootMut c (recompute c.schema c.frags pv) F F q.rootType q.root [] mst = z at hm ⊢
    obtain ⟨r1, mst1⟩ := z
    generalize execGroups c F false q.rootType .nil [] (groupsOf q.root) [] St.empty = x at hr hm ⊢
    obtain ⟨rS, stS⟩ := x
    rcases hm with hm | ⟨hg, hfx⟩
    · simp only at hm; subst hm; exact .inl rfl
    · cases rS with
      | ok fs =>
        obtain ⟨pfs, hp, hsv, hj⟩ := hg
        cases hp
        simp only [andThen_ok]
        -- the per-field passes left no closure, so the final pass does nothing
        have hnd : ∀ x ∈ pfs, NoDef x.2 := allCl_obj.1 (noDef_of_toJ? (.obj pfs) (.obj fs) (toJ?_obj hj))
        rcases (dfsId (frc := forceAll c (recompute c.schema c.frags pv) F) F).fields (sortedKeys pfs) pfs mst1 hnd with h2 | h2 <;> rw [h2]
        · exact .inl rfl
        · exact .inr ⟨⟨pfs, rfl, hsv, hj⟩, hfx⟩
      | fail => cases hg; exact .inr ⟨rfl, hfx⟩
      | fuelOut => exact absurd rfl hr
  · have hmut' : q.isMutation = false := by simpa using hmut
    simp only [hmut', Bool.false_eq_true, if_false]
    obtain ⟨hg, d1, dM1, e1, m1, ⟨D1, p1⟩, n1⟩ := (simP (F := F) hac hfr F (Nat.le_refl _)).groups false q.rootType .nil [] [] q.root [] []
      St.empty mst hfps .nil hr hkf
    generalize hz0 : mGroups c (recompute c.schema c.frags pv) F false q.rootType .nil [] [] q.root [] mst = z at hg m1 p1 ⊢
    obtain ⟨r1, mst1⟩ := z
    generalize execGroups c F false q.rootType .nil [] (groupsOf q.root) [] St.empty = x at hr hg e1 ⊢
    obtain ⟨rS, stS⟩ := x
    have hpn : pendF c F [] = Fx.nil := by simp [pendF]
    rw [hpn, Fx.app_nil] at p1
    cases rS with
    | ok fs =>
      obtain ⟨pfs, hp, hsv⟩ := hg
      cases hp
      simp only [resPend_ok, andThen_ok] at p1 ⊢
      obtain ⟨hbs, hb⟩ := bfsLoop_forced (forceAll_forced (c := c) (pv := pv) (rank := rank) (F := F) hac hfr) (.obj fs) F (.obj pfs)
        [[]] mst1 (.obj hsv)
      have ho := bfsLoop_obj (frc := forceAll c (recompute c.schema c.frags pv) F) F (.obj pfs) [[]] mst1 ⟨pfs, rfl⟩
      -- the phase-one result is a map with distinct keys all the way down, so the breadth-first pass settles it
      have hkn : KeysNodup q.root := by rw [hroot]; exact keysNodup_planSelectionSet _ _ _ _ _
      have hz : (mGroups c (recompute c.schema c.frags pv) F false q.rootType .nil [] [] q.root [] mst).1 = .ok pfs := by rw [hz0]
      have hnd1 := (nodupP (c := c) (alt := (recompute c.schema c.frags pv)) (altND_recompute _ _ _) F).groups false q.rootType .nil [] [] q.root [] mst
        (by simpa [KeysNodup] using hkn) (fun _ h => by cases h) pfs hz
      have hset := bfsLoop_settles (frcFlat_forceAll (c := c) (alt := (recompute c.schema c.frags pv)) (altND_recompute _ _ _) F) F pfs mst1 (ndv_obj.2 hnd1)
      generalize bfsLoop (forceAll c (recompute c.schema c.frags pv) F) F (.obj pfs) [[]] mst1 = z2 at hb hbs ho hset ⊢
      obtain ⟨r2, mst2⟩ := z2
      cases r2 with
      | ok root' =>
        obtain ⟨gs, rfl⟩ := ho root' rfl
        have hno : NoDef (.obj gs) := hset _ rfl
        have hsv' : SV c pv rank F (.obj gs) (.obj fs) := hbs
        obtain ⟨dM2, D2, m2, p2⟩ := hb
        simp only [pend] at p2
        rw [pendF_noDef gs (by simpa [NoDef, PVal.AllCl] using hno)] at p2
        have hdf2 : dM2.AllDf := allDf_of_pend (pendF_allDf pfs) p2
        cases hsv' with
        | obj hf =>
          refine .inr ⟨⟨gs, rfl, hf, svf_toJ hf (by simpa [NoDef, PVal.AllCl] using hno)⟩,
            d1, dM2.app dM1, D1.app D2, e1, m1.trans m2, ?_, ?_⟩
          · have := perm_seq p1 p2
            simpa using this
          · rw [Fx.nd_app, hdf2.nd, Fx.nil_app]; exact n1 rfl
      | fail => exact absurd hbs id
      | fuelOut => exact .inl rfl
    | fail =>
      cases hg
      simp only [resPend_fail, Fx.nil_app] at p1
      exact .inr ⟨rfl, d1, dM1, D1, e1, m1, p1, n1 rfl⟩
    | fuelOut => exact absurd rfl hr

end roots

end GqlModel.Plan
