import GqlProofs.PlanNodup
import GqlProofs.PlanExecRoot
/-! # `dethunkValueDepthFirst` leaves no closure behind -/
namespace GqlModel.Plan
open GqlModel.Exec

/-- a forcing function whose results are never bare closures (the loop of a dethunk site) and are maps with distinct keys -/
def FrcFlat (frc : Closure → MSt → Res PVal × MSt) : Prop :=
  ∀ cl st, ∀ x, (frc cl st).1 = .ok x → NDv x ∧ ∀ cl', x ≠ .deferred cl'

structure DfsS (frc : Closure → MSt → Res PVal × MSt) (fuel : Nat) : Prop where
  val : ∀ v st, NDv v → ∀ x, (dfsVal frc fuel v st).1 = .ok x → NoDef x
  fields : ∀ ks fs st, (fs.map (·.1)).Nodup → (∀ x ∈ fs, NoDef x.2 ∨ (x.1 ∈ ks ∧ NDv x.2)) →
    ∀ gs, (dfsFields frc fuel ks fs st).1 = .ok gs → ∀ x ∈ gs, NoDef x.2
  items : ∀ xs acc st, (∀ x ∈ xs, NDv x) → (∀ x ∈ acc, NoDef x) →
    ∀ ys, (dfsItems frc fuel xs acc st).1 = .ok ys → ∀ y ∈ ys, NoDef y

theorem dfsS {frc : Closure → MSt → Res PVal × MSt} (hf : FrcFlat frc) : ∀ fuel, DfsS frc fuel
  | 0 => by
    refine ⟨?_, ?_, ?_⟩
    · intro v st _ x h; rw [dfsVal_zero] at h; cases h
    · intro ks fs st _ _ gs h; rw [dfsFields_zero] at h; cases h
    · intro xs acc st _ _ ys h; rw [dfsItems_zero] at h; cases h
  | fuel + 1 => by
    have ih : DfsS frc fuel := dfsS hf fuel
    have descend : ∀ (x : PVal) (st : MSt), (∀ cl, x ≠ .deferred cl) → NDv x → Yields NoDef (dfsDescend frc fuel x st) := by
      intro x st hnd hndv
      cases x with
      | leaf j => exact yields_ok (allCl_leaf _)
      | deferred cl => exact absurd rfl (hnd cl)
      | obj fs =>
        exact Yields.andThen (ih.fields (sortedKeys fs) fs st (ndv_obj.1 hndv).1
          (fun x hx => .inr ⟨mem_sortedKeys hx, (ndv_obj.1 hndv).2 x hx⟩)) fun gs _ hgs => yields_ok (allCl_obj.2 hgs)
      | list xs =>
        exact Yields.andThen (ih.items xs [] st (fun x hx => ndv_list.1 hndv x hx) (fun _ h => by cases h)) fun ys _ hys =>
          yields_ok (allCl_list.2 hys)
    refine ⟨?_, ?_, ?_⟩
    · intro v st hndv
      cases v with
      | deferred cl =>
        rw [dfsVal_deferred]
        exact Yields.andThen (hf cl st) fun y s hy => descend y s hy.2 hy.1
      | leaf j => exact descend (.leaf j) st (fun _ => nofun) hndv
      | list xs => rw [dfsVal_value (v := .list xs) (fun _ => nofun)]; exact descend (.list xs) st (fun _ => nofun) hndv
      | obj fs => rw [dfsVal_value (v := .obj fs) (fun _ => nofun)]; exact descend (.obj fs) st (fun _ => nofun) hndv
    · intro ks fs st hnd hinv
      cases ks with
      | nil =>
        rw [dfsFields_nil]
        refine yields_ok fun x hx => ?_
        rcases hinv x hx with h1 | h1
        · exact h1
        · cases h1.1
      | cons k ks =>
        rw [dfsFields_cons]
        cases hl : lookupF fs k with
        | none =>
          refine ih.fields ks fs st hnd ?_
          intro x hx
          rcases hinv x hx with h1 | h1
          · exact .inl h1
          · rcases List.mem_cons.1 h1.1 with hk | hk
            · exact absurd hk (lookupF_none hl x hx)
            · exact .inr ⟨hk, h1.2⟩
        | some v =>
          have hvmem := lookupF_mem hl
          -- the value under k: finished already, or to be settled now
          have hv' : Yields NoDef (dfsVal frc fuel v st) := by
            rcases hinv _ hvmem with h1 | h1
            · intro y hy
              rcases (dfsId (frc := frc) fuel).val v st h1 with h2 | h2
              · rw [h2] at hy; cases hy
              · rw [h2] at hy; simp only [Res.ok.injEq] at hy; subst hy; exact h1
            · exact ih.val v st h1.2
          refine Yields.andThen hv' fun v' s hv'' => ih.fields ks (setF fs k v') s (by rw [setF_keys]; exact hnd) ?_
          intro x hx
          rcases mem_setF hnd hx with rfl | ⟨hxm, hxk⟩
          · exact .inl hv''
          · rcases hinv x hxm with h1 | h1
            · exact .inl h1
            · rcases List.mem_cons.1 h1.1 with hk | hk
              · exact absurd hk hxk
              · exact .inr ⟨hk, h1.2⟩
    · intro xs acc st hxs hacc
      cases xs with
      | nil => rw [dfsItems_nil]; exact yields_ok hacc
      | cons x xs =>
        rw [dfsItems_cons]
        exact Yields.andThen (ih.val x st (hxs x List.mem_cons_self)) fun x' s hx' =>
          ih.items xs (acc ++ [x']) s (fun y hy => hxs y (List.mem_cons_of_mem _ hy)) (forall_mem_append_singleton hacc hx')

theorem frcFlat_forceAll {c : Ctx} {alt : Alt} (ha : AltND alt) (fuel : Nat) : FrcFlat (forceAll c alt fuel) := by
  intro cl st x h
  exact ⟨forceAll_nd ha fuel cl st x h, forceLoop_not_deferred (fuel + 2) (.deferred cl) st x h⟩

end GqlModel.Plan
