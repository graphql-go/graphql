import GqlProofs.NormalizeExec
/-! C06 (normaliser): a STATIC, decidable sufficient condition for the premise `ExecUniform` of `normalized_transparent`:
if response keys determine field names throughout the document (`KeysFunctional`), every group of field nodes any
execution merges has one field name, hereditarily. (Stricter than OverlappingFieldsCanBeMerged, which also allows equal
keys with different names under disjoint type conditions; enough to show the premise is satisfiable and to `decide`
it on concrete documents.) -/
namespace GqlModel.Normalize
open GqlModel.Exec

abbrev FKey := Option String × String      -- (alias, field name)

def keyOf (f : FKey) : String := f.1.getD f.2

mutual
/-- every field selection nested anywhere in a selection -/
def selFields : Selection → List FKey
  | .field al nm _ _ sel _ => (al.map (·.value), nm.value) :: optFields sel
  | .inline _ _ ss _ => setFields ss
  | .spread _ _ _ => []
def optFields : Option SelectionSet → List FKey
  | none => []
  | some ss => setFields ss
def setFields : SelectionSet → List FKey
  | .mk sels _ => listFields sels
def listFields : List Selection → List FKey
  | [] => []
  | x :: xs => selFields x ++ listFields xs
end

def defFields : Definition → List FKey
  | .operation _ _ _ _ sel _ => setFields sel
  | .fragment _ _ _ sel _ => setFields sel
  | _ => []

def docFields (doc : Document) : List FKey := doc.defs.flatMap defFields

/-- response keys determine field names, document-wide -/
def KeysFunctionalOn (D : List FKey) : Prop := ∀ f ∈ D, ∀ g ∈ D, keyOf f = keyOf g → f.2 = g.2

def KeysFunctional (doc : Document) : Prop := KeysFunctionalOn (docFields doc)

instance (D : List FKey) : Decidable (KeysFunctionalOn D) := by unfold KeysFunctionalOn; infer_instance
instance (doc : Document) : Decidable (KeysFunctional doc) := by unfold KeysFunctional; infer_instance

section Inv
variable (c : Ctx) (D : List FKey)

def NodeIn (n : FieldNode) : Prop := (n.alias, n.name) ∈ D ∧ ∀ f ∈ optFields n.sel, f ∈ D

def GroupsIn (g : Groups) : Prop := ∀ p ∈ g, ∀ n ∈ p.2, n.key = p.1 ∧ NodeIn D n

-- `rt` is not used: an expander is always the expander of one runtime type (`ExpandSim`, `ExpandOK` take it too)
set_option linter.unusedVariables false in
def ExpandIn (rt : String) (e : Expand) : Prop := ∀ n g vis, GroupsIn D g → GroupsIn D (e n (g, vis)).1

mutual
theorem collectSel_in (rt : String) (e : Expand) (he : ExpandIn D rt e) :
    ∀ (x : Selection) (g : Groups) (vis : List String), (∀ f ∈ selFields x, f ∈ D) → GroupsIn D g →
      GroupsIn D (collectSel c rt e x (g, vis)).1
  | .field al nm args dirs sel loc, g, vis, hx, hg => by
    simp only [selFields] at hx
    rw [collectSel_field]
    split
    · exact groups_add_forall hg ⟨hx _ List.mem_cons_self, fun f hf => hx f (List.mem_cons_of_mem _ hf)⟩
    · exact hg
  | .inline tc dirs (.mk inner l1) loc, g, vis, hx, hg => by
    rw [collectSel_inline]
    split
    · exact collectList_in rt e he inner g vis hx hg
    · exact hg
  | .spread n d l, g, vis, hx, hg => by
    rw [collectSel_spread]
    split
    · exact he n.value g vis hg
    · exact hg
theorem collectList_in (rt : String) (e : Expand) (he : ExpandIn D rt e) :
    ∀ (xs : List Selection) (g : Groups) (vis : List String), (∀ f ∈ listFields xs, f ∈ D) → GroupsIn D g →
      GroupsIn D (collectList c rt e xs (g, vis)).1
  | [], g, vis, _, hg => hg
  | x :: xs, g, vis, hx, hg => by
    simp only [listFields, List.mem_append] at hx
    rw [collectList_cons]
    have h1 := collectSel_in rt e he x g vis (fun f hf => hx f (Or.inl hf)) hg
    exact collectList_in rt e he xs _ _ (fun f hf => hx f (Or.inr hf)) h1
end

/-- fragment bodies only contain fields of `D` -/
def FragsIn : Prop := ∀ n tc sel, c.frag? n = some (tc, sel) → ∀ f ∈ setFields sel, f ∈ D

theorem expandSpread_in (hf : FragsIn c D) (rt : String) : ∀ fuel : Nat, ExpandIn D rt (expandSpread c rt fuel)
  | 0 => fun _ _ _ hg => hg
  | fuel + 1 => fun n g vis hg =>
    expandSpread_cases (P := fun b => GroupsIn D b.1) fuel n (g, vis) (fun _ => hg) (fun _ _ _ _ _ => hg)
      fun tc body _ _ hfr _ => collectList_in c D rt _ (expandSpread_in hf rt fuel) body g (n :: vis) (hf n tc _ hfr) hg

theorem collect_in (hf : FragsIn c D) (rt : String) (x : SelectionSet) (g : Groups) (vis : List String)
    (hx : ∀ f ∈ setFields x, f ∈ D) (hg : GroupsIn D g) : GroupsIn D (collect c rt x (g, vis)).1 := by
  obtain ⟨sels, l⟩ := x
  exact collectList_in c D rt _ (expandSpread_in c D hf rt _) sels g vis hx hg

theorem collectMerged_in (hf : FragsIn c D) (ot : String) (nodes : List FieldNode) (hn : ∀ n ∈ nodes, NodeIn D n) :
    GroupsIn D (collectMerged c ot nodes) := by
  refine collectMerged_ind c ot nodes (fun acc => GroupsIn D acc.1) (fun p hp => nomatch hp) ?_
  intro n hm sel hs acc hacc
  have hsel := (hn n hm).2
  rw [hs] at hsel
  exact collect_in c D hf ot sel acc.1 acc.2 hsel hacc

/-- groups made of the document's fields are hereditarily uniform when keys determine names -/
theorem HU_of_in (hf : FragsIn c D) (hk : KeysFunctionalOn D) : ∀ (k : Nat) (rt : String) (g : Groups),
    GroupsIn D g → HU c k rt g
  | 0, _, _, _ => trivial
  | k + 1, rt, g, hg => by
    intro p hp
    refine ⟨?_, ?_⟩
    · intro h hh n hn
      have hmem : h ∈ p.2 := List.mem_of_mem_head? hh
      obtain ⟨hk1, hin1⟩ := hg p hp n hn
      obtain ⟨hk2, hin2⟩ := hg p hp h hmem
      exact hk (n.alias, n.name) hin1.1 (h.alias, h.name) hin2.1 (by
        show n.alias.getD n.name = h.alias.getD h.name
        have a : n.key = h.key := by rw [hk1, hk2]
        exact a)
    · intro h fd hh hfd ot hot _
      exact HU_of_in hf hk k ot _ (collectMerged_in c D hf ot p.2 (fun n hn => (hg p hp n hn).2))

end Inv

end GqlModel.Normalize
