import GqlProofs.PrinterDerive
import GqlProofs.PrinterLists
/-! Derivations for variable definitions, operations, fragments, the type-system definitions and the document; statements
have the shape described in `PrinterDerive.lean`. -/
namespace GqlModel.Printer
open GqlModel.Grammar

theorem derive_description (d : Option String) {p : Pos} {s : String} {k : List KV} (h : kvs p = descT d ++ (nT s ++ k)) :
    ∃ p', DDescription p d p' ∧ kvs p' = nT s ++ k := by
  cases d with
  | none =>
    have hk : kvs p = nT s ++ k := by simpa [descT] using h
    exact ⟨p, DDescription.none (kind_ne_of_next hk (nextNe_nT (by decide) _ _) (by decide))
      (kind_ne_of_next hk (nextNe_nT (by decide) _ _) (by decide)), hk⟩
  | some v =>
    by_cases hs : descBlockSafeC v.toList = true
    · obtain ⟨t, p', ht, hv, hk⟩ := tok_step (k := .blockString) (v := v) (by simpa [descT, hs] using h)
      exact ⟨p', hv ▸ DDescription.blockString ht, hk⟩
    · obtain ⟨t, p', ht, hv, hk⟩ := tok_step (k := .string) (v := v) (by simpa [descT, hs] using h)
      exact ⟨p', hv ▸ DDescription.string ht, hk⟩

theorem derive_default (d : Option Value) (hwf : WFDefault d) {p : Pos} {k : List KV} (h : kvs p = defaultT d ++ k)
    (hf : NextNe .equals k) :
    ∃ d' p', DDefault p d' p' ∧ kvs p' = k ∧ d'.map Value.stripLoc = d.map Value.stripLoc := by
  cases d with
  | none =>
    have hk : kvs p = k := by simpa [defaultT] using h
    exact ⟨none, p, DDefault.none (kind_ne_of_next hk hf (by decide)), hk, rfl⟩
  | some v =>
    simp only [defaultT, List.append_assoc] at h
    obtain ⟨q, p1, hq, h1⟩ := derive_punct h
    obtain ⟨v', p2, hv, h2, hs⟩ := derive_value true v hwf.1 (fun _ => hwf.2) p1 k h1
    exact ⟨some v', p2, DDefault.some hq hv, h2, by simp [hs]⟩

theorem derive_varDef (v : VarDef) (hwf : WFVarDef v) {p : Pos} {k : List KV} (h : kvs p = varDefT v ++ k)
    (hb : NextNe .bang k) (he : NextNe .equals k) :
    ∃ v' p', DVarDef p v' p' ∧ kvs p' = k ∧ v'.stripLoc = v.stripLoc := by
  obtain ⟨_, ⟨t, ht, hwt⟩, hd⟩ := hwf
  simp only [varDefT, ht, optTypeT, List.append_assoc] at h
  obtain ⟨d, p1, hdl, h1⟩ := derive_punct h
  obtain ⟨nm, p2, hn, h2, hnv⟩ := derive_name h1
  obtain ⟨cl, p3, hcl, h3⟩ := derive_punct h2
  obtain ⟨t', p4, htd, h4, hst⟩ := derive_type hwt h3 (nextNe_defaultT (by decide) v.default hb)
  obtain ⟨d', p5, hdd, h5, hsd⟩ := derive_default v.default hd h4 he
  exact ⟨_, p5, DVarDef.mk (DVariable.mk hdl hn) hcl htd hdd, h5,
    by simp [VarDef.stripLoc, Name.stripLoc, hnv, ht, hst, hsd]⟩

theorem derive_varDefs (vs : List VarDef) (hwf : WFVarDefs vs) {p : Pos} {k : List KV} (h : kvs p = varDefsT vs ++ k)
    (hf : vs = [] → NextNe .parenL k) :
    ∃ vs' p', DVarDefs p vs' p' ∧ kvs p' = k ∧ vs'.map VarDef.stripLoc = vs.map VarDef.stripLoc := by
  cases vs with
  | nil =>
    have hk : kvs p = k := by simpa [varDefsT] using h
    exact ⟨[], p, DVarDefs.none (kind_ne_of_next hk (hf rfl) (by decide)), hk, rfl⟩
  | cons v vs =>
    simp only [varDefsT, List.append_assoc] at h
    obtain ⟨o, p1, ho, h1⟩ := derive_punct h
    obtain ⟨vs', p2, hvs, h2, hs⟩ := derive_many (listT := varDefListT) (F := fun k => NextNe .bang k ∧ NextNe .equals k)
      (fun v hw _ _ h hf => derive_varDef v hw h hf.1 hf.2)
      (fun _ _ => by
        simp only [varDefT, List.append_assoc]; exact ⟨nextNe_pT (by decide) _, nextNe_pT (by decide) _⟩)
      ⟨nextNe_pT (by decide) _, nextNe_pT (by decide) _⟩ (v :: vs) hwf p1 h1
    obtain ⟨cl, p3, hcl, h3⟩ := derive_punct h2
    exact ⟨vs', p3, DVarDefs.some ho hvs (ne_nil_of_map_eq hs) hcl, h3, hs⟩

theorem derive_opType (op : OpType) {p : Pos} {k : List KV} (h : kvs p = nT op.toString ++ k) :
    ∃ p', DOpType p op p' ∧ kvs p' = k := by
  obtain ⟨p', hkw, hk⟩ := derive_kw h
  cases op with
  | query => exact ⟨p', DOpType.query hkw, hk⟩
  | mutation => exact ⟨p', DOpType.mutation hkw, hk⟩
  | subscription => exact ⟨p', DOpType.subscription hkw, hk⟩

theorem derive_optName (n : Option Name) {p : Pos} {k : List KV} (h : kvs p = optNameT n ++ k) (hf : NextNe .name k) :
    ∃ n' p', DOptName p n' p' ∧ kvs p' = k ∧ n'.map Name.stripLoc = n.map Name.stripLoc := by
  cases n with
  | none =>
    have hk : kvs p = k := by simpa [optNameT] using h
    exact ⟨none, p, DOptName.none (kind_ne_of_next hk hf (by decide)), hk, rfl⟩
  | some n =>
    obtain ⟨nm, p', hn, hk, hv⟩ := derive_name (s := n.value) (by simpa [optNameT] using h)
    exact ⟨some nm, p', DOptName.some hn, hk, by simp [Name.stripLoc, hv]⟩

structure FollowMember (k : List KV) : Prop where
  hBang : NextNe .bang k
  hEquals : NextNe .equals k
  hAt : NextNe .at k
  hParenL : NextNe .parenL k

theorem followMember_cons {kd : TokenKind} {v : String} {r : List KV} (h1 : kd ≠ .bang) (h2 : kd ≠ .equals)
    (h3 : kd ≠ .at) (h4 : kd ≠ .parenL) : FollowMember ((kd, v) :: r) :=
  ⟨nextNe_cons h1, nextNe_cons h2, nextNe_cons h3, nextNe_cons h4⟩

theorem descT_cases (d : Option String) : descT d = [] ∨ ∃ s, descT d = [(.string, s)] ∨ descT d = [(.blockString, s)] := by
  cases d with
  | none => exact Or.inl rfl
  | some s =>
    right; refine ⟨s, ?_⟩
    by_cases hs : descBlockSafeC s.toList = true
    · right; simp [descT, hs]
    · left; simp [descT, hs]

theorem member_head (d : Option String) (n : String) (k : List KV) :
    ∃ kd v r, descT d ++ (nT n ++ k) = (kd, v) :: r ∧ (kd = .name ∨ kd = .string ∨ kd = .blockString) := by
  rcases descT_cases d with h | ⟨s, h | h⟩
  · rw [h]; exact ⟨.name, n, k, by simp [nT], Or.inl rfl⟩
  · rw [h]; exact ⟨.string, s, _, rfl, Or.inr (Or.inl rfl)⟩
  · rw [h]; exact ⟨.blockString, s, _, rfl, Or.inr (Or.inr rfl)⟩

theorem followMember_member (d : Option String) (n : String) (k : List KV) : FollowMember (descT d ++ (nT n ++ k)) := by
  obtain ⟨kd, v, r, hr, hk⟩ := member_head d n k
  rw [hr]
  rcases hk with rfl | rfl | rfl <;> exact followMember_cons (by decide) (by decide) (by decide) (by decide)

theorem followMember_close {c : TokenKind} (hc : c = .parenR ∨ c = .braceR) (k : List KV) : FollowMember (pT c ++ k) := by
  rcases hc with rfl | rfl <;> exact followMember_cons (by decide) (by decide) (by decide) (by decide)

theorem derive_inputValueDef (d : InputValueDef) (hwf : WFInputValueDef d) {p : Pos} {k : List KV}
    (h : kvs p = inputValueDefT d ++ k) (hf : FollowMember k) :
    ∃ d' p', DInputValueDef p d' p' ∧ kvs p' = k ∧ d'.stripLoc = d.stripLoc := by
  obtain ⟨_, ht, hd, hdir⟩ := hwf
  simp only [inputValueDefT, List.append_assoc] at h
  obtain ⟨p1, hdesc, h1⟩ := derive_description d.description h
  obtain ⟨nm, p2, hn, h2, hnv⟩ := derive_name h1
  obtain ⟨cl, p3, hcl, h3⟩ := derive_punct h2
  obtain ⟨t', p4, htd, h4, hst⟩ := derive_type ht h3
    (nextNe_defaultT (by decide) d.default (nextNe_directivesT (by decide) d.dirs hf.hBang))
  obtain ⟨df', p5, hdd, h5, hsd⟩ := derive_default d.default hd h4 (nextNe_directivesT (by decide) d.dirs hf.hEquals)
  obtain ⟨ds', p6, hds, h6, hss⟩ := derive_directives d.dirs hdir p5 k h5 hf.hAt hf.hParenL
  exact ⟨_, p6, DInputValueDef.mk hdesc hn hcl htd hdd hds, h6,
    by simp [InputValueDef.stripLoc, Name.stripLoc, hnv, hst, hsd, hss]⟩

theorem derive_inputValueDefList (close : TokenKind) (hc : close = .parenR ∨ close = .braceR) :
    ∀ ds : List InputValueDef, WFInputValueDefs ds → ∀ (p : Pos) (k : List KV),
    kvs p = inputValueDefListT ds ++ (pT close ++ k) →
    ∃ ds' p', Many DInputValueDef p ds' p' ∧ kvs p' = pT close ++ k ∧
      ds'.map InputValueDef.stripLoc = ds.map InputValueDef.stripLoc :=
  fun ds hwf p k h => derive_many (fun d hw _ _ h hf => derive_inputValueDef d hw h hf)
    (fun _ _ => by simp only [inputValueDefT, List.append_assoc]; exact followMember_member _ _ _)
    (followMember_close hc k) ds hwf p h

theorem derive_argDefs (ds : List InputValueDef) (hwf : WFInputValueDefs ds) {p : Pos} {k : List KV}
    (h : kvs p = argDefsT ds ++ k) (hf : ds = [] → NextNe .parenL k) :
    ∃ ds' p', DArgumentDefs p ds' p' ∧ kvs p' = k ∧ ds'.map InputValueDef.stripLoc = ds.map InputValueDef.stripLoc := by
  cases ds with
  | nil =>
    have hk : kvs p = k := by simpa [argDefsT] using h
    exact ⟨[], p, DArgumentDefs.none (kind_ne_of_next hk (hf rfl) (by decide)), hk, rfl⟩
  | cons d ds =>
    simp only [argDefsT, List.append_assoc] at h
    obtain ⟨o, p1, ho, h1⟩ := derive_punct h
    obtain ⟨ds', p2, hds, h2, hs⟩ := derive_inputValueDefList .parenR (Or.inl rfl) (d :: ds) hwf p1 k h1
    obtain ⟨cl, p3, hcl, h3⟩ := derive_punct h2
    exact ⟨ds', p3, DArgumentDefs.some ho hds (ne_nil_of_map_eq hs) hcl, h3, hs⟩

theorem derive_fieldDef (d : FieldDef) (hwf : WFFieldDef d) {p : Pos} {k : List KV}
    (h : kvs p = fieldDefT d ++ k) (hf : FollowMember k) :
    ∃ d' p', DFieldDef p d' p' ∧ kvs p' = k ∧ d'.stripLoc = d.stripLoc := by
  obtain ⟨_, ha, ht, hdir⟩ := hwf
  simp only [fieldDefT, List.append_assoc] at h
  obtain ⟨p1, hdesc, h1⟩ := derive_description d.description h
  obtain ⟨nm, p2, hn, h2, hnv⟩ := derive_name h1
  obtain ⟨as', p3, had, h3, hsa⟩ := derive_argDefs d.args ha h2 (fun _ => nextNe_pT (by decide) _)
  obtain ⟨cl, p4, hcl, h4⟩ := derive_punct h3
  obtain ⟨t', p5, htd, h5, hst⟩ := derive_type ht h4 (nextNe_directivesT (by decide) d.dirs hf.hBang)
  obtain ⟨ds', p6, hds, h6, hss⟩ := derive_directives d.dirs hdir p5 k h5 hf.hAt hf.hParenL
  exact ⟨_, p6, DFieldDef.mk hdesc hn had hcl htd hds, h6,
    by simp [FieldDef.stripLoc, Name.stripLoc, hnv, hsa, hst, hss]⟩

theorem derive_fieldBlock (ds : List FieldDef) (hwf : WFFieldDefs ds) {p : Pos} {k : List KV}
    (h : kvs p = pT .braceL ++ (fieldDefListT ds ++ (pT .braceR ++ k))) :
    ∃ ds' p', Braced DFieldDef p ds' p' ∧ kvs p' = k ∧ ds'.map FieldDef.stripLoc = ds.map FieldDef.stripLoc := by
  obtain ⟨o, p1, ho, h1⟩ := derive_punct h
  obtain ⟨ds', p2, hds, h2, hs⟩ := derive_many (listT := fieldDefListT)
    (fun d hw _ _ h hf => derive_fieldDef d hw h hf)
    (fun _ _ => by simp only [fieldDefT, List.append_assoc]; exact followMember_member _ _ _)
    (followMember_close (Or.inr rfl) k) ds hwf p1 h1
  obtain ⟨cl, p3, hcl, h3⟩ := derive_punct h2
  exact ⟨ds', p3, Braced.mk ho hds hcl, h3, hs⟩

theorem derive_inputBlock (ds : List InputValueDef) (hwf : WFInputValueDefs ds) {p : Pos} {k : List KV}
    (h : kvs p = pT .braceL ++ (inputValueDefListT ds ++ (pT .braceR ++ k))) :
    ∃ ds' p', Braced DInputValueDef p ds' p' ∧ kvs p' = k ∧
      ds'.map InputValueDef.stripLoc = ds.map InputValueDef.stripLoc := by
  obtain ⟨o, p1, ho, h1⟩ := derive_punct h
  obtain ⟨ds', p2, hds, h2, hs⟩ := derive_inputValueDefList .braceR (Or.inr rfl) ds hwf p1 k h1
  obtain ⟨cl, p3, hcl, h3⟩ := derive_punct h2
  exact ⟨ds', p3, Braced.mk ho hds hcl, h3, hs⟩

theorem derive_enumValueDef (d : EnumValueDef) (hwf : WFEnumValueDef d) {p : Pos} {k : List KV}
    (h : kvs p = enumValueDefT d ++ k) (hf : FollowMember k) :
    ∃ d' p', DEnumValueDef p d' p' ∧ kvs p' = k ∧ d'.stripLoc = d.stripLoc := by
  simp only [enumValueDefT, List.append_assoc] at h
  obtain ⟨p1, hdesc, h1⟩ := derive_description d.description h
  obtain ⟨nm, p2, hn, h2, hnv⟩ := derive_name h1
  obtain ⟨ds', p3, hds, h3, hss⟩ := derive_directives d.dirs hwf.2 p2 k h2 hf.hAt hf.hParenL
  exact ⟨_, p3, DEnumValueDef.mk hdesc hn hds, h3, by simp [EnumValueDef.stripLoc, Name.stripLoc, hnv, hss]⟩

theorem derive_opTypeDef (d : OpTypeDef) (hwf : WFOpTypeDef d) {p : Pos} {k : List KV} (h : kvs p = opTypeDefT d ++ k) :
    ∃ d' p', DOpTypeDef p d' p' ∧ kvs p' = k ∧ d'.stripLoc = d.stripLoc := by
  simp only [opTypeDefT, List.append_assoc] at h
  obtain ⟨p1, hop, h1⟩ := derive_opType d.operation h
  obtain ⟨cl, p2, hcl, h2⟩ := derive_punct h1
  obtain ⟨t', p3, ht, h3, hst⟩ := derive_namedType hwf h2
  exact ⟨_, p3, DOpTypeDef.mk hop hcl ht, h3, by simp [OpTypeDef.stripLoc, hst]⟩

structure FollowDef (k : List KV) : Prop where
  hAt : NextNe .at k
  hParenL : NextNe .parenL k
  hPipe : NextNe .pipe k

theorem followDef_cons {kd : TokenKind} {v : String} {r : List KV} (h1 : kd ≠ .at) (h2 : kd ≠ .parenL) (h3 : kd ≠ .pipe) :
    FollowDef ((kd, v) :: r) := ⟨nextNe_cons h1, nextNe_cons h2, nextNe_cons h3⟩

theorem followDef_nil : FollowDef [] := ⟨nextNe_nil _, nextNe_nil _, nextNe_nil _⟩

theorem derive_implements (ifs : List TypeRef) (hwf : WFNamedTypes ifs) {p : Pos} {k : List KV}
    (h : kvs p = implementsT ifs ++ k) (hf1 : NextNotName "implements" k) (hf2 : NextNe .amp k) :
    ∃ ifs' p', DImplements p ifs' p' ∧ kvs p' = k ∧ ifs'.map TypeRef.stripLoc = ifs.map TypeRef.stripLoc := by
  cases ifs with
  | nil =>
    have hk : kvs p = k := by simpa [implementsT] using h
    exact ⟨[], p, DImplements.none (not_isName_of_next hk hf1), hk, rfl⟩
  | cons t ts =>
    simp only [implementsT, List.append_assoc] at h
    obtain ⟨p1, hkw, h1⟩ := derive_kw h
    have hamp : p1.kind ≠ .amp := by
      refine kind_ne_of_next h1 ?_ (by decide)
      cases t with
      | named n l => cases ts <;> simp only [List.map_cons, List.map_nil, sepByT, typeT, List.append_assoc] <;> exact nextNe_nT (by decide) _ _
      | list t l => exact absurd hwf.1 (by simp [WFNamedType])
      | nonNull t l => exact absurd hwf.1 (by simp [WFNamedType])
    obtain ⟨ts', p2, hts, h2, hs⟩ := derive_sepBy .amp (by decide) (fun t hw _ _ h => derive_namedType hw h) t ts
      (fun y hy => mem_of_consPred hwf y hy) p1 k h1 hf2
    exact ⟨ts', p2, DImplements.plain hkw hamp hts, h2, hs⟩

theorem derive_objectDef (d : ObjectDef) (hwf : WFObjectDef d) {p : Pos} {k : List KV} (h : kvs p = objectDefT d ++ k) :
    ∃ d' p', DObjectDef p d' p' ∧ kvs p' = k ∧ d'.stripLoc = d.stripLoc := by
  obtain ⟨_, hi, hd, hfd⟩ := hwf
  simp only [objectDefT, List.append_assoc] at h
  obtain ⟨p1, hdesc, h1⟩ := derive_description d.description h
  obtain ⟨p2, hkw, h2⟩ := derive_kw h1
  obtain ⟨nm, p3, hn, h3, hnv⟩ := derive_name h2
  obtain ⟨ifs', p4, hid, h4, hsi⟩ := derive_implements d.interfaces hi h3
    (nextNotName_directivesT _ d.dirs (nextNotName_pT _ _ (by decide) _))
    (nextNe_directivesT (by decide) d.dirs (nextNe_pT (by decide) _))
  obtain ⟨ds', p5, hdd, h5, hsd⟩ := derive_directives d.dirs hd p4 _ h4 (nextNe_pT (by decide) _) (nextNe_pT (by decide) _)
  obtain ⟨fs', p6, hfs, h6, hsf⟩ := derive_fieldBlock d.fields hfd h5
  exact ⟨_, p6, DObjectDef.mk hdesc hkw hn hid hdd hfs, h6,
    by simp [ObjectDef.stripLoc, Name.stripLoc, hnv, hsi, hsd, hsf]⟩

theorem derive_definition : ∀ d : Definition, WFDefinition d → ∀ (p : Pos) (k : List KV), kvs p = definitionT d ++ k →
    FollowDef k → ∃ d' p', DDefinition p d' p' ∧ kvs p' = k ∧ d'.stripLoc = d.stripLoc
  | .operation op name vars dirs sel l, hwf, p, k, h, _ => by
    obtain ⟨hn, hv, hd, hs⟩ := hwf
    simp only [definitionT, operationT] at h
    by_cases hsf : isShortForm op name vars dirs = true
    · rw [if_pos hsf] at h
      obtain ⟨s', p', hsd, hk, hst⟩ := derive_selSet sel hs p k h
      simp only [isShortForm, Bool.and_eq_true, Option.isNone_iff_eq_none, List.isEmpty_iff, beq_iff_eq] at hsf
      obtain ⟨⟨⟨rfl, rfl⟩, rfl⟩, rfl⟩ := hsf
      exact ⟨_, p', DDefinition.query hsd, hk, by simp [Definition.stripLoc, hst]⟩
    · rw [if_neg hsf] at h
      simp only [List.append_assoc] at h
      obtain ⟨p1, hop, h1⟩ := derive_opType op h
      obtain ⟨n', p2, hnd, h2, hsn⟩ := derive_optName name h1
        (nextNe_varDefsT (by decide) vars (nextNe_directivesT (by decide) dirs (nextNe_selSetT (by decide) sel k)))
      obtain ⟨vs', p3, hvd, h3, hsv⟩ := derive_varDefs vars hv h2
        (fun _ => nextNe_directivesT (by decide) dirs (nextNe_selSetT (by decide) sel k))
      obtain ⟨ds', p4, hdd, h4, hsd⟩ := derive_directives dirs hd p3 _ h3 (nextNe_selSetT (by decide) sel k)
        (nextNe_selSetT (by decide) sel k)
      obtain ⟨s', p5, hsd', h5, hst⟩ := derive_selSet sel hs p4 k h4
      exact ⟨_, p5, DDefinition.operation hop hnd hvd hdd hsd', h5, by simp [Definition.stripLoc, hsn, hsv, hsd, hst]⟩
  | .fragment name tc dirs sel l, hwf, p, k, h, _ => by
    obtain ⟨_, hon, htc, hd, hs⟩ := hwf
    simp only [definitionT, fragmentT, List.append_assoc] at h
    obtain ⟨p1, hkw, h1⟩ := derive_kw h
    obtain ⟨nm, p2, hn, h2, hnv⟩ := derive_name h1
    obtain ⟨p3, hkon, h3⟩ := derive_kw h2
    obtain ⟨t', p4, ht, h4, hst⟩ := derive_namedType htc h3
    obtain ⟨ds', p5, hdd, h5, hsd⟩ := derive_directives dirs hd p4 _ h4 (nextNe_selSetT (by decide) sel k)
      (nextNe_selSetT (by decide) sel k)
    obtain ⟨s', p6, hsd', h6, hss⟩ := derive_selSet sel hs p5 k h5
    exact ⟨_, p6, DDefinition.fragment hkw (DFragmentName.mk hn (by rw [hnv]; exact hon)) hkon ht hdd hsd', h6,
      by simp [Definition.stripLoc, Name.stripLoc, hnv, hst, hsd, hss]⟩
  | .schema dirs ops l, hwf, p, k, h, _ => by
    obtain ⟨hd, hne, hops⟩ := hwf
    simp only [definitionT, schemaT, List.append_assoc] at h
    obtain ⟨p1, hkw, h1⟩ := derive_kw h
    obtain ⟨ds', p2, hdd, h2, hsd⟩ := derive_directives dirs hd p1 _ h1 (nextNe_pT (by decide) _) (nextNe_pT (by decide) _)
    obtain ⟨o, p3, ho, h3⟩ := derive_punct h2
    obtain ⟨ops', p4, hod, h4, hso⟩ := derive_many (listT := opTypeDefListT) (F := fun _ => True)
      (fun d hw _ _ h _ => derive_opTypeDef d hw h) (fun _ _ => trivial) trivial ops hops p3 h3
    obtain ⟨cl, p5, hcl, h5⟩ := derive_punct h4
    have hne' : ops' ≠ [] := by
      cases ops with
      | nil => exact absurd rfl hne
      | cons o os => exact ne_nil_of_map_eq hso
    exact ⟨_, p5, DDefinition.schema hkw hdd ho hod hne' hcl, h5, by simp [Definition.stripLoc, hsd, hso]⟩
  | .scalar desc name dirs l, hwf, p, k, h, hf => by
    simp only [definitionT, scalarT, List.append_assoc] at h
    obtain ⟨p1, hdesc, h1⟩ := derive_description desc h
    obtain ⟨p2, hkw, h2⟩ := derive_kw h1
    obtain ⟨nm, p3, hn, h3, hnv⟩ := derive_name h2
    obtain ⟨ds', p4, hdd, h4, hsd⟩ := derive_directives dirs hwf.2 p3 k h3 hf.hAt hf.hParenL
    exact ⟨_, p4, DDefinition.scalar hdesc hkw hn hdd, h4, by simp [Definition.stripLoc, Name.stripLoc, hnv, hsd]⟩
  | .object d, hwf, p, k, h, _ => by
    obtain ⟨d', p', hd, hk, hs⟩ := derive_objectDef d hwf (by simpa [definitionT] using h)
    exact ⟨_, p', DDefinition.object hd, hk, by simp [Definition.stripLoc, hs]⟩
  | .interface desc name dirs fields l, hwf, p, k, h, _ => by
    obtain ⟨_, hd, hfd⟩ := hwf
    simp only [definitionT, interfaceT, List.append_assoc] at h
    obtain ⟨p1, hdesc, h1⟩ := derive_description desc h
    obtain ⟨p2, hkw, h2⟩ := derive_kw h1
    obtain ⟨nm, p3, hn, h3, hnv⟩ := derive_name h2
    obtain ⟨ds', p4, hdd, h4, hsd⟩ := derive_directives dirs hd p3 _ h3 (nextNe_pT (by decide) _) (nextNe_pT (by decide) _)
    obtain ⟨fs', p5, hfs, h5, hsf⟩ := derive_fieldBlock fields hfd h4
    exact ⟨_, p5, DDefinition.interface hdesc hkw hn hdd hfs, h5,
      by simp [Definition.stripLoc, Name.stripLoc, hnv, hsd, hsf]⟩
  | .union desc name dirs types l, hwf, p, k, h, hf => by
    obtain ⟨_, hd, hne, hts⟩ := hwf
    simp only [definitionT, unionT, List.append_assoc] at h
    obtain ⟨p1, hdesc, h1⟩ := derive_description desc h
    obtain ⟨p2, hkw, h2⟩ := derive_kw h1
    obtain ⟨nm, p3, hn, h3, hnv⟩ := derive_name h2
    obtain ⟨ds', p4, hdd, h4, hsd⟩ := derive_directives dirs hd p3 _ h3 (nextNe_pT (by decide) _) (nextNe_pT (by decide) _)
    obtain ⟨q, p5, hq, h5⟩ := derive_punct h4
    cases types with
    | nil => exact absurd rfl hne
    | cons t ts =>
      obtain ⟨ts', p6, htd, h6, hst⟩ := derive_sepBy .pipe (by decide) (fun t hw _ _ h => derive_namedType hw h) t ts
        (fun y hy => mem_of_consPred hts y hy) p5 k h5 hf.hPipe
      exact ⟨_, p6, DDefinition.union hdesc hkw hn hdd hq htd, h6,
        by simp only [Definition.stripLoc, hst, hsd]; simp [Name.stripLoc, hnv]⟩
  | .enum desc name dirs values l, hwf, p, k, h, _ => by
    obtain ⟨_, hd, hvs⟩ := hwf
    simp only [definitionT, enumT, List.append_assoc] at h
    obtain ⟨p1, hdesc, h1⟩ := derive_description desc h
    obtain ⟨p2, hkw, h2⟩ := derive_kw h1
    obtain ⟨nm, p3, hn, h3, hnv⟩ := derive_name h2
    obtain ⟨ds', p4, hdd, h4, hsd⟩ := derive_directives dirs hd p3 _ h3 (nextNe_pT (by decide) _) (nextNe_pT (by decide) _)
    obtain ⟨o, p5, ho, h5⟩ := derive_punct h4
    obtain ⟨vs', p6, hvd, h6, hsv⟩ := derive_many (listT := enumValueDefListT)
      (fun d hw _ _ h hf => derive_enumValueDef d hw h hf)
      (fun _ _ => by simp only [enumValueDefT, List.append_assoc]; exact followMember_member _ _ _)
      (followMember_close (Or.inr rfl) k) values hvs p5 h5
    obtain ⟨cl, p7, hcl, h7⟩ := derive_punct h6
    exact ⟨_, p7, DDefinition.enum hdesc hkw hn hdd (Braced.mk ho hvd hcl), h7,
      by simp [Definition.stripLoc, Name.stripLoc, hnv, hsd, hsv]⟩
  | .inputObject desc name dirs fields l, hwf, p, k, h, _ => by
    obtain ⟨_, hd, hfd⟩ := hwf
    simp only [definitionT, inputObjectT, List.append_assoc] at h
    obtain ⟨p1, hdesc, h1⟩ := derive_description desc h
    obtain ⟨p2, hkw, h2⟩ := derive_kw h1
    obtain ⟨nm, p3, hn, h3, hnv⟩ := derive_name h2
    obtain ⟨ds', p4, hdd, h4, hsd⟩ := derive_directives dirs hd p3 _ h3 (nextNe_pT (by decide) _) (nextNe_pT (by decide) _)
    obtain ⟨fs', p5, hfs, h5, hsf⟩ := derive_inputBlock fields hfd h4
    exact ⟨_, p5, DDefinition.inputObject hdesc hkw hn hdd hfs, h5,
      by simp [Definition.stripLoc, Name.stripLoc, hnv, hsd, hsf]⟩
  | .extend d l, hwf, p, k, h, _ => by
    simp only [definitionT, extendT, List.append_assoc] at h
    obtain ⟨p1, hkw, h1⟩ := derive_kw h
    obtain ⟨d', p2, hd, h2, hs⟩ := derive_objectDef d hwf h1
    exact ⟨_, p2, DDefinition.extend hkw hd, h2, by simp [Definition.stripLoc, hs]⟩
  | .directive desc name args locations l, hwf, p, k, h, hf => by
    obtain ⟨_, ha, hne, _⟩ := hwf
    simp only [definitionT, directiveDefT, List.append_assoc] at h
    obtain ⟨p1, hdesc, h1⟩ := derive_description desc h
    obtain ⟨p2, hkw, h2⟩ := derive_kw h1
    obtain ⟨a, p3, hat, h3⟩ := derive_punct h2
    obtain ⟨nm, p4, hn, h4, hnv⟩ := derive_name h3
    obtain ⟨as', p5, had, h5, hsa⟩ := derive_argDefs args ha h4 (fun _ => nextNe_nT (by decide) _ _)
    obtain ⟨p6, hon, h6⟩ := derive_kw h5
    cases locations with
    | nil => exact absurd rfl hne
    | cons n ns =>
      obtain ⟨ns', p7, hnd, h7, hsn⟩ := derive_sepBy (WF := fun _ => True) (strip := Name.stripLoc) .pipe (by decide)
        (fun n _ _ _ h => by
          obtain ⟨nm, p', hn, hk, hv⟩ := derive_name h
          exact ⟨nm, p', hn, hk, by rw [Name.stripLoc, hv]; rfl⟩)
        n ns (fun _ _ => trivial) p6 k h6 hf.hPipe
      exact ⟨_, p7, DDefinition.directive hdesc hkw hat hn had hon hnd, h7,
        by simp only [Definition.stripLoc, hsn, hsa]; simp [Name.stripLoc, hnv]⟩

theorem definitionT_head (d : Definition) (k : List KV) :
    ∃ kd v r, definitionT d ++ k = (kd, v) :: r ∧ (kd = .braceL ∨ kd = .name ∨ kd = .string ∨ kd = .blockString) := by
  have hdesc : ∀ (desc : Option String) (kw : String) (k' : List KV),
      ∃ kd v r, descT desc ++ (nT kw ++ k') = (kd, v) :: r ∧ (kd = .braceL ∨ kd = .name ∨ kd = .string ∨ kd = .blockString) := by
    intro desc kw k'
    obtain ⟨kd, v, r, hr, hk⟩ := member_head desc kw k'
    exact ⟨kd, v, r, hr, by rcases hk with h | h | h <;> simp [h]⟩
  cases d with
  | operation op name vars dirs sel l =>
    simp only [definitionT, operationT]
    split
    · obtain ⟨r, hr⟩ := selSetT_head sel k
      exact ⟨_, _, r, hr, Or.inl rfl⟩
    · simp only [nT, List.cons_append, List.nil_append, List.append_assoc]
      exact ⟨_, _, _, rfl, Or.inr (Or.inl rfl)⟩
  | fragment name tc dirs sel l =>
    simp only [definitionT, fragmentT, nT, List.cons_append, List.nil_append, List.append_assoc]
    exact ⟨_, _, _, rfl, Or.inr (Or.inl rfl)⟩
  | schema dirs ops l =>
    simp only [definitionT, schemaT, nT, List.cons_append, List.nil_append, List.append_assoc]
    exact ⟨_, _, _, rfl, Or.inr (Or.inl rfl)⟩
  | scalar desc name dirs l => simp only [definitionT, scalarT, List.append_assoc]; exact hdesc desc "scalar" _
  | object d => simp only [definitionT, objectDefT, List.append_assoc]; exact hdesc d.description "type" _
  | interface desc name dirs fields l => simp only [definitionT, interfaceT, List.append_assoc]; exact hdesc desc "interface" _
  | union desc name dirs types l => simp only [definitionT, unionT, List.append_assoc]; exact hdesc desc "union" _
  | «enum» desc name dirs values l => simp only [definitionT, enumT, List.append_assoc]; exact hdesc desc "enum" _
  | inputObject desc name dirs fields l => simp only [definitionT, inputObjectT, List.append_assoc]; exact hdesc desc "input" _
  | extend d l =>
    simp only [definitionT, extendT, nT, List.cons_append, List.nil_append]
    exact ⟨_, _, _, rfl, Or.inr (Or.inl rfl)⟩
  | directive desc name args locations l =>
    simp only [definitionT, directiveDefT, List.append_assoc]; exact hdesc desc "directive" _

theorem followDef_definitionT (d : Definition) (k : List KV) : FollowDef (definitionT d ++ k) := by
  obtain ⟨kd, v, r, hr, hk⟩ := definitionT_head d k
  rw [hr]
  rcases hk with rfl | rfl | rfl | rfl <;> exact followDef_cons (by decide) (by decide) (by decide)

theorem derive_definitionList (ds : List Definition) (hwf : WFDefinitions ds) (p : Pos) (h : kvs p = definitionListT ds) :
    ∃ ds' p', Many DDefinition p ds' p' ∧ p'.ts = [] ∧ ds'.map Definition.stripLoc = ds.map Definition.stripLoc := by
  obtain ⟨ds', p', hds, hk, hs⟩ := derive_many (listT := definitionListT) (k := []) derive_definition
    followDef_definitionT followDef_nil ds hwf p (by rw [List.append_nil]; exact h)
  exact ⟨ds', p', hds, by simpa [kvs] using hk, hs⟩

/-- The plain token sequence of a well-formed document, placed at arbitrary offsets, is a sentence of the grammar
and denotes the same document, locations aside. -/
theorem derivesDoc_docT (d : Document) (hwf : WFDocument d) (toks : List Token) (eofPos : Nat)
    (h : toks.map kvOf = docT d) : ∃ d', DerivesDoc toks eofPos d' ∧ d'.stripLoc = d.stripLoc := by
  obtain ⟨ds', p', hds, hts, hs⟩ := derive_definitionList d.defs hwf.2 ⟨0, toks⟩ (by simpa [kvs, docT] using h)
  obtain ⟨e, ts⟩ := p'
  simp only at hts; subst hts
  have hne : ds' ≠ [] := by
    intro e'; subst e'
    cases hd : d.defs with
    | nil => exact hwf.1 hd
    | cons x xs => rw [hd] at hs; simp at hs
  exact ⟨_, DerivesDoc.mk hds hne, by simp [Document.stripLoc, hs]⟩

end GqlModel.Printer
