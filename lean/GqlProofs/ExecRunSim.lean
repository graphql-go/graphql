import GqlProofs.ExecRun
/-! One congruence theorem for runs. Two contexts that agree on the schema and the type questions, whose groups and node
lists are related by relations that pass to the callees (`ArgRel.Closed`), and that agree on the outcome of every
resolver that a run with the property `Q` invokes, give the same runs with the property `Q`, provided the runs of the
callees inherit `Q`. With equality as the relation: fuel monotonicity (`Q` = "not out of fuel", fuel against fuel + 1)
and the two-world lemma (`Q` = "the differing resolver is not invoked"); with the normaliser's relations: the simulation
of the normalised document. -/
namespace GqlModel.Exec

/-- a property of runs that passes from the run of a call to the runs of the callees that were executed -/
structure Inherited (Q : ∀ {α : Type}, Run α → Prop) : Prop where
  head : ∀ {α : Type} {mk : JVal → α → α} {s : Run JVal} {rr : Run α}, Q (Run.andThen mk s rr) → Q s
  rest : ∀ {α : Type} {mk : JVal → α → α} {s : Run JVal} {rr : Run α} {y : JVal}, s.1 = .ok y →
    Q (Run.andThen mk s rr) → Q rr
  absorb : ∀ {t : GType} {o : Run JVal}, Q (o.absorb t) → Q o
  after : ∀ {α : Type} {o : Run α} {d0 : St}, Q (o.after d0) → Q o
  nonNull : ∀ {p : Path} {dfr : Bool} {o : Run JVal}, Q (o.nonNull p dfr) → Q o
  markFail : ∀ {t : GType} {p : Path} {o : Run JVal}, Q (o.markFail t p) → Q o
  mapOk : ∀ {α β : Type} {f : α → β} {o : Run α}, Q (o.mapOk f) → Q o

theorem Inherited.true : Inherited (fun {_} _ => True) :=
  ⟨fun _ => trivial, fun _ _ => trivial, fun _ => trivial, fun _ => trivial, fun _ => trivial, fun _ => trivial,
    fun _ => trivial⟩

/-- how the groups (per runtime type), the node lists of a field, and the node lists of a value to complete (per type) of
the second system are related to those of the first -/
structure ArgRel where
  G : String → Groups → Groups → Prop
  F : String → FieldDefS → List FieldNode → List FieldNode → Prop
  C : GType → List FieldNode → List FieldNode → Prop

/-- the relations pass to the callees, and related arguments look alike to one level of the executor -/
structure ArgRel.Closed (R : ArgRel) (c1 c2 : Ctx) : Prop where
  nil : ∀ {rt g'}, R.G rt [] g' → g' = []
  cons : ∀ {rt k ns rest g'}, R.G rt ((k, ns) :: rest) g' → ∃ ns' rest', g' = (k, ns') :: rest' ∧ R.G rt rest rest' ∧
    ((∀ node fd, ns.head? = some node → fieldDef? c1.schema rt node.name ≠ some fd) →
      ∀ node fd, ns'.head? = some node → fieldDef? c1.schema rt node.name ≠ some fd) ∧
    ∀ node fd, ns.head? = some node → fieldDef? c1.schema rt node.name = some fd →
      (∃ node', ns'.head? = some node' ∧ fieldDef? c1.schema rt node'.name = some fd) ∧ R.F rt fd ns ns'
  entry : ∀ {rt fd ns ns'} (dfr : Bool) (src : GoVal) (p : Path), R.F rt fd ns ns' →
    callEntry c2 dfr rt src p fd ns' = callEntry c1 dfr rt src p fd ns
  field : ∀ {rt fd ns ns'}, R.F rt fd ns ns' → R.C fd.type ns ns'
  nonNull : ∀ {t ns ns'}, R.C (.nonNull t) ns ns' → R.C t ns ns'
  list : ∀ {t ns ns'}, R.C (.list t) ns ns' → R.C t ns ns'
  object : ∀ {n ns ns' v ot}, R.C (.named n) ns ns' → RuntimeObject c1 v n ot →
    R.G ot (collectMerged c1 ot ns) (collectMerged c2 ot ns')

/-- the runs of `c1` with fuel `n1` that have the property `Q` are the runs of `c2` with fuel `n2` on related arguments -/
structure SimRuns (Q : ∀ {α : Type}, Run α → Prop) (R : ArgRel) (c1 c2 : Ctx) (n1 n2 : Nat) : Prop where
  groups : ∀ dfr rt src path g g', R.G rt g g' → Q (runGroups c1 n1 dfr rt src path g) →
    runGroups c2 n2 dfr rt src path g' = runGroups c1 n1 dfr rt src path g
  field : ∀ dfr rt src p fd ns ns', R.F rt fd ns ns' → Q (runField c1 n1 dfr rt src p fd ns) →
    runField c2 n2 dfr rt src p fd ns' = runField c1 n1 dfr rt src p fd ns
  complete : ∀ dfr t rt fname ns ns' p v, R.C t ns ns' → Q (runComplete c1 n1 dfr t rt fname ns p v) →
    runComplete c2 n2 dfr t rt fname ns' p v = runComplete c1 n1 dfr t rt fname ns p v
  items : ∀ dfr item rt fname ns ns' p xs i, R.C item ns ns' → Q (runItems c1 n1 dfr item rt fname ns p xs i) →
    runItems c2 n2 dfr item rt fname ns' p xs i = runItems c1 n1 dfr item rt fname ns p xs i

variable {Q : ∀ {α : Type}, Run α → Prop} {R : ArgRel} {c1 c2 : Ctx} {n1 n2 : Nat}

/-- Which equation gives a run is decided by the schema, the type questions and the shape of the arguments, so both
sides rewrite with the same equation; the callees are covered by induction. -/
theorem simRuns_succ (hQ : Inherited Q) (hR : R.Closed c1 c2) (hs : c2.schema = c1.schema)
    (hrt : ∀ n v, runtimeTypeOf c2 n v = runtimeTypeOf c1 n v)
    (hito : ∀ n v, c2.world.isTypeOfAns n v = c1.world.isTypeOfAns n v)
    (hout : ∀ dfr rt src p fd ns, (fd.name == "__typename") = false →
      Q (runField c1 (n1 + 1) dfr rt src p fd ns) → c2.world.outcome src fd.name = c1.world.outcome src fd.name)
    (ih : SimRuns Q R c1 c2 n1 n2) : SimRuns Q R c1 c2 (n1 + 1) (n2 + 1) where
  groups := by
    intro dfr rt src path g g' hg hq
    cases g with
    | nil => cases hR.nil hg; exact runGroups_nil.trans runGroups_nil.symm
    | cons p0 rest =>
      obtain ⟨k, ns⟩ := p0
      obtain ⟨ns', rest', rfl, hrest, hskip, hfield⟩ := hR.cons hg
      rcases fieldOf_cases c1.schema rt ns with hno | ⟨node, fd, hh, hfd⟩
      · rw [runGroups_skip hno] at hq ⊢
        exact (runGroups_skip (hs ▸ hskip hno)).trans (ih.groups _ _ _ _ _ _ hrest hq)
      · obtain ⟨⟨node', hh', hfd'⟩, hF⟩ := hfield node fd hh hfd
        rw [runGroups_cons hh hfd] at hq ⊢
        rw [runGroups_cons hh' (hs ▸ hfd')]
        exact Run.andThen_congr (ih.field _ _ _ _ _ _ _ hF (hQ.head hq))
          fun y hy => ih.groups _ _ _ _ _ _ hrest (hQ.rest hy hq)
  field := by
    intro dfr rt src p fd ns ns' hF hq
    have hentry := hR.entry dfr src p hF
    cases hn : fd.name == "__typename" with
    | true => exact (runField_typename hn).trans (runField_typename hn).symm
    | false =>
      have ho2 := hout _ _ _ _ _ _ hn hq
      cases ho : c1.world.outcome src fd.name with
      | fail => rw [runField_fails hn ho, runField_fails hn (ho2.trans ho), hentry]
      | value v =>
        rw [runField_value hn ho] at hq ⊢
        rw [runField_value hn (ho2.trans ho), ih.complete _ _ _ _ _ _ _ _ (hR.field hF) (hQ.absorb (hQ.after hq)),
          hentry]
  complete := by
    intro dfr t rt fname ns ns' p v hC hq
    cases hf : v.isFunc with
    | true =>
      cases v with
      | thunk r =>
        cases r with
        | err => exact runComplete_thunkErr.trans runComplete_thunkErr.symm
        | ok v' =>
          rw [runComplete_thunk] at hq ⊢
          rw [runComplete_thunk, ih.complete _ _ _ _ _ _ _ _ hC (hQ.markFail hq)]
      | badFunc => exact runComplete_badFunc.trans runComplete_badFunc.symm
      | _ => cases hf
    | false =>
      rw [runComplete_succ hf] at hq ⊢
      rw [runComplete_succ hf, shape_congr hs (hrt · v) (hito · v)]
      have hsp := shape_spec c1 t v
      cases hsh : shape c1 t v with
      | nonNull inner =>
        rw [hsh] at hsp hq
        subst hsp
        exact congrArg (Run.nonNull p dfr) (ih.complete _ _ _ _ _ _ _ _ (hR.nonNull hC) (hQ.nonNull hq))
      | items item xs =>
        rw [hsh] at hsp hq
        obtain ⟨rfl, rfl⟩ := hsp
        exact congrArg (Run.mapOk JVal.list) (ih.items _ _ _ _ _ _ _ _ _ (hR.list hC) (hQ.mapOk hq))
      | object ot =>
        rw [hsh] at hsp hq
        obtain ⟨n, rfl, -, ho⟩ := hsp
        exact congrArg (Run.mapOk JVal.obj) (ih.groups _ _ _ _ _ _ (hR.object hC ho) (hQ.mapOk hq))
      | _ => rfl
  items := by
    intro dfr item rt fname ns ns' p xs i hC hq
    cases xs with
    | nil => exact runItems_nil.trans runItems_nil.symm
    | cons x xs =>
      rw [runItems_cons] at hq ⊢
      rw [runItems_cons]
      exact Run.andThen_congr
        (congrArg (Run.absorb item) (ih.complete _ _ _ _ _ _ _ _ hC (hQ.absorb (hQ.head hq))))
        fun y hy => ih.items _ _ _ _ _ _ _ _ _ hC (hQ.rest hy hq)

def ArgRel.eq : ArgRel := ⟨fun _ g g' => g' = g, fun _ _ ns ns' => ns' = ns, fun _ ns ns' => ns' = ns⟩

theorem ArgRel.eq_closed (hs : c2.schema = c1.schema) (hvars : c2.vars = c1.vars)
    (hm : ∀ ot nodes, collectMerged c2 ot nodes = collectMerged c1 ot nodes) : ArgRel.eq.Closed c1 c2 where
  nil h := h
  cons h := ⟨_, _, h, rfl, fun hno => hno, fun node fd hh hfd => ⟨⟨node, hh, hfd⟩, rfl⟩⟩
  entry dfr src p h := by cases h; unfold callEntry; rw [hs, hvars]
  field h := h
  nonNull h := h
  list h := h
  object h _ := by cases h; exact hm _ _

/-! With equal arguments the same holds of the calls from any accumulator and state, since these are the runs on top of
them and `Q` is inherited from there. -/

section
variable (hQ : Inherited Q) (h : SimRuns Q ArgRel.eq c1 c2 n1 n2)
include hQ h

theorem SimRuns.exec_groups {dfr rt src path groups acc st} (hq : Q (execGroups c1 n1 dfr rt src path groups acc st)) :
    execGroups c2 n2 dfr rt src path groups acc st = execGroups c1 n1 dfr rt src path groups acc st := by
  rw [execGroups_eq_run] at hq ⊢
  rw [execGroups_eq_run, h.groups _ _ _ _ _ _ rfl (hQ.mapOk (hQ.after hq))]

theorem SimRuns.exec_field {dfr rt src p fd nodes st} (hq : Q (execField c1 n1 dfr rt src p fd nodes st)) :
    execField c2 n2 dfr rt src p fd nodes st = execField c1 n1 dfr rt src p fd nodes st := by
  rw [execField_eq_run] at hq ⊢
  rw [execField_eq_run, h.field _ _ _ _ _ _ _ rfl (hQ.after hq)]

theorem SimRuns.exec_complete {dfr t rt fname nodes p v st} (hq : Q (Exec.complete c1 n1 dfr t rt fname nodes p v st)) :
    Exec.complete c2 n2 dfr t rt fname nodes p v st = Exec.complete c1 n1 dfr t rt fname nodes p v st := by
  rw [complete_eq_run] at hq ⊢
  rw [complete_eq_run, h.complete _ _ _ _ _ _ _ _ rfl (hQ.after hq)]

theorem SimRuns.exec_items {dfr item rt fname nodes p xs i acc st}
    (hq : Q (completeItems c1 n1 dfr item rt fname nodes p xs i acc st)) :
    completeItems c2 n2 dfr item rt fname nodes p xs i acc st = completeItems c1 n1 dfr item rt fname nodes p xs i acc st := by
  rw [completeItems_eq_run] at hq ⊢
  rw [completeItems_eq_run, h.items _ _ _ _ _ _ _ _ _ rfl (hQ.mapOk (hQ.after hq))]
end

end GqlModel.Exec
