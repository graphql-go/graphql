import GqlProofs.SchemaNewSchema
/-! C11: appending types after construction, in any order, registers exactly the types that supplying them in
`SchemaConfig.Types` registers, with the same possible-type tables, and is accepted exactly when supplying them up front
is. The argument: the type map of a successful construction is a safe universe that passes the assertions, and each of
the two type maps is the closure of roots that the other holds. -/
namespace GqlModel.SchemaBuild

variable {cfg : Config}

theorem mem_rootRefs_more (cfg : Config) {more : List TRef} {t : TRef} :
    t ∈ rootRefs cfg more ↔ t ∈ rootRefs cfg [] ∨ ∃ x ∈ more, t = x.build := by
  simp only [rootRefs, List.mem_append, List.mem_map, List.append_nil, List.mem_singleton]
  constructor
  · rintro ((h | ⟨x, hx | hx, rfl⟩) | h)
    · exact Or.inl (Or.inl (Or.inl h))
    · exact Or.inl (Or.inl (Or.inr ⟨x, hx, rfl⟩))
    · exact Or.inr ⟨x, hx, rfl⟩
    · exact Or.inl (Or.inr h)
  · rintro (((h | ⟨x, hx, rfl⟩) | h) | ⟨x, hx, rfl⟩)
    · exact Or.inl (Or.inl h)
    · exact Or.inl (Or.inr ⟨x, Or.inl hx, rfl⟩)
    · exact Or.inr h
    · exact Or.inl (Or.inr ⟨x, Or.inr hx, rfl⟩)

theorem rootOk_appended {xs ys : List TRef} (hsame : ∀ x, x ∈ ys ↔ x ∈ xs) {s0 s2 : St}
    (r0 : RootsSpec (cfg := cfg) [] (rootRefs cfg []) s0.tm) (sp2 : AppendSpec (cfg := cfg) s0 ys s2) :
    ∀ t ∈ rootRefs cfg xs, RootOk cfg s2.tm t := fun t ht => by
  rcases (mem_rootRefs_more cfg).mp ht with h | ⟨x, hx, rfl⟩
  · exact (r0.rootOk t h).mono sp2.sub
  · exact sp2.rootOk x ((hsame x).mpr hx)

theorem append_same_types {xs ys : List TRef} (hsame : ∀ x, x ∈ ys ↔ x ∈ xs) {s1 s0 s2 : St}
    (h1 : newSchema cfg xs = .ok s1) (h0 : newSchema cfg [] = .ok s0) (h2 : appendAll cfg s0 ys = .ok s2) :
    ∀ i, i ∈ s1.tm ↔ i ∈ s2.tm := by
  obtain ⟨g1, r1, _⟩ := newSchema_spec h1
  obtain ⟨g0, r0, _⟩ := newSchema_spec h0
  obtain ⟨g2, sp2⟩ := appendAll_spec g0 h2
  have empty : ∀ {U : TM}, Sub [] U := fun _ he => nomatch he
  have ok1 := r1.rootOk
  exact fun i => ⟨r1.within g2.safe empty (rootOk_appended hsame r0 sp2) i,
    sp2.within g1.safe
      (r0.within g1.safe empty fun t ht => ok1 t ((mem_rootRefs_more cfg).mpr (Or.inl ht)))
      (fun y hy => ok1 _ ((mem_rootRefs_more cfg).mpr (Or.inr ⟨y, (hsame y).mp hy, rfl⟩))) i⟩

theorem possibleTypes_same {tm1 tm2 : TM} (g1 : Good cfg tm1) (g2 : Good cfg tm2) (hsame : ∀ i, i ∈ tm1 ↔ i ∈ tm2)
    {a : Nat} (ha : a ∈ tm1) (p : Nat) : p ∈ possibleTypesOf cfg tm1 a ↔ p ∈ possibleTypesOf cfg tm2 a := by
  unfold possibleTypesOf
  cases hka : kindOf cfg a with
  | interface =>
    simp only
    rw [g1.mem_impls ha, g2.mem_impls ((hsame a).mp ha), hsame p]
  | union => exact Iff.rfl
  | scalar => exact Iff.rfl
  | object => exact Iff.rfl
  | enum => exact Iff.rfl
  | inputObject => exact Iff.rfl
  | list => exact Iff.rfl
  | nonNull => exact Iff.rfl

theorem isPossible_same {tm1 tm2 : TM} (g1 : Good cfg tm1) (g2 : Good cfg tm2) (hsame : ∀ i, i ∈ tm1 ↔ i ∈ tm2)
    {a : Nat} (ha : a ∈ TM.abstracts cfg tm1) (o : Nat) :
    isPossibleFinal cfg tm1 a o = isPossibleFinal cfg tm2 a o := by
  have ha1 : a ∈ tm1 := ((mem_abstracts cfg).mp ha).1
  have ha2 : a ∈ TM.abstracts cfg tm2 :=
    (mem_abstracts cfg).mpr ⟨(hsame a).mp ha1, ((mem_abstracts cfg).mp ha).2⟩
  rw [g1.final_eq_scan ha, g2.final_eq_scan ha2]
  unfold isPossibleScan
  rw [Bool.eq_iff_iff]
  simp only [List.any_eq_true]
  exact exists_congr fun p => and_congr_left' (possibleTypes_same g1 g2 hsame ha1 p)

theorem lookup_same {tm1 tm2 : TM} (g2 : Good cfg tm2) (hsame : ∀ i, i ∈ tm1 ↔ i ∈ tm2)
    (n : String) : TM.lookup cfg tm1 n = TM.lookup cfg tm2 n := by
  cases h1 : TM.lookup cfg tm1 n with
  | some i =>
    obtain ⟨hm, hn⟩ := lookup_some h1
    rw [← hn, lookup_of_mem g2.inv.2 ((hsame i).mp hm)]
  | none =>
    cases h2 : TM.lookup cfg tm2 n with
    | none => rfl
    | some j =>
      obtain ⟨hm, hn⟩ := lookup_some h2
      exact absurd hn (lookup_none h1 j ((hsame j).mpr hm))

theorem append_ok_iff {xs ys : List TRef} (hsame : ∀ x, x ∈ ys ↔ x ∈ xs) :
    (∃ s1, newSchema cfg xs = .ok s1) ↔ (∃ s0 s2, newSchema cfg [] = .ok s0 ∧ appendAll cfg s0 ys = .ok s2) := by
  constructor
  · rintro ⟨s1, h1⟩
    obtain ⟨g1, r1, hpre⟩ := newSchema_spec h1
    have ok1 := r1.rootOk
    obtain ⟨s0, h0, hsub0⟩ := newSchema_in_safe g1.safe g1.asserted hpre []
      (fun t ht => ok1 t ((mem_rootRefs_more cfg).mpr (Or.inl ht)))
    obtain ⟨s2, h2, _⟩ := appendAll_in_safe g1.safe g1.asserted (newSchema_good h0) hsub0
      (fun y hy => ok1 _ ((mem_rootRefs_more cfg).mpr (Or.inr ⟨y, (hsame y).mp hy, rfl⟩)))
    exact ⟨s0, s2, h0, h2⟩
  · rintro ⟨s0, s2, h0, h2⟩
    obtain ⟨g0, r0, hpre⟩ := newSchema_spec h0
    obtain ⟨g2, sp2⟩ := appendAll_spec g0 h2
    obtain ⟨s1, h1, _⟩ := newSchema_in_safe g2.safe g2.asserted hpre xs (rootOk_appended hsame r0 sp2)
    exact ⟨s1, h1⟩

end GqlModel.SchemaBuild
