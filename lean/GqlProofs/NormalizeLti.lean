import GqlProofs.ValueIgnores
import GqlProofs.CoerceRange
/-! C06 (normaliser): a VALID variable-free literal and its client-variable form (`literalToInput`) coerce to the
same value — `coerceValue s t (lti l) = valueFromAST s t (some l) vars` and `isValidInputValue s t (lti l)`.
This is the literal→variable direction of C05's `literal_variable_agree` (which goes value→literal through `embed`);
it is proved directly because `embed (lti l)` is not syntactically `l` (locations, field order, number spelling). -/
namespace GqlModel.Normalize
open GqlModel.Coerce

mutual
/-- every Int token has the lexer's shape `-?digits` (what the parser produces; `-0` and any other spelling are fine:
/repo 54b00d5). A premise only because the model's `Value.int` can hold any text. -/
def canonInts : Value → Bool
  | .int raw _ => (intOfChars raw.toList).isSome
  | .list vs _ => canonIntsList vs
  | .obj fs _ => canonIntsFields fs
  | _ => true
def canonIntsList : List Value → Bool
  | [] => true
  | v :: vs => canonInts v && canonIntsList vs
def canonIntsFields : List ObjField → Bool
  | [] => true
  | (.mk _ v _) :: fs => canonInts v && canonIntsFields fs
end

/-- a custom scalar's two user functions agree on a literal and on its client-variable form -/
def customLti (s : Schema) : Prop :=
  ∀ n n' sv pv pl d, s.find? n = some (.scalar n' (.custom sv pv pl) d) →
    ∀ l, hasVars l = false → tableLookup pl (litWire l) = tableLookup pv (lti l)

theorem ltiList_eq_map (ls : List Value) : ltiList ls = ls.map lti := by
  induction ls with
  | nil => rfl
  | cons v vs ih => simp [ltiList, ih]

theorem ltiFields_eq_map (fs : List ObjField) : ltiFields fs = fs.map (fun f => (f.name.value, lti f.value)) := by
  induction fs with
  | nil => rfl
  | cons f fs ih => cases f; simp [ltiFields, ih, ObjField.name, ObjField.value]

theorem normDec_num (m : Int) (e : Nat) : (∃ i, normDec m e = .int i) ∨ (∃ m' e', normDec m e = .dec m' e') := by
  induction e generalizing m with
  | zero => exact Or.inl ⟨m, rfl⟩
  | succ e ih =>
    simp only [normDec]
    split
    · exact ih _
    · exact Or.inr ⟨_, _, rfl⟩

theorem parseFloatLit_num {cs : List Char} {r : JVal} (hp : parseFloatLit cs = some r) :
    (∃ i, r = .int i) ∨ (∃ m e, r = .dec m e) := by
  unfold parseFloatLit at hp
  split at hp
  · obtain ⟨p, _, hp2⟩ := Option.map_eq_some_iff.mp hp
    rw [← hp2]; exact normDec_num _ _
  · split at hp
    · simp only [Option.some.injEq] at hp
      subst hp
      simp only [scale10]
      split
      · exact Or.inl ⟨_, rfl⟩
      · exact normDec_num _ _
    · cases hp

theorem lti_ne_null (l : Value) (h : hasVars l = false) : (lti l).isNull = false := by
  cases l with
  | var x loc => simp [hasVars] at h
  | int raw loc =>
    simp only [lti]
    split
    · split <;> rfl
    · rfl
  | float raw loc =>
    simp only [lti]
    cases hp : parseFloatLit raw.toList with
    | none => rfl
    | some r =>
      simp only [Option.getD]
      rcases parseFloatLit_num hp with ⟨i, rfl⟩ | ⟨m, e, rfl⟩ <;> rfl
  | str x loc => rfl
  | bool b loc => rfl
  | enum x loc => rfl
  | list vs loc => rfl
  | obj fs loc => rfl

theorem canonIntsList_eq_all (ls : List Value) : canonIntsList ls = ls.all canonInts := by
  induction ls with
  | nil => rfl
  | cons v vs ih => simp [canonIntsList, ih]

theorem canonIntsFields_eq_all (fs : List ObjField) : canonIntsFields fs = fs.all (fun f => canonInts f.value) := by
  induction fs with
  | nil => rfl
  | cons f fs ih => cases f; simp [canonIntsFields, ih, ObjField.value]

/-! ## the Go map built from an object literal -/

theorem lookupD_lti_obj (fs : List ObjField) (k : String) :
    lookupD (mkObj (ltiFields fs)) k = match litLookup fs k with
      | some v => lti v
      | none => .null := by
  rw [mkObj, lookupD_foldl, List.append_nil]
  simp only [lookupD, JVal.lookup, ltiFields_eq_map, ← List.map_reverse, List.find?_map, litLookup_eq_find?, Function.comp_def,
    Option.map_map]
  cases fs.reverse.find? (fun f => f.name.value == k) <;> rfl

theorem mem_insertSorted {k : String} {v : JVal} {l : List (String × JVal)} {p : String × JVal}
    (h : p ∈ JVal.insertSorted k v l) : p = (k, v) ∨ p ∈ l := by
  induction l with
  | nil => exact Or.inl (List.mem_singleton.mp h)
  | cons q qs ih =>
    simp only [JVal.insertSorted] at h
    split at h
    · exact List.mem_cons.mp h
    · split at h
      · exact (List.mem_cons.mp h).imp_right (List.mem_cons_of_mem _)
      · rcases List.mem_cons.mp h with h | h
        · exact Or.inr (h ▸ List.mem_cons_self)
        · exact (ih h).imp_right (List.mem_cons_of_mem _)

theorem mem_foldl_insert {es acc : List (String × JVal)} {p : String × JVal}
    (h : p ∈ es.foldl (fun acc e => JVal.insertSorted e.1 e.2 acc) acc) : p ∈ es ∨ p ∈ acc :=
  List.foldlRecOn (motive := fun b => p ∈ b → p ∈ es ∨ p ∈ acc) es _ Or.inr
    (fun _ hb _ he hp => (mem_insertSorted hp).elim (fun h => Or.inl (h ▸ he)) hb) h

theorem mem_mkObj {es : List (String × JVal)} {p : String × JVal} (h : p ∈ mkObj es) : p ∈ es := by
  rcases mem_foldl_insert h with h | h
  · exact h
  · cases h

mutual
theorem lti_depth : ∀ l : Value, odepth (lti l) ≤ litDepth l
  | .var _ _ => Nat.zero_le _
  | .int raw _ => by
    simp only [lti]
    split
    · split <;> simp [odepth]
    · simp [odepth]
  | .float raw _ => by
    simp only [lti, litDepth]
    cases hp : parseFloatLit raw.toList with
    | none => simp [odepth]
    | some r =>
      have : odepth r = 0 := by
        rcases parseFloatLit_num hp with ⟨i, rfl⟩ | ⟨m, e, rfl⟩ <;> rfl
      simp [this]
  | .str _ _ => Nat.zero_le _
  | .bool _ _ => Nat.zero_le _
  | .enum _ _ => Nat.zero_le _
  | .list vs _ => by simpa [lti, odepth, litDepth] using ltiList_depth vs
  | .obj fs _ => by
    simp only [lti, odepth, litDepth]
    apply Nat.succ_le_succ
    apply odepthFields_le_iff.mpr
    intro p hp
    exact ltiFields_depth fs p (mem_mkObj hp)
theorem ltiList_depth : ∀ ls : List Value, odepthList (ltiList ls) ≤ litDepthList ls
  | [] => by simp [ltiList, odepthList, litDepthList]
  | v :: vs => by
    have h1 := lti_depth v
    have h2 := ltiList_depth vs
    simp only [ltiList, odepthList, litDepthList]
    omega
theorem ltiFields_depth : ∀ (fs : List ObjField), ∀ p ∈ ltiFields fs, odepth p.2 ≤ litDepthFields fs
  | [], p, hp => by cases hp
  | (.mk n v l) :: fs, p, hp => by
    simp only [ltiFields] at hp
    simp only [litDepthFields]
    rcases List.mem_cons.mp hp with rfl | hp
    · have := lti_depth v; simp only; omega
    · have := ltiFields_depth fs p hp; omega
end

theorem inInt32_inInt64 {i : Int} (h : inInt32 i = true) : inInt64 i = true := by
  unfold inInt32 at h
  unfold inInt64
  simp only [Bool.and_eq_true, decide_eq_true_eq] at h ⊢
  unfold minInt32 maxInt32 at h
  unfold minInt64 maxInt64
  omega

theorem coerceFloat_parseFloatLit {cs : List Char} {r : JVal} (hp : parseFloatLit cs = some r) : coerceFloat r = r := by
  rcases parseFloatLit_num hp with ⟨i, rfl⟩ | ⟨m, e, rfl⟩ <;> rfl

theorem canon_int {raw : String} {loc : Loc} (h : canonInts (.int raw loc) = true) :
    ∃ i, intOfChars raw.toList = some i := Option.isSome_iff_exists.mp h

theorem string_of_intChars {raw : String} {i : Int} (h : intChars i = raw.toList) : intString i = raw := by
  unfold intString; rw [h]; exact String.ofList_toList

theorem intOfDec_zero {i : Int} (h : inInt32 i = true) : intOfDec i 0 = .int i := by
  unfold inInt32 at h
  simp only [Bool.and_eq_true, decide_eq_true_eq] at h
  unfold intOfDec
  have h1 : ¬ (i < minInt32) := by omega
  have h2 : ¬ (i > maxInt32) := by omega
  simp only [Int.pow_zero, Int.mul_one, Int.tdiv_one]
  simp only [h1, h2, decide_false, Bool.or_self, Bool.false_eq_true, if_false]

theorem lti_int {raw : String} {i : Int} (loc : Loc) (hi : intOfChars raw.toList = some i) :
    lti (.int raw loc) = if inInt64 i && intChars i == raw.toList then .int i else .str raw := by
  simp only [lti, hi]

/-- a literal that `ParseLiteral` accepts: `ParseValue` of its client-variable form gives the same value -/
theorem scalar_lti (k : ScalarKind) (l : Value) (hcn : canonInts l = true)
    (hc : ∀ sv pv pl, k = .custom sv pv pl → tableLookup pl (litWire l) = tableLookup pv (lti l))
    (h : (parseLiteral k l).isNull = false) : parseValue k (lti l) = parseLiteral k l := by
  cases k with
  | int =>
    cases l with
    | int raw loc =>
      obtain ⟨i, hi⟩ := canon_int hcn
      simp only [parseLiteral, hi] at h ⊢
      by_cases h32 : inInt32 i = true
      · rw [if_pos h32, lti_int loc hi]
        split
        · simp only [parseValue, coerceInt, h32, if_true]
        · simp only [parseValue, coerceInt, notNonFinite_of_int hi, parseDec_of_int hi, intOfDec_zero h32,
            Bool.false_eq_true, if_false]
      · rw [if_neg h32] at h; cases h
    | _ => cases h
  | float =>
    cases l with
    | int raw loc =>
      obtain ⟨i, hi⟩ := canon_int hcn
      rw [lti_int loc hi]
      simp only [parseLiteral, parseFloatLit_of_int hi, Option.getD_some, parseValue]
      split
      · rfl
      · simp only [coerceFloat, notNonFinite_of_int hi, parseDec_of_int hi, normDec, Bool.false_eq_true, if_false]
    | float raw loc =>
      simp only [parseLiteral] at h ⊢
      cases hp : parseFloatLit raw.toList with
      | none => rw [hp] at h; cases h
      | some r => simp only [lti, hp, Option.getD_some, parseValue, coerceFloat_parseFloatLit hp]
    | _ => cases h
  | string =>
    cases l with
    | str x loc => rfl
    | _ => cases h
  | boolean =>
    cases l with
    | bool b loc => rfl
    | _ => cases h
  | id =>
    cases l with
    | int raw loc =>
      obtain ⟨i, hi⟩ := canon_int hcn
      rw [lti_int loc hi]
      simp only [parseLiteral, parseValue]
      split
      · rename_i hb
        simp only [Bool.and_eq_true, beq_iff_eq] at hb
        simp only [fmtV, string_of_intChars hb.2]
      · rfl
    | str x loc => rfl
    | _ => cases h
  | custom sv pv pl => exact (hc sv pv pl rfl).symm

theorem isVarLit_of_novars {l : Value} (h : hasVars l = false) : isVarLit l = false := by
  cases l with
  | var x loc => cases h
  | _ => rfl

theorem lti_not_list {l : Value} (h : isListLit l = false) : isListVal (lti l) = false := by
  cases l with
  | list ls loc => cases h
  | int raw loc =>
    simp only [lti]
    split
    · split <;> rfl
    · rfl
  | float raw loc =>
    simp only [lti]
    cases hp : parseFloatLit raw.toList with
    | none => rfl
    | some r => rcases parseFloatLit_num hp with ⟨i, rfl⟩ | ⟨m, e, rfl⟩ <;> rfl
  | _ => rfl

theorem validLitStep_named_some (s : Schema) (self : GType → Option Value → Bool) (n : String) {l : Value}
    (hv : isVarLit l = false) :
    validLitStep s self (.named n) (some l) =
      match s.find? n with
      | some (.inputObject _ fields _) =>
        (match (motive := Value → Bool) l with
        | .obj fs _ => fs.all (fun f => knownField fields f.name.value) && fields.all (fun f => self f.type (litLookup fs f.name))
        | _ => false)
      | some (.scalar _ k _) => !(parseLiteral k l).isNull
      | some (.enum _ vals _) => !(enumParseLiteral vals l).isNull
      | _ => true := by
  cases l <;> first | rfl | exact Bool.noConfusion hv

theorem enum_lti (vals : List EnumValueS) {l : Value} (h : (enumParseLiteral vals l).isNull = false) :
    enumParseValue vals (lti l) = enumParseLiteral vals l := by
  cases l with
  | «enum» x loc => rfl
  | _ => cases h

theorem none_step (s : Schema) (vars : Vars) (selfL : GType → Option Value → Bool) (selfV : GType → JVal → Bool)
    (selfC : GType → JVal → JVal) (selfA : GType → Option Value → JVal) :
    ∀ t, validLitStep s selfL t none = true →
      validStep s selfV t .null = true ∧ coerceStep s selfC t .null = fromASTStep s vars selfA t none := by
  intro t h
  rw [coerceStep_null, fromASTStep_none]
  cases t with
  | nonNull t => simp [validLitStep] at h
  | list t => simp [validStep]
  | named n => simp [validStep, JVal.isNull]

theorem ltiStep (s : Schema) (vars : Vars) (hcc : customLti s)
    (selfL : GType → Option Value → Bool) (selfV : GType → JVal → Bool)
    (selfC : GType → JVal → JVal) (selfA : GType → Option Value → JVal)
    (ihNone : ∀ t, selfL t none = true → selfV t .null = true ∧ selfC t .null = selfA t none)
    (ih : ∀ t l, hasVars l = false → canonInts l = true → selfL t (some l) = true →
      selfV t (lti l) = true ∧ selfC t (lti l) = selfA t (some l)) :
    ∀ t l, hasVars l = false → canonInts l = true → validLitStep s selfL t (some l) = true →
      validStep s selfV t (lti l) = true ∧ coerceStep s selfC t (lti l) = fromASTStep s vars selfA t (some l) := by
  intro t
  induction t with
  | nonNull t iht =>
    intro l hv hcn h
    have hnn := lti_ne_null l hv
    obtain ⟨h1, h2⟩ := iht l hv hcn h
    rw [fromASTStep_nonNull_some _ _ _ _ _ (isVarLit_of_novars hv)]
    simp only [validStep, coerceStep, hnn, Bool.false_eq_true, if_false]
    exact ⟨h1, h2⟩
  | list t iht =>
    intro l hv hcn h
    cases hl : isListLit l with
    | true =>
      cases l with
      | list ls loc =>
        simp only [hasVars] at hv
        simp only [canonInts, canonIntsList_eq_all, List.all_eq_true] at hcn
        simp only [validLitStep, List.all_eq_true] at h
        simp only [lti, ltiList_eq_map, validStep, coerceStep, fromASTStep, List.all_map, List.all_eq_true, List.map_map]
        refine ⟨fun x hx => (iht x (hasVars_mem_list hv hx) (hcn x hx) (h x hx)).1, ?_⟩
        congr 1
        apply List.map_congr_left
        intro x hx
        exact (iht x (hasVars_mem_list hv hx) (hcn x hx) (h x hx)).2
      | _ => cases hl
    | false =>
      -- a single value stands for the list of that one value, on both sides
      have hnv := isVarLit_of_novars hv
      rw [validLitStep_list_one _ _ _ hnv hl] at h
      obtain ⟨h1, h2⟩ := iht l hv hcn h
      rw [fromASTStep_list_one _ _ _ _ _ hnv hl, validStep_list_one _ _ _ (lti_ne_null l hv) (lti_not_list hl),
        coerceStep_list_one _ _ _ (lti_ne_null l hv) (lti_not_list hl), h2]
      exact ⟨h1, rfl⟩
  | named n =>
    intro l hv hcn h
    have hnn := lti_ne_null l hv
    have hnv := isVarLit_of_novars hv
    rw [validLitStep_named_some _ _ _ hnv] at h
    rw [fromASTStep_named_some _ _ _ _ hnv]
    simp only [validStep, coerceStep, hnn, Bool.false_eq_true, if_false]
    cases hf : s.find? n with
    | none => exact ⟨rfl, rfl⟩
    | some td =>
      rw [hf] at h
      cases td with
      | scalar nm k d =>
        dsimp only at h ⊢
        have hpl : (parseLiteral k l).isNull = false := by simpa only [Bool.not_eq_true'] using h
        rw [show parseValue k (lti l) = parseLiteral k l from
          scalar_lti k l hcn (fun sv pv pl hk => hcc n nm sv pv pl d (hk ▸ hf) l hv) hpl]
        exact ⟨h, rfl⟩
      | «enum» nm vals d =>
        dsimp only at h ⊢
        have hpl : (enumParseLiteral vals l).isNull = false := by simpa only [Bool.not_eq_true'] using h
        rw [show enumParseValue vals (lti l) = enumParseLiteral vals l from enum_lti vals hpl]
        exact ⟨h, rfl⟩
      | inputObject nm fields d =>
        dsimp only at h ⊢
        cases l with
        | obj fs loc =>
          simp only [hasVars] at hv
          simp only [canonInts, canonIntsFields_eq_all, List.all_eq_true] at hcn
          simp only [Bool.and_eq_true, List.all_eq_true] at h
          have hfield : ∀ f ∈ fields,
              selfV f.type (lookupD (mkObj (ltiFields fs)) f.name) = true ∧
              selfC f.type (lookupD (mkObj (ltiFields fs)) f.name) = selfA f.type (litLookup fs f.name) := by
            intro f hfm
            rw [lookupD_lti_obj]
            have hval := h.2 f hfm
            cases hl : litLookup fs f.name with
            | none => rw [hl] at hval; exact ihNone _ hval
            | some v =>
              rw [hl] at hval
              have hvv : hasVars v = false := by
                have := hasVars_litLookup hv f.name; rw [hl] at this; exact this
              obtain ⟨g, hg, rfl⟩ := litLookup_mem hl
              exact ih _ _ hvv (hcn g hg) hval
          refine ⟨?_, ?_⟩
          · simp only [lti, Bool.and_eq_true, List.all_eq_true]
            refine ⟨?_, fun f hfm => (hfield f hfm).1⟩
            intro p hp
            obtain ⟨g, hg, rfl⟩ := List.mem_map.mp (ltiFields_eq_map fs ▸ mem_mkObj hp)
            exact h.1 g hg
          · simp only [lti]
            congr 2
            apply filterMap_congr'
            intro f hfm
            rw [(hfield f hfm).2]
        | _ => cases h
      | object _ _ _ _ _ => exact ⟨rfl, rfl⟩
      | interface _ _ _ _ => exact ⟨rfl, rfl⟩
      | union _ _ _ _ => exact ⟨rfl, rfl⟩

theorem ltiF (s : Schema) (vars : Vars) (hcc : customLti s) :
    ∀ (n : Nat) (t : GType) (l : Value), hasVars l = false → canonInts l = true →
      isValidLiteralValueF s n t (some l) = true →
      isValidInputValueF s n t (lti l) = true ∧ coerceValueF s n t (lti l) = valueFromASTF s vars n t (some l) := by
  intro n
  induction n with
  | zero => intro t l _ _ h; simp [isValidLiteralValueF, iter] at h
  | succ n ih =>
    intro t l hv hcn h
    refine ltiStep s vars hcc _ _ _ _ ?_ ih t l hv hcn h
    intro t' h'
    cases n with
    | zero => simp [isValidLiteralValueF, iter] at h'
    | succ n => exact none_step s vars _ _ _ _ t' h'

/-- **literalToInput agrees with the literal** (fuel-free): a valid, variable-free literal whose Int tokens
have the lexer's shape (`canonInts`: any `-?digits`, also `-0`) is, in client-variable form, a valid input value that coerces to what the literal evaluates to. -/
theorem lti_agree (s : Schema) (hcc : customLti s) (t : GType) (l : Value) (vars : Vars)
    (hv : hasVars l = false) (hcn : canonInts l = true) (h : isValidLiteralValue s t (some l) = true) :
    isValidInputValue s t (lti l) = true ∧ coerceValue s t (lti l) = valueFromAST s t (some l) vars := by
  have hd : odepth (lti l) < litDepth l + 1 := Nat.lt_succ_of_le (lti_depth l)
  obtain ⟨h1, h2⟩ := ltiF s vars hcc (litDepth l + 1) t l hv hcn h
  rw [isValidInputValueF_stable s _ t _ hd] at h1
  rw [coerceValueF_stable s _ t _ hd] at h2
  exact ⟨h1, h2⟩

end GqlModel.Normalize
