import GqlModel.SchemaBuild
import GqlProofs.ListCount
/-! C11: names and lookups in a type map with distinct names, then the vocabulary in which the reducer (`typeMapReducer`)
is specified. A run from a type map `tm` towards some targets ends in their *closure*: `tm` extended, names still
distinct, every new entry closed (all its steps were visits whose targets are registered), the targets registered, every
new entry reachable from a target (`StepsSpec`; `Spec` is the case of one target). Closures compose in sequence
(`StepsSpec.append`) and are least: a closure lies inside every *safe universe* — a set of type objects whose
constructors succeeded, with pairwise distinct names, closed under the reference graph (`Safe`) — that holds the
targets (`StepsSpec.within`).

`Safe`, `RootsSpec`, `AppendSpec` take the configuration `cfg` implicitly (hence `(cfg := cfg)`); the other definitions
that depend on it take it explicitly. -/
namespace GqlModel.SchemaBuild

variable {cfg : Config}

def Resolved (cfg : Config) (tm : TM) (t : TRef) : Prop := ∃ j, t.strip = .named j ∧ nameOf cfg j ≠ "" ∧ j ∈ tm

/-- what a successful visit of `t` by the reducer guarantees -/
def Visited (cfg : Config) (tm : TM) (t : TRef) : Prop := t.strip = .nil ∨ Resolved cfg tm t

/-- the constructors of the entries succeeded (so they have valid names), and the names (keys of the Go map) are distinct -/
def Inv (cfg : Config) (tm : TM) : Prop :=
  (∀ i ∈ tm, ctorErr cfg i = none) ∧ tm.Pairwise (fun a b => nameOf cfg a ≠ nameOf cfg b)

/-- all steps `typeMapReducer` takes for the entry were recursive visits (no parked error) of registered types -/
def ClosedE (cfg : Config) (tm : TM) (i : Nat) : Prop :=
  ∀ s ∈ stepsOf cfg i, ∃ t, s = .visit t ∧ Visited cfg tm t

theorem Resolved.mono {tm tm' : TM} {t : TRef} (h : Resolved cfg tm t) (hs : ∀ e ∈ tm, e ∈ tm') : Resolved cfg tm' t := by
  obtain ⟨j, h1, h2, h3⟩ := h
  exact ⟨j, h1, h2, hs j h3⟩

theorem Visited.mono {tm tm' : TM} {t : TRef} (h : Visited cfg tm t) (hs : ∀ e ∈ tm, e ∈ tm') : Visited cfg tm' t := by
  cases h with
  | inl h => exact Or.inl h
  | inr h => exact Or.inr (h.mono hs)

theorem ClosedE.mono {tm tm' : TM} {i : Nat} (h : ClosedE cfg tm i) (hs : ∀ e ∈ tm, e ∈ tm') : ClosedE cfg tm' i := by
  intro s hsm
  obtain ⟨t, rfl, hv⟩ := h s hsm
  exact ⟨t, rfl, hv.mono hs⟩

theorem validName_ne_empty {s : String} (h : validName s = true) : s ≠ "" := by
  intro hs; subst hs; revert h; decide

theorem nameOf_eq_of_ne {i : Nat} (h : nameOf cfg i ≠ "") :
    validName (cfg.get i).name = true ∧ nameOf cfg i = (cfg.get i).name := by
  unfold nameOf at h ⊢
  by_cases hv : validName (cfg.get i).name = true
  · simp [hv]
  · simp [hv] at h

theorem ctorErrT_none_of_ctorErr {i : Nat} (h : ctorErr cfg i = none) : ctorErrT (cfg.get i) = none := by
  unfold ctorErr at h
  cases hc : ctorErrT (cfg.get i) with
  | none => rfl
  | some e => simp [hc] at h

theorem ctorErr_none_name {i : Nat} (h : ctorErr cfg i = none) : nameOf cfg i ≠ "" := by
  have h := ctorErrT_none_of_ctorErr h
  unfold ctorErrT at h
  by_cases hv : validName (cfg.get i).name = true
  · unfold nameOf; simp only [hv, if_true]; exact validName_ne_empty hv
  · simp [hv] at h

theorem lookup_none {tm : TM} {n : String} (h : TM.lookup cfg tm n = none) : ∀ e ∈ tm, nameOf cfg e ≠ n := by
  intro e he hn
  unfold TM.lookup at h
  rw [List.find?_eq_none] at h
  have := h e he
  simp [hn] at this

theorem lookup_some {tm : TM} {n : String} {e : Nat} (h : TM.lookup cfg tm n = some e) :
    e ∈ tm ∧ nameOf cfg e = n := by
  unfold TM.lookup at h
  have h1 := List.mem_of_find?_eq_some h
  have h2 := List.find?_some h
  exact ⟨h1, by simpa using h2⟩

theorem lookup_of_mem {tm : TM} (hinv : tm.Pairwise (fun a b => nameOf cfg a ≠ nameOf cfg b)) {e : Nat} (he : e ∈ tm) :
    TM.lookup cfg tm (nameOf cfg e) = some e :=
  find_of_pairwise_key (nameOf cfg) hinv he

theorem inv_name_inj {tm : TM} (hinv : Inv cfg tm) {a b : Nat} (ha : a ∈ tm) (hb : b ∈ tm)
    (h : nameOf cfg a = nameOf cfg b) : a = b :=
  eq_of_nodup_map (nameOf cfg) (List.pairwise_map.mpr hinv.2) ha hb h

theorem inv_append_one {tm : TM} {e : Nat} (hinv : Inv cfg tm) (hname : ctorErr cfg e = none)
    (hfresh : ∀ x ∈ tm, nameOf cfg x ≠ nameOf cfg e) : Inv cfg (tm ++ [e]) := by
  refine ⟨?_, ?_⟩
  · intro i hi
    rw [List.mem_append] at hi
    cases hi with
    | inl h => exact hinv.1 i h
    | inr h => rw [List.mem_singleton.mp h]; exact hname
  · rw [List.pairwise_append]
    refine ⟨hinv.2, by simp, ?_⟩
    intro a ha b hb
    have : b = e := by simpa using hb
    subst this
    exact hfresh a ha

theorem mem_append_one {tm : TM} {e x : Nat} (h : e ∈ tm ++ [x]) (hne : e ∉ tm) : e = x := by
  rw [List.mem_append] at h
  cases h with
  | inl h => exact absurd h hne
  | inr h => simpa using h

def Edge (cfg : Config) (i j : Nat) : Prop := ∃ t, Step.visit t ∈ stepsOf cfg i ∧ t.strip = .named j

inductive Reach (cfg : Config) : Nat → Nat → Prop where
  | refl (e : Nat) : Reach cfg e e
  | step {a b c : Nat} : Reach cfg a b → Edge cfg b c → Reach cfg a c

theorem Reach.trans {a b c : Nat} (h1 : Reach cfg a b) (h2 : Reach cfg b c) : Reach cfg a c := by
  induction h2 with
  | refl => exact h1
  | step _ he ih => exact Reach.step ih he

theorem Reach.head {a b c : Nat} (he : Edge cfg a b) (h : Reach cfg b c) : Reach cfg a c :=
  Reach.trans (Reach.step (Reach.refl a) he) h

/-- what one call `rec tm t = ok tm'` of the reducer establishes -/
structure Spec (cfg : Config) (tm : TM) (t : TRef) (tm' : TM) : Prop where
  ext : ∃ l, tm' = tm ++ l
  inv : Inv cfg tm'
  closed : ∀ e ∈ tm', e ∉ tm → ClosedE cfg tm' e
  visited : Visited cfg tm' t
  reach : ∀ e ∈ tm', e ∉ tm → ∃ r, t.strip = .named r ∧ Reach cfg r e

theorem Spec.sub {tm tm' : TM} {t : TRef} (sp : Spec cfg tm t tm') : ∀ e ∈ tm, e ∈ tm' := by
  obtain ⟨l, hl⟩ := sp.ext
  intro e he; rw [hl]; exact List.mem_append_left _ he

theorem Spec.closed_all {tm tm' : TM} {t : TRef} (sp : Spec cfg tm t tm') (hcl : ∀ i ∈ tm, ClosedE cfg tm i) :
    ∀ i ∈ tm', ClosedE cfg tm' i := by
  intro i hi
  by_cases him : i ∈ tm
  · exact (hcl i him).mono sp.sub
  · exact sp.closed i hi him

structure StepsSpec (cfg : Config) (tm : TM) (steps : List Step) (tm' : TM) : Prop where
  ext : ∃ l, tm' = tm ++ l
  inv : Inv cfg tm'
  closed : ∀ e ∈ tm', e ∉ tm → ClosedE cfg tm' e
  visited : ∀ s ∈ steps, ∃ t, s = .visit t ∧ Visited cfg tm' t
  reach : ∀ e ∈ tm', e ∉ tm → ∃ t r, Step.visit t ∈ steps ∧ t.strip = .named r ∧ Reach cfg r e

theorem ClosedE.visited {tm : TM} {i : Nat} {t : TRef} (h : ClosedE cfg tm i) (ht : Step.visit t ∈ stepsOf cfg i) :
    Visited cfg tm t := by
  obtain ⟨_, h1, hv⟩ := h _ ht
  cases h1; exact hv

theorem visited_named {tm : TM} {t : TRef} {r : Nat} (hv : Visited cfg tm t) (hs : t.strip = .named r) : r ∈ tm := by
  rcases hv with hv | ⟨j, hj, _, hm⟩
  · rw [hs] at hv; cases hv
  · rw [hs] at hj; cases hj
    exact hm

theorem visited_ref {tm : TM} {i : Nat} (h : Visited cfg tm (.ref i)) : i ∈ tm := visited_named h rfl

theorem closed_reach {tm : TM} (hcl : ∀ i ∈ tm, ClosedE cfg tm i) {r e : Nat} (hr : r ∈ tm) (h : Reach cfg r e) : e ∈ tm := by
  induction h with
  | refl => exact hr
  | step _ hedge ih =>
    obtain ⟨t, ht, hs⟩ := hedge
    exact visited_named ((hcl _ ih).visited ht) hs

theorem StepsSpec.nil {tm : TM} (hinv : Inv cfg tm) : StepsSpec cfg tm [] tm :=
  ⟨⟨[], by simp⟩, hinv, fun _ he hne => absurd he hne, fun _ hs => (nomatch hs), fun _ he hne => absurd he hne⟩

theorem StepsSpec.sub {tm tm' : TM} {steps : List Step} (sp : StepsSpec cfg tm steps tm') : ∀ e ∈ tm, e ∈ tm' := by
  obtain ⟨l, hl⟩ := sp.ext
  intro e he; rw [hl]; exact List.mem_append_left _ he

theorem StepsSpec.append {tm tm1 tm' : TM} {a b : List Step} (s1 : StepsSpec cfg tm a tm1)
    (s2 : StepsSpec cfg tm1 b tm') : StepsSpec cfg tm (a ++ b) tm' := by
  obtain ⟨l1, hl1⟩ := s1.ext
  obtain ⟨l2, hl2⟩ := s2.ext
  refine ⟨⟨l1 ++ l2, by rw [hl2, hl1, List.append_assoc]⟩, s2.inv, fun e he hne => ?_, fun s hs => ?_, fun e he hne => ?_⟩
  · by_cases h1m : e ∈ tm1
    · exact (s1.closed e h1m hne).mono s2.sub
    · exact s2.closed e he h1m
  · rcases List.mem_append.mp hs with hs | hs
    · obtain ⟨t, ht, hv⟩ := s1.visited s hs
      exact ⟨t, ht, hv.mono s2.sub⟩
    · exact s2.visited s hs
  · by_cases h1m : e ∈ tm1
    · obtain ⟨t, r, ht, h⟩ := s1.reach e h1m hne
      exact ⟨t, r, List.mem_append_left _ ht, h⟩
    · obtain ⟨t, r, ht, h⟩ := s2.reach e he h1m
      exact ⟨t, r, List.mem_append_right _ ht, h⟩

theorem Spec.steps {tm tm' : TM} {t : TRef} (sp : Spec cfg tm t tm') : StepsSpec cfg tm [.visit t] tm' :=
  ⟨sp.ext, sp.inv, sp.closed, fun _ hs => ⟨t, List.mem_singleton.mp hs, sp.visited⟩, fun e he hne =>
    let ⟨r, hr, hre⟩ := sp.reach e he hne
    ⟨t, r, List.mem_singleton.mpr rfl, hr, hre⟩⟩

theorem StepsSpec.cons {tm tm1 tm' : TM} {t : TRef} {rest : List Step} (s1 : Spec cfg tm t tm1)
    (s2 : StepsSpec cfg tm1 rest tm') : StepsSpec cfg tm (.visit t :: rest) tm' :=
  s1.steps.append s2

theorem Spec.same {tm : TM} {t : TRef} (hinv : Inv cfg tm) (hv : Visited cfg tm t) : Spec cfg tm t tm :=
  ⟨⟨[], by simp⟩, hinv, fun _ he hne => absurd he hne, hv, fun _ he hne => absurd he hne⟩

def Sub (a b : TM) : Prop := ∀ e ∈ a, e ∈ b

structure Safe (U : TM) : Prop where
  inv : Inv cfg U
  closed : ∀ i ∈ U, ClosedE cfg U i

theorem Safe.within {tm tm' U : TM} (hU : Safe (cfg := cfg) U) (hsub : Sub tm U)
    (h : ∀ e ∈ tm', e ∉ tm → ∃ r, r ∈ U ∧ Reach cfg r e) : Sub tm' U := by
  intro e he
  by_cases hm : e ∈ tm
  · exact hsub e hm
  · obtain ⟨r, hr, hre⟩ := h e he hm
    exact closed_reach hU.closed hr hre

/-- `ClosedE cfg U i` is `StepsVisited cfg U (stepsOf cfg i)` -/
def StepsVisited (cfg : Config) (U : TM) (steps : List Step) : Prop := ∀ s ∈ steps, ∃ t, s = .visit t ∧ Visited cfg U t

theorem StepsSpec.within {tm tm' U : TM} {steps : List Step} (sp : StepsSpec cfg tm steps tm') (hU : Safe (cfg := cfg) U)
    (hsub : Sub tm U) (hv : StepsVisited cfg U steps) : Sub tm' U :=
  hU.within hsub fun e he hm => by
    obtain ⟨t, r, ht, hr, hre⟩ := sp.reach e he hm
    obtain ⟨_, h, hvt⟩ := hv _ ht
    cases h
    exact ⟨r, visited_named hvt hr, hre⟩

theorem Spec.within {tm tm' U : TM} {t : TRef} (sp : Spec cfg tm t tm') (hU : Safe (cfg := cfg) U) (hsub : Sub tm U)
    (hv : Visited cfg U t) : Sub tm' U :=
  sp.steps.within hU hsub fun _ hs => ⟨t, List.mem_singleton.mp hs, hv⟩

end GqlModel.SchemaBuild
