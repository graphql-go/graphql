import GqlProofs.PrinterPrints
import GqlProofs.PrinterLists
/-! One statement per printer function, for well-formed input (`WF…` of GqlModel/PrinterWF.lean): `xI x` prints the plain
token sequence `xT x` — none of the printer's emptiness tests (`join` dropping empty strings, `wrap` vanishing) drops a
token, and a NAME / number / string token is always followed by a separator, a punctuator, or the end of the enclosing
list. -/
namespace GqlModel.RoundTrip
open GqlModel.Printer GqlModel.Reader

theorem wfValues_mem : ∀ {vs : List Value}, WFValues vs → ∀ v ∈ vs, WFValue v :=
  fun h v hv => mem_of_consPred h v hv

theorem sd_argsParen (m : List Item) : StartsDelim (render (wrapI (pI .parenL ['(']) m (pI .parenR [')']))) :=
  sd_wrapI (by decide) _ _

theorem sd_directiveI (d : Directive) : StartsDelim (render (directiveI d)) := by
  simp only [directiveI, List.append_assoc]; exact sd_head (by decide) _

theorem sd_directivesI (ds : List Directive) : StartsDelim (render (directivesI ds)) := by
  apply sd_joinI
  intro x hx
  obtain ⟨d, _, rfl⟩ := List.mem_map.mp hx
  exact sd_directiveI d

theorem sd_spDirectives (ds : List Directive) : StartsDelim (render (wrapI spI (directivesI ds) [])) :=
  sd_wrapI (by decide) _ _

theorem sd_argDefsI (args : List InputValueDef) : StartsDelim (render (argDefsI args)) := by
  simp only [argDefsI]; split <;> exact sd_wrapI (by decide) _ _

theorem opName_isName (op : OpType) : Reader.isNameC op.toString.toList = true := by cases op <;> decide +kernel

theorem ofList_kwFragmentW : String.ofList kwFragmentW = "fragment" := String.ofList_toList
theorem ofList_kwExtendW : String.ofList kwExtendW = "extend" := String.ofList_toList
theorem ofList_kwDirectiveW : String.ofList kwDirectiveW = "directive" := String.ofList_toList
theorem ofList_kwInterface : String.ofList kwInterface = "interface" := String.ofList_toList
theorem ofList_implements : String.ofList kwImplementsW = "implements" := String.ofList_toList

theorem prints_typeI : ∀ t : TypeRef, WFType t → Prints (typeI t) (typeT t)
  | .named _ _, h => Prints.nI h
  | .list t _, h => ((PrintsA.pI rfl).appG (prints_typeI t h)).app (PrintsA.pI rfl).toPrints (by decide)
  | .nonNull t _, h => (prints_typeI t h.1).app (PrintsA.pI rfl).toPrints (by decide)

theorem prints_namedTypeI : ∀ t : TypeRef, WFNamedType t → Prints (typeI t) (typeT t)
  | .named _ _, h => Prints.nI h
  | .list _ _, h => absurd h id
  | .nonNull _ _, h => absurd h id

mutual
theorem prints_valueI : ∀ v : Value, WFValue v → Prints (valueI v) (valueT v)
  | .var _ _, h => (PrintsA.pI rfl).appG (Prints.nI h)
  | .int _ _, h => Prints.tok ⟨rfl, h⟩
  | .float _ _, h => Prints.tok ⟨rfl, h⟩
  | .str _ _, _ => Prints.tok rfl
  | .bool true _, _ => (Prints.kI (by decide)).cast (congrArg nT ofList_true)
  | .bool false _, _ => (Prints.kI (by decide)).cast (congrArg nT ofList_false)
  | .enum _ _, h => Prints.nI h.1
  | .list vs _, h =>
    ((PrintsA.pI rfl).appG ((printsL_valuesI vs h).join PrintsA.commaSp (by decide))).app (PrintsA.pI rfl).toPrints (by decide)
  | .obj fs _, h =>
    ((PrintsA.pI rfl).appG ((printsL_fieldsI fs h).join PrintsA.commaSp (by decide))).app (PrintsA.pI rfl).toPrints (by decide)
theorem printsL_valuesI : ∀ vs : List Value, WFValues vs → PrintsL (valuesI vs) (valuesT vs)
  | [], _ => .nil
  | v :: vs, h => .cons (prints_valueI v h.1) (printsL_valuesI vs h.2)
theorem prints_fieldI : ∀ f : ObjField, WFField f → Prints (fieldI f) (fieldT f)
  | .mk _ v _, h => ((Prints.nI h.1).appA PrintsA.colonSp (by decide)).appG (prints_valueI v h.2)
theorem printsL_fieldsI : ∀ fs : List ObjField, WFFields fs → PrintsL (fieldsI fs) (fieldsT fs)
  | [], _ => .nil
  | f :: fs, h => .cons (prints_fieldI f h.1) (printsL_fieldsI fs h.2)
end

theorem prints_argI (a : Argument) (h : WFArgument a) : Prints (argI a) (argT a) :=
  ((Prints.nI h.1).appA PrintsA.colonSp (by decide)).appG (prints_valueI a.value h.2)

/-- `wrap("(", join(args, ", "), ")")` -/
theorem prints_argsParen : ∀ as : List Argument, WFArguments as →
    Prints (wrapI (pI .parenL ['(']) (joinI (as.map argI) commaSpI) (pI .parenR [')'])) (argsT as)
  | [], _ => Prints.nil
  | a :: as, h =>
    have hm : Prints (joinI ((a :: as).map argI) commaSpI) (argListT (a :: as)) :=
      (PrintsL.map prints_argI h).join PrintsA.commaSp (by decide)
    Prints.wrap hm (by simp [argListT, argT, nT]) (((PrintsA.pI rfl).appG hm).app (PrintsA.pI rfl).toPrints (by decide))

theorem prints_directiveI (d : Directive) (h : WFDirective d) : Prints (directiveI d) (directiveT d) :=
  ((PrintsA.pI rfl).appG (Prints.nI h.1)).app (prints_argsParen d.args h.2) (sd_argsParen _)

theorem prints_directivesI (ds : List Directive) (h : WFDirectives ds) : Prints (directivesI ds) (directivesT ds) :=
  (PrintsL.map prints_directiveI h).join PrintsA.sp (by decide)

theorem printsA_aliasWrap : ∀ alias : Option Name, WFOptName alias →
    PrintsA (wrapI [] (optNameI alias) colonSpI) (aliasT alias)
  | none, _ => PrintsA.nil
  | some _, h => PrintsA.wrap (Prints.nI h) (by simp [nT]) ((Prints.nI h).appA PrintsA.colonSp (by decide))

theorem prints_typeCondWrap : ∀ tc : Option TypeRef, WFTypeCond tc →
    Prints (wrapI (kI kwOnW ++ spI) (optTypeI tc) []) (typeCondT tc)
  | none, _ => Prints.nil
  | some t, h =>
    have hm := prints_namedTypeI t h
    (Prints.wrap hm (by cases t <;> simp [typeT, nT, pT])
      ((((Prints.kI (s := kwOnW) (by decide)).appA PrintsA.sp (by decide)).appG hm).app Prints.nil sd_nil)).cast
      (by simp [typeCondT, ofList_on])

mutual
theorem prints_selectionI : ∀ s : Selection, WFSelection s → Prints (selectionI s) (selectionT s)
  | .field alias _ args dirs sel _, ⟨ha, hn, hargs, hd, hs⟩ =>
    Prints.join3 (((printsA_aliasWrap alias ha).appG (Prints.nI hn)).app (prints_argsParen args hargs) (sd_argsParen _))
      (prints_directivesI dirs hd) (prints_optSelSetI sel hs)
  | .spread _ dirs _, h =>
    ((PrintsA.spread.appG (Prints.nI h.1)).app (Prints.wrapLeft PrintsA.sp (prints_directivesI dirs h.2.2))
      (sd_spDirectives dirs))
  | .inline tc dirs sel _, ⟨ht, hd, hs⟩ =>
    Prints.join4 PrintsA.spread.toPrints (prints_typeCondWrap tc ht) (prints_directivesI dirs hd) (printsA_selSetI sel hs).toPrints
theorem printsA_selSetI : ∀ s : SelectionSet, WFSelSet s → PrintsA (selSetI s) (selSetT s)
  | .mk sels _, h => (printsL_selectionsI sels h.2).block
theorem prints_optSelSetI : ∀ s : Option SelectionSet, WFOptSelSet s → Prints (optSelSetI s) (optSelSetT s)
  | none, _ => Prints.nil
  | some s, h => (printsA_selSetI s h).toPrints
theorem printsL_selectionsI : ∀ ss : List Selection, WFSelections ss → PrintsL (selectionsI ss) (selectionsT ss)
  | [], _ => .nil
  | s :: ss, h => .cons (prints_selectionI s h.1) (printsL_selectionsI ss h.2)
end

theorem printsA_onI : PrintsA onI (nT "on") :=
  ((PrintsA.sp.appG (Prints.kI (s := kwOnW) (by decide))).appA PrintsA.sp (by decide)).cast (by simp [ofList_on])
theorem printsA_ampI : PrintsA ampI (pT .amp) := (PrintsA.sp.app ((PrintsA.pI rfl).app PrintsA.sp))
theorem printsA_pipeI : PrintsA pipeI (pT .pipe) := (PrintsA.sp.app ((PrintsA.pI rfl).app PrintsA.sp))

theorem valueT_ne_nil (v : Value) : valueT v ≠ [] := by cases v <;> simp [valueT, nT, pT]
theorem typeT_ne_nil (t : TypeRef) : typeT t ≠ [] := by cases t <;> simp [typeT, nT, pT]

theorem prints_defaultWrap {pre : List Item} (hpre : PrintsA pre (pT .equals)) : ∀ d : Option Value, WFDefault d →
    Prints (wrapI pre (optValueI d) []) (defaultT d)
  | none, _ => Prints.nil
  | some v, h =>
    have hv := prints_valueI v h.1
    (Prints.wrap hv (valueT_ne_nil v) ((hpre.appG hv).app Prints.nil sd_nil)).cast (by simp [defaultT])

theorem prints_varDefI (v : VarDef) (h : WFVarDef v) : Prints (varDefI v) (varDefT v) := by
  obtain ⟨hn, ⟨t, ht, hwt⟩, hd⟩ := h
  rw [varDefI, varDefT, ht]
  exact ((((PrintsA.pI rfl).appG (Prints.nI hn)).appA PrintsA.colonSp (by decide)).appG (prints_typeI t hwt)).app
    (prints_defaultWrap (PrintsA.sp.app ((PrintsA.pI rfl).app PrintsA.sp)) v.default hd) (sd_wrapI (by decide) _ _)

theorem prints_varDefsParen : ∀ vs : List VarDef, WFVarDefs vs →
    Prints (wrapI (pI .parenL ['(']) (joinI (vs.map varDefI) commaSpI) (pI .parenR [')'])) (varDefsT vs)
  | [], _ => Prints.nil
  | v :: vs, h =>
    have hm : Prints (joinI ((v :: vs).map varDefI) commaSpI) (varDefListT (v :: vs)) :=
      (PrintsL.map prints_varDefI h).join PrintsA.commaSp (by decide)
    Prints.wrap hm (by simp [varDefListT, varDefT, pT]) (((PrintsA.pI rfl).appG hm).app (PrintsA.pI rfl).toPrints (by decide))

theorem prints_inputValueDefI (d : InputValueDef) (h : WFInputValueDef d) : Prints (inputValueDefI d) (inputValueDefT d) :=
  (Prints.join3 (((Prints.nI h.1).appA PrintsA.colonSp (by decide)).appG (prints_typeI d.type h.2.1))
    (prints_defaultWrap ((PrintsA.pI rfl).app PrintsA.sp) d.default h.2.2.1)
    (prints_directivesI d.dirs h.2.2.2)).withDescMember.cast (by simp [inputValueDefT])

theorem prints_argDefsI : ∀ ds : List InputValueDef, WFInputValueDefs ds → Prints (argDefsI ds) (argDefsT ds)
  | [], _ => Prints.nil
  | d :: ds, h => by
    have hl := PrintsL.map (listT := inputValueDefListT) prints_inputValueDefI h
    have hne : inputValueDefListT (d :: ds) ≠ [] := by simp [inputValueDefListT, inputValueDefT, nT]
    simp only [argDefsI]
    split
    · have hm := (PrintsA.nl.appG (hl.join PrintsA.nl (by decide))).indent
      exact Prints.wrap hm hne (((PrintsA.pI rfl).appG hm).appA (PrintsA.nl.app (PrintsA.pI rfl)) (by decide)).toPrints
    · have hm := hl.join PrintsA.commaSp (by decide)
      exact Prints.wrap hm hne (((PrintsA.pI rfl).appG hm).app (PrintsA.pI rfl).toPrints (by decide))

theorem prints_fieldDefI (d : FieldDef) (h : WFFieldDef d) : Prints (fieldDefI d) (fieldDefT d) := by
  obtain ⟨hn, ha, ht, hd⟩ := h
  exact (Prints.nI hn).app (prints_argDefsI d.args ha) (sd_argDefsI _) |>.appA PrintsA.colonSp (by decide)
    |>.appG (prints_typeI d.type ht) |>.app (Prints.wrapLeft PrintsA.sp (prints_directivesI d.dirs hd)) (sd_spDirectives _)
    |>.withDescMember.cast (by simp [fieldDefT])

theorem prints_enumValueDefI (d : EnumValueDef) (h : WFEnumValueDef d) : Prints (enumValueDefI d) (enumValueDefT d) :=
  (((PrintsL.nil.cons (prints_directivesI d.dirs h.2)).cons (Prints.nI h.1)).join PrintsA.sp
    (by decide)).withDescMember.cast (by simp [enumValueDefT])

theorem prints_opTypeDefI (d : OpTypeDef) (h : WFOpTypeDef d) : Prints (opTypeDefI d) (opTypeDefT d) :=
  (((Prints.kI (opName_isName d.operation)).appA PrintsA.colonSp (by decide)).appG (prints_namedTypeI d.type h)).cast
    (by simp [opTypeDefT])

theorem prints_implementsWrap : ∀ ifs : List TypeRef, WFNamedTypes ifs →
    Prints (wrapI (kI kwImplementsW ++ spI) (joinI (ifs.map typeI) ampI) []) (implementsT ifs)
  | [], _ => Prints.nil
  | t :: ts, h =>
    have hm := Prints.joinSep (fI := typeI) (fT := typeT) printsA_ampI (by decide)
      (fun x hx => prints_namedTypeI x (mem_of_consPred h x hx)) (fun x _ => typeT_ne_nil x)
    (Prints.wrap hm (sepByT_ne_nil _ (typeT_ne_nil t))
      ((((Prints.kI (by decide +kernel)).appA PrintsA.sp (by decide)).appG hm).app Prints.nil sd_nil)).cast
      (by simp [implementsT, ofList_implements])

/-- the shape shared by the type definitions: description, keyword, name, directives, body -/
theorem prints_typeDefI (desc : Option String) {kw : Chars} (hkw : isNameC kw = true) {name : Name} {dirs : List Directive}
    {body : List Item} {tb : List KV} (hn : WFName name.value) (hd : WFDirectives dirs) (hb : Prints body tb) :
    Prints (withDescTopI desc (joinI [kI kw, nI name.value, directivesI dirs, body] spI))
      (descT desc ++ (nT (String.ofList kw) ++ nT name.value ++ directivesT dirs ++ tb)) :=
  (Prints.join4 (Prints.kI hkw) (Prints.nI hn) (prints_directivesI dirs hd) hb).withDescTop

theorem prints_objectDefI (d : ObjectDef) (h : WFObjectDef d) : Prints (objectDefI d) (objectDefT d) := by
  obtain ⟨hn, hi, hd, hf⟩ := h
  -- the five members of the join, consed from the last to the first
  exact PrintsL.nil.cons (PrintsL.map (listT := fieldDefListT) prints_fieldDefI hf).block.toPrints
    |>.cons (prints_directivesI d.dirs hd) |>.cons (prints_implementsWrap d.interfaces hi) |>.cons (Prints.nI hn)
    |>.cons (Prints.kI (s := kwType) (by decide +kernel)) |>.join PrintsA.sp (by decide)
    |>.withDescTop.cast (by simp [objectDefT, kwType])

theorem prints_optNameI : ∀ n : Option Name, WFOptName n → Prints (optNameI n) (optNameT n)
  | none, _ => Prints.nil
  | some _, h => Prints.nI h

theorem optNameI_isEmpty : ∀ n : Option Name, WFOptName n → (render (optNameI n)).isEmpty = n.isNone
  | none, _ => rfl
  | some _, h => (Prints.nI h).nonempty (by simp [nT])

theorem directivesI_isEmpty : ∀ ds : List Directive, WFDirectives ds → (render (directivesI ds)).isEmpty = ds.isEmpty
  | [], _ => rfl
  | _ :: _, h => (prints_directivesI _ h).nonempty (by simp [directivesT, directiveT, pT])

theorem varDefsParen_isEmpty : ∀ vs : List VarDef, WFVarDefs vs →
    (render (wrapI (pI .parenL ['(']) (joinI (vs.map varDefI) commaSpI) (pI .parenR [')']))).isEmpty = vs.isEmpty
  | [], _ => rfl
  | _ :: _, h => (prints_varDefsParen _ h).nonempty (by simp [varDefsT, pT])

theorem prints_definitionI : ∀ d : Definition, WFDefinition d → Prints (definitionI d) (definitionT d)
  | .operation op name vars dirs sel _, ⟨hn, hv, hd, hs⟩ => by
    have hc : ((render (optNameI name)).isEmpty && (render (directivesI dirs)).isEmpty &&
        (render (wrapI (pI .parenL ['(']) (joinI (vars.map varDefI) commaSpI) (pI .parenR [')']))).isEmpty &&
        op == OpType.query) = isShortForm op name vars dirs := by
      rw [optNameI_isEmpty name hn, directivesI_isEmpty dirs hd, varDefsParen_isEmpty vars hv, isShortForm]
      cases name.isNone <;> cases dirs.isEmpty <;> cases vars.isEmpty <;> rfl
    simp only [definitionI, definitionT, operationI, operationT, hc]
    split
    · exact (printsA_selSetI sel hs).toPrints
    · exact (Prints.join4 (Prints.kI (opName_isName op))
        (Prints.join2_nil (prints_optNameI name hn)
          (prints_varDefsParen vars hv) (sd_argsParen _))
        (prints_directivesI dirs hd) (printsA_selSetI sel hs).toPrints).cast (by simp)
  | .fragment name tc dirs sel _, ⟨hn, _, ht, hd, hs⟩ =>
    (Prints.kI (s := kwFragmentW) (by decide +kernel)).appA PrintsA.sp (by decide)
      |>.appG (Prints.nI hn) |>.appA printsA_onI (by decide) |>.appG (prints_namedTypeI tc ht)
      |>.appA PrintsA.sp (by decide) |>.app (Prints.wrapRight (prints_directivesI dirs hd) PrintsA.sp (by decide))
      |>.app (printsA_selSetI sel hs) |>.toPrints.cast (by simp [definitionT, fragmentT, ofList_kwFragmentW])
  | .schema dirs ops _, h =>
    (Prints.join3 (Prints.kI (s := kwSchema) (by decide +kernel)) (prints_directivesI dirs h.1)
      (PrintsL.map (listT := opTypeDefListT) prints_opTypeDefI h.2.2).block.toPrints).cast (by simp [definitionT, schemaT, kwSchema])
  | .scalar desc name dirs _, h =>
    (Prints.join3 (Prints.kI (s := kwScalar) (by decide +kernel)) (Prints.nI h.1)
      (prints_directivesI dirs h.2)).withDescTop.cast (by simp [definitionT, scalarT, kwScalar])
  | .object d, h => prints_objectDefI d h
  | .interface desc name dirs fields _, h =>
    (prints_typeDefI desc (kw := kwInterface) (by decide +kernel) h.1 h.2.1
      (PrintsL.map (listT := fieldDefListT) prints_fieldDefI h.2.2).block.toPrints).cast (by simp [definitionT, interfaceT, ofList_kwInterface])
  | .union desc name dirs types _, h =>
    (prints_typeDefI desc (kw := kwUnion) (by decide +kernel) h.1 h.2.1
      (((PrintsA.pI rfl).app PrintsA.sp).appG (Prints.joinSep (fI := typeI) (fT := typeT) printsA_pipeI (by decide)
        (fun x hx => prints_namedTypeI x (mem_of_consPred h.2.2.2 x hx))
        (fun x _ => typeT_ne_nil x)))).cast (by simp [definitionT, unionT, kwUnion])
  | .enum desc name dirs values _, h =>
    (prints_typeDefI desc (kw := kwEnum) (by decide +kernel) h.1 h.2.1
      (PrintsL.map (listT := enumValueDefListT) prints_enumValueDefI h.2.2).block.toPrints).cast (by simp [definitionT, enumT, kwEnum])
  | .inputObject desc name dirs fields _, h =>
    (prints_typeDefI desc (kw := kwInput) (by decide +kernel) h.1 h.2.1
      (PrintsL.map (listT := inputValueDefListT) prints_inputValueDefI h.2.2).block.toPrints).cast (by simp [definitionT, inputObjectT, kwInput])
  | .extend d _, h =>
    (((Prints.kI (s := kwExtendW) (by decide +kernel)).appA PrintsA.sp (by decide)).appG (prints_objectDefI d h)).cast
      (by simp [definitionT, extendT, ofList_kwExtendW])
  | .directive desc name args locations _, ⟨hn, ha, _, hl⟩ =>
    (Prints.kI (s := kwDirectiveW) (by decide +kernel)).appA PrintsA.sp (by decide)
      |>.app (PrintsA.pI rfl) |>.appG (Prints.nI hn) |>.app (prints_argDefsI args ha) (sd_argDefsI _)
      |>.appA printsA_onI (by decide)
      |>.appG (Prints.joinSep (fI := fun n : Name => nI n.value) (fT := fun n => nT n.value) printsA_pipeI (by decide)
        (fun x hx => Prints.nI (mem_of_consPred (P := fun n : Name => WFName n.value) hl x hx))
        (fun _ _ => by simp [nT]))
      |>.withDescTop.cast (by simp [definitionT, directiveDefT, ofList_kwDirectiveW])

theorem printsA_docI (d : Document) (h : WFDocument d) : PrintsA (docI d) (docT d) :=
  (((PrintsL.map (listT := definitionListT) prints_definitionI h.2).join (PrintsA.sI rfl) (by decide)).appA PrintsA.nl
    (by decide)).cast (by simp [docT])

theorem lexK_docI (d : Document) (h : WFDocument d) : LexK (docI d) [] := (printsA_docI d h).lex []

theorem G_fieldI : ∀ f : ObjField, WFField f → G (fieldI f) := fun f h => (prints_fieldI f h).lex
theorem G_fieldsI : ∀ fs : List ObjField, WFFields fs → ∀ x ∈ fieldsI fs, G x := fun fs h => (printsL_fieldsI fs h).lex
theorem G_selectionI : ∀ s : Selection, WFSelection s → G (selectionI s) := fun s h => (prints_selectionI s h).lex
theorem G_optSelSetI : ∀ s : Option SelectionSet, WFOptSelSet s → G (optSelSetI s) :=
  fun s h => (prints_optSelSetI s h).lex
theorem G_selectionsI : ∀ ss : List Selection, WFSelections ss → ∀ x ∈ selectionsI ss, G x :=
  fun ss h => (printsL_selectionsI ss h).lex

theorem G_optValueI (v : Option Value) (h : ∀ x, v = some x → WFValue x) : G (optValueI v) := by
  cases v with
  | none => exact Prints.nil.lex
  | some x => exact (prints_valueI x (h x rfl)).lex

end GqlModel.RoundTrip

namespace GqlModel.Printer
open GqlModel.Reader GqlModel.RoundTrip

theorem typeI_nonempty : ∀ t : TypeRef, WFType t → (render (typeI t)).isEmpty = false :=
  fun t h => (prints_typeI t h).nonempty (typeT_ne_nil t)

theorem tokensOf_valuesI : ∀ vs : List Value, WFValues vs → ((valuesI vs).map tokensOf).flatten = valuesT vs :=
  fun vs h => (printsL_valuesI vs h).toks
theorem tokensOf_fieldI : ∀ f : ObjField, WFField f → tokensOf (fieldI f) = fieldT f := fun f h => (prints_fieldI f h).toks
theorem tokensOf_fieldsI : ∀ fs : List ObjField, WFFields fs → ((fieldsI fs).map tokensOf).flatten = fieldsT fs :=
  fun fs h => (printsL_fieldsI fs h).toks
theorem tokensOf_selectionI : ∀ s : Selection, WFSelection s → tokensOf (selectionI s) = selectionT s :=
  fun s h => (prints_selectionI s h).toks
theorem tokensOf_optSelSetI : ∀ s : Option SelectionSet, WFOptSelSet s → tokensOf (optSelSetI s) = optSelSetT s :=
  fun s h => (prints_optSelSetI s h).toks
theorem tokensOf_selectionsI : ∀ ss : List Selection, WFSelections ss →
    ((selectionsI ss).map tokensOf).flatten = selectionsT ss :=
  fun ss h => (printsL_selectionsI ss h).toks

theorem printTokens_eq_docT (d : Document) (h : WFDocument d) : printTokens d = docT d := (printsA_docI d h).toks

theorem printValueTokens_eq_valueT (v : Value) (h : WFValue v) : printValueTokens v = valueT v :=
  (prints_valueI v h).toks

theorem printTypeTokens_eq_typeT (t : TypeRef) : printTypeTokens t = typeT t := tokensOf_typeI t

end GqlModel.Printer
