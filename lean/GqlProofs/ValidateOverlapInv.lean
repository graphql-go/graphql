import GqlProofs.ValidateGraph
import GqlProofs.ValidateOverlap
/-! # C02 / C19: every call of the overlap recursion preserves the state invariant `Inv` (`Runs.inv`); with the key
universes `univFF`, `univBF` it bounds the two counters: a memo body runs at most once (`Inv.counts`) -/
namespace GqlModel.Validate.Overlap
open GqlModel.Validate.Graph

variable {d : Document} {e : Env}

theorem getInfo_inv {st : OState} (hinv : Inv d e st) (pt : Option String) {ss : SelectionSet}
    (hss : ss ∈ allSets d) : Inv d e (getInfo e pt ss st).1 ∧ WFInfo d (getInfo e pt ss st).2 := by
  unfold getInfo
  split
  · rename_i i hi
    exact ⟨hinv, hinv.cacheWF _ (lookup_mem' _ _ _ hi)⟩
  · exact ⟨hinv.withCache pt ss hss, collectInfo_wf d e pt ss hss⟩

theorem betweenCalls_wf (x : Bool) {i1 i2 : FieldsInfo} (h1 : WFInfo d i1) (h2 : WFInfo d i2) :
    ∀ c, c ∈ betweenCalls x i1 i2 → WFCall d c := by
  intro c hc
  rcases mem_betweenCalls hc with ⟨k, fs1, fs2, a, b, hk1, hk2, ha, hb, rfl⟩
  exact ⟨h1.fields _ hk1 a ha, h2.fields _ hk2 b hb⟩

theorem withinCalls_wf {i : FieldsInfo} (h : WFInfo d i) : ∀ c, c ∈ withinCalls i → WFCall d c := by
  intro c hc
  rcases mem_withinCalls hc with ⟨k, fs, a, b, hk, ha, hb, rfl⟩
  exact ⟨h.fields _ hk a ha, h.fields _ hk b hb⟩

theorem topFragCalls_wf {i : FieldsInfo} (h : WFInfo d i) (fs : List String)
    (hfs : ∀ n, n ∈ fs → n ∈ allSpreadNames d) : ∀ c, c ∈ topFragCalls i fs → WFCall d c := by
  intro c hc
  rcases mem_topFragCalls hc with ⟨f, hf, rfl⟩ | ⟨f, g, _, _, rfl⟩
  · exact ⟨h, hfs f hf⟩
  · trivial

theorem ssList_wf (x : Bool) {i1 i2 : FieldsInfo} (h1 : WFInfo d i1) (h2 : WFInfo d i2) :
    ∀ c, c ∈ ssList x i1 i2 → WFCall d c := by
  intro c hc
  rcases mem_ssList.1 hc with hc | ⟨f, hf, rfl⟩ | ⟨f, hf, rfl⟩ | ⟨f1, _, f2, _, rfl⟩
  · exact betweenCalls_wf x h1 h2 c hc
  · exact ⟨h1, h2.frags f hf⟩
  · exact ⟨h2, h1.frags f hf⟩
  · trivial

theorem ffList_wf (x : Bool) {info i : FieldsInfo} (h1 : WFInfo d info) (h2 : WFInfo d i) :
    ∀ c, c ∈ ffList x info i → WFCall d c := by
  intro c hc
  rcases mem_ffList.1 hc with hc | ⟨g, hg, rfl⟩
  · exact betweenCalls_wf x h1 h2 c hc
  · exact ⟨h1, h2.frags g hg⟩

theorem bfList_wf (x : Bool) (n1 n2 : String) {i1 i2 : FieldsInfo} (h1 : WFInfo d i1) (h2 : WFInfo d i2) :
    ∀ c, c ∈ bfList x n1 n2 i1 i2 → WFCall d c := by
  intro c hc
  rcases mem_bfList.1 hc with hc | ⟨g, _, rfl⟩ | ⟨g, _, rfl⟩
  · exact betweenCalls_wf x h1 h2 c hc
  · trivial
  · trivial

theorem visList_wf {i : FieldsInfo} (h : WFInfo d i) : ∀ c, c ∈ visList i → WFCall d c := by
  intro c hc
  rcases List.mem_append.1 hc with hc | hc
  · exact withinCalls_wf h c hc
  · exact topFragCalls_wf h _ h.frags c hc

theorem Runs.inv (hT : ∀ f, f ∈ e.tbl → f.sel ∈ allSets d) {n : Nat} {cs : List Call} {st st' : OState}
    {out : List Conflict} (h : Runs e n cs st st' out) :
    (∀ c, c ∈ cs → WFCall d c) → Inv d e st → Inv d e st' := by
  induction h with
  | nil | ffHit | bfSkip => exact fun _ h => h
  | cons _ _ ih1 ih2 =>
    exact fun hcs hinv => ih2 (fun c h => hcs c (.tail _ h)) (ih1 (List.forall_mem_singleton.2 (hcs _ (.head _))) hinv)
  | oof => exact fun _ h => h.withOof _
  | fcLoud | fcLeaf => exact fun _ h => h.withFC
  | fcSub x a b st s1 s2 _ hs1 hs2 hg1 hg2 _ ih =>
    intro hcs hinv
    subst hg1 hg2
    have hc := hcs _ (.head _)
    have g1 := getInfo_inv hinv.withFC a.subParent (hc.1 s1 hs1)
    have g2 := getInfo_inv g1.1 b.subParent (hc.2 s2 hs2)
    exact ih (ssList_wf _ g1.2 g2.2) g2.1
  | ffUndef x info frag st hnew => exact fun hcs h => have hc := hcs _ (.head _); h.withFF hnew hc.1.id hc.2
  | ffSame x info frag st f hnew hl hg =>
    intro hcs hinv
    subst hg
    have hc := hcs _ (.head _)
    exact (getInfo_inv (hinv.withFF hnew hc.1.id hc.2) _ (hT f (lookupFrag_some hl).1)).1
  | ffOpen x info frag st f hnew hl hg _ _ ih =>
    intro hcs hinv
    subst hg
    have hc := hcs _ (.head _)
    have g := getInfo_inv (hinv.withFF hnew hc.1.id hc.2) (namedOf e.s f.typeCond) (hT f (lookupFrag_some hl).1)
    exact ih (ffList_wf _ hc.1 g.2) g.1
  | bfOpen x n1 n2 st f1 f2 hl1 hl2 hne hnew hg1 hg2 _ ih =>
    intro _ hinv
    subst hg1 hg2
    have g1 := getInfo_inv (hinv.withBF hne hnew (lookupFrag_mem_names hl1) (lookupFrag_mem_names hl2))
      (namedOf e.s f1.typeCond) (hT f1 (lookupFrag_some hl1).1)
    have g2 := getInfo_inv g1.1 (namedOf e.s f2.typeCond) (hT f2 (lookupFrag_some hl2).1)
    exact ih (bfList_wf _ _ _ g1.2 g2.2) g2.1

theorem visitSet_inv (hT : ∀ f, f ∈ e.tbl → f.sel ∈ allSets d) (fuel : Nat) (pt : Option String)
    {ss : SelectionSet} (hss : ss ∈ allSets d) (st : OState) (hinv : Inv d e st) :
    Inv d e (visitSet e fuel pt ss st).1 :=
  have g := getInfo_inv hinv pt hss
  (visitSet_runs fuel pt ss st).inv hT (visList_wf g.2) g.1

theorem overlapRun_inv (hT : ∀ f, f ∈ e.tbl → f.sel ∈ allSets d) (fuel : Nat)
    (sets : List (TCtx × SelectionSet)) (hsets : ∀ cs, cs ∈ sets → cs.2 ∈ allSets d) :
    Inv d e (overlapRun e fuel sets).1 := by
  induction sets using snoc_induction with
  | nil => exact Inv.init d e
  | snoc sets cs ih =>
    rw [(overlapRun_snoc e fuel sets cs).1]
    exact visitSet_inv hT fuel _ (hsets cs (List.mem_append_right _ List.mem_cons_self)) _ (ih fun x hx => hsets x (List.mem_append_left _ hx))

mutual
theorem setsOfSel_map (s : Schema) : ∀ (c : TCtx) (x : Selection), (setsOfSel s c x).map (·.2) = belowSel x
  | c, .field _ nm _ _ sel _ => by simp only [setsOfSel, belowSel]; exact setsOfOpt_map s _ sel
  | c, .spread .. => rfl
  | c, .inline tc _ ss _ => by simp only [setsOfSel, belowSel]; exact setsOfSet_map s _ ss
theorem setsOfSet_map (s : Schema) : ∀ (c : TCtx) (x : SelectionSet), (setsOfSet s c x).map (·.2) = belowSet x
  | c, .mk sels lc => by simp only [setsOfSet, belowSet, List.map_cons]; rw [setsOfSels_map s _ sels]
theorem setsOfOpt_map (s : Schema) : ∀ (c : TCtx) (x : Option SelectionSet), (setsOfOpt s c x).map (·.2) = belowOpt x
  | c, none => rfl
  | c, some ss => by simp only [setsOfOpt, belowOpt]; exact setsOfSet_map s c ss
theorem setsOfSels_map (s : Schema) : ∀ (c : TCtx) (x : List Selection), (setsOfSels s c x).map (·.2) = belowSels x
  | c, [] => rfl
  | c, x :: xs => by
    simp only [setsOfSels, belowSels, List.map_append]
    rw [setsOfSel_map s c x, setsOfSels_map s c xs]
end

theorem setsOfSel_below (s : Schema) : ∀ (c : TCtx) (x : Selection) (p : TCtx × SelectionSet),
    p ∈ setsOfSel s c x → p.2 ∈ belowSel x :=
  fun c x _ hp => setsOfSel_map s c x ▸ List.mem_map_of_mem hp

theorem setsOfOpt_below (s : Schema) : ∀ (c : TCtx) (x : Option SelectionSet) (p : TCtx × SelectionSet),
    p ∈ setsOfOpt s c x → p.2 ∈ belowOpt x :=
  fun c x _ hp => setsOfOpt_map s c x ▸ List.mem_map_of_mem hp

theorem setsOfSels_below (s : Schema) : ∀ (c : TCtx) (x : List Selection) (p : TCtx × SelectionSet),
    p ∈ setsOfSels s c x → p.2 ∈ belowSels x :=
  fun c x _ hp => setsOfSels_map s c x ▸ List.mem_map_of_mem hp

theorem typedSelSets_map (s : Schema) (d : Document) : (typedSelSets s d).map (·.2) = allSets d := by
  unfold typedSelSets allSets rootSets
  induction d.defs with
  | nil => rfl
  | cons df rest ih =>
    rw [List.flatMap_cons, List.map_append, ih]
    cases df with
    | operation op nm vars dirs sel lc => simp only [defCtx, List.filterMap_cons, List.flatMap_cons, setsOfSet_map]
    | fragment nm tc dirs sel lc => simp only [defCtx, List.filterMap_cons, List.flatMap_cons, setsOfSet_map]
    | _ => simp only [defCtx, List.filterMap_cons, List.map_nil, List.nil_append]

theorem typedSelSets_sub (s : Schema) (d : Document) : ∀ cs, cs ∈ typedSelSets s d → cs.2 ∈ allSets d := by
  intro cs hcs
  rw [← typedSelSets_map s d]
  exact List.mem_map.2 ⟨cs, hcs, rfl⟩

/-- universe of the keys of `comparedFieldsAndFragmentSet` -/
def univFF (d : Document) : List (Loc × String × Bool) := prod (setIds d) (prod (allSpreadNames d) [false, true])
/-- universe of the keys of `comparedSet` -/
def univBF (tbl : List Frag) : List (String × String × Bool) := prod (fragNames tbl) (prod (fragNames tbl) [false, true])

theorem length_univFF (d : Document) : (univFF d).length = 2 * (nSets d * nSpreadNames d) := by
  simp only [univFF, length_prod, setIds, List.length_map, nSets, nSpreadNames, List.length_cons, List.length_nil]
  rw [Nat.mul_comm (allSpreadNames d).length 2, ← Nat.mul_assoc, Nat.mul_comm _ 2, Nat.mul_assoc]

theorem length_univBF (tbl : List Frag) : (univBF tbl).length = 2 * (tbl.length * tbl.length) := by
  simp only [univBF, length_prod, fragNames, List.length_map, List.length_cons, List.length_nil]
  rw [Nat.mul_comm tbl.length 2, ← Nat.mul_assoc, Nat.mul_comm _ 2, Nat.mul_assoc]

theorem Inv.counts {d : Document} {e : Env} {st : OState} (h : Inv d e st) :
    st.cntFF ≤ 2 * (nSets d * nSpreadNames d) ∧ st.cntBF ≤ 2 * (e.tbl.length * e.tbl.length) := by
  constructor
  · rw [← length_univFF]
    refine List.Nodup.length_le_of_subset h.ffNodup (fun k hk => ?_)
    obtain ⟨id, n, b⟩ := k
    have := h.ffUniv _ hk
    rw [univFF, mem_prod, mem_prod]
    exact ⟨this.1, this.2, by cases b <;> simp⟩
  · rw [← length_univBF]
    refine List.Nodup.length_le_of_subset h.bfNodup (fun k hk => ?_)
    obtain ⟨a, n, b⟩ := k
    have := h.bfUniv _ hk
    rw [univBF, mem_prod, mem_prod]
    exact ⟨this.1, this.2, by cases b <;> simp⟩

end GqlModel.Validate.Overlap
