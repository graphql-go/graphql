import GqlProofs.ExecErr
import GqlProofs.ExecStep
import GqlProofs.ListCount
/-! C04 / C20: facts about one selection set (`execGroups`) obtained from the field-level invariants:
which keys a successful selection set yields, and why a failing one fails. -/
namespace GqlModel.Exec

/-- the group selects a field the runtime type defines (or `__typename`) -/
def resolvable (c : Ctx) (rt : String) (g : String × List FieldNode) : Bool :=
  match g.2.head? with
  | some node => (fieldDef? c.schema rt node.name).isSome
  | none => false

theorem not_resolvable_of_no_fieldDef {c : Ctx} {rt key : String} {nodes : List FieldNode}
    (hno : ∀ node fd, nodes.head? = some node → fieldDef? c.schema rt node.name ≠ some fd) :
    resolvable c rt (key, nodes) = false := by
  cases hh : nodes.head? with
  | none => simp only [resolvable, hh]
  | some node =>
    simp only [resolvable, hh]
    cases hfd : fieldDef? c.schema rt node.name with
    | none => rfl
    | some fd => exact absurd hfd (hno node fd hh)

theorem execGroups_ok_keys {c : Ctx} {fuel : Nat} : ∀ {dfr rt src path groups acc st fs st'},
    execGroups c fuel dfr rt src path groups acc st = (.ok fs, st') →
    fs.map (·.1) = acc.map (·.1) ++ (groups.filter (resolvable c rt)).map (·.1) := by
  induction fuel with
  | zero =>
    intro dfr rt src path groups acc st fs st' h
    cases execGroups_zero.symm.trans h
  | succ fuel ih =>
    intro dfr rt src path groups acc st fs st' h
    cases GroupsStep.of_eq h with
    | nil => exact (List.append_nil _).symm
    | skip hno h =>
      rw [ih h]
      simp only [List.filter_cons, not_resolvable_of_no_fieldDef hno, Bool.false_eq_true, if_false]
    | ok hh hfd _ h =>
      rw [ih h]
      simp only [List.filter_cons, resolvable, hh, hfd, Option.isSome_some, if_true, List.map_append, List.map_cons,
        List.map_nil, List.append_assoc, List.singleton_append]

theorem mem_unique_of_keys_nodup {fs : List (String × JVal)} (hn : (fs.map (·.1)).Nodup) {k : String} {x x' : JVal}
    (h : (k, x) ∈ fs) (h' : (k, x') ∈ fs) : x = x' :=
  congrArg Prod.snd (eq_of_nodup_map (·.1) hn h h' rfl)

theorem execGroups_ok_keys_nodup {c : Ctx} {fuel : Nat} {dfr : Bool} {rt : String} {src : GoVal} {path : Path}
    {groups : Groups} {st st' : St} {fs : List (String × JVal)}
    (h : execGroups c fuel dfr rt src path groups [] st = (.ok fs, st')) (hn : groups.keys.Nodup) :
    (fs.map (·.1)).Nodup := by
  rw [execGroups_ok_keys h]
  exact List.Nodup.sublist (List.Sublist.map _ List.filter_sublist) hn

theorem nonNull_of_absorb_fail {t : GType} {r : Res JVal} (h : absorb t r = .fail) : t.isNonNull = true := by
  cases r with
  | fail =>
    rcases absorb_fail_cases t with ⟨hnn, -⟩ | ⟨-, ha⟩
    · exact hnn
    · cases h.symm.trans ha
  | _ => cases h

theorem execField_fail_nonNull (c : Ctx) (fuel : Nat) (dfr : Bool) (rt : String) (src : GoVal) (p : Path)
    (fd : FieldDefS) (nodes : List FieldNode) (st st' : St)
    (h : execField c fuel dfr rt src p fd nodes st = (.fail, st')) : fd.type.isNonNull = true := by
  cases fuel with
  | zero => cases execField_zero.symm.trans h
  | succ fuel =>
    generalize hr : (Res.fail : Res JVal) = r at h
    cases FieldStep.of_eq h with
    | typename => cases hr
    | resolverFails | value => exact nonNull_of_absorb_fail hr.symm

theorem execGroups_fail_cause {c : Ctx} {fuel : Nat} : ∀ {dfr rt src path groups acc st st'},
    execGroups c fuel dfr rt src path groups acc st = (.fail, st') →
    ∃ k nodes node fd q d, (k, nodes) ∈ groups ∧ nodes.head? = some node ∧
      fieldDef? c.schema rt node.name = some fd ∧ fd.type.isNonNull = true ∧
      st'.errs.head? = some (q, d) ∧ (path ++ [.key k]) <+: q := by
  induction fuel with
  | zero =>
    intro dfr rt src path groups acc st st' h
    cases execGroups_zero.symm.trans h
  | succ fuel ih =>
    intro dfr rt src path groups acc st st' h
    cases GroupsStep.of_eq h with
    | skip _ h | ok _ _ _ h =>
      obtain ⟨k, nodes, node, fd, q, d, hm, h1⟩ := ih h
      exact ⟨k, nodes, node, fd, q, d, List.mem_cons_of_mem _ hm, h1⟩
    | @fail key nodes _ _ _ node fd _ hh hfd hf =>
      obtain ⟨new, hl, hfail, -⟩ := (errP c fuel).field _ _ _ _ _ _ _ _ _ hf
      obtain ⟨hne, hall⟩ := hfail rfl
      cases new with
      | nil => exact absurd rfl hne
      | cons e new =>
        exact ⟨key, nodes, node, fd, e.1, e.2, List.mem_cons_self, hh, hfd,
          execField_fail_nonNull _ _ _ _ _ _ _ _ _ _ hf, by rw [hl]; rfl, hall e List.mem_cons_self⟩

end GqlModel.Exec
