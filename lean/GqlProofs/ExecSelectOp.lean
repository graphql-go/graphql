import GqlModel.Occurs
import GqlProofs.ListCount
/-! # Operation selection (`selectOperation`) — closed forms of the inner loop and the six outcomes (`selectOperation_spec`), for C01 -/
namespace GqlModel.Exec

theorem selectOperation.go_of_not_executable {d : Definition} (h : isExecutable d = false) (opName : String) (rest : List Definition)
    (cur : Option Definition) : selectOperation.go opName (d :: rest) cur = .error .notExecutable := by
  cases d with
  | operation => cases h
  | fragment => cases h
  | _ => rfl

theorem selectOperation.go_named_cons {opName : String} (hn : opName ≠ "") {d : Definition} (h : isExecutable d = true)
    (rest : List Definition) (cur : Option Definition) :
    selectOperation.go opName (d :: rest) cur =
      selectOperation.go opName rest (if isOperationNamed opName d = true then some d else cur) := by
  cases d with
  | operation op name vars dirs sel loc =>
    show (if (opName == "" && cur.isSome) = true then _ else
          if (opName == "" || name.map (·.value) == some opName) = true then _ else _) = _
    rw [beq_false_of_ne hn]
    exact (apply_ite (selectOperation.go opName rest) _ _ _).symm
  | fragment => rfl
  | _ => cases h

theorem selectOperation.go_unnamed_cons {d : Definition} (h : isExecutable d = true) (rest : List Definition) (cur : Option Definition) :
    selectOperation.go "" (d :: rest) cur =
      if isOperation d = true then
        if cur.isSome = true then .error .mustProvideName else selectOperation.go "" rest (some d)
      else selectOperation.go "" rest cur := by
  cases d with
  | operation op name vars dirs sel loc => rfl
  | fragment => rfl
  | _ => cases h

theorem selectOperation.go_named {opName : String} (hn : opName ≠ "") : ∀ (defs : List Definition) (cur : Option Definition),
    selectOperation.go opName defs cur =
      if defs.all isExecutable = true then .ok (((defs.filter (isOperationNamed opName)).getLast?).or cur)
      else .error .notExecutable
  | [], cur => rfl
  | d :: rest, cur => by
    rw [List.all_cons]
    cases he : isExecutable d
    · exact selectOperation.go_of_not_executable he opName rest cur
    · rw [selectOperation.go_named_cons hn he, selectOperation.go_named hn rest, List.filter_cons, Bool.true_and]
      cases isOperationNamed opName d
      · rfl
      · simp only [if_true, List.getLast?_cons]
        cases (rest.filter (isOperationNamed opName)).getLast? <;> rfl

/-- the operations the unnamed loop has seen when it stops: `cur` and those before the first non-executable definition -/
def seenOps (defs : List Definition) (cur : Option Definition) : List Definition :=
  cur.toList ++ (defs.takeWhile isExecutable).filter isOperation

/-- without a name: a second operation is an error as soon as it is met; then a non-executable definition;
otherwise the only operation (if any) -/
theorem selectOperation.go_unnamed : ∀ (defs : List Definition) (cur : Option Definition),
    selectOperation.go "" defs cur =
      if 2 ≤ (seenOps defs cur).length then .error .mustProvideName
      else if defs.all isExecutable = true then .ok (seenOps defs cur).head?
      else .error .notExecutable
  | [], cur => by cases cur <;> rfl
  | d :: rest, cur => by
    rw [List.all_cons]
    cases he : isExecutable d
    · rw [selectOperation.go_of_not_executable he, seenOps, List.takeWhile_cons, he]
      cases cur <;> rfl
    · rw [selectOperation.go_unnamed_cons he, seenOps, List.takeWhile_cons, he, if_pos rfl, List.filter_cons, Bool.true_and]
      cases isOperation d
      · exact selectOperation.go_unnamed rest cur
      · cases cur with
        | none => exact selectOperation.go_unnamed rest (some d)
        | some x => rfl

/-- the six outcomes of `selectOperation`, each with what it says about the document -/
inductive SelectsOp (doc : Document) (opName : String) : Except OpError Definition → Prop
  | mustProvideName : opName = "" → 2 ≤ ((doc.defs.takeWhile isExecutable).filter isOperation).length →
      SelectsOp doc opName (.error .mustProvideName)
  | notExecutable : doc.defs.all isExecutable = false → SelectsOp doc opName (.error .notExecutable)
  | noOperation : opName = "" → doc.defs.all isExecutable = true → doc.defs.filter isOperation = [] →
      SelectsOp doc opName (.error .noOperation)
  | only {d} : opName = "" → doc.defs.all isExecutable = true → doc.defs.filter isOperation = [d] →
      SelectsOp doc opName (.ok d)
  | unknownOperation : opName ≠ "" → doc.defs.all isExecutable = true →
      doc.defs.filter (isOperationNamed opName) = [] → SelectsOp doc opName (.error .unknownOperation)
  | last {d} : opName ≠ "" → doc.defs.all isExecutable = true →
      (doc.defs.filter (isOperationNamed opName)).getLast? = some d → SelectsOp doc opName (.ok d)

theorem selectOperation_spec (doc : Document) (opName : String) : SelectsOp doc opName (selectOperation doc opName) := by
  by_cases hn : opName = ""
  · subst hn
    rw [selectOperation, selectOperation.go_unnamed,
      show seenOps doc.defs none = (doc.defs.takeWhile isExecutable).filter isOperation from rfl]
    by_cases h2 : 2 ≤ ((doc.defs.takeWhile isExecutable).filter isOperation).length
    · rw [if_pos h2]
      exact .mustProvideName rfl h2
    · rw [if_neg h2]
      cases ha : doc.defs.all isExecutable
      · exact .notExecutable ha
      · -- every definition is executable, so the loop saw all operations: none, one, or (excluded) more
        rw [takeWhile_all _ _ (List.all_eq_true.mp ha)] at h2 ⊢
        rcases hf : doc.defs.filter isOperation with _ | ⟨x, _ | ⟨y, r⟩⟩
        · exact .noOperation rfl ha hf
        · exact .only rfl ha hf
        · rw [hf] at h2
          exact absurd (Nat.le_add_left 2 r.length) h2
  · rw [selectOperation, selectOperation.go_named hn, Option.or_none]
    cases ha : doc.defs.all isExecutable
    · exact .notExecutable ha
    · cases hd : (doc.defs.filter (isOperationNamed opName)).getLast? with
      | none =>
        rw [show (if (opName != "") = true then OpError.unknownOperation else .noOperation) = .unknownOperation from
          if_pos (bne_iff_ne.2 hn)]
        exact .unknownOperation hn ha (List.getLast?_eq_none_iff.1 hd)
      | some d => exact .last hn ha hd

theorem selectOperation_mem {doc : Document} {opName : String} {d : Definition} (h : selectOperation doc opName = .ok d) :
    d ∈ doc.defs := by
  have hs := selectOperation_spec doc opName
  rw [h] at hs
  cases hs with
  | only _ _ hl => exact (List.mem_filter.1 (hl ▸ List.mem_singleton.2 rfl)).1
  | last _ _ hd => exact (List.mem_filter.1 (List.mem_of_getLast? hd)).1
end GqlModel.Exec
