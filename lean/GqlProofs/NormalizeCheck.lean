import GqlProofs.NormalizeRel
/-! C06 (normaliser): decidable checks that imply the schema-side premises of `normalized_transparent`
(`SchemaOK`, `customLti`), so that on a concrete schema they are discharged by `decide`. -/
namespace GqlModel.Normalize
open GqlModel.Coerce

/-- Bool version of `Reader.WFType` -/
def wfTypeB : TypeRef → Bool
  | .named n _ => Reader.isNameC n.toList
  | .list t _ => wfTypeB t
  | .nonNull t _ => wfTypeB t && (match t with | .nonNull _ _ => false | _ => true)

theorem wfType_of_check : ∀ t : TypeRef, wfTypeB t = true → Reader.WFType t
  | .named n _, h => by simpa [Reader.WFType, wfTypeB] using h
  | .list t _, h => by
    simp only [wfTypeB] at h
    simpa [Reader.WFType] using wfType_of_check t h
  | .nonNull t _, h => by
    simp only [wfTypeB, Bool.and_eq_true] at h
    refine ⟨wfType_of_check t h.1, ?_⟩
    cases t <;> simp_all

def fieldsOf : TypeDef → List FieldDefS
  | .object _ _ fs _ _ => fs
  | .interface _ fs _ _ => fs
  | _ => []

def argOKB (s : Schema) (d : ArgDef) : Bool := isInputType s d.type && wfTypeB (typeRefOf d.type)

def fieldOKB (s : Schema) (fd : FieldDefS) : Bool :=
  decide ((fd.args.map (·.name)).Nodup) && fd.args.all (argOKB s) && fd.name != "__schema" && fd.name != "__type"

/-- every field of every object / interface type: distinct argument names, well-formed input-typed arguments, not named
like an introspection entry point; and `String` is an input type (for `__type(name: String!)`) -/
def schemaOKB (s : Schema) : Bool :=
  s.types.all (fun td => (fieldsOf td).all (fieldOKB s)) && s.isInputTypeName "String"

theorem objectFields_mem (s : Schema) (P : String) (fd : FieldDefS) (h : fd ∈ s.objectFields P) :
    ∃ td ∈ s.types, fd ∈ fieldsOf td := by
  unfold Schema.objectFields at h
  cases hf : s.find? P with
  | none => simp [hf] at h
  | some td =>
    have hm : td ∈ s.types := List.mem_of_find?_eq_some hf
    cases td <;> simp [hf] at h
    · exact ⟨_, hm, h⟩
    · exact ⟨_, hm, h⟩

theorem schemaOK_of_check (s : Schema) (h : schemaOKB s = true) : SchemaOK s := by
  simp only [schemaOKB, Bool.and_eq_true, List.all_eq_true] at h
  obtain ⟨hall, hstr⟩ := h
  have hfield : ∀ P fd, fd ∈ s.objectFields P → fieldOKB s fd = true := by
    intro P fd hfd
    obtain ⟨td, htd, hm⟩ := objectFields_mem s P fd hfd
    exact hall td htd fd hm
  -- what the executor's lookup answers: `__typename`, or a declared field (which passed the check) under its own name
  have hdef : ∀ P nm fd, Exec.fieldDef? s P nm = some fd →
      ((nm = "__typename" ∧ fd.args = []) ∨ (fieldOKB s fd = true ∧ fd.name = nm)) := by
    intro P nm fd hfd
    rcases Exec.fieldDef?_cases hfd with ⟨hn, rfl⟩ | ⟨_, h⟩
    · exact Or.inl ⟨hn, rfl⟩
    · exact Or.inr ⟨hfield P fd (List.mem_of_find?_eq_some h), Exec.fieldDef?_name hfd⟩
  have hok : ∀ fd, fieldOKB s fd = true →
      (fd.args.map (·.name)).Nodup ∧ ∀ d ∈ fd.args, isInputType s d.type = true ∧ Reader.WFType (typeRefOf d.type) := by
    intro fd hfd
    simp only [fieldOKB, Bool.and_eq_true, decide_eq_true_eq, List.all_eq_true, argOKB] at hfd
    obtain ⟨⟨⟨hnodup, hargs⟩, _⟩, _⟩ := hfd
    exact ⟨hnodup, fun d hd => ⟨(hargs d hd).1, wfType_of_check _ (hargs d hd).2⟩⟩
  refine ⟨?_, ?_⟩
  · intro P nm fd hfd
    unfold fieldDefN at hfd
    split at hfd
    · cases Option.some.inj hfd
      exact ⟨List.nodup_nil, fun d hd => nomatch hd⟩
    · split at hfd
      · cases Option.some.inj hfd
        refine ⟨by simp, fun d hd => ?_⟩
        cases List.mem_singleton.mp hd
        refine ⟨by simpa [isInputType, GType.namedName] using hstr, ?_⟩
        simp only [typeRefOf, Reader.WFType]
        exact ⟨by decide, trivial⟩
      · rcases hdef P nm fd hfd with ⟨_, h0⟩ | ⟨h1, _⟩
        · rw [h0]; exact ⟨List.nodup_nil, fun d hd => nomatch hd⟩
        · exact hok fd h1
  · intro P nm fd hfd
    -- neither `__typename` nor a checked field is called `__schema` or `__type`
    have hne : (nm == "__schema") = false ∧ (nm == "__type") = false := by
      rcases hdef P nm fd hfd with ⟨rfl, _⟩ | ⟨h1, rfl⟩
      · exact ⟨by decide, by decide⟩
      · simp only [fieldOKB, Bool.and_eq_true, bne_iff_ne, ne_eq] at h1
        exact ⟨by simpa using h1.1.2, by simpa using h1.2⟩
    unfold fieldDefN
    simp only [hne.1, hne.2, Bool.false_and, Bool.false_eq_true, if_false]
    exact hfd

/-- no custom scalars: `customLti` holds vacuously -/
def noCustomScalarsB (s : Schema) : Bool :=
  s.types.all (fun td => match td with | .scalar _ (.custom _ _ _) _ => false | _ => true)

theorem customLti_of_check (s : Schema) (h : noCustomScalarsB s = true) : customLti s := by
  intro n n' sv pv pl d hf
  have hm := List.mem_of_find?_eq_some hf
  simp only [noCustomScalarsB, List.all_eq_true] at h
  have := h _ hm
  simp at this

end GqlModel.Normalize
