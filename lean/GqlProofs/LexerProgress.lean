import GqlProofs.LexerLoop
/-! Progress and termination: every lexeme of the spec scan has length ≥ 1 and stays inside the input (`token_bound`);
hence every successful `readToken` is EOF or moves the cursor forward, and the fuel `len(body)+1` never runs out. -/
namespace GqlModel.Lexer
open GqlModel.Lexer.Spec

/-- what `lex_progress` says about one call of `readToken` from byte offset `p` in a body of `n` bytes -/
def Progress (x : Except LexErr LTok) (p n : Nat) : Prop :=
  match x with
  | .ok t => (t.kind = .eof ∧ t.start = t.stop) ∨ (t.kind ≠ .eof ∧ p < t.stop ∧ t.stop ≤ n)
  | .error e => e.kind ≠ .fuel

@[simp] theorem Progress_ok (t : LTok) (p n : Nat) :
    Progress (.ok t) p n ↔ ((t.kind = .eof ∧ t.start = t.stop) ∨ (t.kind ≠ .eof ∧ p < t.stop ∧ t.stop ≤ n)) := Iff.rfl
@[simp] theorem Progress_error (e : LexErr) (p n : Nat) : Progress (.error e) p n ↔ e.kind ≠ .fuel := Iff.rfl

theorem readToken_progress (body : Bytes) (p : Nat) : Progress (readToken body p) p body.length := by
  obtain ⟨k, hle, -, hstep⟩ := readToken_spec body p
  match hd : (body.drop p).drop (ignoredLen false (body.drop p)) with
  | [] =>
    rw [hd] at hstep; simp only at hstep
    rw [hstep]; simp [makeToken]
  | c :: r =>
    rw [hd] at hstep; simp only at hstep
    have hlen : ignoredLen false (body.drop p) + (r.length + 1) = body.length - p := by
      have := congrArg List.length hd
      simp only [List.length_drop, List.length_cons] at this; omega
    have hb := token_bound c r
    match ht : token (c :: r) with
    | .ok (kind, len, v) =>
      rw [ht] at hstep hb; simp only [TokOk_ok, List.length_cons] at hstep hb
      rw [hstep]
      have hk : kind ≠ .eof := token_ne_eof ht
      simp only [Progress_ok, makeToken]
      right
      refine ⟨hk, ?_, ?_⟩ <;> split <;> omega
    | .error (o, ek) =>
      rw [ht] at hstep hb; simp only [TokOk_error] at hstep hb
      obtain ⟨q, hq, -⟩ := hstep
      rw [hq]; simpa using hb

theorem lexLoop_no_fuel (body : Bytes) : ∀ (f p : Nat), body.length - p < f →
    ∀ e, (lexLoop f body p).err = some e → e.kind ≠ .fuel := by
  intro f
  induction f with
  | zero => intro p h; omega
  | succ f ih =>
    intro p hf e he
    have hp := readToken_progress body p
    unfold lexLoop at he
    match hr : readToken body p with
    | .error e' =>
      rw [hr] at hp he; simp only [Progress_error] at hp
      simp only [Option.some.injEq] at he; subst he; exact hp
    | .ok t =>
      rw [hr] at hp he; simp only [Progress_ok] at hp
      rcases hp with ⟨hk, -⟩ | ⟨hk, h1, h2⟩
      · simp [hk] at he
      · simp only [hk, if_false] at he
        exact ih t.stop (by omega) e he

/-- the tokens of a finished scan: every token but the last is not EOF, the last one is -/
theorem lexLoop_shape (body : Bytes) : ∀ (f p : Nat),
    (∀ t ∈ (lexLoop f body p).tokens.dropLast, t.kind ≠ .eof) ∧
    ((lexLoop f body p).err = none → ∃ t, (lexLoop f body p).tokens.getLast? = some t ∧ t.kind = .eof) := by
  intro f
  induction f with
  | zero => intro p; simp [lexLoop]
  | succ f ih =>
    intro p
    unfold lexLoop
    match readToken body p with
    | .error e' => simp
    | .ok t =>
      simp only
      by_cases hk : t.kind = .eof
      · simp [hk]
      · simp only [hk, if_false]
        obtain ⟨h1, h2⟩ := ih t.stop
        constructor
        · intro t' ht'
          match hl : (lexLoop f body t.stop).tokens with
          | [] => rw [hl] at ht'; simp at ht'
          | x :: xs =>
            rw [hl, List.dropLast_cons_cons] at ht'
            rcases List.mem_cons.mp ht' with rfl | hm
            · exact hk
            · exact h1 t' (by rw [hl]; exact hm)
        · intro hnone
          obtain ⟨t', ht', hk'⟩ := h2 hnone
          refine ⟨t', ?_, hk'⟩
          match hl : (lexLoop f body t.stop).tokens with
          | [] => rw [hl] at ht'; simp at ht'
          | x :: xs => rw [hl] at ht'; simpa [List.getLast?_cons_cons] using ht'

end GqlModel.Lexer
