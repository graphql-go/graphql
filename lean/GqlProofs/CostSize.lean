import GqlProofs.Cost
/-! # C19: size lemmas — inline-fragment counts vs. all selection sets, the fragment table vs. the document,
the selected operation vs. the document -/
namespace GqlModel.Cost

mutual
theorem inlSel_le : ∀ s : Selection, inlSel s ≤ setsSel s
  | .field _ _ _ _ _ _ => Nat.zero_le _
  | .spread _ _ _ => Nat.zero_le _
  | .inline _ _ ss _ => by rw [inlSel, setsSel]; exact inlSet_le ss
theorem inlSet_le : ∀ ss : SelectionSet, 1 + inlSet ss ≤ setsSet ss
  | .mk sels _ => by rw [inlSet, setsSet]; exact Nat.add_le_add_left (inlSels_le sels) 1
theorem inlSels_le : ∀ sels : List Selection, inlSels sels ≤ setsSels sels
  | [] => Nat.le_refl _
  | s :: rest => by rw [inlSels, setsSels]; exact Nat.add_le_add (inlSel_le s) (inlSels_le rest)
end

theorem fragTable_sum_le (g : String × String × SelectionSet → Nat) (k : Definition → Nat)
    (hle : ∀ n tc dirs ss loc, g (n.value, tc.namedName, ss) ≤ k (.fragment n tc dirs ss loc)) (doc : Document) :
    ((fragTable doc).map g).sum ≤ (doc.defs.map k).sum := by
  rw [fragTable, List.map_reverse, List.sum_reverse]
  refine sum_map_filterMap_le fun d _ f hf => ?_
  cases d with
  | fragment n tc dirs ss loc => cases hf; exact hle n tc dirs ss loc
  | _ => cases hf

theorem fragsSize_le (doc : Document) : fragsSize (fragTable doc) ≤ fragSets doc.defs := by
  rw [fragsSize, potential_nil_eq]
  exact fragTable_sum_le fragWeight _ (fun _ _ _ ss _ => inlSet_le ss) doc

theorem selectOpLoop_sets (opName : String) : ∀ (defs : List Definition) (cur : Option (OpType × SelectionSet))
    (op : OpType) (ss : SelectionSet), selectOpLoop opName defs cur = .ok (some (op, ss)) →
    cur = some (op, ss) ∨ setsSet ss ≤ opSets defs
  | [], cur, op, ss, h => by cases h; exact Or.inl rfl
  | d :: rest, cur, op, ss, h => by
    have ih := selectOpLoop_sets opName rest
    cases d with
    | operation o name vars dirs s1 loc =>
      have hd : opSets (.operation o name vars dirs s1 loc :: rest) = setsSet s1 + opSets rest := rfl
      rw [hd]
      simp only [selectOpLoop] at h
      rcases ite_cases _ _ _ _ h with h | h
      · cases h
      · rcases ite_cases _ _ _ _ h with h | h
        · rcases ih _ op ss h with e | e
          · cases e; exact Or.inr (Nat.le_add_right _ _)
          · exact Or.inr (Nat.le_trans e (Nat.le_add_left _ _))
        · exact (ih cur op ss h).imp_right fun e => Nat.le_trans e (Nat.le_add_left _ _)
    | fragment n tc dirs s1 loc =>
      have hd : opSets (.fragment n tc dirs s1 loc :: rest) = opSets rest := Nat.zero_add _
      rw [hd]
      exact ih cur op ss h
    | _ => cases h

theorem selectOp_ok {s : Schema} {doc : Document} {opName root : String} {ss : SelectionSet}
    (h : selectOp s doc opName = .ok (root, ss)) :
    ∃ op, selectOpLoop opName doc.defs none = .ok (some (op, ss)) ∧ s.rootFor op.toString = some root := by
  unfold selectOp at h
  cases hl : selectOpLoop opName doc.defs none with
  | error e => rw [hl] at h; cases h
  | ok r =>
    rw [hl] at h
    cases r with
    | none => cases h
    | some q =>
      obtain ⟨op, ss'⟩ := q
      cases hr : s.rootFor op.toString with
      | none => simp only [hr] at h; cases h
      | some r => simp only [hr] at h; cases h; exact ⟨op, rfl, hr⟩

theorem selectOp_sets (s : Schema) (doc : Document) (opName : String) (root : String) (ss : SelectionSet)
    (h : selectOp s doc opName = .ok (root, ss)) : setsSet ss ≤ opSets doc.defs := by
  obtain ⟨op, hl, _⟩ := selectOp_ok h
  rcases selectOpLoop_sets opName doc.defs none op ss hl with h1 | h1
  · cases h1
  · exact h1

end GqlModel.Cost
