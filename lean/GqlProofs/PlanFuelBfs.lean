import GqlProofs.PlanFuelDfs
/-! # Fuel: the breadth-first pass pops one queue entry per map or list of the response

Potential of a queued address `p`: 1 (its own pop) + the number of maps and lists strictly below the response value at `p`. Visiting
the container at `p` queues children whose potentials add up to at most the second summand. -/
namespace GqlModel.Plan
open GqlModel.Exec GqlModel.Coerce

mutual
/-- the number of maps and lists in a response value -/
def jcont : JVal → Nat
  | .obj gs => jcontF gs + 1
  | .list js => jcontL js + 1
  | _ => 0
def jcontL : List JVal → Nat
  | [] => 0
  | x :: xs => jcont x + jcontL xs
def jcontF : List (String × JVal) → Nat
  | [] => 0
  | (_, x) :: xs => jcont x + jcontF xs
end

def lookG (g : JVal → Nat) (gs : List (String × JVal)) (k : String) : Nat :=
  match JVal.lookup gs k with
  | some x => g x
  | none => 0

def sumLook (g : JVal → Nat) (gs : List (String × JVal)) (ks : List String) : Nat := (ks.map (lookG g gs)).sum

def sumAll (g : JVal → Nat) (gs : List (String × JVal)) : Nat := (gs.map (fun p => g p.2)).sum

theorem sumLook_cons (g : JVal → Nat) (gs : List (String × JVal)) (k : String) (ks : List String) :
    sumLook g gs (k :: ks) = lookG g gs k + sumLook g gs ks := by
  simp [sumLook]

theorem jlookup_of_mem {gs : List (String × JVal)} (hnd : (gs.map (·.1)).Nodup) {k : String} {x : JVal} (h : (k, x) ∈ gs) :
    JVal.lookup gs k = some x := by
  rw [JVal.lookup, find_of_nodup_key (·.1) gs (k, x) hnd h]
  rfl

theorem sumLook_self (g : JVal → Nat) {gs : List (String × JVal)} (hnd : (gs.map (·.1)).Nodup) :
    sumLook g gs (gs.map (·.1)) = sumAll g gs := by
  unfold sumLook sumAll
  rw [List.map_map]
  congr 1
  apply List.map_congr_left
  intro p hp
  obtain ⟨k, x⟩ := p
  simp only [Function.comp, lookG, jlookup_of_mem hnd hp]

theorem jcontF_eq (gs : List (String × JVal)) : jcontF gs = sumAll jcont gs := by
  induction gs with
  | nil => rfl
  | cons y rest ih => obtain ⟨k, y⟩ := y; simp [jcontF, sumAll, ih] at *

def jcontO : Option JVal → Nat
  | some x => jcont x
  | none => 0

/-- the number of maps and lists strictly below -/
def kidsO : Option JVal → Nat
  | some (.obj gs) => jcontF gs
  | some (.list js) => jcontL js
  | _ => 0

def pot (j : JVal) (p : Path) : Nat := 1 + kidsO (JVal.getAt j p)

def potQ (j : JVal) (q : List Path) : Nat := (q.map (pot j)).sum

theorem potQ_append (j : JVal) (q1 q2 : List Path) : potQ j (q1 ++ q2) = potQ j q1 + potQ j q2 := by
  simp [potQ, List.sum_append]

theorem potQ_cons (j : JVal) (p : Path) (q : List Path) : potQ j (p :: q) = pot j p + potQ j q := by
  simp [potQ]

theorem range_sum_getElem? (f : Option JVal → Nat) : ∀ (js : List JVal),
    ((List.range js.length).map (fun i => f js[i]?)).sum = (js.map (fun x => f (some x))).sum
  | [] => by simp
  | x :: js => by
    rw [List.length_cons, List.range_succ_eq_map, List.map_cons, List.map_map, List.sum_cons, List.map_cons, List.sum_cons]
    have := range_sum_getElem? f js
    simp only [List.getElem?_cons_zero]
    congr 1

theorem jcontL_eq (js : List JVal) : jcontL js = (js.map (fun x => jcontO (some x))).sum := by
  induction js with
  | nil => rfl
  | cons x xs ih => simp [jcontL, jcontO, ih] at *

section
variable {c : Ctx} {pv : Option Vars} {rank : String → Nat} {F : Nat}

theorem pot_container {v : PVal} {j j' : JVal} {a : Path} (hsv : SV c pv rank F v j') (hc : v.isContainer = true)
    (hj : JVal.getAt j a = some j') : pot j a = jcontO (JVal.getAt j a) := by
  rw [pot, hj]
  cases hsv with
  | leaf _ => simp [PVal.isContainer] at hc
  | deferred _ => simp [PVal.isContainer] at hc
  | obj _ => simp only [kidsO, jcontO, jcont]; omega
  | list _ => simp only [kidsO, jcontO, jcont]; omega

theorem children_sum {root cont : PVal} {j : JVal} {p : Path} (hsv : SV c pv rank F root j) (hnd : NDv root)
    (hg : root.getAt p = some cont) :
    ((childSegs cont).map (fun seg => jcontO (JVal.getAt j (p ++ [seg])))).sum ≤ kidsO (JVal.getAt j p) := by
  obtain ⟨jp, hjp, hsvp⟩ := sv_getAt p hsv hg
  have hndp := ndv_getAt p hnd hg
  have hrw : ∀ seg, JVal.getAt j (p ++ [seg]) = JVal.getAt jp [seg] := by
    intro seg; rw [Exec.getAt_append, hjp]; rfl
  simp only [hrw, hjp]
  cases hsvp with
  | leaf _ => simp [childSegs]
  | deferred _ => simp [childSegs]
  | @obj fs gs hfs =>
    simp only [childSegs, List.map_map, kidsO]
    have hpt : ∀ k, ((fun seg => jcontO (JVal.getAt (JVal.obj gs) [seg])) ∘ PathSeg.key) k = lookG jcont gs k := by
      intro k
      simp only [Function.comp, JVal.getAt, lookG]
      cases JVal.lookup gs k with
      | none => simp [jcontO]
      | some x => simp [jcontO]
    rw [List.map_congr_left (fun k _ => hpt k)]
    have hkeys := svf_keys hfs
    have hnodup : (gs.map (·.1)).Nodup := by rw [← hkeys]; exact (ndv_obj.1 hndp).1
    have h1 : sumLook jcont gs (sortedKeys fs) = sumLook jcont gs (gs.map (·.1)) := by
      rw [← hkeys]; exact ((sortedKeys_perm fs).map _).sum_nat
    have h2 := sumLook_self jcont hnodup
    have h3 := jcontF_eq gs
    show sumLook jcont gs (sortedKeys fs) ≤ jcontF gs
    omega
  | @list xs js hxs =>
    simp only [childSegs, List.map_map, kidsO]
    have hpt : ∀ i, ((fun seg => jcontO (JVal.getAt (JVal.list js) [seg])) ∘ PathSeg.idx) i = jcontO js[i]? := by
      intro i
      simp only [Function.comp, JVal.getAt]
      cases js[i]? with
      | none => simp [jcontO]
      | some x => simp [jcontO]
    rw [List.map_congr_left (fun i _ => hpt i), svl_length hxs, range_sum_getElem? jcontO js, ← jcontL_eq]
    exact Nat.le_refl _

variable {frc : Closure → MSt → Res PVal × MSt}

theorem bfsEntries_nf (hf : FrcOK c pv rank F frc) (hn : FrcNF c pv rank F frc) (hfl : FrcFlat frc) (p : Path) (j : JVal) :
    ∀ (segs : List PathSeg) (root : PVal) (q : List Path) (mst : MSt), SV c pv rank F root j → NDv root →
    (bfsEntries frc p segs root q mst).1 ≠ .fuelOut ∧
    ∀ x, (bfsEntries frc p segs root q mst).1 = .ok x → SV c pv rank F x.1 j ∧ NDv x.1 ∧
      ∃ q2, x.2 = q ++ q2 ∧ potQ j q2 ≤ (segs.map (fun seg => jcontO (JVal.getAt j (p ++ [seg])))).sum
  | [], root, q, mst, h, hnd => by
    rw [bfsEntries_nil]
    exact ⟨nofun, yields_ok ⟨h, hnd, [], by simp, by simp [potQ]⟩⟩
  | seg :: rest, root, q, mst, h, hnd => by
    rw [bfsEntries_cons]
    simp only [List.map_cons, List.sum_cons]
    -- the rest of the entries, once the value `v` at this entry is known: a container is queued and paid for by its count
    have step : ∀ (v : PVal) (j' : JVal) (root' : PVal) (mst' : MSt), JVal.getAt j (p ++ [seg]) = some j' → SV c pv rank F v j' →
        SV c pv rank F root' j → NDv root' →
        (bfsEntries frc p rest root' (if v.isContainer then q ++ [p ++ [seg]] else q) mst').1 ≠ .fuelOut ∧
        ∀ x, (bfsEntries frc p rest root' (if v.isContainer then q ++ [p ++ [seg]] else q) mst').1 = .ok x →
          SV c pv rank F x.1 j ∧ NDv x.1 ∧ ∃ q2, x.2 = q ++ q2 ∧
            potQ j q2 ≤ jcontO (JVal.getAt j (p ++ [seg])) + (rest.map (fun seg => jcontO (JVal.getAt j (p ++ [seg])))).sum := by
      intro v j' root' mst' hj' hsv' h' hnd'
      have ih := bfsEntries_nf hf hn hfl p j rest root' (if v.isContainer then q ++ [p ++ [seg]] else q) mst' h' hnd'
      refine ⟨ih.1, fun x hx => ?_⟩
      obtain ⟨a1, a2, q3, a3, a4⟩ := ih.2 x hx
      refine ⟨a1, a2, ?_⟩
      by_cases hc : v.isContainer = true
      · simp only [hc, if_true] at a3
        refine ⟨[p ++ [seg]] ++ q3, by rw [a3]; simp, ?_⟩
        rw [potQ_append, potQ_cons, pot_container hsv' hc hj']
        simp only [potQ, List.map_nil, List.sum_nil] at a4 ⊢
        omega
      · simp only [hc, Bool.false_eq_true, if_false] at a3
        exact ⟨q3, a3, by omega⟩
    cases hg : root.getAt (p ++ [seg]) with
    | none =>
      simp only
      have ih := bfsEntries_nf hf hn hfl p j rest root q mst h hnd
      refine ⟨ih.1, fun x hx => ?_⟩
      obtain ⟨a1, a2, q3, a3, a4⟩ := ih.2 x hx
      exact ⟨a1, a2, q3, a3, by omega⟩
    | some v =>
      obtain ⟨j', hj', hsv'⟩ := sv_getAt _ h hg
      cases v with
      | leaf _ => exact step _ j' root mst hj' hsv' h hnd
      | list _ => exact step _ j' root mst hj' hsv' h hnd
      | obj _ => exact step _ j' root mst hj' hsv' h hnd
      | deferred cl =>
        simp only
        have hwit : Wit c pv rank F cl j' := by cases hsv' with | deferred hw => exact hw
        -- what the forced value is: it stands for whatever the closure stood for, with distinct keys
        have hQ : Yields (fun v => (∀ j'', SV c pv rank F (.deferred cl) j'' → SV c pv rank F v j'') ∧ NDv v) (frc cl mst) :=
          fun v hv => ⟨fun j'' hj'' => by
            cases hj'' with
            | deferred hw => have := (hf cl j'' mst hw).1; rw [hv] at this; exact this, (hfl cl mst v hv).1⟩
        refine ⟨andThen_ne_fuelOut (hn cl j' mst hwit) fun v s hz => ?_, hQ.andThen fun v s hv => ?_⟩
        · have hv := hQ v (by rw [hz])
          exact (step v j' _ s hj' (hv.1 j' hsv') (sv_setAt hv.1 _ h hg) (ndv_setAt _ hnd hv.2)).1
        · exact (step v j' _ s hj' (hv.1 j' hsv') (sv_setAt hv.1 _ h hg) (ndv_setAt _ hnd hv.2)).2

/-- **the breadth-first pass never runs out of fuel** when the fuel exceeds the potential of the queue -/
theorem bfsLoop_nf (hf : FrcOK c pv rank F frc) (hn : FrcNF c pv rank F frc) (hfl : FrcFlat frc) (j : JVal) :
    ∀ (n : Nat) (root : PVal) (q : List Path) (mst : MSt), SV c pv rank F root j → NDv root → potQ j q + 1 ≤ n →
    (bfsLoop frc n root q mst).1 ≠ .fuelOut
  | 0, root, q, mst, _, _, hb => by omega
  | n + 1, root, [], mst, _, _, _ => by rw [bfsLoop_nil]; nofun
  | n + 1, root, p :: q, mst, h, hnd, hb => by
    rw [bfsLoop_cons]
    rw [potQ_cons] at hb
    cases hg : root.getAt p with
    | none =>
      simp only
      exact bfsLoop_nf hf hn hfl j n root q mst h hnd (by simp only [pot] at hb; omega)
    | some cont =>
      simp only
      have he := bfsEntries_nf hf hn hfl p j (childSegs cont) root q mst h hnd
      have hs := children_sum h hnd hg
      refine andThen_ne_fuelOut he.1 fun x s hz => ?_
      obtain ⟨a1, a2, q2, a3, a4⟩ := he.2 x (by rw [hz])
      rw [a3]
      exact bfsLoop_nf hf hn hfl j n x.1 _ s a1 a2 (by rw [potQ_append]; simp only [pot] at hb; omega)

end

end GqlModel.Plan
