import GqlModel.TypeInfoBridge
import GqlProofs.TypeInfoStacks
/-! # Lemmas for the C14 bridge (Props/C14Bridge)

* `bridge_node / bridge_slots / bridge_elems`: the reference walk of C14 (`Visitor.visitNode` …) over `KNode.toNode`, driven
  by the TypeInfo-wrapping visitor `withTypeInfo`, is the structural walk `visitO` over `KNode.flat` — for every tracker,
  every option set, every keyed tree; ids are resolved through the preorder label list.
* `slotsBy_self`: a node that offers its children under the keys `walkChildKeys` lists for its kind gets exactly those
  children as slots, for every table that agrees with `walkChildKeys`; hence `docK_flat`: `(docK keys d).flat = docTree d`.
* `toNode_pre`: the ids of `n.toNode k` in preorder are `k, k+1, …` (distinct). -/
namespace GqlModel.TypeInfoStacks
open GqlModel.Visitor
variable {σ : Type}

theorem visitListO_append (T : Tracker) (o : Opts σ) : ∀ (a b : List TNode) (ti : TI) (st : σ),
    visitListO T o (a ++ b) ti st = visitListO T o b (visitListO T o a ti st).1 (visitListO T o a ti st).2
  | [], b, ti, st => by simp [visitListO]
  | n :: a, b, ti, st => by
    simp only [List.cons_append, visitListO]
    rcases visitO T o n ti st with ⟨ti1, st1⟩
    exact visitListO_append T o a b ti1 st1

section
variable (T : Tracker) (o : Opts σ) (lab : Nat → Label) (id : Nat) (c : Ctx) (k : String) (l : Loc) (v : NodeView)
  (h : lab id = ⟨k, l, v⟩) (ti : TI) (st : σ)
include h

/-- the callbacks of `withTypeInfo` at a node labelled `⟨k, l, v⟩`, through the total visitor as in `visitO_mk` -/
theorem withTypeInfo_enter :
    (withTypeInfo T lab o).enter (ti, st) id c =
      match o.total.enter st ⟨k, l, regs (T.enter ti v)⟩ with
      | (st1, true) => ((if T.leaveOnSkip then T.leave (T.enter ti v) v else T.enter ti v, st1), Act.skip)
      | (st1, false) => ((T.enter ti v, st1), Act.cont) := by
  simp only [withTypeInfo, h, Opts.total]
  cases getEnterFn o k with
  | none => rfl
  | some fn =>
    simp only []
    rcases fn st ⟨k, l, regs (T.enter ti v)⟩ with ⟨st1, b⟩
    cases b <;> rfl

theorem withTypeInfo_leave :
    (withTypeInfo T lab o).leave (ti, st) id c =
      ((if (getLeaveFn o k).isNone && T.leaveNeedsHandler then ti else T.leave ti v, o.total.leave st ⟨k, l, regs ti⟩),
        Act.cont) := by
  simp only [withTypeInfo, h, Opts.total]
  cases getLeaveFn o k <;> rfl

end

mutual
theorem bridge_node (T : Tracker) (o : Opts σ) (L : List Label) :
    ∀ (n : KNode) (A B : List Label) (c : Ctx) (ti : TI) (st : σ), L = A ++ n.labels ++ B →
      visitNode (withTypeInfo T (labOf L) o) (n.toNode A.length) c (ti, st) = (visitO T o n.flat ti st, false)
  | .mk k l v ss => by
    intro A B c ti st hL
    have hlab : labOf L A.length = ⟨k, l, v⟩ := by simp [hL, labOf, KNode.labels]
    have hss := fun pid path anc ti1 st1 => bridge_slots T o L ss (A ++ [⟨k, l, v⟩]) B pid path anc ti1 st1
      (by rw [hL]; simp only [KNode.labels, List.cons_append, List.append_assoc, List.nil_append])
    simp only [List.length_append, List.length_cons, List.length_nil, Nat.zero_add] at hss
    rw [KNode.toNode, KNode.flat, visitNode, visitO_mk, withTypeInfo_enter T o _ _ _ k l v hlab]
    rcases o.total.enter st ⟨k, l, regs (T.enter ti v)⟩ with ⟨st1, b⟩
    cases b with
    | true => rfl
    | false =>
      simp only [hss]
      rcases visitListO T o (KSlot.flatList ss) (T.enter ti v) st1 with ⟨ti2, st2⟩
      simp only [withTypeInfo_leave T o _ _ _ k l v hlab]
theorem bridge_slots (T : Tracker) (o : Opts σ) (L : List Label) :
    ∀ (ss : List KSlot) (A B : List Label) (pid : Nat) (path : List Key) (anc : List (Option Nat)) (ti : TI) (st : σ),
      L = A ++ KSlot.labelsList ss ++ B →
      visitSlots (withTypeInfo T (labOf L) o) pid path anc (KSlot.toSlots ss A.length) (ti, st) =
        (visitListO T o (KSlot.flatList ss) ti st, false)
  | [] => by simp [KSlot.toSlots, KSlot.flatList, visitSlots, visitListO]
  | .absent key :: r | .many key [] :: r => by
    intro A B pid path anc ti st hL
    simp only [KSlot.toSlots, KSlot.flatList, KNode.flatNodes, List.nil_append, visitSlots]
    exact bridge_slots T o L r A B pid path anc ti st hL
  | .one key n :: r => by
    intro A B pid path anc ti st hL
    have h1 := bridge_node T o L n A (KSlot.labelsList r ++ B) ⟨some (.name key), some pid, path ++ [.name key], anc⟩ ti st
      (by rw [hL]; simp only [KSlot.labelsList, List.append_assoc])
    simp only [KSlot.toSlots, KSlot.flatList, visitSlots, visitListO, h1]
    rcases visitO T o n.flat ti st with ⟨ti1, st1⟩
    have h2 := bridge_slots T o L r (A ++ n.labels) B pid path anc ti1 st1
      (by rw [hL]; simp only [KSlot.labelsList, List.append_assoc])
    rw [List.length_append] at h2
    exact h2
  | .many key (n :: ns) :: r => by
    intro A B pid path anc ti st hL
    have h1 := bridge_elems T o L (n :: ns) A (KSlot.labelsList r ++ B) (path ++ [.name key]) (anc ++ [some pid]) 0 ti st
      (by rw [hL]; simp only [KSlot.labelsList, List.append_assoc])
    simp only [KNode.toNodes] at h1
    simp only [KSlot.toSlots, KSlot.flatList, visitSlots, h1, visitListO_append]
    rcases visitListO T o (KNode.flatNodes (n :: ns)) ti st with ⟨ti1, st1⟩
    have h2 := bridge_slots T o L r (A ++ KNode.labelsNodes (n :: ns)) B pid path anc ti1 st1
      (by rw [hL]; simp only [KSlot.labelsList, List.append_assoc])
    rw [List.length_append, KNode.labelsNodes, List.length_append, ← Nat.add_assoc] at h2
    exact h2
theorem bridge_elems (T : Tracker) (o : Opts σ) (L : List Label) :
    ∀ (ns : List KNode) (A B : List Label) (path : List Key) (anc : List (Option Nat)) (i : Nat) (ti : TI) (st : σ),
      L = A ++ KNode.labelsNodes ns ++ B →
      visitElems (withTypeInfo T (labOf L) o) path anc (KNode.toNodes ns A.length) i (ti, st) =
        (visitListO T o (KNode.flatNodes ns) ti st, false)
  | [] => by simp [KNode.toNodes, KNode.flatNodes, visitElems, visitListO]
  | n :: ns => by
    intro A B path anc i ti st hL
    have h1 := bridge_node T o L n A (KNode.labelsNodes ns ++ B) ⟨some (.idx i), none, path ++ [.idx i], anc⟩ ti st
      (by rw [hL]; simp only [KNode.labelsNodes, List.append_assoc])
    simp only [KNode.toNodes, KNode.flatNodes, visitElems, visitListO, h1]
    rcases visitO T o n.flat ti st with ⟨ti1, st1⟩
    have h2 := bridge_elems T o L ns (A ++ n.labels) B path anc (i + 1) ti1 st1
      (by rw [hL]; simp only [KNode.labelsNodes, List.append_assoc])
    rw [List.length_append] at h2
    exact h2
end

theorem walk_withTypeInfo (T : Tracker) (o : Opts σ) (n : KNode) (ti : TI) (st : σ) :
    walk (withTypeInfo T (labOf n.labels) o) (n.toNode 0) (ti, st) = (visitO T o n.flat ti st, false) := by
  have := bridge_node T o n.labels n [] [] ⟨none, none, [], []⟩ ti st (by simp)
  simpa [walk] using this

theorem _root_.GqlModel.Tables.lookup_eq_lookup {α : Type} (tbl : List (String × α)) (k : String) :
    Tables.lookup tbl k = tbl.lookup k := by
  induction tbl with
  | nil => rfl
  | cons p t ih =>
    rw [List.lookup_cons, ← ih, Tables.lookup, Tables.lookup, List.find?_cons, BEq.comm (a := k)]
    cases p.1 == k <;> rfl

theorem flat_slotsBy_nil (keys : List (String × List String)) (kind : String) :
    KSlot.flatList (slotsBy keys kind []) = [] := by
  unfold slotsBy
  cases Tables.lookup keys kind with
  | none => rfl
  | some ks =>
    induction ks with
    | nil => rfl
    | cons k ks ih => simpa [pick, KSlot.flatList] using ih

theorem map_pick_self (cands : List KSlot) (h : (cands.map KSlot.key).Nodup) :
    (cands.map KSlot.key).map (pick cands) = cands := by
  rw [List.map_map]
  refine (List.map_congr_left fun c hc => ?_).trans (List.map_id cands)
  rw [Function.comp_apply, pick, find_of_nodup_key KSlot.key cands c h hc]
  rfl

theorem walkChildKeys_nodup : walkChildKeys.all (fun p => decide p.2.Nodup) = true := by decide +kernel

/-- a node that offers exactly the keys entry `i` of `walkChildKeys` lists for its kind, in that order, gets its
candidates as slots (the entry is named by its index so that it is found by `rfl`, without comparing strings; the kind is
fixed by the goal, so a wrong index makes `hi := rfl` fail) -/
theorem slotsBy_self {keys : List (String × List String)} (hK : KeysOK keys) {i : Nat} {kind : String} {ks : List String}
    (hi : walkChildKeys[i]? = some (kind, ks)) {cands : List KSlot} (hc : cands.map KSlot.key = ks) :
    slotsBy keys kind cands = cands := by
  have hm : (kind, ks) ∈ walkChildKeys := List.mem_of_getElem? hi
  have hl : Tables.lookup keys kind = some ks := by simpa using List.all_eq_true.mp hK _ hm
  have hn : ks.Nodup := by simpa using List.all_eq_true.mp walkChildKeys_nodup _ hm
  rw [slotsBy, hl, ← hc]
  exact map_pick_self cands (hc ▸ hn)

@[simp] theorem optOne_key (key : String) (o : Option KNode) : (optOne key o).key = key := by
  cases o <;> rfl

theorem flatList_optOne (key : String) (o : Option KNode) (r : List KSlot) :
    KSlot.flatList (optOne key o :: r) = (match o with | some n => [n.flat] | none => []) ++ KSlot.flatList r := by
  cases o <;> simp [optOne, KSlot.flatList]

theorem flatNodes_map {α : Type} (f : α → KNode) : ∀ (l : List α), KNode.flatNodes (l.map f) = l.map (fun x => (f x).flat)
  | [] => rfl
  | x :: l => by simp [KNode.flatNodes, flatNodes_map f l]

theorem nameK_flat {keys : List (String × List String)} (n : Name) : (nameK keys n).flat = nameTree n := by
  simp [nameK, nameTree, KNode.flat, flat_slotsBy_nil]

section
-- the switch hides that `valuesK_flat`, `optSetK_flat`, `selsK_flat` use `hK` only through the other members of their `mutual` blocks
set_option linter.unusedSectionVars false
variable {keys : List (String × List String)} (hK : KeysOK keys)
include hK
attribute [local simp] KNode.flat KSlot.flatList KNode.flatNodes flat_slotsBy_nil optOne flatNodes_map

theorem typeK_flat : ∀ (t : TypeRef), (typeK keys t).flat = typeTree t
  | .named _ lc => by
    rw [typeK, slotsBy_self hK (i := 20) rfl rfl]
    simp [typeTree]
  | .list t lc => by
    rw [typeK, slotsBy_self hK (i := 21) rfl rfl]
    simp [typeTree, typeK_flat t]
  | .nonNull t lc => by
    rw [typeK, slotsBy_self hK (i := 22) rfl rfl]
    simp [typeTree, typeK_flat t]

theorem variableK_flat (lc : Loc) : (variableK keys lc).flat = variableTree lc := by
  rw [variableK, slotsBy_self hK (i := 4) rfl rfl]
  simp [variableTree]

mutual
theorem valueK_flat : ∀ (v : Value), (valueK keys v).flat = valueTree v
  | .list vs lc => by
    rw [valueK, slotsBy_self hK (i := 16) rfl rfl]
    simp [valueTree, valuesK_flat vs]
  | .obj fs lc => by
    rw [valueK, slotsBy_self hK (i := 17) rfl rfl]
    simp [valueTree, objFieldsK_flat fs]
  | .var _ lc => by simp [valueK, valueTree, variableK_flat hK]
  | .int .. | .float .. | .str .. | .bool .. | .enum .. => by simp [valueK, valueTree]
theorem valuesK_flat : ∀ (vs : List Value), KNode.flatNodes (valuesK keys vs) = valuesTrees vs
  | [] => by simp [valuesK, valuesTrees]
  | v :: vs => by simp [valuesK, valuesTrees, valueK_flat v, valuesK_flat vs]
theorem objFieldsK_flat : ∀ (fs : List ObjField), KNode.flatNodes (objFieldsK keys fs) = objFieldsTrees fs
  | [] => by simp [objFieldsK, objFieldsTrees]
  | .mk nm v lc :: fs => by
    rw [objFieldsK, slotsBy_self hK (i := 18) rfl rfl]
    simp [objFieldsTrees, nameK_flat, valueK_flat v, objFieldsK_flat fs]
end

theorem argK_flat (a : Argument) : (argK keys a).flat = argTree a := by
  rw [argK, slotsBy_self hK (i := 7) rfl rfl]
  simp [argTree, nameK_flat, valueK_flat hK]

theorem dirK_flat (d : Directive) : (dirK keys d).flat = dirTree d := by
  rw [dirK, slotsBy_self hK (i := 19) rfl rfl]
  simp [dirTree, nameK_flat, argK_flat hK]

theorem varDefK_flat (v : VarDef) : (varDefK keys v).flat = varDefTree v := by
  rw [varDefK, slotsBy_self hK (i := 3) rfl (by cases v.type <;> cases v.default <;> rfl), slotsBy_self hK (i := 4) rfl rfl]
  cases ht : v.type <;> cases hd : v.default <;>
    simp [varDefTree, ht, hd, nameK_flat, typeK_flat hK, valueK_flat hK, optTypeTrees]

mutual
theorem selK_flat : ∀ (x : Selection), (selK keys x).flat = selTree x
  | .field al nm args dirs sel lc => by
    have hs := optSetK_flat sel
    rw [selK, slotsBy_self hK (i := 6) rfl (by cases al <;> cases sel <;> rfl)]
    cases al <;>
      simp [selTree, nameK_flat, optNameTrees, argK_flat hK,
        dirK_flat hK, hs]
  | .spread nm dirs lc => by
    rw [selK, slotsBy_self hK (i := 8) rfl rfl]
    simp [selTree, nameK_flat, dirK_flat hK]
  | .inline tc dirs ss lc => by
    rw [selK, slotsBy_self hK (i := 9) rfl (by cases tc <;> rfl)]
    cases tc <;>
      simp [selTree, typeK_flat hK, optTypeTrees, dirK_flat hK, setK_flat ss]
theorem setK_flat : ∀ (ss : SelectionSet), (setK keys ss).flat = setTree ss
  | .mk sels lc => by
    rw [setK, slotsBy_self hK (i := 5) rfl rfl]
    simp [setTree, selsK_flat sels]
theorem optSetK_flat : ∀ (o : Option SelectionSet), KSlot.flatList [optSetK keys o] = optSetTrees o
  | none => by simp [optSetK, optSetTrees]
  | some ss => by simp [optSetK, optSetTrees, setK_flat ss]
theorem selsK_flat : ∀ (xs : List Selection), KNode.flatNodes (selsK keys xs) = selsTrees xs
  | [] => by simp [selsK, selsTrees]
  | x :: xs => by simp [selsK, selsTrees, selK_flat x, selsK_flat xs]
end

theorem defK_flat (df : Definition) : (defK keys df).flat = defTree df := by
  cases df with
  | operation op nm vars dirs sel lc =>
    rw [defK, slotsBy_self hK (i := 2) rfl (by cases nm <;> rfl)]
    cases nm <;>
      simp [defTree, nameK_flat, optNameTrees, varDefK_flat hK,
        dirK_flat hK, setK_flat hK]
  | fragment nm tc dirs sel lc =>
    rw [defK, slotsBy_self hK (i := 10) rfl rfl]
    simp [defTree, nameK_flat, typeK_flat hK, dirK_flat hK, setK_flat hK]
  | _ => simp [defK, defTree]

theorem docK_flat (d : Document) : (docK keys d).flat = docTree d := by
  rw [docK, slotsBy_self hK (i := 1) rfl rfl]
  simp [docTree, defK_flat hK]

end

section
attribute [local simp] KNode.toNode KSlot.toSlots KNode.toNodes Node.pre Slot.preList Node.preList KNode.labels
  KSlot.labelsList KNode.labelsNodes

mutual
theorem toNode_pre : ∀ (n : KNode) (k : Nat), (n.toNode k).pre = List.range' k n.labels.length
  | .mk _ _ _ ss, k => by simp [toSlots_pre ss (k + 1), List.range'_succ]
theorem toSlots_pre : ∀ (ss : List KSlot) (k : Nat),
    Slot.preList (KSlot.toSlots ss k) = List.range' k (KSlot.labelsList ss).length
  | [], _ => by simp
  | .absent _ :: r, k | .many _ [] :: r, k => by simp [toSlots_pre r k]
  | .one _ n :: r, k => by simp [toNode_pre n k, toSlots_pre r (k + n.labels.length)]
  | .many _ (n :: ns) :: r, k => by
    simp [toNode_pre n k, toNodes_pre ns (k + n.labels.length),
      toSlots_pre r (k + (n.labels.length + (KNode.labelsNodes ns).length)), Nat.add_assoc]
theorem toNodes_pre : ∀ (ns : List KNode) (k : Nat),
    Node.preList (KNode.toNodes ns k) = List.range' k (KNode.labelsNodes ns).length
  | [], _ => by simp
  | n :: ns, k => by simp [toNode_pre n k, toNodes_pre ns (k + n.labels.length)]
end

end

end GqlModel.TypeInfoStacks
