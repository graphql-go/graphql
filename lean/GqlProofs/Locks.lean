import GqlModel.Locks
import GqlProofs.ListCount
/-! Lemmas for C07 (core Lean only): in a well-formed lock trace two accesses under the same mutex by different threads
are ordered by happens-before (`guarded_ordered`); the invariant `LInv` of the lock-protected lazy initialiser and the
invariant `CInv` of the lookup – compute – store protocol of `PlanCache.Get` hold after every schedule. -/
namespace GqlModel.Locks

theorem stepHolder_cases (m : Mu) (h : Option Tid) (e : Ev) :
    (∃ t, e = .lock t m ∧ stepHolder m h e = some t) ∨ (∃ t, e = .unlock t m ∧ stepHolder m h e = none) ∨
      stepHolder m h e = h := by
  cases e with
  | lock t m' =>
    by_cases hm : m' = m
    · subst hm; exact .inl ⟨t, rfl, if_pos rfl⟩
    · exact .inr (.inr (if_neg hm))
  | unlock t m' =>
    by_cases hm : m' = m
    · subst hm; exact .inr (.inl ⟨t, rfl, if_pos rfl⟩)
    · exact .inr (.inr (if_neg hm))
  | _ => exact .inr (.inr rfl)

theorem released_between (tr : Trace) (p : Nat) (wf : WF tr p) (m : Mu) (t : Tid) (i : Nat)
    (hi : holderAt tr m i = some t) :
    ∀ j, i ≤ j → holderAt tr m j ≠ some t → ∃ k, i ≤ k ∧ k < j ∧ tr[k]? = some (.unlock t m) := by
  intro j
  induction j with
  | zero => intro hij hne; cases Nat.le_zero.1 hij; exact absurd hi hne
  | succ j ih =>
    intro hij hne
    rcases Nat.lt_or_ge j i with hlt | hij'
    · cases Nat.le_antisymm hij hlt; exact absurd hi hne
    by_cases hj : holderAt tr m j = some t
    · -- the step at j changed the holder: it is an unlock by the holder
      cases hev : tr[j]? with
      | none => simp only [holderAt, hev] at hne; exact absurd hj hne
      | some e =>
        simp only [holderAt, hev] at hne
        rcases stepHolder_cases m (holderAt tr m j) e with ⟨t', rfl, _⟩ | ⟨t', rfl, _⟩ | h
        · cases (wf.lock_free j t' m hev).symm.trans hj
        · cases (wf.unlock_held j t' m hev).symm.trans hj
          exact ⟨j, hij', Nat.lt_succ_self j, hev⟩
        · exact absurd (h.trans hj) hne
    · obtain ⟨k, h1, h2, h3⟩ := ih hij' hj
      exact ⟨k, h1, Nat.lt_succ_of_lt h2, h3⟩

theorem locked_after_unlock (tr : Trace) (m : Mu) (t : Tid) :
    ∀ j, holderAt tr m j = some t → ∀ k, k < j → (∃ t', tr[k]? = some (.unlock t' m)) →
      ∃ k', k < k' ∧ k' < j ∧ tr[k']? = some (.lock t m) := by
  intro j
  induction j with
  | zero => intro _ k hk; exact absurd hk (Nat.not_lt_zero k)
  | succ j ih =>
    intro hj k hk ⟨t', hun⟩
    rcases Nat.lt_or_ge k j with hkj | hge
    · have recur : holderAt tr m j = some t → ∃ k', k < k' ∧ k' < j + 1 ∧ tr[k']? = some (.lock t m) := fun hh =>
        have ⟨k', h1, h2, h3⟩ := ih hh k hkj ⟨t', hun⟩
        ⟨k', h1, Nat.lt_succ_of_lt h2, h3⟩
      cases hev : tr[j]? with
      | none => simp only [holderAt, hev] at hj; exact recur hj
      | some e =>
        simp only [holderAt, hev] at hj
        rcases stepHolder_cases m (holderAt tr m j) e with ⟨t'', rfl, h⟩ | ⟨t'', rfl, h⟩ | h
        · cases h.symm.trans hj
          exact ⟨j, hkj, Nat.lt_succ_self j, hev⟩
        · cases h.symm.trans hj
        · exact recur (h.symm.trans hj)
    · -- `k = j`: right after an unlock nobody holds `m`
      cases Nat.le_antisymm (Nat.le_of_lt_succ hk) hge
      simp only [holderAt, hun] at hj
      cases (if_pos rfl : stepHolder m _ (.unlock t' m) = none).symm.trans hj

theorem acc_not_lock {e : Ev} {x : Loc} {w a : Bool} (h : e.acc = some (x, w, a)) (t : Tid) (m : Mu) : e ≠ .lock t m := by
  intro he; subst he; simp [Ev.acc] at h

theorem guarded_ordered (tr : Trace) (p : Nat) (wf : WF tr p) (m : Mu) (i j : Nat) (e₁ e₂ : Ev)
    (hij : i < j) (h1 : tr[i]? = some e₁) (h2 : tr[j]? = some e₂)
    {x₁ : Loc} {w₁ a₁ : Bool} (ha1 : e₁.acc = some (x₁, w₁, a₁))
    (hh1 : holderAt tr m i = some e₁.tid) (hh2 : holderAt tr m j = some e₂.tid) (hne : e₁.tid ≠ e₂.tid) :
    HB tr i j := by
  have hne' : holderAt tr m j ≠ some e₁.tid := by rw [hh2]; intro h; exact hne (Option.some.inj h).symm
  rcases released_between tr p wf m e₁.tid i hh1 j (Nat.le_of_lt hij) hne' with ⟨k, hik, hkj, hk⟩
  have hik' : i < k := Nat.lt_of_le_of_ne hik fun h => by
    subst h; rw [h1] at hk; rw [Option.some.inj hk] at ha1; cases ha1
  rcases locked_after_unlock tr m e₂.tid j hh2 k hkj ⟨_, hk⟩ with ⟨k', hkk', hk'j, hk'⟩
  exact .trans (.trans (.po hik' h1 hk rfl) (.sync hkk' hk hk')) (.po hk'j hk' h2 rfl)

section
variable {κ V : Type} [DecidableEq κ]

structure LInv (key : Tid → κ) (init : κ → V) (s : LState κ V) : Prop where
  cell_init : ∀ k v, s.cell k = some v → v = init k
  out_init : ∀ t v, s.out t = some v → v = init (key t)
  seen_init : ∀ t v, s.seen t = some v → v = init (key t)
  done_out : ∀ t, 3 ≤ s.pc t → s.out t = some (init (key t))
  crit_holds : ∀ t, 1 ≤ s.pc t → s.pc t ≤ 3 → s.mu = some t
  done_cell : ∀ t, 3 ≤ s.pc t → s.cell (key t) = some (init (key t))
  seen_fresh : ∀ t, s.pc t = 2 → s.seen t = s.cell (key t)

omit [DecidableEq κ] in
theorem LInv.initial (key : Tid → κ) (init : κ → V) : LInv key init (LState.init : LState κ V) :=
  ⟨nofun, nofun, nofun, nofun, nofun, nofun, nofun⟩

theorem upd_same {α : Type} (f : Tid → α) (t : Tid) (a : α) : upd f t a t = a := by simp [upd]
theorem upd_other {α : Type} (f : Tid → α) {t t' : Tid} (a : α) (h : t' ≠ t) : upd f t a t' = f t' := by simp [upd, h]

variable (key : Tid → κ) (init : κ → V)

/-- what `LInv` says of one thread `t` with program counter `pc` and locals `seen`, `out`, given the lock holder and
the table -/
structure LInv.Local (mu : Option Tid) (cell : κ → Option V) (t : Tid) (pc : Nat) (seen out : Option V) : Prop where
  out_init : ∀ v, out = some v → v = init (key t)
  seen_init : ∀ v, seen = some v → v = init (key t)
  done_out : 3 ≤ pc → out = some (init (key t))
  crit_holds : 1 ≤ pc → pc ≤ 3 → mu = some t
  done_cell : 3 ≤ pc → cell (key t) = some (init (key t))
  seen_fresh : pc = 2 → seen = cell (key t)

omit [DecidableEq κ] in
theorem LInv.iff_local (s : LState κ V) :
    LInv key init s ↔ (∀ k v, s.cell k = some v → v = init k) ∧
      ∀ t, LInv.Local key init s.mu s.cell t (s.pc t) (s.seen t) (s.out t) :=
  ⟨fun h => ⟨h.cell_init, fun t =>
    ⟨h.out_init t, h.seen_init t, h.done_out t, h.crit_holds t, h.done_cell t, h.seen_fresh t⟩⟩,
   fun h => ⟨h.1, fun t => (h.2 t).out_init, fun t => (h.2 t).seen_init, fun t => (h.2 t).done_out,
     fun t => (h.2 t).crit_holds, fun t => (h.2 t).done_cell, fun t => (h.2 t).seen_fresh⟩⟩

theorem LInv.step (s : LState κ V) (t : Tid) (inv : LInv key init s) :
    LInv key init (lstep key init s t) := by
  obtain ⟨hc, hl⟩ := (LInv.iff_local key init s).1 inv
  have ht := hl t
  -- a thread between Lock and Unlock holds the mutex: nobody does while it is free, nobody else while `t` holds it
  have alone : s.mu = some t → ∀ t', t' ≠ t → 1 ≤ s.pc t' → s.pc t' ≤ 3 → False := fun hmu t' e h1 h3 =>
    e (Option.some.inj (hmu.symm.trans ((hl t').crit_holds h1 h3))).symm
  rw [LInv.iff_local]
  unfold lstep
  split
  next h0 =>
    split
    next hmu =>
      -- pc 0: lock
      refine ⟨hc, fun t' => ?_⟩
      by_cases e : t' = t
      · subst e
        simp only [upd_same]
        exact ⟨ht.out_init, ht.seen_init, fun h => absurd h (by decide), fun _ _ => rfl,
          fun h => absurd h (by decide), fun h => absurd h (by decide)⟩
      · simp only [upd_other _ _ e]
        exact { hl t' with crit_holds := fun h1 h3 => nomatch hmu.symm.trans ((hl t').crit_holds h1 h3) }
    next => exact ⟨hc, hl⟩
  next h1 =>
    -- pc 1: lookup into the local
    refine ⟨hc, fun t' => ?_⟩
    by_cases e : t' = t
    · subst e
      simp only [upd_same]
      exact ⟨ht.out_init, hc _, fun h => absurd h (by decide), fun _ _ => ht.crit_holds (by omega) (by omega),
        fun h => absurd h (by decide), fun _ => rfl⟩
    · simpa only [upd_other _ _ e] using hl t'
  next h2 =>
    have hmu : s.mu = some t := ht.crit_holds (by omega) (by omega)
    split
    next v hseen =>
      -- pc 2, hit: the value seen is the one in the table
      have hv : v = init (key t) := ht.seen_init v hseen
      refine ⟨hc, fun t' => ?_⟩
      by_cases e : t' = t
      · subst e
        simp only [upd_same]
        exact ⟨fun _ h => Option.some.inj h ▸ hv, ht.seen_init, fun _ => hv ▸ rfl, fun _ _ => hmu,
          fun _ => by rw [← ht.seen_fresh h2, hseen, hv], fun h => absurd h (by decide)⟩
      · simpa only [upd_other _ _ e] using hl t'
    next hseen =>
      -- pc 2, miss: store `init (key t)`
      refine ⟨fun k v h => ?_, fun t' => ?_⟩
      · by_cases ek : k = key t
        · exact ek ▸ (Option.some.inj ((if_pos ek).symm.trans h)).symm
        · exact hc k v ((if_neg ek).symm.trans h)
      by_cases e : t' = t
      · subst e
        simp only [upd_same]
        exact ⟨fun _ h => (Option.some.inj h).symm, ht.seen_init, fun _ => rfl, fun _ _ => hmu,
          fun _ => if_pos rfl, fun h => absurd h (by decide)⟩
      · simp only [upd_other _ _ e]
        exact { hl t' with
          done_cell := fun h => by
            by_cases ek : key t' = key t
            · exact (if_pos ek).trans (ek ▸ rfl)
            · exact (if_neg ek).trans ((hl t').done_cell h)
          seen_fresh := fun h => (alone hmu t' e (by omega) (by omega)).elim }
  next h3 =>
    -- pc 3: unlock
    have hmu : s.mu = some t := ht.crit_holds (by omega) (by omega)
    refine ⟨hc, fun t' => ?_⟩
    by_cases e : t' = t
    · subst e
      simp only [upd_same]
      exact ⟨ht.out_init, ht.seen_init, fun _ => ht.done_out (by omega), fun _ h => absurd h (by decide),
        fun _ => ht.done_cell (by omega), fun h => absurd h (by decide)⟩
    · simp only [upd_other _ _ e]
      exact { hl t' with crit_holds := fun h1 h3' => (alone hmu t' e h1 h3').elim }
  next => exact ⟨hc, hl⟩

theorem LInv.run (sched : List Tid) : LInv key init (lrun key init sched) :=
  foldl_preserves _ _ (LInv.step key init) sched _ (LInv.initial key init)

end

section
variable {κ V : Type} [DecidableEq κ]

structure CInv (key : Tid → κ) (init : κ → V) (s : CState κ V) : Prop where
  cell_init : ∀ k v, s.cell k = some v → v = init k
  out_init : ∀ t v, s.out t = some v → v = init (key t)
  loc_set : ∀ t, 3 ≤ s.pc t → s.pc t ≤ 4 → s.loc t = some (init (key t))
  done_out : ∀ t, s.pc t = 5 → s.out t = some (init (key t))
  crit_holds : ∀ t, s.pc t = 1 ∨ s.pc t = 4 → s.mu = some t

omit [DecidableEq κ] in
theorem CInv.initial (key : Tid → κ) (init : κ → V) : CInv key init (CState.init : CState κ V) :=
  ⟨nofun, nofun, nofun, nofun, nofun⟩

variable (key : Tid → κ) (init : κ → V)

/-- what `CInv` says of one thread `t` with program counter `pc` and locals `loc`, `out`, given the lock holder -/
structure CInv.Local (mu : Option Tid) (t : Tid) (pc : Nat) (loc out : Option V) : Prop where
  out_init : ∀ v, out = some v → v = init (key t)
  loc_set : 3 ≤ pc → pc ≤ 4 → loc = some (init (key t))
  done_out : pc = 5 → out = some (init (key t))
  crit_holds : pc = 1 ∨ pc = 4 → mu = some t

omit [DecidableEq κ] in
theorem CInv.iff_local (s : CState κ V) :
    CInv key init s ↔ (∀ k v, s.cell k = some v → v = init k) ∧
      ∀ t, CInv.Local key init s.mu t (s.pc t) (s.loc t) (s.out t) :=
  ⟨fun h => ⟨h.cell_init, fun t => ⟨h.out_init t, h.loc_set t, h.done_out t, h.crit_holds t⟩⟩,
   fun h => ⟨h.1, fun t => (h.2 t).out_init, fun t => (h.2 t).loc_set, fun t => (h.2 t).done_out,
     fun t => (h.2 t).crit_holds⟩⟩

theorem CInv.step (s : CState κ V) (t : Tid) (inv : CInv key init s) :
    CInv key init (cstep key init s t) := by
  obtain ⟨hc, hl⟩ := (CInv.iff_local key init s).1 inv
  have ht := hl t
  -- a thread inside `lookup` or `store` holds the mutex: nobody does while it is free, nobody else while `t` holds it
  have nobody : s.mu = none → ∀ t', s.pc t' = 1 ∨ s.pc t' = 4 → False := fun hmu t' h =>
    nomatch hmu.symm.trans ((hl t').crit_holds h)
  have alone : s.mu = some t → ∀ t', t' ≠ t → s.pc t' = 1 ∨ s.pc t' = 4 → False := fun hmu t' e h =>
    e (Option.some.inj (hmu.symm.trans ((hl t').crit_holds h))).symm
  rw [CInv.iff_local]
  unfold cstep
  split
  next h0 =>
    split
    next hmu =>
      -- pc 0: lock for the lookup
      refine ⟨hc, fun t' => ?_⟩
      by_cases e : t' = t
      · subst e
        simp only [upd_same]
        exact ⟨ht.out_init, fun h => absurd h (by decide), fun h => absurd h (by decide), fun _ => rfl⟩
      · simp only [upd_other _ _ e]
        exact { hl t' with crit_holds := fun h => (nobody hmu t' h).elim }
    next => exact ⟨hc, hl⟩
  next h1 =>
    have hmu : s.mu = some t := ht.crit_holds (.inl h1)
    split
    next v hv =>
      -- pc 1, hit: return the entry, unlock
      have hvi : v = init (key t) := hc _ v hv
      refine ⟨hc, fun t' => ?_⟩
      by_cases e : t' = t
      · subst e
        simp only [upd_same]
        exact ⟨fun _ h => Option.some.inj h ▸ hvi, fun _ h => absurd h (by decide), fun _ => hvi ▸ rfl,
          fun h => absurd h (by decide)⟩
      · simp only [upd_other _ _ e]
        exact { hl t' with crit_holds := fun h => (alone hmu t' e h).elim }
    next hnone =>
      -- pc 1, miss: unlock
      refine ⟨hc, fun t' => ?_⟩
      by_cases e : t' = t
      · subst e
        simp only [upd_same]
        exact ⟨ht.out_init, fun h => absurd h (by decide), fun h => absurd h (by decide),
          fun h => absurd h (by decide)⟩
      · simp only [upd_other _ _ e]
        exact { hl t' with crit_holds := fun h => (alone hmu t' e h).elim }
  next h2 =>
    -- pc 2: compute without the lock
    refine ⟨hc, fun t' => ?_⟩
    by_cases e : t' = t
    · subst e
      simp only [upd_same]
      exact ⟨ht.out_init, fun _ _ => rfl, fun h => absurd h (by decide), fun h => absurd h (by decide)⟩
    · simpa only [upd_other _ _ e] using hl t'
  next h3 =>
    split
    next hmu =>
      -- pc 3: lock for the store
      refine ⟨hc, fun t' => ?_⟩
      by_cases e : t' = t
      · subst e
        simp only [upd_same]
        exact ⟨ht.out_init, fun _ _ => ht.loc_set (by omega) (by omega), fun h => absurd h (by decide), fun _ => rfl⟩
      · simp only [upd_other _ _ e]
        exact { hl t' with crit_holds := fun h => (nobody hmu t' h).elim }
    next => exact ⟨hc, hl⟩
  next h4 =>
    -- pc 4: store what was computed, unlock
    have hmu : s.mu = some t := ht.crit_holds (.inr h4)
    have hloc : s.loc t = some (init (key t)) := ht.loc_set (by omega) (by omega)
    refine ⟨fun k v h => ?_, fun t' => ?_⟩
    · by_cases ek : k = key t
      · exact ek ▸ (Option.some.inj (hloc.symm.trans ((if_pos ek).symm.trans h))).symm
      · exact hc k v ((if_neg ek).symm.trans h)
    by_cases e : t' = t
    · subst e
      simp only [upd_same]
      exact ⟨fun _ h => (Option.some.inj (hloc.symm.trans h)).symm, fun _ h => absurd h (by decide), fun _ => hloc,
        fun h => absurd h (by decide)⟩
    · simp only [upd_other _ _ e]
      exact { hl t' with crit_holds := fun h => (alone hmu t' e h).elim }
  next => exact ⟨hc, hl⟩

theorem CInv.run (sched : List Tid) : CInv key init (crun key init sched) :=
  foldl_preserves _ _ (CInv.step key init) sched _ (CInv.initial key init)

end

end GqlModel.Locks
