import GqlProofs.CoerceNum
/-! C05: `embed`, the literal form of a conformant value: written as a literal it evaluates (`valueFromAST`) to what the
value coerces to (`coerceValue`) — `embedStep_fromAST`, `embedF_fromAST`, for `literal_variable_agree`; and conformant
values are strictly typed and valid. -/
namespace GqlModel.Coerce

/-- scalars: the literal form reads back as the value parses -/
theorem scalar_embed (k : ScalarKind) (v : JVal)
    (hc : ∀ sv pv pl, k = .custom sv pv pl →
      (∀ i, tableLookup pl (.int i) = tableLookup pv (.int i)) ∧
      (∀ x, tableLookup pl (.str x) = tableLookup pv (.str x)) ∧
      (∀ b, tableLookup pl (.bool b) = tableLookup pv (.bool b)))
    (h : conformScalar k v = true) :
    ∃ l, embedScalar k v = some l ∧ parseLiteral k l = parseValue k v ∧ isVarLit l = false ∧ isListLit l = false := by
  -- one case per line of `conformScalar` (`h_11`: its catch-all `false`); the literal is `embedScalar`'s, by computation
  unfold conformScalar at h
  split at h
  case h_11 => cases h
  all_goals refine ⟨_, rfl, ?_, rfl, rfl⟩
  · simp [parseLiteral, parseValue, coerceInt, intString, intOfChars_intChars, h]
  · simp [parseLiteral, parseValue, coerceFloat, intString, parseFloatLit_intChars]
  · simp only [Bool.and_eq_true, decide_eq_true_eq] at h
    simp [parseLiteral, parseValue, coerceFloat, parseFloatLit_decChars _ _ h.1 h.2]
  · rfl
  · rfl
  · rfl
  · rfl
  · simp [parseLiteral, parseValue, litWire, intString, intOfChars_intChars, (hc _ _ _ rfl).1]
  · simp [parseLiteral, parseValue, litWire, (hc _ _ _ rfl).2.1]
  · simp [parseLiteral, parseValue, litWire, (hc _ _ _ rfl).2.2]

/-- the condition of `customCoherent` at one type name (`customCoherent s` is `∀ n, customOK s n` spelt out) -/
def customOK (s : Schema) (n : String) : Prop :=
  ∀ n' sv pv pl d, s.find? n = some (.scalar n' (.custom sv pv pl) d) →
    (∀ i, tableLookup pl (.int i) = tableLookup pv (.int i)) ∧
    (∀ x, tableLookup pl (.str x) = tableLookup pv (.str x)) ∧
    (∀ b, tableLookup pl (.bool b) = tableLookup pv (.bool b))

theorem litLookup_embed (fields : List InputFieldS) (g : InputFieldS → Option Value)
    (hnd : (fields.map (·.name)).Nodup) (f : InputFieldS) (hf : f ∈ fields) :
    litLookup (fields.filterMap (fun f => (g f).map (fun l => ObjField.mk ⟨f.name, Loc.none⟩ l Loc.none))) f.name = g f := by
  rw [litLookup_eq_find?, findLast_filterMap_of_nodup_key (·.name) (fun b : ObjField => b.name.value) _
    (fun a b h => by obtain ⟨l, _, rfl⟩ := Option.map_eq_some_iff.mp h; rfl) hnd hf]
  cases g f <;> rfl

/-- the literal form of a conformant value evaluates to what the value coerces to; carried along: a non-null
conformant value has a literal form, which is no variable and is a list literal only for lists -/
theorem embedStep_fromAST (s : Schema) (vars : Vars) (hwf : inputFieldsNodup s) (hc : customCoherent s)
    (selfK : GType → JVal → Bool) (selfE : GType → JVal → Option Value)
    (selfA : GType → Option Value → JVal) (selfC : GType → JVal → JVal)
    (ih : ∀ t v, selfK t v = true → selfA t (selfE t v) = selfC t v) :
    ∀ t v, conformStep s selfK t v = true →
      fromASTStep s vars selfA t (embedStep s selfE t v) = coerceStep s selfC t v ∧
      (v.isNull = false →
        ∃ l, embedStep s selfE t v = some l ∧ isVarLit l = false ∧ (isListLit l = true → isListVal v = true)) := by
  intro t
  induction t with
  | nonNull t iht =>
    intro v hk
    simp only [conformStep, Bool.and_eq_true, Bool.not_eq_true'] at hk
    obtain ⟨h1, h2⟩ := iht v hk.2
    obtain ⟨l, hl, hnv, _⟩ := h2 hk.1
    refine ⟨?_, fun _ => by simpa only [embedStep] using h2 hk.1⟩
    simp only [embedStep, coerceStep, hk.1, Bool.false_eq_true, if_false]
    rw [hl, fromASTStep_nonNull_some _ _ _ _ _ hnv, ← hl]
    exact h1
  | list t iht =>
    intro v hk
    cases v with
    | null => exact ⟨by simp [embedStep, fromASTStep, coerceStep], fun hv => by simp [JVal.isNull] at hv⟩
    | list xs =>
      simp only [conformStep, List.all_eq_true, Bool.and_eq_true, Bool.not_eq_true'] at hk
      refine ⟨?_, fun _ =>
        ⟨.list (xs.filterMap (embedStep s selfE t)) Loc.none, by simp only [embedStep], rfl, fun _ => rfl⟩⟩
      simp only [embedStep, fromASTStep, coerceStep]
      congr 1
      apply filterMap_map_eq
      intro x hx
      obtain ⟨h1, h2⟩ := iht x (hk x hx).2
      obtain ⟨l, hl, _, _⟩ := h2 (hk x hx).1
      exact ⟨l, hl, by rw [← hl]; exact h1⟩
    | _ =>
      simp only [conformStep] at hk
      obtain ⟨h1, h2⟩ := iht _ hk
      obtain ⟨l, hl, hnv, hnl⟩ := h2 rfl
      have hnl' : isListLit l = false := by
        cases h : isListLit l
        · rfl
        · have := hnl h; simp [isListVal] at this
      refine ⟨?_, fun _ => ⟨l, by simpa only [embedStep] using hl, hnv, fun h => by rw [hnl'] at h; cases h⟩⟩
      simp only [embedStep, coerceStep]
      rw [hl, fromASTStep_list_one _ _ _ _ _ hnv hnl', ← hl, h1]
  | named n =>
    intro v hk
    by_cases hv : v.isNull = true
    · refine ⟨?_, fun h => by rw [hv] at h; cases h⟩
      cases v <;> simp_all [JVal.isNull, embedStep, fromASTStep, coerceStep]
    · have hv' : v.isNull = false := by simpa using hv
      simp only [conformStep, embedStep, coerceStep, hv', Bool.false_eq_true, if_false] at hk ⊢
      cases hf : s.find? n with
      | none => simp [hf] at hk
      | some td =>
        cases td with
        | scalar nm k d =>
          simp only [hf] at hk ⊢
          obtain ⟨l, h1, h2, h3, h4⟩ := scalar_embed k v (fun sv pv pl hkk => hc n nm sv pv pl d (hkk ▸ hf)) hk
          refine ⟨?_, fun _ => ⟨l, h1, h3, fun h => by rw [h4] at h; cases h⟩⟩
          rw [h1]
          cases l <;> simp_all [fromASTStep, isVarLit]
        | enum nm vals d =>
          simp only [hf] at hk ⊢
          cases v <;> simp_all [fromASTStep, enumParseLiteral, enumParseValue, isVarLit, isListLit]
        | inputObject nm fields d =>
          simp only [hf] at hk ⊢
          cases v with
          | obj kv =>
            simp only [Bool.and_eq_true, List.all_eq_true] at hk
            refine ⟨?_, fun _ => ⟨_, rfl, rfl, fun h => by simp [isListLit] at h⟩⟩
            simp only [fromASTStep, hf]
            congr 2
            apply filterMap_congr'
            intro f hfm
            rw [litLookup_embed fields (fun f => selfE f.type (lookupD kv f.name)) (hwf n nm fields d hf) f hfm]
            rw [ih _ _ (hk.2 f hfm)]
          | _ => simp at hk
        | _ => simp [hf] at hk

/-! ## depth of the literal form, fuel induction -/

theorem litDepthList_filterMap_le (e : JVal → Option Value) (xs : List JVal)
    (h : ∀ x ∈ xs, optLitDepth (e x) ≤ odepth x) : litDepthList (xs.filterMap e) ≤ odepthList xs := by
  refine litDepthList_le_iff.mpr fun l hl => ?_
  obtain ⟨x, hx, he⟩ := List.mem_filterMap.mp hl
  have := h x hx
  rw [he] at this
  exact Nat.le_trans this (odepth_mem_list hx)

theorem litDepthFields_filterMap_le (g : InputFieldS → Option Value) (fields : List InputFieldS) (D : Nat)
    (h : ∀ f ∈ fields, optLitDepth (g f) ≤ D) :
    litDepthFields (fields.filterMap (fun f => (g f).map (fun l => ObjField.mk ⟨f.name, Loc.none⟩ l Loc.none))) ≤ D := by
  refine litDepthFields_le_iff.mpr fun f' hf' => ?_
  obtain ⟨f, hf, he⟩ := List.mem_filterMap.mp hf'
  obtain ⟨l, hl, rfl⟩ := Option.map_eq_some_iff.mp he
  have := h f hf
  rwa [hl] at this

theorem embedScalar_depth (k : ScalarKind) (v : JVal) : optLitDepth (embedScalar k v) = 0 := by
  cases k <;> cases v <;> simp [embedScalar, optLitDepth, litDepth]

theorem embedStep_depth (s : Schema) (selfE : GType → JVal → Option Value)
    (h : ∀ t v, optLitDepth (selfE t v) ≤ odepth v) :
    ∀ t v, optLitDepth (embedStep s selfE t v) ≤ odepth v := by
  intro t
  induction t with
  | nonNull t ih => intro v; simpa only [embedStep] using ih v
  | list t ih =>
    intro v
    cases v with
    | null => simp [embedStep, optLitDepth]
    | list xs =>
      simp only [embedStep, optLitDepth, litDepth, odepth]
      exact litDepthList_filterMap_le _ xs (fun x _ => ih x)
    | _ => simpa only [embedStep] using ih _
  | named n =>
    intro v
    simp only [embedStep]
    split
    · simp [optLitDepth]
    · cases hf : s.find? n with
      | none => simp [optLitDepth]
      | some td =>
        cases td with
        | scalar nm k d => simp [embedScalar_depth]
        | enum nm vals d => cases v <;> simp [optLitDepth, litDepth]
        | inputObject nm fields d =>
          cases v with
          | obj kv =>
            simp only [optLitDepth, litDepth, odepth]
            apply Nat.succ_le_succ
            exact litDepthFields_filterMap_le _ fields _
              (fun f _ => Nat.le_trans (h f.type (lookupD kv f.name)) (odepth_lookupD kv f.name))
          | _ => simp [optLitDepth]
        | _ => simp [optLitDepth]

theorem embedF_depth (s : Schema) : ∀ (n : Nat) (t : GType) (v : JVal), optLitDepth (embedF s n t v) ≤ odepth v := by
  intro n
  induction n with
  | zero => intro t v; simp [embedF, iter, optLitDepth]
  | succ n ih => intro t v; exact embedStep_depth s _ ih t v

theorem embedF_fromAST (s : Schema) (vars : Vars) (hwf : inputFieldsNodup s) (hc : customCoherent s) :
    ∀ (n : Nat) (t : GType) (v : JVal), conformantF s n t v = true →
      valueFromASTF s vars n t (embedF s n t v) = coerceValueF s n t v := by
  intro n
  induction n with
  | zero => intro t v h; simp [conformantF, iter] at h
  | succ n ih => intro t v h; exact (embedStep_fromAST s vars hwf hc _ _ _ _ ih t v h).1

/-! ## conformant values are strictly typed and valid -/

theorem conformScalar_strict_valid (k : ScalarKind) (v : JVal) (h : conformScalar k v = true) :
    strictScalar k v = true ∧ (parseValue k v).isNull = false := by
  unfold conformScalar at h
  split at h
  -- `h_n`: the n-th line of `conformScalar`; 11 is the catch-all `false`, 1 is `(.int, .int i)`, 8–10 the custom scalar
  case h_11 => cases h
  case h_1 i => exact ⟨rfl, by simp [parseValue, coerceInt, h, JVal.isNull]⟩
  case h_8 => exact ⟨rfl, by simpa [parseValue] using h⟩
  case h_9 => exact ⟨rfl, by simpa [parseValue] using h⟩
  case h_10 => exact ⟨rfl, by simpa [parseValue] using h⟩
  all_goals exact ⟨rfl, rfl⟩

theorem enum_name_valid (vals : List EnumValueS) (x : String) (h : vals.any (fun ev => ev.name == x) = true) :
    (enumParseValue vals (.str x)).isNull = false := by
  rw [enumParseValue, enumByName_isNull, Option.isNone_eq_false_iff, List.find?_isSome]
  exact List.any_eq_true.mp h

theorem conform_strict_valid_step (s : Schema) (selfK selfT selfV : GType → JVal → Bool)
    (ih : ∀ t v, selfK t v = true → selfT t v = true ∧ selfV t v = true) :
    ∀ t v, conformStep s selfK t v = true → strictStep s selfT t v = true ∧ validStep s selfV t v = true := by
  intro t
  induction t with
  | nonNull t iht =>
    intro v hk
    simp only [conformStep, Bool.and_eq_true, Bool.not_eq_true'] at hk
    simp only [strictStep, validStep, hk.1, Bool.false_eq_true, if_false]
    exact iht v hk.2
  | list t iht =>
    intro v hk
    cases v with
    | null => simp [strictStep, validStep]
    | list xs =>
      simp only [conformStep, List.all_eq_true, Bool.and_eq_true] at hk
      simp only [strictStep, validStep, List.all_eq_true]
      exact ⟨fun x hx => (iht x (hk x hx).2).1, fun x hx => (iht x (hk x hx).2).2⟩
    | _ =>
      simp only [conformStep] at hk
      simpa only [strictStep, validStep] using iht _ hk
  | named n =>
    intro v hk
    by_cases hv : v.isNull = true
    · simp [strictStep, validStep, hv]
    · simp only [conformStep, strictStep, validStep, hv, Bool.false_eq_true, if_false] at hk ⊢
      cases hf : s.find? n with
      | none => simp [hf] at hk
      | some td =>
        cases td with
        | scalar nm k d =>
          simp only [hf] at hk ⊢
          have := conformScalar_strict_valid k v hk
          simp [this.1, this.2]
        | enum nm vals d =>
          simp only [hf] at hk ⊢
          cases v <;> simp_all
          rename_i x
          exact enum_name_valid vals x (by simpa using hk)
        | inputObject nm fields d =>
          simp only [hf] at hk ⊢
          cases v with
          | obj kv =>
            simp only [Bool.and_eq_true, List.all_eq_true] at hk ⊢
            exact ⟨fun f hfm => (ih _ _ (hk.2 f hfm)).1, hk.1, fun f hfm => (ih _ _ (hk.2 f hfm)).2⟩
          | _ => simp at hk
        | _ => simp [hf] at hk

theorem conformant_strict_valid (s : Schema) (t : GType) (v : JVal) (h : conformant s t v = true) :
    strictlyTyped s v t = true ∧ isValidInputValue s t v = true := by
  have : ∀ (n : Nat) (t : GType) (v : JVal), conformantF s n t v = true →
      strictlyTypedF s n t v = true ∧ isValidInputValueF s n t v = true := by
    intro n
    induction n with
    | zero => intro t v h; simp [conformantF, iter] at h
    | succ n ih => intro t v h; exact conform_strict_valid_step s _ _ _ ih t v h
  exact this _ t v h

end GqlModel.Coerce
