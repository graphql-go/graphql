import GqlModel.Grammar
/-! Big-step semantics `Run` of the generic EBNF interpreter `Grammar.run` (C03, `recognise_iff_derives`):
`Run g ts o` — on the tokens `ts` the right-hand side `g` fails (`o = no`) or matches leaving `r` (`o = rest r`).
`run` with enough fuel computes exactly `Run` (`run_sound`, `run_complete`); hence `Run` is deterministic.  `Out` is the
result type `R` of `run` without `fuel`, which a relation has no use for. -/
namespace GqlModel.Grammar

inductive Out
  | no
  | rest (ts : List Token)

def Out.toR : Out → R
  | .no => .no
  | .rest r => .rest r

inductive Run : G → List Token → Out → Prop
  | tok_ok {k t r} : t.kind = k → Run (.tok k) (t :: r) (.rest r)
  | tok_no {k t r} : t.kind ≠ k → Run (.tok k) (t :: r) .no
  | tok_nil {k} : Run (.tok k) [] .no
  | kw_ok {s t r} : (t.kind = .name ∧ t.value = s) → Run (.kw s) (t :: r) (.rest r)
  | kw_no {s t r} : ¬ (t.kind = .name ∧ t.value = s) → Run (.kw s) (t :: r) .no
  | kw_nil {s} : Run (.kw s) [] .no
  | nb_ok {ex t r} : (t.kind = .name ∧ ¬ t.value ∈ ex) → Run (.nameBut ex) (t :: r) (.rest r)
  | nb_no {ex t r} : ¬ (t.kind = .name ∧ ¬ t.value ∈ ex) → Run (.nameBut ex) (t :: r) .no
  | nb_nil {ex} : Run (.nameBut ex) [] .no
  | eps {ts} : Run .eps ts (.rest ts)
  | seq_ok {a b ts r o} : Run a ts (.rest r) → Run b r o → Run (.seq a b) ts o
  | seq_no {a b ts} : Run a ts .no → Run (.seq a b) ts .no
  | alt_l {a b ts r} : Run a ts (.rest r) → Run (.alt a b) ts (.rest r)
  | alt_r {a b ts o} : Run a ts .no → Run b ts o → Run (.alt a b) ts o
  | opt_some {a ts r} : Run a ts (.rest r) → Run (.opt a) ts (.rest r)
  | opt_none {a ts} : Run a ts .no → Run (.opt a) ts (.rest ts)
  | star_done {a ts} : Run a ts .no → Run (.star a) ts (.rest ts)
  | star_more {a ts r o} : Run a ts (.rest r) → r.length < ts.length → Run (.star a) r o → Run (.star a) ts o
  | star_stuck {a ts r} : Run a ts (.rest r) → ¬ r.length < ts.length → Run (.star a) ts (.rest r)
  | optIf_yes {c a ts o} : c.holds ts = true → Run a ts o → Run (.optIf c a) ts o
  | optIf_no {c a ts} : c.holds ts = false → Run (.optIf c a) ts (.rest ts)
  | starIf_done {c a ts} : c.holds ts = false → Run (.starIf c a) ts (.rest ts)
  | starIf_no {c a ts} : c.holds ts = true → Run a ts .no → Run (.starIf c a) ts .no
  | starIf_more {c a ts r o} : c.holds ts = true → Run a ts (.rest r) → r.length < ts.length → Run (.starIf c a) r o →
      Run (.starIf c a) ts o
  | starIf_stuck {c a ts r} : c.holds ts = true → Run a ts (.rest r) → ¬ r.length < ts.length → Run (.starIf c a) ts (.rest r)
  | nt {x ts o} : Run (rule x) ts o → Run (.nt x) ts o

theorem run_sound : ∀ (n : Nat) (g : G) (ts : List Token) (o : Out), run n g ts = o.toR → Run g ts o := by
  intro n
  induction n with
  | zero => intro g ts o h; cases o <;> simp [run, Out.toR] at h
  | succ n ih =>
    intro g ts o h
    cases g with
    | tok k =>
      cases ts with
      | nil => cases o <;> simp [run, Out.toR] at h; exact .tok_nil
      | cons t r =>
        simp only [run] at h
        split at h
        · cases o <;> simp [Out.toR] at h; subst h; exact .tok_ok ‹_›
        · cases o <;> simp [Out.toR] at h; exact .tok_no ‹_›
    | kw s =>
      cases ts with
      | nil => cases o <;> simp [run, Out.toR] at h; exact .kw_nil
      | cons t r =>
        simp only [run] at h
        split at h
        · cases o <;> simp [Out.toR] at h; subst h; exact .kw_ok ‹_›
        · cases o <;> simp [Out.toR] at h; exact .kw_no ‹_›
    | nameBut ex =>
      cases ts with
      | nil => cases o <;> simp [run, Out.toR] at h; exact .nb_nil
      | cons t r =>
        simp only [run] at h
        split at h
        · cases o <;> simp [Out.toR] at h; subst h; exact .nb_ok ‹_›
        · cases o <;> simp [Out.toR] at h; exact .nb_no ‹_›
    | eps => cases o <;> simp [run, Out.toR] at h; subst h; exact .eps
    | seq a b =>
      simp only [run] at h
      cases ha : run n a ts with
      | fuel => simp [ha] at h; cases o <;> simp [Out.toR] at h
      | no => simp [ha] at h; cases o <;> simp [Out.toR] at h; exact .seq_no (ih a ts .no ha)
      | rest r => simp [ha] at h; exact .seq_ok (ih a ts (.rest r) ha) (ih b r o h)
    | alt a b =>
      simp only [run] at h
      cases ha : run n a ts with
      | fuel => simp [ha] at h; cases o <;> simp [Out.toR] at h
      | no => simp [ha] at h; exact .alt_r (ih a ts .no ha) (ih b ts o h)
      | rest r => simp [ha] at h; cases o <;> simp [Out.toR] at h; subst h; exact .alt_l (ih a ts (.rest r) ha)
    | opt a =>
      simp only [run] at h
      cases ha : run n a ts with
      | fuel => simp [ha] at h; cases o <;> simp [Out.toR] at h
      | no => simp [ha] at h; cases o <;> simp [Out.toR] at h; subst h; exact .opt_none (ih a ts .no ha)
      | rest r => simp [ha] at h; cases o <;> simp [Out.toR] at h; subst h; exact .opt_some (ih a ts (.rest r) ha)
    | star a =>
      simp only [run] at h
      cases ha : run n a ts with
      | fuel => simp [ha] at h; cases o <;> simp [Out.toR] at h
      | no => simp [ha] at h; cases o <;> simp [Out.toR] at h; subst h; exact .star_done (ih a ts .no ha)
      | rest r =>
        simp only [ha] at h
        split at h
        · exact .star_more (ih a ts (.rest r) ha) ‹_› (ih (.star a) r o h)
        · cases o <;> simp [Out.toR] at h; subst h; exact .star_stuck (ih a ts (.rest r) ha) ‹_›
    | optIf c a =>
      simp only [run] at h
      split at h
      · exact .optIf_yes ‹_› (ih a ts o h)
      · cases o <;> simp [Out.toR] at h; subst h; exact .optIf_no (Bool.eq_false_iff.mpr ‹¬ _›)
    | starIf c a =>
      simp only [run] at h
      split at h
      · rename_i hc
        cases ha : run n a ts with
        | fuel => simp [ha] at h; cases o <;> simp [Out.toR] at h
        | no => simp [ha] at h; cases o <;> simp [Out.toR] at h; exact .starIf_no hc (ih a ts .no ha)
        | rest r =>
          simp only [ha] at h
          split at h
          · exact .starIf_more hc (ih a ts (.rest r) ha) ‹_› (ih (.starIf c a) r o h)
          · cases o <;> simp [Out.toR] at h; subst h; exact .starIf_stuck hc (ih a ts (.rest r) ha) ‹_›
      · cases o <;> simp [Out.toR] at h; subst h; exact .starIf_done (Bool.eq_false_iff.mpr ‹¬ _›)
    | nt x => simp only [run] at h; exact .nt (ih (rule x) ts o h)

theorem run_complete {g : G} {ts : List Token} {o : Out} (h : Run g ts o) : ∃ N, ∀ n, N ≤ n → run n g ts = o.toR := by
  have leaf : ∀ {g : G} {ts : List Token} {o : Out}, (∀ m, run (m + 1) g ts = o.toR) → ∃ N, ∀ n, N ≤ n → run n g ts = o.toR :=
    fun h => ⟨1, fun n hn => by obtain ⟨m, rfl⟩ : ∃ m, n = m + 1 := ⟨n - 1, by omega⟩; exact h m⟩
  induction h with
  | tok_ok hk | tok_no hk | kw_ok hk => exact leaf fun _ => by simp [run, hk, Out.toR]
  | kw_no hk | nb_no hk => exact leaf fun _ => by simp only [run, if_neg hk, Out.toR]
  | nb_ok hk => exact leaf fun _ => by simp only [run, if_pos hk, Out.toR]
  | tok_nil | kw_nil | nb_nil | eps => exact leaf fun _ => by simp [run, Out.toR]
  | seq_ok _ _ iha ihb =>
    obtain ⟨Na, ha⟩ := iha; obtain ⟨Nb, hb⟩ := ihb
    refine ⟨max Na Nb + 1, fun n hn => ?_⟩
    obtain ⟨m, rfl⟩ : ∃ m, n = m + 1 := ⟨n - 1, by omega⟩
    simp only [run, ha m (by omega), Out.toR, hb m (by omega)]
  | seq_no _ iha =>
    obtain ⟨Na, ha⟩ := iha
    refine ⟨Na + 1, fun n hn => ?_⟩
    obtain ⟨m, rfl⟩ : ∃ m, n = m + 1 := ⟨n - 1, by omega⟩
    simp only [run, ha m (by omega), Out.toR]
  | alt_l _ iha =>
    obtain ⟨Na, ha⟩ := iha
    refine ⟨Na + 1, fun n hn => ?_⟩
    obtain ⟨m, rfl⟩ : ∃ m, n = m + 1 := ⟨n - 1, by omega⟩
    simp only [run, ha m (by omega), Out.toR]
  | alt_r _ _ iha ihb =>
    obtain ⟨Na, ha⟩ := iha; obtain ⟨Nb, hb⟩ := ihb
    refine ⟨max Na Nb + 1, fun n hn => ?_⟩
    obtain ⟨m, rfl⟩ : ∃ m, n = m + 1 := ⟨n - 1, by omega⟩
    simp only [run, ha m (by omega), Out.toR, hb m (by omega)]
  | opt_some _ iha =>
    obtain ⟨Na, ha⟩ := iha
    refine ⟨Na + 1, fun n hn => ?_⟩
    obtain ⟨m, rfl⟩ : ∃ m, n = m + 1 := ⟨n - 1, by omega⟩
    simp only [run, ha m (by omega), Out.toR]
  | opt_none _ iha =>
    obtain ⟨Na, ha⟩ := iha
    refine ⟨Na + 1, fun n hn => ?_⟩
    obtain ⟨m, rfl⟩ : ∃ m, n = m + 1 := ⟨n - 1, by omega⟩
    simp only [run, ha m (by omega), Out.toR]
  | star_done _ iha =>
    obtain ⟨Na, ha⟩ := iha
    refine ⟨Na + 1, fun n hn => ?_⟩
    obtain ⟨m, rfl⟩ : ∃ m, n = m + 1 := ⟨n - 1, by omega⟩
    simp only [run, ha m (by omega), Out.toR]
  | star_more _ hlt _ iha ihb =>
    obtain ⟨Na, ha⟩ := iha; obtain ⟨Nb, hb⟩ := ihb
    refine ⟨max Na Nb + 1, fun n hn => ?_⟩
    obtain ⟨m, rfl⟩ : ∃ m, n = m + 1 := ⟨n - 1, by omega⟩
    simp only [run, ha m (by omega), Out.toR, if_pos hlt, hb m (by omega)]
  | star_stuck _ hlt iha =>
    obtain ⟨Na, ha⟩ := iha
    refine ⟨Na + 1, fun n hn => ?_⟩
    obtain ⟨m, rfl⟩ : ∃ m, n = m + 1 := ⟨n - 1, by omega⟩
    simp only [run, ha m (by omega), Out.toR, if_neg hlt]
  | optIf_yes hc _ iha =>
    obtain ⟨Na, ha⟩ := iha
    refine ⟨Na + 1, fun n hn => ?_⟩
    obtain ⟨m, rfl⟩ : ∃ m, n = m + 1 := ⟨n - 1, by omega⟩
    simp only [run, hc, if_true, ha m (by omega)]
  | optIf_no hc =>
    refine ⟨1, fun n hn => ?_⟩
    obtain ⟨m, rfl⟩ : ∃ m, n = m + 1 := ⟨n - 1, by omega⟩
    simp [run, hc, Out.toR]
  | starIf_done hc =>
    refine ⟨1, fun n hn => ?_⟩
    obtain ⟨m, rfl⟩ : ∃ m, n = m + 1 := ⟨n - 1, by omega⟩
    simp [run, hc, Out.toR]
  | starIf_no hc _ iha =>
    obtain ⟨Na, ha⟩ := iha
    refine ⟨Na + 1, fun n hn => ?_⟩
    obtain ⟨m, rfl⟩ : ∃ m, n = m + 1 := ⟨n - 1, by omega⟩
    simp only [run, hc, if_true, ha m (by omega), Out.toR]
  | starIf_more hc _ hlt _ iha ihb =>
    obtain ⟨Na, ha⟩ := iha; obtain ⟨Nb, hb⟩ := ihb
    refine ⟨max Na Nb + 1, fun n hn => ?_⟩
    obtain ⟨m, rfl⟩ : ∃ m, n = m + 1 := ⟨n - 1, by omega⟩
    simp only [run, hc, if_true, ha m (by omega), Out.toR, if_pos hlt, hb m (by omega)]
  | starIf_stuck hc _ hlt iha =>
    obtain ⟨Na, ha⟩ := iha
    refine ⟨Na + 1, fun n hn => ?_⟩
    obtain ⟨m, rfl⟩ : ∃ m, n = m + 1 := ⟨n - 1, by omega⟩
    simp only [run, hc, if_true, ha m (by omega), Out.toR, if_neg hlt]
  | nt _ ih =>
    obtain ⟨N, h⟩ := ih
    refine ⟨N + 1, fun n hn => ?_⟩
    obtain ⟨m, rfl⟩ : ∃ m, n = m + 1 := ⟨n - 1, by omega⟩
    simp only [run, h m (by omega)]

theorem Run.le {g : G} {ts : List Token} {o : Out} (h : Run g ts o) : ∀ r, o = .rest r → r.length ≤ ts.length := by
  induction h with
  | tok_ok _ => intro r h; cases h; simp
  | kw_ok _ => intro r h; cases h; simp
  | nb_ok _ => intro r h; cases h; simp
  | eps => intro r h; cases h; exact Nat.le_refl _
  | seq_ok _ _ iha ihb => intro r h; exact Nat.le_trans (ihb r h) (iha _ rfl)
  | alt_l _ iha => intro r h; exact iha r h
  | alt_r _ _ _ ihb => intro r h; exact ihb r h
  | opt_some _ iha => intro r h; exact iha r h
  | opt_none _ _ => intro r h; cases h; exact Nat.le_refl _
  | star_done _ _ => intro r h; cases h; exact Nat.le_refl _
  | star_more _ hlt _ _ ihb => intro r h; exact Nat.le_trans (ihb r h) (Nat.le_of_lt hlt)
  | star_stuck _ _ iha => intro r h; exact iha r h
  | optIf_yes _ _ iha => intro r h; exact iha r h
  | optIf_no _ => intro r h; cases h; exact Nat.le_refl _
  | starIf_done _ => intro r h; cases h; exact Nat.le_refl _
  | starIf_more _ _ hlt _ _ ihb => intro r h; exact Nat.le_trans (ihb r h) (Nat.le_of_lt hlt)
  | starIf_stuck _ _ _ iha => intro r h; exact iha r h
  | nt _ ih => intro r h; exact ih r h
  | _ => intro r h; cases h

theorem Out.toR_inj {a b : Out} (h : a.toR = b.toR) : a = b := by
  cases a <;> cases b <;> simp [Out.toR] at h <;> simp [h]

theorem Run.det {g : G} {ts : List Token} {o o' : Out} (h : Run g ts o) (h' : Run g ts o') : o = o' := by
  obtain ⟨N, hN⟩ := run_complete h
  obtain ⟨N', hN'⟩ := run_complete h'
  have a := hN (max N N') (by omega)
  have b := hN' (max N N') (by omega)
  exact Out.toR_inj (a.symm.trans b)

theorem recogniseToks_iff_run {toks : List Token} {b : Bool} (h : recogniseToks toks = some b) :
    b = true ↔ Run (.nt .document) toks (.rest []) := by
  unfold recogniseToks at h
  cases hr : run (recogniseFuel toks) (.nt .document) toks with
  | fuel => simp [hr] at h
  | no =>
    simp only [hr, Option.some.injEq] at h
    subst h
    exact ⟨Bool.noConfusion, fun hD => Out.noConfusion (Run.det hD (run_sound _ _ _ .no hr))⟩
  | rest r =>
    simp only [hr, Option.some.injEq] at h
    subst h
    have hR := run_sound _ _ _ (.rest r) hr
    rw [List.isEmpty_iff]
    exact ⟨fun e => e ▸ hR, fun hD => by cases Run.det hD hR; rfl⟩

end GqlModel.Grammar
