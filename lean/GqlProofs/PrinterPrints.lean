import GqlProofs.PrinterLexK
import GqlProofs.PrinterTokNF
import GqlProofs.PrinterNumberText
import GqlProofs.PrinterQuoteText
/-! `Prints is ts`: the item list `is` is a faithful way of writing the token sequence `ts` — its tokens are `ts`, and it
satisfies `LexK` before every continuation that starts with a delimiter (`G`; `PrintsA`: before any continuation, `A`).
The combinators establish the invariant and compute the token sequence at once, so each printer function gets one
statement `Prints (xI x) (xT x)`.  Under `LexK` every token text is a lexeme, hence not empty: a list that renders to
nothing holds no token (`lexK_solid`), which is what `join` and `wrap` need when they drop empty strings. -/
namespace GqlModel.RoundTrip
open GqlModel.Printer GqlModel.Reader

/-- `StartsDelim` without the empty case -/
def SD1 (cs : Chars) : Prop :=
  match cs with
  | [] => False
  | c :: _ => isDelimChar c = true

instance (cs : Chars) : Decidable (StartsDelim cs) := by cases cs <;> simp only [StartsDelim] <;> infer_instance
instance (cs : Chars) : Decidable (SD1 cs) := by cases cs <;> simp only [SD1] <;> infer_instance

theorem sd1_append {a : Chars} (h : SD1 a) (b : Chars) : SD1 (a ++ b) := by
  cases a with
  | nil => exact absurd h id
  | cons c r => exact h

theorem sd_of_sd1 {a : Chars} (h : SD1 a) : StartsDelim a := by
  cases a with
  | nil => trivial
  | cons c r => exact h

theorem sd_append {a b : Chars} (ha : StartsDelim a) (hb : StartsDelim b) : StartsDelim (a ++ b) := by
  cases a with
  | nil => exact hb
  | cons c r => exact ha

theorem sd_nil : StartsDelim [] := trivial

theorem lexK_append : ∀ (a b : List Item) (rest : Chars),
    LexK (a ++ b) rest ↔ LexK a (render b ++ rest) ∧ LexK b rest
  | [], b, rest => by simp [LexK]
  | .sep t :: a, b, rest => by
    simp only [List.cons_append, LexK, lexK_append a b rest, and_assoc]
  | .tok k v t :: a, b, rest => by
    simp only [List.cons_append, LexK, lexK_append a b rest, render_append, List.append_assoc, and_assoc]

def G (is : List Item) : Prop := ∀ rest, StartsDelim rest → LexK is rest
def A (is : List Item) : Prop := ∀ rest, LexK is rest

/-- first non-empty element decides how a join starts -/
theorem sd_joinC (sep : Chars) : ∀ xs : List Chars, (∀ x ∈ xs, StartsDelim x) → StartsDelim (joinC xs sep) := by
  intro xs h
  simp only [joinC]
  have : ∀ ys : List Chars, (∀ y ∈ ys, StartsDelim y ∧ y ≠ []) → StartsDelim (interC sep ys) := by
    intro ys hy
    match ys, hy with
    | [], _ => trivial
    | [y], hy => simpa [interC] using (hy y (by simp)).1
    | y :: z :: r, hy =>
      simp only [interC, List.append_assoc]
      obtain ⟨h1, h2⟩ := hy y (by simp)
      cases y with
      | nil => exact absurd rfl h2
      | cons c cs => exact h1
  apply this
  intro y hy
  obtain ⟨h1, h2⟩ := List.mem_filter.mp hy
  refine ⟨h y h1, ?_⟩
  intro e; subst e; simp at h2

theorem sd_wrapI {a : List Item} (ha : SD1 (render a)) (m b : List Item) : StartsDelim (render (wrapI a m b)) := by
  simp only [wrapI]; split
  · trivial
  · simp only [render_append, List.append_assoc]; exact sd_of_sd1 (sd1_append ha _)

theorem sd_joinI (xs : List (List Item)) (sep : List Item) (h : ∀ x ∈ xs, StartsDelim (render x)) :
    StartsDelim (render (joinI xs sep)) := by
  rw [render_joinI]
  apply sd_joinC
  intro y hy
  obtain ⟨x, hx, rfl⟩ := List.mem_map.mp hy
  exact h x hx

theorem sd_head {a : List Item} (ha : SD1 (render a)) (b : List Item) : StartsDelim (render (a ++ b)) := by
  rw [render_append]; exact sd_of_sd1 (sd1_append ha _)

/-- so `indent` leaves a printed string alone -/
theorem escC_no_nl (c : Char) : '\n' ∉ escC c :=
  fun h => absurd (Reader.escC_printable c _ h) (by decide)

theorem quoteC_no_nl (cs : Chars) : '\n' ∉ quoteC cs := by
  have hb : ∀ cs : Chars, '\n' ∉ quoteBodyC cs := by
    intro cs
    induction cs with
    | nil => simp [quoteBodyC]
    | cons c cs ih => simp only [quoteBodyC, List.mem_append, not_or]; exact ⟨escC_no_nl c, ih⟩
  have h1 : ('\n' : Char) ≠ '"' := by decide
  simp only [quoteC, List.mem_cons, List.mem_append, List.mem_nil_iff, or_false, not_or]
  exact ⟨⟨h1, hb cs⟩, h1⟩

theorem indentC_id : ∀ t : Chars, '\n' ∉ t → indentC t = t
  | [], _ => rfl
  | c :: cs, h => by
    simp only [List.mem_cons, not_or] at h
    have hc : c ≠ '\n' := fun e => h.1 e.symm
    simp [indentC, hc, indentC_id cs h.2]

theorem no_nl_of_all {p : Char → Bool} (hp : p '\n' = false) {t : Chars} (h : t.all p = true) : '\n' ∉ t := by
  intro hm
  have := List.all_eq_true.mp h _ hm
  rw [hp] at this; cases this

/-- characters a number text is made of -/
def numChar (c : Char) : Bool := Reader.isDigit c || c == '-' || c == '+' || c == '.' || c == 'e' || c == 'E'

theorem numChar_digit {c : Char} (h : Reader.isDigit c = true) : numChar c = true := by simp [numChar, h]

theorem all_numChar_digits {ds : Chars} (h : ds.all Reader.isDigit = true) : ds.all numChar = true := by
  rw [List.all_eq_true] at h ⊢
  exact fun c hc => numChar_digit (h c hc)

theorem intBody_num {b : Chars} (h : Reader.isIntBody b = true) : b.all numChar = true := by
  rcases isIntBody_iff.mp h with rfl | ⟨d, ds, rfl, hd, _, hds⟩
  · rfl
  · simp only [List.all_cons, Bool.and_eq_true]
    exact ⟨numChar_digit hd, all_numChar_digits hds⟩

theorem intLit_num {t : Chars} (h : Reader.isIntLit t = true) : t.all numChar = true := by
  obtain ⟨sg, b, rfl, hsg, hb⟩ := isIntLit_iff.mp h
  simp only [List.all_append, Bool.and_eq_true]
  exact ⟨by rcases hsg with rfl | rfl <;> rfl, intBody_num hb⟩

theorem frac_num {t : Chars} (h : Reader.isFracPart t = true) : t.all numChar = true := by
  obtain ⟨ds, rfl, _, hd⟩ := isFracPart_iff.mp h
  simp only [List.all_cons, Bool.and_eq_true]
  exact ⟨rfl, all_numChar_digits hd⟩

theorem exp_num {t : Chars} (h : Reader.isExpPart t = true) : t.all numChar = true := by
  obtain ⟨e, sg, ds, rfl, he, hsg, _, hd⟩ := isExpPart_iff.mp h
  simp only [List.all_cons, List.all_append, Bool.and_eq_true]
  exact ⟨by rcases he with rfl | rfl <;> rfl, by rcases hsg with rfl | rfl | rfl <;> rfl, all_numChar_digits hd⟩

theorem float_num {t : Chars} (h : Reader.IsFloatLit t) : t.all numChar = true := by
  obtain ⟨ip, fp, ep, rfl, hip, hfp, hep, _⟩ := h
  simp only [List.all_append, Bool.and_eq_true]
  refine ⟨⟨intLit_num hip, ?_⟩, ?_⟩
  · rcases hfp with rfl | h
    · rfl
    · exact frac_num h
  · rcases hep with rfl | h
    · rfl
    · exact exp_num h

theorem isNameC_all {t : Chars} (h : Reader.isNameC t = true) : t.all Reader.isNameCont = true := by
  match t, h with
  | c :: r, h =>
    simp only [Reader.isNameC, Bool.and_eq_true] at h
    simp only [List.all_cons, Bool.and_eq_true, Reader.isNameCont, Bool.or_eq_true]
    exact ⟨Or.inl h.1, by simpa [Reader.isNameCont] using h.2⟩

/-- token texts are stable under `indent` -/
theorem tokText_indent {k : TokenKind} {v : String} {t : Chars} (h : TokText k v t) : TokText k v (indentC t) := by
  refine tokText_cases (P := fun k => TokText k v t → TokText k v (indentC t)) ?name ?int ?float ?string ?block ?spread
    ?punct h h
  case name => intro _ hn h; rw [indentC_id t (no_nl_of_all (by decide) (isNameC_all hn))]; exact h
  case int => intro _ hn h; rw [indentC_id t (no_nl_of_all (by decide) (intLit_num hn))]; exact h
  case float => intro _ hn h; rw [indentC_id t (no_nl_of_all (by decide) (float_num hn))]; exact h
  case string => intro ht h; rw [indentC_id t (by rw [ht]; exact quoteC_no_nl _)]; exact h
  case block => rintro hs j rfl _; exact ⟨hs, j + 1, rfl⟩
  case spread => rintro rfl rfl _; exact ⟨rfl, rfl⟩
  case punct =>
    rintro k c _ hc rfl h
    rw [indentC_id [c]]; · exact h
    cases k <;> simp only [punctChar, Option.some.injEq, reduceCtorEq] at hc <;> subst hc <;> decide

theorem sd_indentC (a rest : Chars) (h : StartsDelim (a ++ rest)) : StartsDelim (indentC a ++ rest) := by
  cases a with
  | nil => exact h
  | cons c cs =>
    by_cases hc : c = '\n'
    · subst hc; simp only [indentC, if_true, List.cons_append]; exact h
    · simp only [indentC, hc, if_false, List.cons_append]; exact h

theorem lexK_indentI : ∀ (is : List Item) (rest : Chars), LexK is rest → LexK (indentI is) rest
  | [], _, _ => trivial
  | .sep t :: is, rest, h => ⟨all_ignored_indentC t h.1, lexK_indentI is rest h.2⟩
  | .tok k v t :: is, rest, h => by
    refine ⟨tokText_indent h.1, fun hs => ?_, lexK_indentI is rest h.2.2⟩
    have := h.2.1 hs
    have e : render (List.map Item.indent is) = indentC (render is) := render_indentI is
    rw [e]
    exact sd_indentC _ _ this

theorem tokText_ne_nil {k : TokenKind} {v : String} {t : Chars} (h : TokText k v t) : t ≠ [] := by
  refine tokText_cases (P := fun _ => t ≠ []) ?name ?int ?float ?string ?block ?spread ?punct h
  case name => rintro _ hn rfl; exact absurd hn (by decide)
  case int => rintro _ hn rfl; exact absurd hn (by decide)
  case float =>
    rintro _ ⟨ip, fp, ep, rfl, hip, _⟩
    cases ip with
    | nil => exact absurd hip (by decide)
    | cons c r => simp
  case string => intro ht; rw [ht]; simp [quoteC]
  case block =>
    rintro _ j rfl
    have : ∀ j, ∃ r, indentIter j (descText v.toList) = '"' :: r := by
      intro j
      induction j with
      | zero => simp only [indentIter, descText]; split <;> exact ⟨_, rfl⟩
      | succ j ih => obtain ⟨r, hr⟩ := ih; exact ⟨indentC r, by simp [indentIter, hr, indentC]⟩
    obtain ⟨r, hr⟩ := this j
    rw [hr]; simp
  case spread => rintro _ rfl; simp
  case punct => rintro _ c _ _ rfl; simp

theorem lexK_solid : ∀ (is : List Item) (rest : Chars), LexK is rest → Solid is
  | [], _, _ => solid_nil
  | .sep t :: is, rest, h => fun hr => by
    have : (render is).isEmpty = true := by
      simp only [render_cons, List.isEmpty_iff, List.append_eq_nil_iff] at hr ⊢; exact hr.2
    exact lexK_solid is rest h.2 this
  | .tok k v t :: is, rest, h => fun hr => by
    simp only [render_cons, Item.text, List.isEmpty_iff, List.append_eq_nil_iff] at hr
    exact absurd hr.1 (tokText_ne_nil h.1)

theorem lexK_nonempty {is : List Item} {rest : Chars} (h : LexK is rest) (ht : tokensOf is ≠ []) :
    (render is).isEmpty = false := by
  cases hr : (render is).isEmpty with
  | false => rfl
  | true => exact absurd (lexK_solid is rest h hr) ht

/-- Which append to take: after a `PrintsA` nothing is asked (`PrintsA.app`, `PrintsA.appG`); after a `Prints` the right
factor has to start with a delimiter — `StartsDelim` when the result is again a `Prints`, since the rest then starts with
one too (`Prints.app`), the strict `SD1` when the result is a `PrintsA`, since the rest is arbitrary and the right factor
must not vanish (`Prints.appA`). -/
structure Prints (is : List Item) (ts : List KV) : Prop where
  toks : tokensOf is = ts
  lex : G is

structure PrintsA (is : List Item) (ts : List KV) : Prop where
  toks : tokensOf is = ts
  lex : A is

/-- the members of a joined list or a block -/
structure PrintsL (xs : List (List Item)) (ts : List KV) : Prop where
  toks : (xs.map tokensOf).flatten = ts
  lex : ∀ x ∈ xs, G x

theorem tokensOf_app {a b : List Item} {ta tb : List KV} (ha : tokensOf a = ta) (hb : tokensOf b = tb) :
    tokensOf (a ++ b) = ta ++ tb := by rw [tokensOf_append, ha, hb]

theorem Prints.solid {is : List Item} {ts : List KV} (h : Prints is ts) : Solid is := lexK_solid is [] (h.lex [] trivial)

theorem Prints.nonempty {is : List Item} {ts : List KV} (h : Prints is ts) (hne : ts ≠ []) :
    (render is).isEmpty = false :=
  lexK_nonempty (h.lex [] trivial) (by rw [h.toks]; exact hne)

namespace PrintsA

theorem toPrints {is : List Item} {ts : List KV} (h : PrintsA is ts) : Prints is ts := ⟨h.toks, fun rest _ => h.lex rest⟩

theorem cast {is : List Item} {ts ts' : List KV} (h : PrintsA is ts) (e : ts = ts') : PrintsA is ts' := e ▸ h

theorem nil : PrintsA [] [] := ⟨rfl, fun _ => trivial⟩

theorem app {a b : List Item} {ta tb : List KV} (ha : PrintsA a ta) (hb : PrintsA b tb) : PrintsA (a ++ b) (ta ++ tb) :=
  ⟨tokensOf_app ha.toks hb.toks, fun rest => (lexK_append a b rest).mpr ⟨ha.lex _, hb.lex rest⟩⟩

theorem appG {a b : List Item} {ta tb : List KV} (ha : PrintsA a ta) (hb : Prints b tb) : Prints (a ++ b) (ta ++ tb) :=
  ⟨tokensOf_app ha.toks hb.toks, fun rest hr => (lexK_append a b rest).mpr ⟨ha.lex _, hb.lex rest hr⟩⟩

theorem pI {k : TokenKind} {c : Char} (h : punctChar k = some c) : PrintsA (pI k [c]) (pT k) := by
  refine ⟨rfl, fun rest => ?_⟩
  have hs : sticky k = false := by cases k <;> simp [punctChar] at h <;> rfl
  refine ⟨?_, by simp [hs], trivial⟩
  cases k <;> simp only [punctChar, Option.some.injEq, reduceCtorEq] at h <;> subst h <;> exact ⟨rfl, _, rfl, rfl⟩

theorem sI {t : Chars} (h : t.all isIgnoredChar = true) : PrintsA (sI t) [] := ⟨rfl, fun _ => ⟨h, trivial⟩⟩

theorem sp : PrintsA spI [] := sI rfl
theorem commaSp : PrintsA commaSpI [] := sI rfl
theorem nl : PrintsA (Printer.sI ['\n']) [] := sI rfl
theorem colonSp : PrintsA colonSpI (pT .colon) := (pI rfl).app sp
theorem spread : PrintsA spreadI (pT .spread) := ⟨rfl, fun _ => ⟨⟨rfl, rfl⟩, by simp [sticky], trivial⟩⟩

theorem wrap {a m b : List Item} {tm ts : List KV} (hm : Prints m tm) (hne : tm ≠ [])
    (h : PrintsA (a ++ m ++ b) ts) : PrintsA (wrapI a m b) ts := by
  rw [wrapI_pos (hm.nonempty hne)]; exact h

end PrintsA

namespace Prints

theorem cast {is : List Item} {ts ts' : List KV} (h : Prints is ts) (e : ts = ts') : Prints is ts' := e ▸ h

theorem nil : Prints [] [] := ⟨rfl, fun _ _ => trivial⟩

theorem app {a b : List Item} {ta tb : List KV} (ha : Prints a ta) (hb : Prints b tb) (hs : StartsDelim (render b)) :
    Prints (a ++ b) (ta ++ tb) :=
  ⟨tokensOf_app ha.toks hb.toks,
   fun rest hr => (lexK_append a b rest).mpr ⟨ha.lex _ (sd_append hs hr), hb.lex rest hr⟩⟩

theorem appA {a b : List Item} {ta tb : List KV} (ha : Prints a ta) (hb : PrintsA b tb) (hs : SD1 (render b)) :
    PrintsA (a ++ b) (ta ++ tb) :=
  ⟨tokensOf_app ha.toks hb.toks,
   fun rest => (lexK_append a b rest).mpr ⟨ha.lex _ (sd_of_sd1 (sd1_append hs rest)), hb.lex rest⟩⟩

theorem tok {k : TokenKind} {v : String} {t : Chars} (h : TokText k v t) : Prints [.tok k v t] [(k, v)] :=
  ⟨rfl, fun rest hr => ⟨h, fun _ => by simpa using hr, trivial⟩⟩

theorem nI {s : String} (h : isNameC s.toList = true) : Prints (nI s) (nT s) := tok ⟨rfl, h⟩

theorem kI {s : Chars} (h : isNameC s = true) : Prints (kI s) (nT (String.ofList s)) := tok ⟨by simp, h⟩

theorem indent {is : List Item} {ts : List KV} (h : Prints is ts) : Prints (indentI is) ts :=
  ⟨by rw [tokensOf_indentI, h.toks], fun rest hr => lexK_indentI is rest (h.lex rest hr)⟩

theorem wrap {a m b : List Item} {tm ts : List KV} (hm : Prints m tm) (hne : tm ≠ []) (h : Prints (a ++ m ++ b) ts) :
    Prints (wrapI a m b) ts := by
  rw [wrapI_pos (hm.nonempty hne)]; exact h

/-- token-free opening: whether or not the middle vanishes, the tokens are those of the middle -/
theorem wrapLeft {a m : List Item} {tm : List KV} (ha : PrintsA a []) (hm : Prints m tm) : Prints (wrapI a m []) tm := by
  cases hr : (render m).isEmpty with
  | true => rw [wrapI_neg hr]; exact nil.cast ((hm.solid hr).symm.trans hm.toks)
  | false => rw [wrapI_pos hr]; exact ((ha.appG hm).app nil sd_nil).cast (by simp)

theorem wrapRight {m b : List Item} {tm : List KV} (hm : Prints m tm) (hb : PrintsA b []) (hs : SD1 (render b)) :
    PrintsA (wrapI [] m b) tm := by
  cases hr : (render m).isEmpty with
  | true => rw [wrapI_neg hr]; exact PrintsA.nil.cast ((hm.solid hr).symm.trans hm.toks)
  | false => rw [wrapI_pos hr]; exact (hm.appA hb hs).cast (by simp)

theorem desc : ∀ d : Option String, Prints (descI d) (descT d)
  | none => nil
  | some s => by
    refine tok ?_
    by_cases h : descBlockSafeC s.toList = true
    · simp only [h, if_true]
      exact ⟨h, 0, by rw [descC_some, if_pos h]; rfl⟩
    · simp only [h]
      show descC (some s) = quoteC s.toList
      rw [descC_some, if_neg h]

theorem desc_nonempty (s : String) : (render (descI (some s))).isEmpty = false :=
  (desc (some s)).nonempty (by simp [descT])

theorem withDescTop {d : Option String} {s : List Item} {ts : List KV} (h : Prints s ts) :
    Prints (withDescTopI d s) (descT d ++ ts) := by
  cases d with
  | none => exact h
  | some x =>
    rw [withDescTopI, if_neg (by rw [desc_nonempty x]; decide)]
    exact (((desc (some x)).appA PrintsA.nl (by decide)).appG h).cast (by simp)

theorem withDescMember {d : Option String} {s : List Item} {ts : List KV} (h : Prints s ts) :
    Prints (withDescMemberI d s) (descT d ++ ts) := by
  cases d with
  | none => exact h
  | some x =>
    rw [withDescMemberI, if_neg (by rw [desc_nonempty x]; decide)]
    exact (((PrintsA.nl.appG (desc (some x))).appA PrintsA.nl (by decide)).appG h).cast (by simp)

end Prints

namespace PrintsL

theorem nil : PrintsL [] [] := ⟨rfl, fun _ h => nomatch h⟩

theorem cons {x : List Item} {xs : List (List Item)} {t ts : List KV} (h : Prints x t) (hs : PrintsL xs ts) :
    PrintsL (x :: xs) (t ++ ts) :=
  ⟨by rw [List.map_cons, List.flatten_cons, h.toks, hs.toks],
   fun y hy => (List.mem_cons.mp hy).elim (fun e => e ▸ h.lex) (hs.lex y)⟩

/-- the members printed from a list of nodes, for a token sequence and a well-formedness predicate defined by recursion
on the list -/
theorem map {α : Type} {fI : α → List Item} {fT : α → List KV} {WF : α → Prop} {listT : List α → List KV}
    {WFs : List α → Prop} (h : ∀ x, WF x → Prints (fI x) (fT x)) {xs : List α} (hw : WFs xs)
    (hnil : listT [] = [] := by rfl) (hcons : ∀ x xs, listT (x :: xs) = fT x ++ listT xs := by exact fun _ _ => rfl)
    (hwf : ∀ x xs, WFs (x :: xs) → WF x ∧ WFs xs := by exact fun _ _ h => h) : PrintsL (xs.map fI) (listT xs) := by
  induction xs with
  | nil => rw [hnil]; exact nil
  | cons x xs ih => rw [hcons]; exact cons (h x (hwf _ _ hw).1) (ih (hwf _ _ hw).2)

theorem solid {xs : List (List Item)} {ts : List KV} (h : PrintsL xs ts) : ∀ x ∈ xs, Solid x :=
  fun x hx => lexK_solid x [] (h.lex x hx [] trivial)

theorem lex_interI {sep : List Item} (hs : A sep) (hd : SD1 (render sep)) : ∀ xs : List (List Item),
    (∀ x ∈ xs, G x) → G (interI sep xs)
  | [], _ => fun _ _ => trivial
  | [x], h => by simpa [interI] using h x (by simp)
  | x :: y :: rest, h => fun r hr => by
    simp only [interI]
    refine (lexK_append _ _ r).mpr ⟨(lexK_append _ _ _).mpr ⟨h x (by simp) _ ?_, hs _⟩, ?_⟩
    · exact sd_of_sd1 (sd1_append hd _)
    · exact lex_interI hs hd (y :: rest) (fun z hz => h z (List.mem_cons_of_mem _ hz)) r hr

theorem join {sep : List Item} (hs : PrintsA sep []) (hd : SD1 (render sep)) {xs : List (List Item)} {ts : List KV}
    (h : PrintsL xs ts) : Prints (joinI xs sep) ts :=
  ⟨by rw [tokensOf_joinI xs sep hs.toks h.solid, h.toks],
   lex_interI hs.lex hd _ (fun x hx => h.lex x (List.mem_filter.mp hx).1)⟩

/-- a `block`: always closed by `}`, so anything may follow -/
theorem block {xs : List (List Item)} {ts : List KV} (h : PrintsL xs ts) :
    PrintsA (blockI xs) (pT .braceL ++ ts ++ pT .braceR) := by
  simp only [blockI]
  split
  · next he =>
    have : xs = [] := by simpa using he
    subst this
    exact ((PrintsA.pI rfl).app (PrintsA.pI rfl)).cast (by rw [← h.toks]; rfl)
  · rw [List.append_assoc]
    exact (((((PrintsA.pI rfl).app PrintsA.nl).appG (h.join PrintsA.nl (by decide))).indent.appA
      (PrintsA.nl.app (PrintsA.pI rfl)) (by decide))).cast (by simp)

end PrintsL

theorem Prints.join3 {a b c : List Item} {ta tb tc : List KV} (ha : Prints a ta) (hb : Prints b tb) (hc : Prints c tc) :
    Prints (joinI [a, b, c] spI) (ta ++ tb ++ tc) :=
  ((PrintsL.nil.cons hc).cons hb |>.cons ha |>.join PrintsA.sp (by decide)).cast (by simp)

theorem Prints.join4 {a b c d : List Item} {ta tb tc td : List KV} (ha : Prints a ta) (hb : Prints b tb)
    (hc : Prints c tc) (hd : Prints d td) : Prints (joinI [a, b, c, d] spI) (ta ++ tb ++ tc ++ td) :=
  ((PrintsL.nil.cons hd).cons hc |>.cons hb |>.cons ha |>.join PrintsA.sp (by decide)).cast (by simp)

/-- `joinI [a, b] []` (operation name directly followed by the variable definitions) -/
theorem Prints.join2_nil {a b : List Item} {ta tb : List KV} (ha : Prints a ta) (hb : Prints b tb)
    (hs : StartsDelim (render b)) : Prints (joinI [a, b] []) (ta ++ tb) := by
  refine ⟨by rw [tokensOf_joinI _ [] rfl (by simp [ha.solid, hb.solid])]; simp [ha.toks, hb.toks], ?_⟩
  simp only [joinI, List.filter]
  by_cases h1 : (render a).isEmpty <;> by_cases h2 : (render b).isEmpty <;>
    simp only [h1, h2, Bool.not_true, Bool.not_false, interI]
  · exact nil.lex
  · exact hb.lex
  · exact ha.lex
  · simpa using (ha.app hb hs).lex

theorem Prints.joinSep {α : Type} {fI : α → List Item} {fT : α → List KV} {k : TokenKind} {sep : List Item}
    (hs : PrintsA sep (pT k)) (hd : SD1 (render sep)) {xs : List α} (h : ∀ x ∈ xs, Prints (fI x) (fT x))
    (hne : ∀ x ∈ xs, fT x ≠ []) : Prints (joinI (xs.map fI) sep) (sepByT k (xs.map fT)) :=
  ⟨by rw [tokensOf_joinI_sep fI k sep hs.toks xs (fun x hx => (h x hx).nonempty (hne x hx)), List.map_map]
      exact congrArg _ (List.map_congr_left fun x hx => (h x hx).toks),
   PrintsL.lex_interI hs.lex hd _ (fun y hy => by
     obtain ⟨x, hx, rfl⟩ := List.mem_map.mp (List.mem_filter.mp hy).1; exact (h x hx).lex)⟩

theorem sepByT_ne_nil {k : TokenKind} {x : List KV} (xs : List (List KV)) (h : x ≠ []) : sepByT k (x :: xs) ≠ [] := by
  cases xs <;> simp [sepByT, h]

end GqlModel.RoundTrip
