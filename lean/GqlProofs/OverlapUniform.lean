import GqlProofs.ExecSelectOp
import GqlProofs.OverlapAdm
/-! # Bridge C02 → C06: pairwise mergeable universes give hereditarily uniform groups (`HU`), and a document without
overlap conflicts executes uniformly (`ExecUniform`) -/
namespace GqlModel.OverlapExec
open GqlModel.Validate GqlModel.Validate.Graph GqlModel.Validate.Overlap GqlModel.Normalize

section
variable (s : Schema) (d : Document)

/-- no two fields of the universe with one response key conflict -/
def Compat (U : FieldOcc → Prop) : Prop :=
  ∀ a b, U a → U b → a.node.key = b.node.key → ¬ PairConflict (e s d) false a b

theorem not_exclusive {rt : String} {a b : FieldOcc} (ha : PtAdm s rt a.parent) (hb : PtAdm s rt b.parent) :
    exclOf (e s d) false a b = false := by
  show exclusive s a.parent b.parent = false
  cases hpa : a.parent with
  | none => simp [exclusive]
  | some x =>
    cases hpb : b.parent with
    | none => simp [exclusive]
    | some y =>
      simp only [exclusive]
      cases hx : s.objectT x with
      | false => simp
      | true =>
        cases hy : s.objectT y with
        | false => simp
        | true =>
          have h1 := (ha x hpa).1 hx
          have h2 := (hb y hpb).1 hy
          simp [h1, h2]

/-- compatible fields whose parents admit one runtime type are not exclusive, so the rule's base comparison passes:
the same name, and identical argument sets (structural equality of the values, locations ignored) -/
theorem same_base {U : FieldOcc → Prop} (hc : Compat s d U) {rt : String} {a b : FieldOcc} (ha : U a) (hb : U b)
    (hk : a.node.key = b.node.key) (hpa : PtAdm s rt a.parent) (hpb : PtAdm s rt b.parent) :
    a.node.name.value = b.node.name.value ∧ sameArgsS a.node.args b.node.args = true := by
  have hnc := hc a b ha hb hk
  cases hbc : baseConflict (e s d) false a b with
  | true => exact absurd (PairConflict.base hbc) hnc
  | false =>
    simp only [baseConflict, not_exclusive s d hpa hpb, Bool.not_false, Bool.true_and, Bool.or_eq_false_iff] at hbc
    exact ⟨by simpa using hbc.1.1, by simpa using hbc.1.2⟩

/-- the universe one level down: flattened sub-selections of the fields merged under one key at `rt` -/
def SubU (U : FieldOcc → Prop) (rt key : String) (a' : FieldOcc) : Prop :=
  ∃ a s1, U a ∧ a.node.key = key ∧ PtAdm s rt a.parent ∧ a.node.sel = some s1 ∧ a' ∈ flat (e s d) a.subParent s1

theorem compat_sub {U : FieldOcc → Prop} (hc : Compat s d U) (rt key : String) : Compat s d (SubU s d U rt key) := by
  rintro a' b' ⟨a, s1, hUa, hka, hpa, hs1, ha'⟩ ⟨b, s2, hUb, hkb, hpb, hs2, hb'⟩ hk hp
  refine hc a b hUa hUb (hka.trans hkb.symm) (.sub s1 s2 a' b' hs1 hs2 ha' hb' hk ?_)
  rw [not_exclusive s d hpa hpb]; exact hp

/-- universes whose members carry the rule's field definitions -/
def UOK (U : FieldOcc → Prop) : Prop := ∀ a, U a → FdefOK s a

theorem uok_sub {U : FieldOcc → Prop} (rt key : String) : UOK s (SubU s d U rt key) := by
  rintro a' ⟨a, s1, _, _, _, _, ha'⟩
  exact flat_fdef s d _ s1 a' ha'

theorem ginv_mono {U V : FieldOcc → Prop} (h : ∀ a, U a → V a) {rt : String} {g : Exec.Groups} (hg : GInv s U rt g) :
    GInv s V rt g := by
  intro p hp n hn
  rcases hg p hp n hn with ⟨hk, a, hr, hu, hpa⟩
  exact ⟨hk, a, hr, h a hu, hpa⟩

variable (hcov : SchemaCov s) (hnd : (fragNames (fragDefs d)).Nodup) (c : Exec.Ctx) (hs : c.schema = s)
  (hf : c.frags = d.fragments)
include hcov hnd hs hf

/-- the merged sub-selection of a uniform group satisfies the invariant one level down -/
theorem collectMerged_inv {U : FieldOcc → Prop} (huok : UOK s U) {rt : String} {key : String} (nodes : List ENode)
    (hnodes : ∀ n, n ∈ nodes → n.key = key ∧ ∃ a, Rep a n ∧ U a ∧ PtAdm s rt a.parent)
    (name : String) (hname : ∀ n, n ∈ nodes → n.name = name) {fd : FieldDefS}
    (hfd : Exec.fieldDef? s rt name = some fd) (ot : String) (hot : Descends s fd.type.namedName ot) :
    GInv s (SubU s d U rt key) ot (Exec.collectMerged c ot nodes) := by
  refine collectMerged_ind c ot nodes (fun acc => GInv s (SubU s d U rt key) ot acc.1) (fun p hp => nomatch hp) ?_
  intro n hn s1 hsel acc hg
  rcases hnodes n hn with ⟨hk, a, hr, hu, hpa⟩
  have hasel : a.node.sel = some s1 := by rw [hr.sel]; exact hsel
  have haname : a.node.name.value = name := by rw [hr.name]; exact hname n hn
  have hpt : PtAdm s ot a.subParent :=
    subParent_adm hcov (huok a hu) hpa (by rw [haname]; exact hfd) hot
  have hU : ∀ a', a' ∈ flat (e s d) a.subParent s1 → SubU s d U rt key a' :=
    fun a' ha' => ⟨a, s1, hu, hr.key.trans hk, hpa, hasel, ha'⟩
  exact collect_inv s d hnd c hs hf _ ot s1 a.subParent acc hpt
    ⟨fun a' ha' => hU a' (mem_flat_of_direct ha'), fun r hr' a' ha' => hU a' (mem_flat_of_flatFrag _ hr' ha')⟩ hg

/-- **hereditary uniformity** of groups collected from a pairwise mergeable universe -/
theorem hu_of_ginv : ∀ (k : Nat) (rt : String) (g : Exec.Groups) (U : FieldOcc → Prop), UOK s U → Compat s d U →
    GInv s U rt g → HU c k rt g
  | 0, _, _, _, _, _, _ => trivial
  | k + 1, rt, g, U, huok, hcomp, hg => by
    intro p hp
    have hgp := hg p hp
    have hnames : ∀ h, p.2.head? = some h → ∀ n, n ∈ p.2 → n.name = h.name := by
      intro h hh n hn
      rcases hgp n hn with ⟨hkn, an, hrn, hun, hpn⟩
      rcases hgp h (List.mem_of_mem_head? (by rw [hh]; rfl)) with ⟨hkh, ah, hrh, huh, hph⟩
      have := (same_base s d hcomp hun huh ((hrn.key.trans hkn).trans (hrh.key.trans hkh).symm) hpn hph).1
      rw [← hrn.name, ← hrh.name]; exact this
    refine ⟨hnames, fun h fd hh hfd ot h1 h2 => ?_⟩
    rw [hs] at hfd h1 h2
    exact hu_of_ginv k ot _ _ (uok_sub s d rt p.1) (compat_sub s d hcomp rt p.1)
      (collectMerged_inv s d hcov hnd c hs hf huok p.2 (fun n hn => hgp n hn) h.name (hnames h hh) hfd ot ⟨h1, h2⟩)

end

theorem rootFor_toString (s : Schema) (op : OpType) : s.rootFor op.toString = s.rootType op := by
  cases op <;> rfl

/-- the root selection set of an operation is one of the visitor's typed selection sets -/
theorem root_typed (s : Schema) (doc : Document) {op : OpType} {name : Option Name} {vars : List VarDef}
    {dirs : List Directive} {sel : SelectionSet} {loc : Loc}
    (h : Definition.operation op name vars dirs sel loc ∈ doc.defs) :
    (((TCtx.enterOp s op).enterSelSet s), sel) ∈ typedSelSets s doc := by
  simp only [typedSelSets, List.mem_flatMap]
  refine ⟨_, h, ?_⟩
  simp only [defCtx]
  cases sel with
  | mk sels l => simp [setsOfSet]

/-- the groups collected at the root of the selected operation consist of fields of its flattened selection set, which are
pairwise mergeable when no typed selection set of the document violates FieldsInSetCanMerge -/
theorem root_ginv (s : Schema) (doc : Document) (hnd : (fragNames (fragDefs doc)).Nodup)
    (hfree : ∀ cs, cs ∈ typedSelSets s doc → FieldsInSetCanMerge (envM s doc) cs.1.parent cs.2)
    (opName : String) (w : Exec.World) {op : OpType} {name : Option Name} {vars : List VarDef}
    {dirs : List Directive} {sel : SelectionSet} {loc : Loc} {root : String} (v : Coerce.Vars)
    (hsel : Exec.selectOperation doc opName = .ok (.operation op name vars dirs sel loc))
    (hroot : s.rootFor op.toString = some root) :
    Compat s doc (fun a => a ∈ flat (envM s doc) ((TCtx.enterOp s op).enterSelSet s).parent sel) ∧
    GInv s (fun a => a ∈ flat (envM s doc) ((TCtx.enterOp s op).enterSelSet s).parent sel) root
      (Exec.collect ⟨s, doc.fragments, v, w⟩ root sel ([], [])).1 := by
  have htyped := root_typed s doc (Exec.selectOperation_mem hsel)
  refine ⟨fun a b ha hb hk hp => hfree _ htyped ⟨a, b, ha, hb, hk, hp⟩, ?_⟩
  have hpt : PtAdm s root ((TCtx.enterOp s op).enterSelSet s).parent := by
    intro m hm
    have hroot' : s.rootType op = some root := by rw [← rootFor_toString]; exact hroot
    have : m = root := by
      simp only [TCtx.enterSelSet, TCtx.enterOp, TCtx.empty, hroot', Option.map_some, GType.namedName] at hm
      -- the `if` in `hm` carries the instance of the unsimplified condition, so `split` / `if_pos` do not fire on it:
      -- state the step for any condition
      have key : ∀ (b : Bool), (if b = true then some root else none) = some m → m = root := by
        intro b hb
        cases b with
        | false => simp at hb
        | true => simpa using hb.symm
      exact key _ hm
    subst this
    exact ⟨fun _ => rfl, fun _ => .inl rfl⟩
  exact collect_inv s doc hnd ⟨s, doc.fragments, v, w⟩ rfl rfl _ root sel _ ([], []) hpt ⟨fun _ ha => mem_flat_of_direct ha, fun _ hr _ ha => mem_flat_of_flatFrag _ hr ha⟩
    (by intro p hp; cases hp)

/-- **the bridge**: if no typed selection set of the document violates FieldsInSetCanMerge (fragment names unique, schema
covariant), then in every execution the groups of field nodes merged under one response key have one field name,
hereditarily — the premise `ExecUniform` of `normalized_transparent`. -/
theorem execUniform_of_noConflict (s : Schema) (doc : Document) (hcov : SchemaCov s)
    (hnd : (fragNames (fragDefs doc)).Nodup)
    (hfree : ∀ cs, cs ∈ typedSelSets s doc → FieldsInSetCanMerge (envM s doc) cs.1.parent cs.2)
    (opName : String) (inputs : Coerce.Vars) (w : Exec.World) : ExecUniform s doc opName inputs w := by
  intro op name vars dirs sel loc root v hsel hroot _ k
  obtain ⟨hcompat, hg⟩ := root_ginv s doc hnd hfree opName w v hsel hroot
  exact hu_of_ginv s doc hcov hnd ⟨s, doc.fragments, v, w⟩ rfl rfl k root _ _
    (fun a ha => flat_fdef s doc _ sel a ha) hcompat hg

/-- the "identical arguments" half at the top level: nodes merged under one response key of the selected operation
have identical argument sets -/
theorem merged_same_args_of_noConflict (s : Schema) (doc : Document)
    (hnd : (fragNames (fragDefs doc)).Nodup)
    (hfree : ∀ cs, cs ∈ typedSelSets s doc → FieldsInSetCanMerge (envM s doc) cs.1.parent cs.2)
    (opName : String) (w : Exec.World) {op : OpType} {name : Option Name} {vars : List VarDef}
    {dirs : List Directive} {sel : SelectionSet} {loc : Loc} {root : String} (v : Coerce.Vars)
    (hsel : Exec.selectOperation doc opName = .ok (.operation op name vars dirs sel loc))
    (hroot : s.rootFor op.toString = some root) :
    ∀ p, p ∈ (Exec.collect ⟨s, doc.fragments, v, w⟩ root sel ([], [])).1 → ∀ n m, n ∈ p.2 → m ∈ p.2 →
      sameArgsS n.args m.args = true := by
  intro p hp n m hn hm
  obtain ⟨hcompat, hg⟩ := root_ginv s doc hnd hfree opName w v hsel hroot
  rcases hg p hp n hn with ⟨hkn, an, hrn, hun, hpn⟩
  rcases hg p hp m hm with ⟨hkm, am, hrm, hum, hpm⟩
  have := (same_base s doc hcompat hun hum ((hrn.key.trans hkn).trans (hrm.key.trans hkm).symm) hpn hpm).2
  rw [← hrn.args, ← hrm.args]; exact this

end GqlModel.OverlapExec
