import GqlProofs.RecogniseSem
import GqlProofs.RecogniseComplete
/-! What the EBNF interpreter matches is derivable in the grammar relations: `Den X p p'` says what the nonterminal `X`
derives between two positions (`∃ x, DX p x p'`; for a nonterminal without a relation of its own, the relation of the
production it is part of), each production is one step `Sem Den (rule X) p p' → Den X p p'`, and `run_sem` does the rest.
Two steps need the other direction (`no_bang`, `den_field`), hence the import of RecogniseComplete. -/
namespace GqlModel.Grammar

theorem run_nt_iff {x : NT} {ts : List Token} {o : Out} : Run (.nt x) ts o ↔ Run (rule x) ts o :=
  ⟨fun h => by cases h; assumption, .nt⟩

theorem run_kw_lt {s : String} {ts r : List Token} (h : Run (.kw s) ts (.rest r)) : r.length < ts.length := by
  cases h with
  | kw_ok _ => simp

theorem run_alt_no {a b : G} {ts : List Token} : Run (.alt a b) ts .no ↔ Run a ts .no ∧ Run b ts .no :=
  ⟨fun h => by cases h with | alt_r h1 h2 => exact ⟨h1, h2⟩, fun ⟨h1, h2⟩ => .alt_r h1 h2⟩

theorem seq_no_after {a b : G} {ts r : List Token} (hs : Run (.seq a b) ts .no) (ha : Run a ts (.rest r)) : Run b r .no := by
  cases hs with
  | seq_ok h1 h2 => cases Run.det h1 ha; exact h2
  | seq_no h1 => cases Run.det h1 ha

/-- `item+` -/
theorem Iter.many1 {α : Type} {D : Pos → α → Pos → Prop} {p q p' : Pos} {x : α} (hx : D p x q)
    (h : Iter (fun p p' => ∃ x, D p x p') q p') : ∃ xs, Many D p xs p' ∧ xs ≠ [] := by
  obtain ⟨xs, hxs⟩ := h.many
  exact ⟨x :: xs, .cons hx hxs, by simp⟩

/-- `{ item* }` -/
theorem Iter.braced {α : Type} {D : Pos → α → Pos → Prop} {p p1 p2 p' : Pos} {o cl : Token} (ho : Tok .braceL p o p1)
    (h : Iter (fun p p' => ∃ x, D p x p') p1 p2) (hc : Tok .braceR p2 cl p') : ∃ xs, Braced D p xs p' := by
  obtain ⟨xs, hxs⟩ := h.many
  exact ⟨xs, .mk ho hxs hc⟩

/-- `first (sep item)*` read as `SepBy` -/
theorem IterIf.sepBy {α : Type} {D : Pos → α → Pos → Prop} {R : Pos → Pos → Prop} {sep : TokenKind} (hsep : sep ≠ .eof)
    (hR : ∀ {m b}, R m b → ∃ y, D m y b) (hlt : ∀ p x p', D p x p' → p'.ts.length < p.ts.length) {q p' : Pos}
    (h : IterIf (.kind sep) (fun a b => ∃ m, (∃ s, Tok sep a s m) ∧ R m b) q p') :
    ∀ {p : Pos} {x : α}, D p x q → ∃ xs, SepBy sep D p xs p' := by
  induction h with
  | done hc => intro p x hx; exact ⟨[x], .one hx (kind_of_not_holds hsep hc)⟩
  | more _ hr _ ih =>
    intro p x hx
    obtain ⟨m, ⟨s, hs⟩, hm⟩ := hr
    obtain ⟨y, hy⟩ := hR hm
    obtain ⟨xs, hxs⟩ := ih hy
    exact ⟨x :: xs, .cons hx hs hxs⟩
  | stuck hr hn =>
    obtain ⟨m, ⟨s, hs⟩, hm⟩ := hr
    obtain ⟨y, hy⟩ := hR hm
    exact absurd (Nat.lt_trans (hlt _ _ _ hy) (tok_lt hs)) hn

theorem IterIf.directives {p p' : Pos} (h : IterIf (.kind .at) (fun p p' => ∃ d, DDirective p d p') p p') :
    ∃ ds, DDirectives p ds p' := by
  induction h with
  | done hc => exact ⟨[], .nil (kind_of_not_holds (by decide) hc)⟩
  | more _ hd _ ih => obtain ⟨d, hd⟩ := hd; obtain ⟨ds, hds⟩ := ih; exact ⟨_, .cons hd hds⟩
  | stuck hd hn => obtain ⟨d, hd⟩ := hd; exact absurd (ddirective_lt hd) hn

/-- Three clauses are not `∃ x, DX p x p'`: `booleanValue` and `enumValue` are shared by `Value` and `ConstValue`, hence
`∀ c`; `typeCondition` is `DTypeCondition` at `some` (`none` is the absence of the production); `listType` has no relation of
its own, it is the `list` case of `DBaseType`. -/
def Den : NT → Pos → Pos → Prop
  | .document => fun p p' => ∃ ds, Many DDefinition p ds p' ∧ ds ≠ []
  | .definition | .operationDefinition | .fragmentDefinition | .typeSystemDefinition | .schemaDefinition
  | .scalarTypeDefinition | .interfaceTypeDefinition | .unionTypeDefinition | .enumTypeDefinition
  | .inputObjectTypeDefinition | .typeExtensionDefinition | .directiveDefinition => fun p p' => ∃ d, DDefinition p d p'
  | .objectTypeDefinition => fun p p' => ∃ d, DObjectDef p d p'
  | .operationType => fun p p' => ∃ op, DOpType p op p'
  | .variableDefinitions => fun p p' => ∃ vs, DVarDefs p vs p'
  | .variableDefinition => fun p p' => ∃ v, DVarDef p v p'
  | .var => fun p p' => ∃ x, DVariable p x p'
  | .defaultValue => fun p p' => ∃ d, DDefault p d p'
  | .selectionSet => fun p p' => ∃ s, DSelectionSet p s p'
  | .field | .fragmentSpread | .inlineFragment | .selection => fun p p' => ∃ s, DSelection p s p'
  | .alias => fun p p' => ∃ a p1 cl, DName p a p1 ∧ Tok .colon p1 cl p'
  | .arguments => fun p p' => ∃ as, DArguments p as p'
  | .argument => fun p p' => ∃ a, DArgument p a p'
  | .fragmentName => fun p p' => ∃ n, DFragmentName p n p'
  | .typeCondition => fun p p' => ∃ t, DTypeCondition p (some t) p'
  | .value | .listValue | .objectValue => fun p p' => ∃ v, DValue false p v p'
  | .constValue | .constListValue | .constObjectValue => fun p p' => ∃ v, DValue true p v p'
  | .objectField => fun p p' => ∃ f, DObjField false p f p'
  | .constObjectField => fun p p' => ∃ f, DObjField true p f p'
  | .booleanValue | .enumValue => fun p p' => ∀ c, ∃ v, DValue c p v p'
  | .directives => fun p p' => ∃ ds, DDirectives p ds p'
  | .directive => fun p p' => ∃ d, DDirective p d p'
  | .type | .nonNullType => fun p p' => ∃ t, DType p t p'
  | .namedType => fun p p' => ∃ t, DNamedType p t p'
  | .listType => fun p p' => ∃ t, DBaseType p t p'
  | .operationTypeDefinition => fun p p' => ∃ d, DOpTypeDef p d p'
  | .implementsInterfaces => fun p p' => ∃ ts, DImplements p ts p'
  | .fieldDefinition => fun p p' => ∃ d, DFieldDef p d p'
  | .argumentsDefinition => fun p p' => ∃ ds, DArgumentDefs p ds p'
  | .inputValueDefinition => fun p p' => ∃ d, DInputValueDef p d p'
  | .unionMembers => fun p p' => ∃ ms, SepBy .pipe DNamedType p ms p'
  | .enumValueDefinition => fun p p' => ∃ d, DEnumValueDef p d p'
  | .directiveLocations => fun p p' => ∃ ls, SepBy .pipe DName p ls p'
  | .description => fun p p' => ∃ d, DDescription p d p'

section steps
variable {p p' : Pos}

theorem den_var (h : Sem Den (rule .var) p p') : Den .var p p' := by
  obtain ⟨p1, ⟨d, hd⟩, n, hn⟩ := h
  exact ⟨_, .mk hd (.mk hn)⟩

theorem den_boolean (h : Sem Den (rule .booleanValue) p p') : Den .booleanValue p p' := by
  rcases h with h | ⟨-, h⟩
  · exact fun _ => ⟨_, .tru h⟩
  · exact fun _ => ⟨_, .fls h⟩

theorem den_enum (h : Sem Den (rule .enumValue) p p') : Den .enumValue p p' := by
  obtain ⟨t, ht, hv⟩ := h
  simp only [List.mem_cons, List.not_mem_nil, or_false, not_or] at hv
  exact fun _ => ⟨_, .enum ht hv.1 hv.2.1 hv.2.2⟩

/-- the alternatives that `Value` and `Value[Const]` share -/
theorem den_valueAlts (c : Bool) {L O : NT} (hL : ∀ {p p'}, Den L p p' → ∃ v, DValue c p v p')
    (hO : ∀ {p p'}, Den O p p' → ∃ v, DValue c p v p')
    (h : Sem Den (G.alts [.tok .int, .tok .float, .tok .string, .tok .blockString, .nt .booleanValue, .nt .enumValue,
      .nt L, .nt O]) p p') : ∃ v, DValue c p v p' := by
  rcases h with ⟨t, h⟩ | ⟨-, ⟨t, h⟩ | ⟨-, ⟨t, h⟩ | ⟨-, ⟨t, h⟩ | ⟨-, h | ⟨-, h | ⟨-, h | ⟨-, h⟩⟩⟩⟩⟩⟩⟩
  · exact ⟨_, .int h⟩
  · exact ⟨_, .float h⟩
  · exact ⟨_, .string h⟩
  · exact ⟨_, .blockString h⟩
  · exact h c
  · exact h c
  · exact hL h
  · exact hO h

theorem den_value (h : Sem Den (rule .value) p p') : Den .value p p' := by
  rcases h with ⟨⟨n, l⟩, h⟩ | ⟨-, h⟩
  · exact ⟨_, .var h⟩
  · exact den_valueAlts false id id h

theorem den_list (c : Bool) {V : NT} (hV : Den V = fun p p' => ∃ v, DValue c p v p')
    (h : Sem Den (G.seqs [.tok .bracketL, .star (.nt V), .tok .bracketR]) p p') : ∃ v, DValue c p v p' := by
  obtain ⟨p1, ⟨o, ho⟩, p2, hit, cl, hc⟩ := h
  have hit : Iter (Den V) p1 p2 := hit
  rw [hV] at hit
  obtain ⟨vs, hvs⟩ := hit.many
  exact ⟨_, .list ho (DValues.ofMany hvs) hc⟩

theorem den_objField (c : Bool) {V : NT} (hV : ∀ {p p'}, Den V p p' → ∃ v, DValue c p v p')
    (h : Sem Den (G.seqs [.tok .name, .tok .colon, .nt V]) p p') : ∃ f, DObjField c p f p' := by
  obtain ⟨p1, ⟨n, hn⟩, p2, ⟨cl, hc⟩, hv⟩ := h
  obtain ⟨v, hv⟩ := hV hv
  exact ⟨_, .mk (.mk hn) hc hv⟩

theorem den_obj (c : Bool) {F : NT} (hF : Den F = fun p p' => ∃ f, DObjField c p f p')
    (h : Sem Den (G.seqs [.tok .braceL, .star (.nt F), .tok .braceR]) p p') : ∃ v, DValue c p v p' := by
  obtain ⟨p1, ⟨o, ho⟩, p2, hit, cl, hc⟩ := h
  have hit : Iter (Den F) p1 p2 := hit
  rw [hF] at hit
  obtain ⟨fs, hfs⟩ := hit.many
  exact ⟨_, .obj ho (DObjFields.ofMany hfs) hc⟩

theorem den_argument (h : Sem Den (rule .argument) p p') : Den .argument p p' := by
  obtain ⟨p1, ⟨n, hn⟩, p2, ⟨cl, hc⟩, v, hv⟩ := h
  exact ⟨_, .mk (.mk hn) hc hv⟩

theorem den_arguments (h : Sem Den (rule .arguments) p p') : Den .arguments p p' := by
  obtain ⟨p1, ⟨o, ho⟩, p2, ⟨q, ⟨a, ha⟩, hit⟩, cl, hc⟩ := h
  obtain ⟨as, has, hne⟩ := hit.many1 ha
  exact ⟨_, .some ho has hne hc⟩

theorem den_optArguments (h : Sem Den (.optIf (.kind .parenL) (.nt .arguments)) p p') : ∃ as, DArguments p as p' := by
  rcases h with ⟨-, h⟩ | ⟨hc, rfl⟩
  · exact h
  · exact ⟨[], .none (kind_of_not_holds (by decide) hc)⟩

theorem den_directive (h : Sem Den (rule .directive) p p') : Den .directive p p' := by
  obtain ⟨p1, ⟨a, ha⟩, p2, ⟨n, hn⟩, hargs⟩ := h
  obtain ⟨as, has⟩ := den_optArguments hargs
  exact ⟨_, .mk ha (.mk hn) has⟩

theorem den_directives (h : Sem Den (rule .directives) p p') : Den .directives p p' := IterIf.directives h

theorem den_namedType (h : Sem Den (rule .namedType) p p') : Den .namedType p p' := by
  obtain ⟨n, hn⟩ := h
  exact ⟨_, .mk (.mk hn)⟩

theorem den_listType (h : Sem Den (rule .listType) p p') : Den .listType p p' := by
  obtain ⟨p1, ⟨o, ho⟩, p2, ⟨t, ht⟩, cl, hc⟩ := h
  exact ⟨_, .list ho ht hc⟩

theorem den_nonNullType (h : Sem Den (rule .nonNullType) p p') : Den .nonNullType p p' := by
  rcases h with ⟨p1, ⟨t, ht⟩, b, hb⟩ | ⟨-, p1, ⟨t, ht⟩, b, hb⟩
  · exact ⟨_, .nonNull (.named ht) hb⟩
  · exact ⟨_, .nonNull ht hb⟩

/-- `NonNullType` failed where a named or list type matches: no `!` follows it -/
theorem no_bang {t : TypeRef} (hnn : Run (.nt .nonNullType) p.ts .no) (hb : DBaseType p t p') : p'.kind ≠ .bang := by
  rw [run_nt_iff] at hnn
  simp only [rule, run_alt_no] at hnn
  rcases DBaseType.run hb with ⟨hn, -⟩ | ⟨hl, -⟩
  · exact kind_ne_of_tok_no (by decide) (seq_no_after hnn.1 hn)
  · exact kind_ne_of_tok_no (by decide) (seq_no_after hnn.2 hl)

theorem den_type (h : Sem Den (rule .type) p p') : Den .type p p' := by
  rcases h with h | ⟨hnn, ⟨t, ht⟩ | ⟨-, t, ht⟩⟩
  · exact h
  · exact ⟨_, .plain (.named ht) (no_bang hnn (.named ht))⟩
  · exact ⟨_, .plain ht (no_bang hnn ht)⟩

theorem den_fragmentName (h : Sem Den (rule .fragmentName) p p') : Den .fragmentName p p' := by
  obtain ⟨t, ht, hv⟩ := h
  exact ⟨_, .mk (.mk ht) (by simpa using hv)⟩

theorem den_typeCondition (h : Sem Den (rule .typeCondition) p p') : Den .typeCondition p p' := by
  obtain ⟨p1, hk, t, ht⟩ := h
  exact ⟨t, .some hk ht⟩

theorem den_alias (h : Sem Den (rule .alias) p p') : Den .alias p p' := by
  obtain ⟨p1, ⟨a, ha⟩, cl, hc⟩ := h
  exact ⟨_, _, _, .mk ha, hc⟩

theorem den_optSelectionSet (h : Sem Den (.optIf (.kind .braceL) (.nt .selectionSet)) p p') :
    ∃ s, DOptSelectionSet p s p' := by
  rcases h with ⟨-, s, h⟩ | ⟨hc, rfl⟩
  · exact ⟨_, .some h⟩
  · exact ⟨none, .none (kind_of_not_holds (by decide) hc)⟩

theorem den_field (h : Sem Den (rule .field) p p') : Den .field p p' := by
  obtain ⟨p0, hal, p1, ⟨n, hn⟩, p2, hargs, p3, ⟨ds, hds⟩, hsel⟩ := h
  obtain ⟨as, has⟩ := den_optArguments hargs
  obtain ⟨sel, hsel⟩ := den_optSelectionSet hsel
  rcases hal with ⟨a, q, cl, ha, hc⟩ | ⟨hno, rfl⟩
  · exact ⟨_, .aliased ha hc (.mk hn) has hds hsel⟩
  · -- no alias: `Name :` failed after the name matched, so no colon follows
    exact ⟨_, .field (.mk hn) (kind_ne_of_tok_no (by decide) (seq_no_after (run_nt_iff.mp hno) (tok_run hn))) has hds hsel⟩

theorem den_fragmentSpread (h : Sem Den (rule .fragmentSpread) p p') : Den .fragmentSpread p p' := by
  obtain ⟨p1, ⟨sp, hsp⟩, p2, ⟨n, hn⟩, ds, hds⟩ := h
  exact ⟨_, .spread hsp hn hds⟩

theorem den_inlineFragment (h : Sem Den (rule .inlineFragment) p p') : Den .inlineFragment p p' := by
  obtain ⟨p1, ⟨sp, hsp⟩, p2, htc, p3, ⟨ds, hds⟩, s, hs⟩ := h
  rcases htc with ⟨-, t, ht⟩ | ⟨hc, rfl⟩
  · exact ⟨_, .inline hsp ht hds hs⟩
  · exact ⟨_, .inline hsp (.none (not_isName_of_not_holds hc)) hds hs⟩

theorem den_selection (h : Sem Den (rule .selection) p p') : Den .selection p p' := by
  rcases h with h | ⟨-, h | ⟨-, h⟩⟩ <;> exact h

theorem den_selectionSet (h : Sem Den (rule .selectionSet) p p') : Den .selectionSet p p' := by
  obtain ⟨p1, ⟨o, ho⟩, p2, ⟨q, ⟨s, hs⟩, hit⟩, cl, hc⟩ := h
  obtain ⟨ss, hss⟩ := Iter.many (D := DSelection) hit
  exact ⟨_, .mk ho (.cons hs (DSelections.ofMany hss)) (by simp) hc⟩

theorem den_opType (h : Sem Den (rule .operationType) p p') : Den .operationType p p' := by
  rcases h with h | ⟨-, h | ⟨-, h⟩⟩
  · exact ⟨_, .query h⟩
  · exact ⟨_, .mutation h⟩
  · exact ⟨_, .subscription h⟩

theorem den_defaultValue (h : Sem Den (rule .defaultValue) p p') : Den .defaultValue p p' := by
  obtain ⟨p1, ⟨q, hq⟩, v, hv⟩ := h
  exact ⟨_, .some hq hv⟩

theorem den_optDefault (h : Sem Den (.optIf (.kind .equals) (.nt .defaultValue)) p p') : ∃ d, DDefault p d p' := by
  rcases h with ⟨-, h⟩ | ⟨hc, rfl⟩
  · exact h
  · exact ⟨none, .none (kind_of_not_holds (by decide) hc)⟩

theorem den_varDef (h : Sem Den (rule .variableDefinition) p p') : Den .variableDefinition p p' := by
  obtain ⟨p1, ⟨⟨n, vl⟩, hv⟩, p2, ⟨cl, hc⟩, p3, ⟨t, ht⟩, hd⟩ := h
  obtain ⟨d, hd⟩ := den_optDefault hd
  exact ⟨_, .mk hv hc ht hd⟩

theorem den_varDefs (h : Sem Den (rule .variableDefinitions) p p') : Den .variableDefinitions p p' := by
  obtain ⟨p1, ⟨o, ho⟩, p2, ⟨q, ⟨v, hv⟩, hit⟩, cl, hc⟩ := h
  obtain ⟨vs, hvs, hne⟩ := hit.many1 hv
  exact ⟨_, .some ho hvs hne hc⟩

theorem den_optVarDefs (h : Sem Den (.optIf (.kind .parenL) (.nt .variableDefinitions)) p p') : ∃ vs, DVarDefs p vs p' := by
  rcases h with ⟨-, h⟩ | ⟨hc, rfl⟩
  · exact h
  · exact ⟨[], .none (kind_of_not_holds (by decide) hc)⟩

theorem den_optName (h : Sem Den (.opt (.tok .name)) p p') : ∃ n, DOptName p n p' := by
  rcases h with ⟨t, ht⟩ | ⟨hno, rfl⟩
  · exact ⟨_, .some (.mk ht)⟩
  · exact ⟨none, .none (kind_ne_of_tok_no (by decide) hno)⟩

theorem den_operationDefinition (h : Sem Den (rule .operationDefinition) p p') : Den .operationDefinition p p' := by
  rcases h with ⟨s, hs⟩ | ⟨-, p1, ⟨op, ho⟩, p2, hn, p3, hv, p4, ⟨ds, hd⟩, s, hs⟩
  · exact ⟨_, .query hs⟩
  · obtain ⟨n, hn⟩ := den_optName hn
    obtain ⟨vs, hv⟩ := den_optVarDefs hv
    exact ⟨_, .operation ho hn hv hd hs⟩

theorem den_fragmentDefinition (h : Sem Den (rule .fragmentDefinition) p p') : Den .fragmentDefinition p p' := by
  obtain ⟨p1, hk, p2, ⟨n, hn⟩, p3, ⟨t, htc⟩, p4, ⟨ds, hd⟩, s, hs⟩ := h
  cases htc with
  | some hon ht => exact ⟨_, .fragment hk hn hon ht hd hs⟩

theorem den_description (h : Sem Den (rule .description) p p') : Den .description p p' := by
  rcases h with ⟨t, h⟩ | ⟨-, t, h⟩
  · exact ⟨_, .string h⟩
  · exact ⟨_, .blockString h⟩

theorem den_optDescription (h : Sem Den (.opt (.nt .description)) p p') : ∃ d, DDescription p d p' := by
  rcases h with h | ⟨hno, rfl⟩
  · exact h
  · rw [run_nt_iff] at hno
    simp only [rule, run_alt_no] at hno
    exact ⟨none, .none (kind_ne_of_tok_no (by decide) hno.1) (kind_ne_of_tok_no (by decide) hno.2)⟩

theorem den_opTypeDef (h : Sem Den (rule .operationTypeDefinition) p p') : Den .operationTypeDefinition p p' := by
  obtain ⟨p1, ⟨op, ho⟩, p2, ⟨cl, hc⟩, t, ht⟩ := h
  exact ⟨_, .mk ho hc ht⟩

theorem den_implements (h : Sem Den (rule .implementsInterfaces) p p') : Den .implementsInterfaces p p' := by
  obtain ⟨p1, hk, p2, hamp, p3, ⟨t, ht⟩, hit⟩ := h
  obtain ⟨ts, hts⟩ := IterIf.sepBy (D := DNamedType) (by decide) id (fun _ _ _ => dnamedType_lt) hit ht
  rcases hamp with ⟨a, ha⟩ | ⟨hno, rfl⟩
  · exact ⟨_, .leadingAmp hk ha hts⟩
  · exact ⟨_, .plain hk (kind_ne_of_tok_no (by decide) hno) hts⟩

theorem den_optImplements (h : Sem Den (.optIf (.kw "implements") (.nt .implementsInterfaces)) p p') :
    ∃ ts, DImplements p ts p' := by
  rcases h with ⟨-, h⟩ | ⟨hc, rfl⟩
  · exact h
  · exact ⟨[], .none (not_isName_of_not_holds hc)⟩

theorem den_inputValueDef (h : Sem Den (rule .inputValueDefinition) p p') : Den .inputValueDefinition p p' := by
  obtain ⟨p1, hde, p2, ⟨n, hn⟩, p3, ⟨cl, hc⟩, p4, ⟨t, ht⟩, p5, hd, ds, hds⟩ := h
  obtain ⟨desc, hde⟩ := den_optDescription hde
  obtain ⟨d, hd⟩ := den_optDefault hd
  exact ⟨_, .mk hde (.mk hn) hc ht hd hds⟩

theorem den_argumentsDefinition (h : Sem Den (rule .argumentsDefinition) p p') : Den .argumentsDefinition p p' := by
  obtain ⟨p1, ⟨o, ho⟩, p2, ⟨q, ⟨d, hd⟩, hit⟩, cl, hc⟩ := h
  obtain ⟨ds, hds, hne⟩ := hit.many1 hd
  exact ⟨_, .some ho hds hne hc⟩

theorem den_optArgumentDefs (h : Sem Den (.optIf (.kind .parenL) (.nt .argumentsDefinition)) p p') :
    ∃ ds, DArgumentDefs p ds p' := by
  rcases h with ⟨-, h⟩ | ⟨hc, rfl⟩
  · exact h
  · exact ⟨[], .none (kind_of_not_holds (by decide) hc)⟩

theorem den_fieldDef (h : Sem Den (rule .fieldDefinition) p p') : Den .fieldDefinition p p' := by
  obtain ⟨p1, hde, p2, ⟨n, hn⟩, p3, ha, p4, ⟨cl, hc⟩, p5, ⟨t, ht⟩, ds, hds⟩ := h
  obtain ⟨desc, hde⟩ := den_optDescription hde
  obtain ⟨as, ha⟩ := den_optArgumentDefs ha
  exact ⟨_, .mk hde (.mk hn) ha hc ht hds⟩

theorem den_enumValueDef (h : Sem Den (rule .enumValueDefinition) p p') : Den .enumValueDefinition p p' := by
  obtain ⟨p1, hde, p2, ⟨n, hn⟩, ds, hds⟩ := h
  obtain ⟨desc, hde⟩ := den_optDescription hde
  exact ⟨_, .mk hde (.mk hn) hds⟩

theorem den_objectDef (h : Sem Den (rule .objectTypeDefinition) p p') : Den .objectTypeDefinition p p' := by
  obtain ⟨p1, hde, p2, hk, p3, ⟨n, hn⟩, p4, hi, p5, ⟨ds, hds⟩, p6, ⟨o, ho⟩, p7, hit, cl, hc⟩ := h
  obtain ⟨desc, hde⟩ := den_optDescription hde
  obtain ⟨ifs, hi⟩ := den_optImplements hi
  obtain ⟨fs, hfs⟩ := Iter.braced (D := DFieldDef) ho hit hc
  exact ⟨_, .mk hde hk (.mk hn) hi hds hfs⟩

theorem den_unionMembers (h : Sem Den (rule .unionMembers) p p') : Den .unionMembers p p' := by
  obtain ⟨p1, ⟨t, ht⟩, hit⟩ := h
  exact IterIf.sepBy (D := DNamedType) (by decide) id (fun _ _ _ => dnamedType_lt) hit ht

theorem den_directiveLocations (h : Sem Den (rule .directiveLocations) p p') : Den .directiveLocations p p' := by
  obtain ⟨p1, ⟨n, hn⟩, hit⟩ := h
  exact IterIf.sepBy (D := DName) (by decide) (fun ⟨_, ht⟩ => ⟨_, .mk ht⟩) (fun _ _ _ => dname_lt) hit (.mk hn)

theorem den_schemaDefinition (h : Sem Den (rule .schemaDefinition) p p') : Den .schemaDefinition p p' := by
  obtain ⟨p1, hk, p2, ⟨ds, hds⟩, p3, ⟨o, ho⟩, p4, ⟨q, ⟨d, hd⟩, hit⟩, cl, hc⟩ := h
  obtain ⟨ops, hops, hne⟩ := hit.many1 hd
  exact ⟨_, .schema hk hds ho hops hne hc⟩

theorem den_scalarTypeDefinition (h : Sem Den (rule .scalarTypeDefinition) p p') : Den .scalarTypeDefinition p p' := by
  obtain ⟨p1, hde, p2, hk, p3, ⟨n, hn⟩, ds, hds⟩ := h
  obtain ⟨desc, hde⟩ := den_optDescription hde
  exact ⟨_, .scalar hde hk (.mk hn) hds⟩

theorem den_interfaceTypeDefinition (h : Sem Den (rule .interfaceTypeDefinition) p p') :
    Den .interfaceTypeDefinition p p' := by
  obtain ⟨p1, hde, p2, hk, p3, ⟨n, hn⟩, p4, ⟨ds, hds⟩, p5, ⟨o, ho⟩, p6, hit, cl, hc⟩ := h
  obtain ⟨desc, hde⟩ := den_optDescription hde
  obtain ⟨fs, hfs⟩ := Iter.braced (D := DFieldDef) ho hit hc
  exact ⟨_, .interface hde hk (.mk hn) hds hfs⟩

theorem den_unionTypeDefinition (h : Sem Den (rule .unionTypeDefinition) p p') : Den .unionTypeDefinition p p' := by
  obtain ⟨p1, hde, p2, hk, p3, ⟨n, hn⟩, p4, ⟨ds, hds⟩, p5, ⟨q, hq⟩, ms, hms⟩ := h
  obtain ⟨desc, hde⟩ := den_optDescription hde
  exact ⟨_, .union hde hk (.mk hn) hds hq hms⟩

theorem den_enumTypeDefinition (h : Sem Den (rule .enumTypeDefinition) p p') : Den .enumTypeDefinition p p' := by
  obtain ⟨p1, hde, p2, hk, p3, ⟨n, hn⟩, p4, ⟨ds, hds⟩, p5, ⟨o, ho⟩, p6, hit, cl, hc⟩ := h
  obtain ⟨desc, hde⟩ := den_optDescription hde
  obtain ⟨vs, hvs⟩ := Iter.braced (D := DEnumValueDef) ho hit hc
  exact ⟨_, .enum hde hk (.mk hn) hds hvs⟩

theorem den_inputObjectTypeDefinition (h : Sem Den (rule .inputObjectTypeDefinition) p p') :
    Den .inputObjectTypeDefinition p p' := by
  obtain ⟨p1, hde, p2, hk, p3, ⟨n, hn⟩, p4, ⟨ds, hds⟩, p5, ⟨o, ho⟩, p6, hit, cl, hc⟩ := h
  obtain ⟨desc, hde⟩ := den_optDescription hde
  obtain ⟨fs, hfs⟩ := Iter.braced (D := DInputValueDef) ho hit hc
  exact ⟨_, .inputObject hde hk (.mk hn) hds hfs⟩

theorem den_typeExtensionDefinition (h : Sem Den (rule .typeExtensionDefinition) p p') :
    Den .typeExtensionDefinition p p' := by
  obtain ⟨p1, hk, d, hd⟩ := h
  exact ⟨_, .extend hk hd⟩

theorem den_directiveDefinition (h : Sem Den (rule .directiveDefinition) p p') : Den .directiveDefinition p p' := by
  obtain ⟨p1, hde, p2, hk, p3, ⟨a, ha⟩, p4, ⟨n, hn⟩, p5, hargs, p6, hon, ls, hls⟩ := h
  obtain ⟨desc, hde⟩ := den_optDescription hde
  obtain ⟨as, hargs⟩ := den_optArgumentDefs hargs
  exact ⟨_, .directive hde hk ha (.mk hn) hargs hon hls⟩

theorem den_typeSystemDefinition (h : Sem Den (rule .typeSystemDefinition) p p') : Den .typeSystemDefinition p p' := by
  rcases h with h | ⟨-, h | ⟨-, ⟨d, h⟩ | ⟨-, h | ⟨-, h | ⟨-, h | ⟨-, h | ⟨-, h | ⟨-, h⟩⟩⟩⟩⟩⟩⟩⟩
  case inr.inr.inl => exact ⟨_, .object h⟩
  all_goals exact h

theorem den_definition (h : Sem Den (rule .definition) p p') : Den .definition p p' := by
  rcases h with h | ⟨-, h | ⟨-, h⟩⟩ <;> exact h

theorem den_document (h : Sem Den (rule .document) p p') : Den .document p p' := by
  obtain ⟨q, ⟨d, hd⟩, hit⟩ := h
  exact hit.many1 hd

end steps

theorem den_closed (X : NT) (p p' : Pos) (h : Sem Den (rule X) p p') : Den X p p' := by
  cases X
  case document => exact den_document h
  case definition => exact den_definition h
  case operationDefinition => exact den_operationDefinition h
  case operationType => exact den_opType h
  case variableDefinitions => exact den_varDefs h
  case variableDefinition => exact den_varDef h
  case var => exact den_var h
  case defaultValue => exact den_defaultValue h
  case selectionSet => exact den_selectionSet h
  case selection => exact den_selection h
  case field => exact den_field h
  case alias => exact den_alias h
  case arguments => exact den_arguments h
  case argument => exact den_argument h
  case fragmentSpread => exact den_fragmentSpread h
  case inlineFragment => exact den_inlineFragment h
  case fragmentDefinition => exact den_fragmentDefinition h
  case fragmentName => exact den_fragmentName h
  case typeCondition => exact den_typeCondition h
  case value => exact den_value h
  case constValue => exact den_valueAlts true id id h
  case listValue => exact den_list false rfl h
  case constListValue => exact den_list true rfl h
  case objectValue => exact den_obj false rfl h
  case constObjectValue => exact den_obj true rfl h
  case objectField => exact den_objField false id h
  case constObjectField => exact den_objField true id h
  case booleanValue => exact den_boolean h
  case enumValue => exact den_enum h
  case directives => exact den_directives h
  case directive => exact den_directive h
  case type => exact den_type h
  case namedType => exact den_namedType h
  case listType => exact den_listType h
  case nonNullType => exact den_nonNullType h
  case typeSystemDefinition => exact den_typeSystemDefinition h
  case schemaDefinition => exact den_schemaDefinition h
  case operationTypeDefinition => exact den_opTypeDef h
  case scalarTypeDefinition => exact den_scalarTypeDefinition h
  case objectTypeDefinition => exact den_objectDef h
  case implementsInterfaces => exact den_implements h
  case fieldDefinition => exact den_fieldDef h
  case argumentsDefinition => exact den_argumentsDefinition h
  case inputValueDefinition => exact den_inputValueDef h
  case interfaceTypeDefinition => exact den_interfaceTypeDefinition h
  case unionTypeDefinition => exact den_unionTypeDefinition h
  case unionMembers => exact den_unionMembers h
  case enumTypeDefinition => exact den_enumTypeDefinition h
  case enumValueDefinition => exact den_enumValueDef h
  case inputObjectTypeDefinition => exact den_inputObjectTypeDefinition h
  case typeExtensionDefinition => exact den_typeExtensionDefinition h
  case directiveDefinition => exact den_directiveDefinition h
  case directiveLocations => exact den_directiveLocations h
  case description => exact den_description h

theorem run_den {X : NT} {ts r : List Token} (h : Run (.nt X) ts (.rest r)) (e : Nat) : ∃ e', Den X ⟨e, ts⟩ ⟨e', r⟩ :=
  run_sem den_closed h r rfl e

theorem run_derivesDoc {toks : List Token} (eofPos : Nat) (h : Run (.nt .document) toks (.rest [])) :
    ∃ d, DerivesDoc toks eofPos d := by
  obtain ⟨e, defs, hM, hne⟩ := run_den h 0
  exact ⟨_, .mk hM hne⟩

end GqlModel.Grammar
