import GqlProofs.PlanDfsSettle
/-! # The breadth-first pass leaves no closure behind

`dethunkMapWithBreadthFirstTraversal` (model `bfsLoop`, FIFO queue of container addresses) visits every container: invariant
`BInvE` — every queued address is a container of the tree, and every closure of the tree lies below a queued address. When the queue
is empty there is no closure left. Needs: what a dethunk site stores is never a closure (`forceLoop`) and response maps have distinct
keys (`NDv`, so that an address names ONE node). -/
namespace GqlModel.Plan
open GqlModel.Exec

theorem isContainer_of_getAt_cons {v w : PVal} {seg : PathSeg} {rest : Path} (h : v.getAt (seg :: rest) = some w) :
    v.isContainer = true := by
  rw [getAt_cons] at h
  cases hc : v.child seg with
  | none => rw [hc] at h; cases h
  | some x => exact isContainer_of_child hc

def SameKind : PVal → PVal → Prop
  | .leaf a, .leaf b => a = b
  | .deferred a, .deferred b => a = b
  | .list _, .list _ => True
  | .obj _, .obj _ => True
  | _, _ => False

theorem SameKind.refl (v : PVal) : SameKind v v := by cases v <;> simp [SameKind]

def OptSame : Option PVal → Option PVal → Prop
  | none, none => True
  | some a, some b => SameKind a b
  | _, _ => False

theorem OptSame.refl (o : Option PVal) : OptSame o o := by
  cases o with
  | none => trivial
  | some v => exact SameKind.refl v

theorem sameKind_setChild {v w : PVal} {seg : PathSeg} (h : v.child seg = some w) (w' : PVal) : SameKind v (v.setChild seg w') := by
  cases v <;> cases seg <;> first | trivial | cases h

theorem getAt_setAt_other : ∀ (a0 p : Path) (root : PVal) {old : PVal} (nv : PVal), root.getAt a0 = some old → ¬ a0 <+: p →
    OptSame (root.getAt p) ((root.setAt a0 nv).getAt p)
  | [], p, root, old, nv, _, hnp => absurd (List.nil_prefix) hnp
  | seg :: rest, p, root, old, nv, h, hnp => by
    rw [getAt_cons] at h
    cases hc : root.child seg with
    | none => rw [hc] at h; cases h
    | some x =>
      rw [hc] at h
      rw [setAt_cons, hc]
      cases p with
      | nil => simp only [getAt_nil]; exact sameKind_setChild hc _
      | cons s2 p2 =>
        rw [getAt_cons, getAt_cons]
        by_cases hs : seg = s2
        · subst hs
          rw [hc, child_setChild_self hc]
          exact getAt_setAt_other rest p2 x nv h fun hp => hnp (by simpa using hp)
        · rw [child_setChild_ne hs]
          exact OptSame.refl _

theorem optSame_deferred {o o' : Option PVal} {cl : Closure} (h : OptSame o o') (h' : o' = some (.deferred cl)) :
    o = some (.deferred cl) := by
  subst h'
  cases o with
  | none => exact absurd h id
  | some v => cases v <;> simp [OptSame, SameKind] at h; rw [h]

theorem optSame_container {o o' : Option PVal} (h : OptSame o o') :
    (∃ v, o = some v ∧ v.isContainer = true) → ∃ v', o' = some v' ∧ v'.isContainer = true := by
  rintro ⟨v, rfl, hv⟩
  cases o' with
  | none => exact absurd h id
  | some v' =>
    refine ⟨v', rfl, ?_⟩
    cases v <;> cases v' <;> simp_all [OptSame, SameKind, PVal.isContainer]

theorem ndv_child {v w : PVal} {seg : PathSeg} (h : NDv v) (hc : v.child seg = some w) : NDv w :=
  child_of_entries (fun _ h => (ndv_obj.1 h).2) (fun _ h => ndv_list.1 h) h hc

theorem ndv_setChild {v w' : PVal} (seg : PathSeg) (h : NDv v) (hw : NDv w') : NDv (v.setChild seg w') := by
  cases v with
  | obj fs =>
    cases seg with
    | key k =>
      obtain ⟨h1, h2⟩ := ndv_obj.1 h
      refine ndv_obj.2 ⟨by rw [setF_keys]; exact h1, fun y hy => ?_⟩
      rcases mem_setF h1 hy with rfl | ⟨hym, _⟩
      · exact hw
      · exact h2 y hym
    | idx i => exact h
  | list xs =>
    cases seg with
    | key k => exact h
    | idx i =>
      refine ndv_list.2 fun y hy => ?_
      rcases List.mem_or_eq_of_mem_set hy with hy | rfl
      · exact ndv_list.1 h y hy
      · exact hw
  | leaf _ => cases seg <;> exact h
  | deferred _ => cases seg <;> exact h

theorem ndv_getAt (a : Path) {root v : PVal} (h : NDv root) (hg : root.getAt a = some v) : NDv v :=
  getAt_down (fun _ _ _ h hc => ndv_child h hc) a h hg

theorem ndv_setAt (a : Path) {root nv : PVal} (h : NDv root) (hn : NDv nv) : NDv (root.setAt a nv) :=
  setAt_keeps (fun _ _ _ h hc => ndv_child h hc) (fun _ seg _ h hw => ndv_setChild seg h hw) a h hn

mutual
theorem noDef_of_getAt : ∀ (v : PVal), NDv v → (∀ (a : Path) (cl : Closure), v.getAt a ≠ some (.deferred cl)) → NoDef v
  | .leaf _, _, _ => allCl_leaf _
  | .deferred cl, _, h => absurd (getAt_nil _) (h [] cl)
  | .list xs, hn, h => by
    unfold NoDef
    simp only [PVal.AllCl]
    apply noDefList_of_getAt xs 0 (ndv_list.1 hn)
    intro i x hx a cl
    have := h (.idx i :: a) cl
    simpa [PVal.getAt, hx] using this
  | .obj fs, hn, h => by
    unfold NoDef
    simp only [PVal.AllCl]
    apply noDefFields_of_getAt fs (ndv_obj.1 hn).1 (ndv_obj.1 hn).2
    intro k x hx a cl
    have := h (.key k :: a) cl
    simpa [PVal.getAt, hx] using this
theorem noDefList_of_getAt : ∀ (xs : List PVal) (_off : Nat), (∀ x ∈ xs, NDv x) →
    (∀ (i : Nat) (x : PVal), xs[i]? = some x → ∀ (a : Path) (cl : Closure), x.getAt a ≠ some (.deferred cl)) →
    PVal.AllClList (fun _ => False) xs
  | [], _, _, _ => by simp [PVal.AllClList]
  | x :: xs, off, hn, h => by
    simp only [PVal.AllClList]
    refine ⟨noDef_of_getAt x (hn x List.mem_cons_self) (h 0 x rfl), ?_⟩
    apply noDefList_of_getAt xs (off + 1) (fun y hy => hn y (List.mem_cons_of_mem _ hy))
    intro i y hy
    exact h (i + 1) y (by simpa using hy)
theorem noDefFields_of_getAt : ∀ (fs : List (String × PVal)), (fs.map (·.1)).Nodup → (∀ x ∈ fs, NDv x.2) →
    (∀ (k : String) (x : PVal), lookupF fs k = some x → ∀ (a : Path) (cl : Closure), x.getAt a ≠ some (.deferred cl)) →
    PVal.AllClFields (fun _ => False) fs
  | [], _, _, _ => by simp [PVal.AllClFields]
  | (k, x) :: rest, hnd, hn, h => by
    simp only [PVal.AllClFields]
    simp only [List.map_cons, List.nodup_cons] at hnd
    refine ⟨noDef_of_getAt x (hn _ List.mem_cons_self) (h k x (by simp [lookupF])), ?_⟩
    apply noDefFields_of_getAt rest hnd.2 (fun y hy => hn y (List.mem_cons_of_mem _ hy))
    intro k2 y hy
    apply h k2 y
    have hne : (k == k2) = false := by
      simp only [beq_eq_false_iff_ne, ne_eq]
      intro hk
      subst hk
      exact hnd.1 (List.mem_map.2 ⟨(k, y), lookupF_mem hy, rfl⟩)
    simpa [lookupF, List.find?_cons, hne] using hy
end

/-- while the entries `segs` of the container at `p` are still to be visited: every closure lies below a queued address or below
one of those entries; with `p := []`, `segs := []` it is the invariant of the loop `bfsLoop` -/
structure BInvE (root : PVal) (q : List Path) (p : Path) (segs : List PathSeg) : Prop where
  nd : NDv root
  cont : ∀ p' ∈ q, ∃ v, root.getAt p' = some v ∧ v.isContainer = true
  cov : ∀ (a : Path) (cl : Closure), root.getAt a = some (.deferred cl) →
    (∃ p' ∈ q, p' <+: a) ∨ (∃ seg ∈ segs, p ++ [seg] <+: a)

theorem getAt_below_none {root : PVal} {a c : Path} (h : root.getAt a = none) : root.getAt (a ++ c) = none := by
  rw [getAt_append, h]; rfl

/-- an address whose value is no container has nothing below it -/
theorem getAt_below_noncontainer {root y w : PVal} {a b : Path} (hg : root.getAt a = some y) (hy : y.isContainer = false)
    (hpre : a <+: b) (hb : root.getAt b = some w) : b = a := by
  obtain ⟨c, rfl⟩ := hpre
  rw [getAt_append, hg] at hb
  cases c with
  | nil => exact List.append_nil a
  | cons s r => rw [isContainer_of_getAt_cons (v := y) hb] at hy; cases hy

theorem mem_childSegs_of_child {cont x : PVal} {seg : PathSeg} (hc : cont.child seg = some x) : seg ∈ childSegs cont := by
  cases cont with
  | obj fs =>
    cases seg with
    | key k => exact List.mem_map.2 ⟨k, mem_sortedKeys (lookupF_mem hc), rfl⟩
    | idx i => cases hc
  | list xs =>
    cases seg with
    | key k => cases hc
    | idx i =>
      exact List.mem_map.2 ⟨i, List.mem_range.2 (List.getElem?_eq_some_iff.1 (hc : xs[i]? = some x)).1, rfl⟩
  | leaf _ => cases seg <;> cases hc
  | deferred _ => cases seg <;> cases hc

theorem mem_childSegs {cont w : PVal} {seg : PathSeg} {rest : Path} (h : cont.getAt (seg :: rest) = some w) :
    seg ∈ childSegs cont := by
  rw [getAt_cons] at h
  cases hc : cont.child seg with
  | none => rw [hc] at h; cases h
  | some x => exact mem_childSegs_of_child hc

variable {frc : Closure → MSt → Res PVal × MSt}

theorem bfsEntries_inv (hf : FrcFlat frc) (p : Path) :
    ∀ (segs : List PathSeg) (root : PVal) (q : List Path) (st : MSt), BInvE root q p segs →
    ∀ x, (bfsEntries frc p segs root q st).1 = .ok x → BInvE x.1 x.2 p []
  | [], root, q, st, h => yields_ok (Q := fun x : PVal × List Path => BInvE x.1 x.2 p []) h
  | seg :: rest, root, q, st, h => by
    rw [bfsEntries_cons]
    -- dropping `seg` from the entries to visit when nothing closure-like lies below it, queueing it when it is a container
    have skip : ∀ (q' : List Path), (∀ p' ∈ q, p' ∈ q') →
        (∀ p' ∈ q', p' ∈ q ∨ (p' = p ++ [seg] ∧ ∃ v, root.getAt (p ++ [seg]) = some v ∧ v.isContainer = true)) →
        (∀ (a : Path) (cl : Closure), root.getAt a = some (.deferred cl) → p ++ [seg] <+: a → p ++ [seg] ∈ q') →
        BInvE root q' p rest := by
      intro q' hsub hq' hbelow
      refine ⟨h.nd, ?_, ?_⟩
      · intro p' hp'
        rcases hq' p' hp' with h1 | ⟨rfl, h2⟩
        · exact h.cont p' h1
        · exact h2
      · intro a cl ha
        rcases h.cov a cl ha with ⟨p', hp', hpre⟩ | ⟨s, hs, hpre⟩
        · exact .inl ⟨p', hsub p' hp', hpre⟩
        · rcases List.mem_cons.1 hs with rfl | hs
          · exact .inl ⟨_, hbelow a cl ha hpre, hpre⟩
          · exact .inr ⟨s, hs, hpre⟩
    -- a container at the entry is queued
    have queued : ∀ y, root.getAt (p ++ [seg]) = some y → y.isContainer = true →
        ∀ x, (bfsEntries frc p rest root (q ++ [p ++ [seg]]) st).1 = .ok x → BInvE x.1 x.2 p [] := by
      intro y hg hc
      refine bfsEntries_inv hf p rest root (q ++ [p ++ [seg]]) st (skip _ (fun _ h => List.mem_append_left _ h) ?_ ?_)
      · intro p' hp'
        rcases List.mem_append.1 hp' with h1 | h1
        · exact .inl h1
        · simp only [List.mem_singleton] at h1; exact .inr ⟨h1, _, hg, hc⟩
      · intro a cl _ _; exact List.mem_append_right _ (List.mem_singleton.2 rfl)
    cases hg : root.getAt (p ++ [seg]) with
    | none =>
      refine bfsEntries_inv hf p rest root q st (skip q (fun _ h => h) (fun _ h => .inl h) ?_)
      intro a cl ha hpre
      obtain ⟨c, rfl⟩ := hpre
      rw [getAt_below_none hg] at ha; cases ha
    | some y =>
      cases y with
      | leaf j =>
        refine bfsEntries_inv hf p rest root q st (skip q (fun _ h => h) (fun _ h => .inl h) ?_)
        intro a cl ha hpre
        obtain rfl := getAt_below_noncontainer hg rfl hpre ha
        rw [hg] at ha; cases ha
      | list xs => exact queued _ hg rfl
      | obj fs => exact queued _ hg rfl
      | deferred cl0 =>
        refine Yields.andThen (hf cl0 st) fun nv st1 ⟨hnvnd, hnvdef⟩ => ?_
        -- a queued address is not at or below the closure's position
        have hnot : ∀ p' ∈ q, ¬ (p ++ [seg]) <+: p' := by
          intro p' hp' hpre
          obtain ⟨v, hv, hcont⟩ := h.cont _ hp'
          obtain rfl := getAt_below_noncontainer hg rfl hpre hv
          rw [hg] at hv; cases hv; cases hcont
        have hself : (root.setAt (p ++ [seg]) nv).getAt (p ++ [seg]) = some nv := by
          have := getAt_setAt_below (p ++ [seg]) [] root nv hg
          simpa [getAt_nil] using this
        refine bfsEntries_inv hf p rest _ _ st1 ⟨ndv_setAt _ h.nd hnvnd, ?_, ?_⟩
        · intro p' hp'
          by_cases hc : nv.isContainer = true
          · simp only [hc, if_true] at hp'
            rcases List.mem_append.1 hp' with h1 | h1
            · exact optSame_container (getAt_setAt_other _ p' root nv hg (hnot p' h1)) (h.cont p' h1)
            · simp only [List.mem_singleton] at h1; subst h1; exact ⟨nv, hself, hc⟩
          · simp only [hc, Bool.false_eq_true, if_false] at hp'
            exact optSame_container (getAt_setAt_other _ p' root nv hg (hnot p' hp')) (h.cont p' hp')
        · intro a cl ha'
          by_cases hpre : (p ++ [seg]) <+: a
          · -- inside the value just stored: it is a container, and it was queued
            obtain ⟨c, rfl⟩ := hpre
            rw [getAt_setAt_below _ c root nv hg] at ha'
            cases c with
            | nil =>
              rw [getAt_nil] at ha'
              simp only [Option.some.injEq] at ha'
              exact absurd ha' (hnvdef cl)
            | cons s r =>
              have hc := isContainer_of_getAt_cons ha'
              refine .inl ⟨p ++ [seg], ?_, List.prefix_append _ _⟩
              simp only [hc, if_true]
              exact List.mem_append_right _ (List.mem_singleton.2 rfl)
          · have hold := optSame_deferred (getAt_setAt_other _ a root nv hg hpre) ha'
            rcases h.cov a cl hold with ⟨p', hp', hpp⟩ | ⟨s, hs, hpp⟩
            · refine .inl ⟨p', ?_, hpp⟩
              by_cases hc : nv.isContainer = true
              · simp only [hc, if_true]; exact List.mem_append_left _ hp'
              · simp only [hc, Bool.false_eq_true, if_false]; exact hp'
            · rcases List.mem_cons.1 hs with rfl | hs
              · exact absurd hpp hpre
              · exact .inr ⟨s, hs, hpp⟩

/-- **the breadth-first pass visits every container** -/
theorem bfsLoop_inv (hf : FrcFlat frc) : ∀ (n : Nat) (root : PVal) (q : List Path) (st : MSt), BInvE root q [] [] →
    ∀ x, (bfsLoop frc n root q st).1 = .ok x → NoDef x
  | 0, root, q, st, _ => yields_fuelOut (Q := NoDef)
  | n + 1, root, [], st, h => by
    refine yields_ok (Q := NoDef) (noDef_of_getAt _ h.nd fun a cl ha => ?_)
    rcases h.cov a cl ha with ⟨p', hp', _⟩ | ⟨s, hs, _⟩
    · cases hp'
    · cases hs
  | n + 1, root, p :: q, st, h => by
    rw [bfsLoop_cons]
    cases hg : root.getAt p with
    | none =>
      refine bfsLoop_inv hf n root q st ⟨h.nd, fun p' hp' => h.cont p' (List.mem_cons_of_mem _ hp'), ?_⟩
      intro a cl ha
      rcases h.cov a cl ha with ⟨p', hp', hpre⟩ | ⟨s, hs, _⟩
      · rcases List.mem_cons.1 hp' with rfl | hp'
        · obtain ⟨c, rfl⟩ := hpre
          rw [getAt_below_none hg] at ha; cases ha
        · exact .inl ⟨p', hp', hpre⟩
      · cases hs
    | some cont =>
      have hE : BInvE root q p (childSegs cont) := by
        refine ⟨h.nd, fun p' hp' => h.cont p' (List.mem_cons_of_mem _ hp'), ?_⟩
        intro a cl ha
        rcases h.cov a cl ha with ⟨p', hp', hpre⟩ | ⟨s, hs, _⟩
        · rcases List.mem_cons.1 hp' with rfl | hp'
          · obtain ⟨c, rfl⟩ := hpre
            obtain ⟨v, hv, hcont⟩ := h.cont p' List.mem_cons_self
            rw [hg] at hv
            simp only [Option.some.injEq] at hv
            subst hv
            rw [getAt_append, hg] at ha
            simp only [Option.bind_some] at ha
            cases c with
            | nil => rw [getAt_nil] at ha; simp only [Option.some.injEq] at ha; subst ha; cases hcont
            | cons s r =>
              exact .inr ⟨s, mem_childSegs ha, by
                rw [show p' ++ s :: r = (p' ++ [s]) ++ r by simp]; exact List.prefix_append _ _⟩
          · exact .inl ⟨p', hp', hpre⟩
        · cases hs
      refine Yields.andThen (bfsEntries_inv hf p (childSegs cont) root q st hE) fun y st1 hE' => ?_
      refine bfsLoop_inv hf n y.1 y.2 st1 ⟨hE'.nd, hE'.cont, fun a cl ha => ?_⟩
      rcases hE'.cov a cl ha with h1 | ⟨s, hs, _⟩
      · exact .inl h1
      · cases hs

theorem bfsLoop_settles (hf : FrcFlat frc) (n : Nat) (fs : List (String × PVal)) (st : MSt) (hnd : NDv (.obj fs)) :
    ∀ x, (bfsLoop frc n (.obj fs) [[]] st).1 = .ok x → NoDef x := by
  apply bfsLoop_inv hf n (.obj fs) [[]] st
  refine ⟨hnd, ?_, ?_⟩
  · intro p' hp'
    simp only [List.mem_singleton] at hp'
    subst hp'
    exact ⟨_, getAt_nil _, rfl⟩
  · intro a cl _
    exact .inl ⟨[], List.mem_singleton.2 rfl, List.nil_prefix⟩

end GqlModel.Plan
