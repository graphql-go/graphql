import GqlProofs.SchemaBuild
/-! C11: what a type object shows once its lazily evaluated members are forced. The steps of an entry without parked
error are the visits of what `builtType` shows (`stepsOf_built`), so a closed entry is one whose dump refers to
registered types only (`ClosedE.built`). -/
namespace GqlModel.SchemaBuild

variable {cfg : Config}

def NoFail (steps : List Step) : Prop := ∀ s ∈ steps, ∃ t, s = .visit t

theorem NoFail.of_append_right {a b : List Step} (h : NoFail (a ++ b)) : NoFail b :=
  fun s hs => h s (List.mem_append_right _ hs)

theorem ClosedE.noFail {tm : TM} {i : Nat} (h : ClosedE cfg tm i) : NoFail (stepsOf cfg i) := by
  intro s hs
  obtain ⟨t, ht, _⟩ := h s hs
  exact ⟨t, ht⟩

theorem fieldSteps_eq_flatMap (fs : List BField) :
    fieldSteps fs = fs.flatMap fun f => f.args.map (fun a => Step.visit a.type) ++ [.visit f.type] := by
  induction fs with
  | nil => rfl
  | cons f rest ih => simp [fieldSteps, ih]

theorem mem_fieldSteps {fs : List BField} {s : Step} :
    s ∈ fieldSteps fs ↔ ∃ f ∈ fs, s = .visit f.type ∨ ∃ a ∈ f.args, s = .visit a.type := by
  simp only [fieldSteps_eq_flatMap, List.mem_flatMap, List.mem_append, List.mem_map, List.mem_singleton, or_comm, eq_comm]

theorem memberSteps_noFail {ms : List Nat} (h : NoFail (memberSteps cfg ms)) :
    ∀ m ∈ ms, ctorErr cfg m = none ∧ Step.visit (.ref m) ∈ memberSteps cfg ms := by
  induction ms with
  | nil => intro m hm; cases hm
  | cons x rest ih =>
    intro m hm
    cases hc : ctorErr cfg x with
    | some e =>
      have : Step.fail e ∈ memberSteps cfg (x :: rest) := by simp [memberSteps, hc]
      obtain ⟨t, ht⟩ := h _ this
      cases ht
    | none =>
      have heq : memberSteps cfg (x :: rest) = .visit (.ref x) :: memberSteps cfg rest := by simp [memberSteps, hc]
      rw [heq] at h ⊢
      cases hm with
      | head => exact ⟨hc, by simp⟩
      | tail _ hm' =>
        have h' : NoFail (memberSteps cfg rest) := fun s hs => h s (List.mem_cons_of_mem _ hs)
        obtain ⟨h1, h2⟩ := ih h' m hm'
        exact ⟨h1, List.mem_cons_of_mem _ h2⟩

theorem exceptSteps_noFail {α : Type} {r : Except Err α} {k : α → List Step} (h : NoFail (exceptSteps r k)) :
    ∃ a, r = .ok a ∧ exceptSteps r k = k a := by
  cases r with
  | error e =>
    have : Step.fail e ∈ exceptSteps (Except.error e) k := by simp [exceptSteps]
    obtain ⟨t, ht⟩ := h _ this
    cases ht
  | ok a => exact ⟨a, rfl, rfl⟩

theorem insertBy_perm {α : Type} (lt : α → α → Bool) (x : α) : ∀ l : List α, (insertBy lt x l).Perm (x :: l) := by
  intro l
  induction l with
  | nil => exact List.Perm.refl _
  | cons y ys ih =>
    simp only [insertBy]
    split
    · exact List.Perm.refl _
    · exact (List.Perm.cons y ih).trans (List.Perm.swap x y ys)

theorem sortBy_perm {α : Type} (lt : α → α → Bool) : ∀ l : List α, (sortBy lt l).Perm l := by
  intro l
  induction l with
  | nil => exact List.Perm.refl _
  | cons x xs ih => exact (insertBy_perm lt x _).trans (List.Perm.cons x ih)

theorem mem_sortBy {α : Type} (lt : α → α → Bool) (y : α) (l : List α) : y ∈ sortBy lt l ↔ y ∈ l :=
  (sortBy_perm lt l).mem_iff

theorem leafKind_named {t : TRef} {p : Kind → Bool} (h : ((leafKind cfg t).map p).getD false = true) :
    ∃ j, t.strip = .named j ∧ p (kindOf cfg j) = true := by
  unfold leafKind at h
  cases hs : t.strip with
  | named j => exact ⟨j, rfl, by simpa [hs] using h⟩
  | nil => simp [hs] at h
  | nilPtr k => simp [hs] at h
  | badList => simp [hs] at h
  | badNonNull => simp [hs] at h

theorem isOutputType_named {t : TRef} (h : isOutputType cfg t = true) :
    ∃ j, t.strip = .named j ∧ (kindOf cfg j).isOutput = true := leafKind_named h

theorem isInputType_named {t : TRef} (h : isInputType cfg t = true) :
    ∃ j, t.strip = .named j ∧ (kindOf cfg j).isInput = true := leafKind_named h

/-- an argument / input field and a field as `defineFieldMap` builds them when it accepts them -/
def buildArg (a : ArgCfg) : BArg := ⟨a.name, a.type.build⟩
def buildField (f : FieldCfg) : BField :=
  ⟨f.name, f.type.build, (sortBy (fun a b => decide (a.name < b.name)) f.args).map buildArg⟩

/-- the loops succeed only by accepting every entry (an input object's loop: every entry it does not skip), so the
result is the list of entries, each built as it stands -/
theorem defineArgs_ok {as : List ArgCfg} {bs : List BArg} (h : defineArgs cfg as = .ok bs) :
    bs = as.map buildArg ∧ ∀ a ∈ as, isInputType cfg a.type.build = true := by
  fun_induction defineArgs cfg as generalizing bs
  case case1 => cases h; exact ⟨rfl, fun _ h => nomatch h⟩
  case case7 a rest _ _ t _ hin bs' hr ih =>   -- the argument is accepted and so is the rest
    cases h
    obtain ⟨rfl, hall⟩ := ih hr
    exact ⟨rfl, List.forall_mem_cons.mpr ⟨by simpa using hin, hall⟩⟩
  all_goals cases h

theorem defineInputLoop_ok {fs : List ArgCfg} {bs : List BArg} (h : defineInputLoop cfg fs = .ok bs) :
    bs = (fs.filter (fun f => f.present && validName f.name)).map buildArg ∧
      ∀ f ∈ fs, f.present = true → validName f.name = true → isInputType cfg f.type.build = true := by
  fun_induction defineInputLoop cfg fs generalizing bs
  case case1 => cases h; exact ⟨rfl, fun _ h => nomatch h⟩
  case case2 f rest hp ih =>   -- a nil entry is skipped
    obtain ⟨rfl, hall⟩ := ih h
    exact ⟨by rw [List.filter_cons_of_neg (by simp [show f.present = false by simpa using hp])], List.forall_mem_cons.mpr ⟨fun h' => by simp [h'] at hp, hall⟩⟩
  case case3 f rest hp hv ih =>   -- an input field with an invalid name is dropped
    obtain ⟨rfl, hall⟩ := ih h
    exact ⟨by rw [List.filter_cons_of_neg (by simp [show validName f.name = false by simpa using hv])], List.forall_mem_cons.mpr ⟨fun _ h' => by simp [h'] at hv, hall⟩⟩
  case case7 f rest hp hv t _ hin bs' hr ih =>   -- the input field is accepted and so is the rest
    cases h
    obtain ⟨rfl, hall⟩ := ih hr
    exact ⟨by rw [List.filter_cons_of_pos (by simpa using And.intro hp hv)]; rfl, List.forall_mem_cons.mpr ⟨fun _ _ => by simpa using hin, hall⟩⟩
  all_goals cases h

theorem defineFieldsLoop_ok {fs : List FieldCfg} {bs : List BField} (h : defineFieldsLoop cfg fs = .ok bs) :
    bs = (fs.filter (·.present)).map buildField ∧
      ∀ f ∈ fs, f.present = true →
        isOutputType cfg f.type.build = true ∧ ∀ a ∈ f.args, isInputType cfg a.type.build = true := by
  fun_induction defineFieldsLoop cfg fs generalizing bs
  case case1 => cases h; exact ⟨rfl, fun _ h => nomatch h⟩
  case case2 f rest hp ih =>   -- a nil entry is skipped
    obtain ⟨rfl, hall⟩ := ih h
    exact ⟨by rw [List.filter_cons_of_neg (by simpa using hp)], List.forall_mem_cons.mpr ⟨fun h' => by simp [h'] at hp, hall⟩⟩
  case case9 f rest hp t _ _ hout _ as has bs' hr ih =>   -- the field, its arguments and the rest are accepted
    cases h
    obtain ⟨rfl, hall⟩ := ih hr
    obtain ⟨rfl, hargs⟩ := defineArgs_ok has
    refine ⟨by rw [List.filter_cons_of_pos (by simpa using hp)]; rfl, List.forall_mem_cons.mpr
      ⟨fun _ => ⟨by simpa using hout, fun a ha => hargs a ((mem_sortBy _ a _).mpr ha)⟩, hall⟩⟩
  all_goals cases h

/-- the specified directives `@include`, `@skip`, `@deprecated` as `schema.Directives()` shows them -/
def specifiedDirs : List (String × List BArg) :=
  [("include", [⟨"if", .nonNull (.ref idBoolean)⟩]), ("skip", [⟨"if", .nonNull (.ref idBoolean)⟩]),
   ("deprecated", [⟨"reason", .ref idString⟩])]

theorem mem_dirDefs {dd : String × List BArg} (h : dd ∈ dirDefs cfg) :
    dd ∈ specifiedDirs ∨ ∃ d, some d ∈ cfg.directives ∧
      dd = (d.name, (sortBy (fun a b => decide (a.name < b.name)) d.args).map buildArg) := by
  unfold dirDefs at h
  split at h
  · exact .inl h
  · obtain ⟨d, hd, hdd⟩ := List.mem_filterMap.mp h
    cases d with
    | none => cases hdd
    | some d => exact .inr ⟨d, hd, (Option.some.inj hdd).symm⟩

theorem mem_dirArgTypes {t : TRef} (h : t ∈ dirArgTypes cfg) :
    t = .nonNull (.ref idBoolean) ∨ t = .ref idString ∨
      ∃ d a, some d ∈ cfg.directives ∧ a ∈ d.args ∧ t = a.type.build := by
  obtain ⟨dd, hdd, ht⟩ := List.mem_flatMap.mp h
  rcases mem_dirDefs hdd with hs | ⟨d, hd, rfl⟩
  · have : ∀ dd ∈ specifiedDirs, ∀ t ∈ dd.2.map (·.type), t = .nonNull (.ref idBoolean) ∨ t = .ref idString := by decide
    exact (this dd hs t ht).imp_right .inl
  · obtain ⟨b, hb, rfl⟩ := List.mem_map.mp ht
    obtain ⟨a, ha, rfl⟩ := List.mem_map.mp hb
    exact .inr (.inr ⟨d, a, hd, (mem_sortBy _ a _).mp ha, rfl⟩)

def givenFields (cfg : Config) (i : Nat) : List FieldCfg := if formGiven (cfg.get i).form then (cfg.get i).fields else []
def givenInputFields (cfg : Config) (i : Nat) : List ArgCfg := if formGiven (cfg.get i).form then (cfg.get i).inputFields else []

theorem fieldsOf_eq (i : Nat) :
    fieldsOf cfg i = if (givenFields cfg i).isEmpty then .error .emptyFields else defineFieldsLoop cfg (givenFields cfg i) := rfl

theorem inputFieldsOf_eq (i : Nat) :
    inputFieldsOf cfg i =
      if (givenInputFields cfg i).isEmpty then .error .emptyFields else defineInputLoop cfg (givenInputFields cfg i) := rfl

theorem fieldsOf_loop {i : Nat} {fs : List BField} (h : fieldsOf cfg i = .ok fs) :
    defineFieldsLoop cfg (givenFields cfg i) = .ok fs := by
  rw [fieldsOf_eq] at h
  split at h
  · cases h
  · exact h

theorem inputFieldsOf_loop {i : Nat} {fs : List BArg} (h : inputFieldsOf cfg i = .ok fs) :
    defineInputLoop cfg (givenInputFields cfg i) = .ok fs := by
  rw [inputFieldsOf_eq] at h
  split at h
  · cases h
  · exact h

theorem fieldsOf_spec {i : Nat} {fs : List BField} (h : fieldsOf cfg i = .ok fs) :
    ∀ b ∈ fs, isOutputType cfg b.type = true ∧ ∀ a ∈ b.args, isInputType cfg a.type = true := by
  obtain ⟨rfl, hall⟩ := defineFieldsLoop_ok (fieldsOf_loop h)
  intro b hb
  obtain ⟨f, hf, rfl⟩ := List.mem_map.mp hb
  obtain ⟨hf, hp⟩ := List.mem_filter.mp hf
  refine ⟨(hall f hf hp).1, fun a ha => ?_⟩
  obtain ⟨a', ha', rfl⟩ := List.mem_map.mp ha
  exact (hall f hf hp).2 a' ((mem_sortBy _ a' _).mp ha')

theorem inputFieldsOf_spec {i : Nat} {fs : List BArg} (h : inputFieldsOf cfg i = .ok fs) :
    ∀ b ∈ fs, isInputType cfg b.type = true := by
  obtain ⟨rfl, hall⟩ := defineInputLoop_ok (inputFieldsOf_loop h)
  intro b hb
  obtain ⟨f, hf, rfl⟩ := List.mem_map.mp hb
  obtain ⟨hf, hp⟩ := List.mem_filter.mp hf
  rw [Bool.and_eq_true] at hp
  exact hall f hf hp.1 hp.2

theorem mem_orNil {α : Type} {r : Except Err (List α)} {x : α} (h : x ∈ orNil r) : ∃ l, r = .ok l ∧ x ∈ l := by
  cases r with
  | error e => cases h
  | ok l => exact ⟨l, rfl, h⟩

theorem mem_builtType_fields {i : Nat} {b : BField} (h : b ∈ (builtType cfg i).fields) :
    (kindOf cfg i = .object ∨ kindOf cfg i = .interface) ∧ ∃ fs, fieldsOf cfg i = .ok fs ∧ b ∈ fs := by
  simp only [builtType] at h
  split at h
  · rename_i hk
    exact ⟨by simpa using hk, mem_orNil h⟩
  · cases h

theorem mem_builtType_inputFields {i : Nat} {b : BArg} (h : b ∈ (builtType cfg i).inputFields) :
    kindOf cfg i = .inputObject ∧ ∃ fs, inputFieldsOf cfg i = .ok fs ∧ b ∈ fs := by
  simp only [builtType] at h
  split at h
  · rename_i hk
    exact ⟨by simpa using hk, mem_orNil h⟩
  · cases h

theorem mem_builtType_interfaces {i j : Nat} (h : j ∈ (builtType cfg i).interfaces) :
    kindOf cfg i = .object ∧ ∃ is, interfacesOf cfg i = .ok is ∧ j ∈ is := by
  simp only [builtType] at h
  split at h
  · rename_i hk
    exact ⟨by simpa using hk, mem_orNil h⟩
  · cases h

theorem mem_builtType_members {i j : Nat} (h : j ∈ (builtType cfg i).members) :
    kindOf cfg i = .union ∧ ∃ ms, membersOf cfg i = .ok ms ∧ j ∈ ms := by
  simp only [builtType] at h
  split at h
  · rename_i hk
    exact ⟨by simpa using hk, mem_orNil h⟩
  · cases h

/-- the positions of the dumped type `i` hold types of the right kind (D-11c repaired) -/
theorem builtType_positions (i : Nat) :
    (∀ f ∈ (builtType cfg i).fields, isOutputType cfg f.type = true ∧ ∀ a ∈ f.args, isInputType cfg a.type = true) ∧
    (∀ f ∈ (builtType cfg i).inputFields, isInputType cfg f.type = true) := by
  refine ⟨fun f hf => ?_, fun f hf => ?_⟩
  · obtain ⟨_, fs, hfo, hf⟩ := mem_builtType_fields hf
    exact fieldsOf_spec hfo f hf
  · obtain ⟨_, fs, hfo, hf⟩ := mem_builtType_inputFields hf
    exact inputFieldsOf_spec hfo f hf

theorem typeRefs_named {i : Nat} : ∀ t ∈ BuiltSchema.typeRefs (builtType cfg i), ∃ j, t.strip = .named j := by
  intro t ht
  obtain ⟨h1, h2⟩ := builtType_positions i
  unfold BuiltSchema.typeRefs at ht
  rw [List.mem_append] at ht
  rcases ht with ht | ht
  · rw [List.mem_flatMap] at ht
    obtain ⟨f, hf, htf⟩ := ht
    rcases List.mem_cons.mp htf with rfl | hta
    · obtain ⟨j, hj, _⟩ := isOutputType_named (h1 f hf).1
      exact ⟨j, hj⟩
    · obtain ⟨a, ha, rfl⟩ := List.mem_map.mp hta
      obtain ⟨j, hj, _⟩ := isInputType_named ((h1 f hf).2 a ha)
      exact ⟨j, hj⟩
  · obtain ⟨a, ha, rfl⟩ := List.mem_map.mp ht
    obtain ⟨j, hj, _⟩ := isInputType_named (h2 a ha)
    exact ⟨j, hj⟩

theorem field_type_mem_typeRefs {t : BType} {f : BField} (hf : f ∈ t.fields) : f.type ∈ BuiltSchema.typeRefs t := by
  unfold BuiltSchema.typeRefs
  apply List.mem_append_left
  rw [List.mem_flatMap]
  exact ⟨f, hf, List.mem_cons_self ..⟩

theorem get_out_of_range {i : Nat} (h : ¬ i < cfg.size) : cfg.get i = dfltType := by
  unfold Config.get
  rw [List.getElem?_eq_none (by unfold Config.size at h; omega)]
  rfl

theorem nameOf_lt {i : Nat} (h : nameOf cfg i ≠ "") : i < cfg.size := by
  by_cases hi : i < cfg.size
  · exact hi
  · exfalso
    apply h
    unfold nameOf
    rw [get_out_of_range hi]
    decide

theorem dump_get (s : St) (i : Nat) : (dump cfg s).get i = builtType cfg i := by
  unfold BuiltSchema.get dump
  simp only
  by_cases h : i < cfg.size
  · simp [h]
  · have : ((List.range cfg.size).map (builtType cfg))[i]? = none := by
      apply List.getElem?_eq_none
      simp only [List.length_map, List.length_range]
      omega
    rw [this]
    have hg := get_out_of_range h
    have hk : dfltType.kind = Kind.scalar := rfl
    have hn : (if validName dfltType.name = true then dfltType.name else "") = "" := by decide
    simp only [Option.getD_none, builtType, kindOf, nameOf, hg, hk, hn]
    rfl

theorem dump_typeMap (s : St) : (dump cfg s).typeMap = s.tm.map (fun i => (nameOf cfg i, i)) := rfl

theorem dump_ids (s : St) : (dump cfg s).ids = s.tm := by
  unfold BuiltSchema.ids
  rw [dump_typeMap, List.map_map]
  exact List.map_id _

theorem dump_lookup (s : St) (n : String) : (dump cfg s).lookup n = TM.lookup cfg s.tm n := by
  unfold BuiltSchema.lookup TM.lookup
  rw [dump_typeMap, List.find?_map]
  have : ((fun p : String × Nat => p.1 == n) ∘ fun i => (nameOf cfg i, i)) = (fun i => nameOf cfg i == n) := by
    funext x; rfl
  rw [this]
  cases List.find? (fun i => nameOf cfg i == n) s.tm <;> rfl

theorem dump_inMap {s : St} (hinv : Inv cfg s.tm) {j : Nat} (h : j ∈ s.tm) : (dump cfg s).inMap j = true := by
  unfold BuiltSchema.inMap
  rw [dump_get, dump_lookup]
  have : (builtType cfg j).name = nameOf cfg j := rfl
  rw [this, lookup_of_mem hinv.2 h]
  simp

theorem get_mem_or (i : Nat) : cfg.get i = dfltType ∨ cfg.get i ∈ cfg.table := by
  unfold Config.get
  cases h : cfg.table[i]? with
  | none => exact Or.inl rfl
  | some t => exact Or.inr (List.mem_of_getElem? h)

theorem builtin_named_norefs : builtinTypes.all (fun t => t.kind.isNamed && t.refs.isEmpty) = true := by decide

theorem table_forall {P : TypeCfg → Prop} (hd : P dfltType) (hb : ∀ t ∈ builtinTypes, P t) (hu : ∀ t ∈ cfg.types, P t)
    (i : Nat) : P (cfg.get i) := by
  rcases get_mem_or i with h | h
  · rw [h]; exact hd
  · unfold Config.table at h
    rw [List.mem_append] at h
    rcases h with h | h
    · exact hb _ h
    · exact hu _ h

theorem wellTyped_named (hwt : cfg.wellTyped = true) (i : Nat) : (kindOf cfg i).isNamed = true := by
  unfold kindOf
  apply table_forall (P := fun t => t.kind.isNamed = true) rfl
  · intro t ht
    have := List.all_eq_true.mp builtin_named_norefs t ht
    simp only [Bool.and_eq_true] at this
    exact this.1
  · intro t ht
    simp only [Config.wellTyped, Bool.and_eq_true, List.all_eq_true] at hwt
    -- the first clause of `wellTyped` is the one about the user's type objects; the other three are the roots
    obtain ⟨⟨⟨htypes, _⟩, _⟩, _⟩ := hwt
    exact (htypes t ht).1

/-- `Interfaces` of an object are interfaces, `Types` of a union are objects -/
theorem wellTyped_refs (hwt : cfg.wellTyped = true) (i j : Nat) (hj : some j ∈ (cfg.get i).refs) :
    (kindOf cfg i = .object → kindOf cfg j = .interface) ∧ (kindOf cfg i = .union → kindOf cfg j = .object) := by
  revert hj
  unfold kindOf
  apply table_forall (P := fun t => some j ∈ t.refs →
    (t.kind = .object → (cfg.get j).kind = .interface) ∧ (t.kind = .union → (cfg.get j).kind = .object))
  · intro h; simp [dfltType] at h
  · intro t ht h
    have := List.all_eq_true.mp builtin_named_norefs t ht
    simp only [Bool.and_eq_true, List.isEmpty_iff] at this
    rw [this.2] at h
    cases h
  · intro t ht h
    simp only [Config.wellTyped, Bool.and_eq_true, List.all_eq_true] at hwt
    obtain ⟨⟨⟨htypes, _⟩, _⟩, _⟩ := hwt
    have := (htypes t ht).2 (some j) h
    simp only [Bool.and_eq_true, Bool.or_eq_true, bne_iff_ne, ne_eq, beq_iff_eq] at this
    refine ⟨fun hk => ?_, fun hk => ?_⟩
    · rcases this.1 with h1 | h1
      · exact absurd hk h1
      · exact h1
    · rcases this.2 with h1 | h1
      · exact absurd hk h1
      · exact h1

theorem ifaceLoop_ok {seen : List String} {l : List (Option Nat)} {r : List Nat} (h : ifaceLoop cfg seen l = .ok r) :
    l = r.map some ∧ (r.map (nameOf cfg)).Nodup ∧ ∀ j ∈ r, nameOf cfg j ∉ seen := by
  fun_induction ifaceLoop cfg seen l generalizing r
  case case1 => cases h; simp
  case case5 seen j rest hseen l' hl ih =>   -- an interface not seen before, the rest accepted
    cases h
    obtain ⟨rfl, hnd, hns⟩ := ih hl
    refine ⟨rfl, List.nodup_cons.mpr ⟨fun hm => ?_, hnd⟩,
      List.forall_mem_cons.mpr ⟨by simpa using hseen, fun k hk hm => hns k hk (List.mem_cons_of_mem _ hm)⟩⟩
    obtain ⟨k, hk, hkn⟩ := List.mem_map.mp hm
    exact hns k hk (hkn ▸ List.mem_cons_self ..)
  all_goals cases h

theorem unionLoop_ok {rt : Bool} {seen : List String} {l : List (Option Nat)} {r : List Nat}
    (h : unionLoop cfg rt seen l = .ok r) :
    l = r.map some ∧ (r.map (nameOf cfg)).Nodup ∧ ∀ j ∈ r, nameOf cfg j ∉ seen := by
  fun_induction unionLoop cfg rt seen l generalizing r
  case case1 => cases h; simp
  case case6 seen j rest hseen _ l' hl ih =>   -- a member not seen before (with a resolver), the rest accepted
    cases h
    obtain ⟨rfl, hnd, hns⟩ := ih hl
    refine ⟨rfl, List.nodup_cons.mpr ⟨fun hm => ?_, hnd⟩,
      List.forall_mem_cons.mpr ⟨by simpa using hseen, fun k hk hm => hns k hk (List.mem_cons_of_mem _ hm)⟩⟩
    obtain ⟨k, hk, hkn⟩ := List.mem_map.mp hm
    exact hns k hk (hkn ▸ List.mem_cons_self ..)
  all_goals cases h

theorem interfacesOf_ok {i : Nat} {is : List Nat} (h : interfacesOf cfg i = .ok is) :
    (∀ j ∈ is, some j ∈ (cfg.get i).refs) ∧ (is.map (nameOf cfg)).Nodup := by
  unfold interfacesOf at h
  simp only at h
  split at h
  · cases h
  · cases h; exact ⟨fun _ hj => (nomatch hj), List.nodup_nil⟩
  · exact ⟨fun j hj => (ifaceLoop_ok h).1 ▸ List.mem_map_of_mem hj, (ifaceLoop_ok h).2.1⟩

theorem membersOf_ok {i : Nat} {ms : List Nat} (h : membersOf cfg i = .ok ms) :
    (∀ j ∈ ms, some j ∈ (cfg.get i).refs) ∧ (ms.map (nameOf cfg)).Nodup := by
  unfold membersOf at h
  simp only at h
  split at h
  · cases h
  · cases h
  · split at h
    · cases h
    · exact ⟨fun j hj => (unionLoop_ok h).1 ▸ List.mem_map_of_mem hj, (unionLoop_ok h).2.1⟩

theorem stepsOf_object {i : Nat} (hk : kindOf cfg i = .object) :
    stepsOf cfg i = exceptSteps (interfacesOf cfg i) fun is => memberSteps cfg is ++ exceptSteps (fieldsOf cfg i) fieldSteps := by
  simp only [stepsOf, hk]
  cases interfacesOf cfg i <;> rfl

/-- the steps of an entry whose lazy members evaluate, in terms of its dump (the lists of a dump are empty where the
kind has none) -/
theorem stepsOf_built {i : Nat} (h : NoFail (stepsOf cfg i)) :
    stepsOf cfg i = memberSteps cfg ((builtType cfg i).interfaces ++ (builtType cfg i).members) ++
      fieldSteps (builtType cfg i).fields ++ (builtType cfg i).inputFields.map (fun f => Step.visit f.type) := by
  have okSteps : ∀ {α : Type} {r : Except Err (List α)} {k : List α → List Step}, NoFail (exceptSteps r k) →
      exceptSteps r k = k (orNil r) := fun h => by
    obtain ⟨a, ha, heq⟩ := exceptSteps_noFail h; rw [heq, ha]; rfl
  cases hk : kindOf cfg i with
  | object =>
    rw [stepsOf_object hk] at h ⊢
    obtain ⟨is, hi, heq⟩ := exceptSteps_noFail h
    rw [heq] at h ⊢
    simp [builtType, hk, hi, orNil, okSteps h.of_append_right]
  | interface => simp only [stepsOf, hk] at h ⊢; simp [builtType, hk, okSteps h, memberSteps]
  | union => simp only [stepsOf, hk] at h ⊢; simp [builtType, hk, okSteps h, fieldSteps]
  | inputObject => simp only [stepsOf, hk] at h ⊢; simp [builtType, hk, okSteps h, memberSteps, fieldSteps]
  | scalar => simp [stepsOf, builtType, hk, memberSteps, fieldSteps]
  | enum => simp [stepsOf, builtType, hk, memberSteps, fieldSteps]
  | list => simp [stepsOf, builtType, hk, memberSteps, fieldSteps]
  | nonNull => simp [stepsOf, builtType, hk, memberSteps, fieldSteps]

theorem NoFail.fieldsOf {i : Nat} (h : NoFail (stepsOf cfg i)) (hk : kindOf cfg i = .object) :
    fieldsOf cfg i = .ok (builtType cfg i).fields := by
  rw [stepsOf_object hk] at h
  obtain ⟨is, _, heq⟩ := exceptSteps_noFail h
  rw [heq] at h
  obtain ⟨fs, hfs, _⟩ := exceptSteps_noFail h.of_append_right
  simp [builtType, hk, hfs, orNil]

theorem ClosedE.built {tm : TM} {i : Nat} (h : ClosedE cfg tm i) :
    (∀ j ∈ (builtType cfg i).interfaces ++ (builtType cfg i).members, j ∈ tm ∧ ctorErr cfg j = none) ∧
    ∀ t ∈ BuiltSchema.typeRefs (builtType cfg i), Resolved cfg tm t := by
  have heq := stepsOf_built h.noFail
  refine ⟨fun j hj => ?_, fun t ht => ?_⟩
  · have hnf : NoFail (memberSteps cfg ((builtType cfg i).interfaces ++ (builtType cfg i).members)) :=
      fun s hs => h.noFail s (heq ▸ List.mem_append_left _ (List.mem_append_left _ hs))
    obtain ⟨hce, hv⟩ := memberSteps_noFail hnf j hj
    exact ⟨visited_ref (h.visited (heq ▸ List.mem_append_left _ (List.mem_append_left _ hv))), hce⟩
  · have hv : Step.visit t ∈ stepsOf cfg i := by
      rw [heq]
      rcases List.mem_append.mp ht with ht | ht
      · obtain ⟨f, hf, htf⟩ := List.mem_flatMap.mp ht
        refine List.mem_append_left _ (List.mem_append_right _ (mem_fieldSteps.mpr ⟨f, hf, ?_⟩))
        rcases List.mem_cons.mp htf with rfl | hta
        · exact .inl rfl
        · obtain ⟨a, ha, rfl⟩ := List.mem_map.mp hta; exact .inr ⟨a, ha, rfl⟩
      · obtain ⟨a, ha, rfl⟩ := List.mem_map.mp ht
        exact List.mem_append_right _ (List.mem_map_of_mem ha)
    obtain ⟨j, hj⟩ := typeRefs_named t ht
    exact (h.visited hv).resolve_left fun h => by rw [hj] at h; cases h

theorem builtType_kind (i : Nat) : (builtType cfg i).kind = kindOf cfg i := rfl

theorem builtType_interfaces {i : Nat} (hk : kindOf cfg i = .object) :
    (builtType cfg i).interfaces = orNil (interfacesOf cfg i) := by
  simp [builtType, hk]

theorem builtType_inputFields {i : Nat} (hk : kindOf cfg i = .inputObject) :
    (builtType cfg i).inputFields = orNil (inputFieldsOf cfg i) := by
  simp [builtType, hk]

theorem builtType_members {i : Nat} (hk : kindOf cfg i = .union) : (builtType cfg i).members = orNil (membersOf cfg i) := by
  simp [builtType, hk]

end GqlModel.SchemaBuild
