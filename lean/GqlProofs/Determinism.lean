import GqlModel.Determinism
/-! Lemmas for C12 (core Lean only): the orders the code sorts by are total orders (`strLe_*`, `suggestLe_*`), accumulation
into a map does not depend on the order of entries with unique keys (`foldl_set_perm`, `accCheckedGo_eq`), and the row
check `rowFits` behind `classes_fit_shapes`. -/
namespace GqlModel.Determinism
open List

theorem Adversary.ord_perm_ord {α : Type} (adv₁ adv₂ : Adversary α) (entries : List α) :
    (adv₁.ord entries).Perm (adv₂.ord entries) :=
  (adv₁.perm entries).trans (adv₂.perm entries).symm

theorem strLe_trans (a b c : String) : strLe a b → strLe b c → strLe a c := by
  simp only [strLe, decide_eq_true_eq]; exact String.le_trans
theorem strLe_total (a b : String) : strLe a b || strLe b a := by
  simp only [strLe, Bool.or_eq_true, decide_eq_true_eq]; exact String.le_total a b
theorem strLe_antisymm (a b : String) : strLe a b → strLe b a → a = b := by
  simp only [strLe, decide_eq_true_eq]; exact String.le_antisymm

theorem suggestLe_trans (dist : String → Nat) (a b c : String) :
    suggestLe dist a b → suggestLe dist b c → suggestLe dist a c := by
  simp only [suggestLe, Bool.or_eq_true, Bool.and_eq_true, decide_eq_true_eq, beq_iff_eq]
  rintro (h1 | ⟨h1, h1'⟩) (h2 | ⟨h2, h2'⟩)
  · left; omega
  · left; omega
  · left; omega
  · right; exact ⟨by omega, strLe_trans a b c h1' h2'⟩

theorem suggestLe_total (dist : String → Nat) (a b : String) : suggestLe dist a b || suggestLe dist b a := by
  have ht := strLe_total a b
  simp only [suggestLe, Bool.or_eq_true, Bool.and_eq_true, decide_eq_true_eq, beq_iff_eq] at ht ⊢
  rcases Nat.lt_trichotomy (dist a) (dist b) with h | h | h
  · exact .inl (.inl h)
  · rcases ht with ht | ht
    · exact .inl (.inr ⟨h, ht⟩)
    · exact .inr (.inr ⟨h.symm, ht⟩)
  · exact .inr (.inl h)

theorem suggestLe_antisymm (dist : String → Nat) (a b : String) : suggestLe dist a b → suggestLe dist b a → a = b := by
  simp only [suggestLe, Bool.or_eq_true, Bool.and_eq_true, decide_eq_true_eq, beq_iff_eq]
  rintro (h1 | ⟨_, h1'⟩) (h2 | ⟨_, h2'⟩)
  · omega
  · omega
  · omega
  · exact strLe_antisymm a b h1' h2'

theorem AMap.set_comm {κ ν : Type} [DecidableEq κ] (m : AMap κ ν) {k₁ k₂ : κ} (v₁ v₂ : ν) (h : k₁ ≠ k₂) :
    (m.set k₁ v₁).set k₂ v₂ = (m.set k₂ v₂).set k₁ v₁ := by
  funext k
  simp only [AMap.set]
  by_cases h1 : k = k₁ <;> by_cases h2 : k = k₂ <;> simp_all

/-- entries of a map: at most one entry per key -/
def KeysUnique {κ ν : Type} (l : List (κ × ν)) : Prop := ∀ x ∈ l, ∀ y ∈ l, x.1 = y.1 → x = y

theorem KeysUnique.perm {κ ν : Type} {l₁ l₂ : List (κ × ν)} (h : KeysUnique l₁) (p : l₁.Perm l₂) : KeysUnique l₂ :=
  fun x hx y hy => h x (p.symm.subset hx) y (p.symm.subset hy)

theorem foldl_set_perm {κ ν ν' : Type} [DecidableEq κ] (f : κ × ν → ν') {l₁ l₂ : List (κ × ν)} (p : l₁.Perm l₂)
    (hu : KeysUnique l₁) (init : AMap κ ν') :
    l₁.foldl (fun m e => m.set e.1 (f e)) init = l₂.foldl (fun m e => m.set e.1 (f e)) init := by
  refine p.foldl_eq' ?_ init
  intro x hx y hy z
  by_cases hxy : x.1 = y.1
  · rw [hu x hx y hy hxy]
  · exact AMap.set_comm z _ _ hxy

theorem accCheckedGo_eq {κ ν ν' ε : Type} [DecidableEq κ] (bad : κ × ν → Option ε) (f : κ × ν → ν') :
    ∀ (l : List (κ × ν)) (m : AMap κ ν'),
      accCheckedGo bad f l m = match l.findSome? bad with
        | some err => .error err
        | none => .ok (l.foldl (fun m e => m.set e.1 (f e)) m)
  | [], _ => rfl
  | e :: es, m => by
    cases hb : bad e with
    | some err => simp only [accCheckedGo, findSome?_cons, hb]
    | none => simp only [accCheckedGo, findSome?_cons, hb, foldl_cons]; exact accCheckedGo_eq bad f es _

theorem _root_.List.Perm.isSome_findSome? {α ε : Type} {l₁ l₂ : List α} (p : l₁.Perm l₂) (f : α → Option ε) :
    (l₁.findSome? f).isSome = (l₂.findSome? f).isSome := by
  rw [Bool.eq_iff_iff]
  simp only [findSome?_isSome_iff]
  exact ⟨fun ⟨a, ha, h⟩ => ⟨a, p.subset ha, h⟩, fun ⟨a, ha, h⟩ => ⟨a, p.symm.subset ha, h⟩⟩

/-- The row test of `classesFitShapes`, binding the components of the row by pattern: when the kernel evaluates it on a
row of `siteClass` the shape literal itself is substituted (not a projection of the row), so rows with the same shape
share one evaluation of `isSortedShape` and of the string comparisons. If `classesFitShapes`
(GqlModel/Determinism.lean) changes, the `show` in `classes_fit_shapes` (Props/C12) fails until this does too. -/
def rowFits (sortCalls : List (String × String × String)) : SiteKey × String × Class → Bool
  | (k, shape, cls) =>
    ((cls == .sortedAfter) == isSortedShape sortCalls shape) &&
    (cls.isLeak || shape != "append" || appendWaived.contains k) &&
    (cls.isLeak || shape != "keys>unsorted") && (cls.isLeak || shape != "vals>unsorted")

end GqlModel.Determinism
