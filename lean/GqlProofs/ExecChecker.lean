import GqlModel.Conforms
/-! C04: the executable checker `conformsB` (run by the driver on the real executor's output) is sound for the
specification `Conforms`. What the checker accepts is spelled out once (`fieldConformB_eq_true`,
`conformsStep_named_eq_true`); soundness here and monotonicity and completeness in `ExecCheckerComplete` read it off. -/
namespace GqlModel.Exec
open GqlModel.Coerce

/-- what the checker accepts for the entry `k : v`, spelled out; `self` occurs only positively -/
theorem fieldConformB_eq_true {c : Ctx} {self : GType → List FieldNode → JVal → Bool} {ot : String}
    {groups : Groups} {k : String} {v : JVal} :
    fieldConformB c self ot groups k v = true ↔
      ∃ ns node, (k, ns) ∈ groups ∧ ns.head? = some node ∧
        ((node.name = "__typename" ∧ v = .str ot) ∨
         (node.name ≠ "__typename" ∧ ∃ fd, fieldDef? c.schema ot node.name = some fd ∧ self fd.type ns v = true)) := by
  unfold fieldConformB
  rw [List.any_eq_true]
  constructor
  · rintro ⟨⟨k', ns⟩, hg, h⟩
    rw [Bool.and_eq_true] at h
    obtain ⟨hk, h⟩ := h
    cases beq_iff_eq.mp hk
    split at h
    · cases h
    next node hnode =>
      refine ⟨ns, node, hg, hnode, ?_⟩
      split at h
      next hn =>
        split at h
        · exact Or.inl ⟨beq_iff_eq.mp hn, congrArg _ (beq_iff_eq.mp h)⟩
        · cases h
      next hn =>
        split at h
        · cases h
        next fd hfd => exact Or.inr ⟨fun e => hn (beq_iff_eq.mpr e), fd, hfd, h⟩
  · rintro ⟨ns, node, hg, hnode, h⟩
    refine ⟨(k, ns), hg, ?_⟩
    rw [Bool.and_eq_true]
    refine ⟨beq_iff_eq.mpr rfl, ?_⟩
    dsimp only
    rw [hnode]
    rcases h with ⟨hn, rfl⟩ | ⟨hn, fd, hfd, h⟩
    · dsimp only
      rw [if_pos (beq_iff_eq.mpr hn)]
      exact beq_iff_eq.mpr rfl
    · dsimp only
      rw [if_neg fun e => hn (beq_iff_eq.mp e), hfd]
      exact h

theorem isPossibleType_iff {s : Schema} {n ot : String} : s.isPossibleType n ot = true ↔ ot ∈ s.possibleTypes n :=
  List.contains_iff_mem

/-- `conformsStep` at a named type, with the cases on the value made disjoint -/
theorem conformsStep_named (c : Ctx) (self : GType → List FieldNode → JVal → Bool) (n : String)
    (nodes : List FieldNode) (v : JVal) :
    conformsStep c self (.named n) nodes v =
      match v with
      | .null => true
      | .obj fs =>
        if c.schema.isLeaf n then legalLeaf c.schema n (.obj fs)
        else if c.schema.isAbstract n then
          (c.schema.possibleTypes n).any fun ot =>
            c.schema.isObject ot && fieldsConformB c self ot (collectMerged c ot nodes) fs
        else if c.schema.isObject n then fieldsConformB c self n (collectMerged c n nodes) fs
        else false
      | v => if c.schema.isLeaf n then legalLeaf c.schema n v else false := by
  cases v <;> rfl

theorem conformsStep_named_eq_true {c : Ctx} {self : GType → List FieldNode → JVal → Bool} {n : String}
    {nodes : List FieldNode} {v : JVal} :
    conformsStep c self (.named n) nodes v = true ↔
      v = .null ∨ (c.schema.isLeaf n = true ∧ legalLeaf c.schema n v = true) ∨
      ∃ fs, v = .obj fs ∧ c.schema.isLeaf n = false ∧ ∃ ot,
        (c.schema.isAbstract n = true ∧ ot ∈ c.schema.possibleTypes n ∧ c.schema.isObject ot = true ∨
          c.schema.isAbstract n = false ∧ ot = n ∧ c.schema.isObject n = true) ∧
        fieldsConformB c self ot (collectMerged c ot nodes) fs = true := by
  rw [conformsStep_named]
  constructor
  · intro h
    split at h
    · exact Or.inl rfl
    next fs =>
      by_cases hleaf : c.schema.isLeaf n = true
      · rw [if_pos hleaf] at h
        exact Or.inr (Or.inl ⟨hleaf, h⟩)
      · rw [if_neg hleaf] at h
        refine Or.inr (Or.inr ⟨fs, rfl, Bool.eq_false_iff.mpr hleaf, ?_⟩)
        by_cases habs : c.schema.isAbstract n = true
        · rw [if_pos habs, List.any_eq_true] at h
          obtain ⟨ot, hot, h⟩ := h
          rw [Bool.and_eq_true] at h
          exact ⟨ot, Or.inl ⟨habs, hot, h.1⟩, h.2⟩
        · rw [if_neg habs] at h
          by_cases hobj : c.schema.isObject n = true
          · rw [if_pos hobj] at h
            exact ⟨n, Or.inr ⟨Bool.eq_false_iff.mpr habs, rfl, hobj⟩, h⟩
          · rw [if_neg hobj] at h
            cases h
    · by_cases hleaf : c.schema.isLeaf n = true
      · rw [if_pos hleaf] at h
        exact Or.inr (Or.inl ⟨hleaf, h⟩)
      · rw [if_neg hleaf] at h
        cases h
  · rintro (rfl | ⟨hleaf, hlegal⟩ | ⟨fs, rfl, hleaf, ot, hot, h⟩)
    · rfl
    · split
      · rfl
      · rw [if_pos hleaf]
        exact hlegal
      · rw [if_pos hleaf]
        exact hlegal
    · dsimp only
      rw [if_neg (Bool.eq_false_iff.mp hleaf)]
      rcases hot with ⟨habs, hot, hobj⟩ | ⟨habs, rfl, hobj⟩
      · rw [if_pos habs, List.any_eq_true]
        exact ⟨ot, hot, (Bool.and_eq_true _ _).mpr ⟨hobj, h⟩⟩
      · rw [if_neg (Bool.eq_false_iff.mp habs), if_pos hobj]
        exact h

theorem fieldConformB_sound (c : Ctx) (self : GType → List FieldNode → JVal → Bool)
    (hself : ∀ t nodes v, self t nodes v = true → Conforms c t nodes v)
    (ot : String) (groups : Groups) (k : String) (v : JVal)
    (h : fieldConformB c self ot groups k v = true) : FieldConforms c ot groups k v := by
  obtain ⟨ns, node, hg, hnode, ⟨hn, rfl⟩ | ⟨hn, fd, hfd, h⟩⟩ := fieldConformB_eq_true.mp h
  · exact .typename hg hnode hn
  · exact .field hg hnode hn hfd (hself _ _ _ h)

theorem fieldsConformB_sound (c : Ctx) (self : GType → List FieldNode → JVal → Bool)
    (hself : ∀ t nodes v, self t nodes v = true → Conforms c t nodes v)
    (ot : String) (groups : Groups) (fs : List (String × JVal))
    (h : fieldsConformB c self ot groups fs = true) : FieldsConform c ot groups fs :=
  fun kv hkv => fieldConformB_sound c self hself ot groups kv.1 kv.2 (List.all_eq_true.mp h kv hkv)

theorem conformsStep_sound (c : Ctx) (self : GType → List FieldNode → JVal → Bool)
    (hself : ∀ t nodes v, self t nodes v = true → Conforms c t nodes v) :
    ∀ t nodes v, conformsStep c self t nodes v = true → Conforms c t nodes v := by
  intro t
  induction t with
  | nonNull t ih =>
    intro nodes v h
    obtain ⟨hv, h⟩ := (Bool.and_eq_true _ _).mp h
    exact .nonNull (fun e => by subst e; cases hv) (ih nodes v h)
  | list t ih =>
    intro nodes v h
    cases v with
    | null => exact .listNull
    | list xs => exact .list fun x hx => ih nodes x (List.all_eq_true.mp h x hx)
    | _ => cases h
  | named n =>
    intro nodes v h
    rcases conformsStep_named_eq_true.mp h with
      rfl | ⟨hleaf, hlegal⟩ | ⟨fs, rfl, -, ot, ⟨habs, hot, hobj⟩ | ⟨-, rfl, hobj⟩, hfs⟩
    · exact .null
    · exact .leaf hleaf hlegal
    · exact .abstract habs hobj (isPossibleType_iff.mpr hot) (fieldsConformB_sound c self hself _ _ _ hfs)
    · exact .object hobj (fieldsConformB_sound c self hself _ _ _ hfs)

theorem conformsF_sound (c : Ctx) : ∀ n t nodes v, conformsF c n t nodes v = true → Conforms c t nodes v
  | 0 => fun _ _ _ h => nomatch h
  | n + 1 => conformsStep_sound c (conformsF c n) (conformsF_sound c n)

theorem conformsB_sound (c : Ctx) (n : Nat) (t : GType) (nodes : List FieldNode) (v : JVal)
    (h : conformsB c n t nodes v = true) : Conforms c t nodes v := conformsF_sound c n t nodes v h

theorem conformsData_sound (s : Schema) (doc : Document) (opName : String) (inputs : Vars) (w : World)
    (data : List (String × JVal)) (h : conformsData s doc opName inputs w data = true) :
    ∃ c root sel, requestCtx s doc opName inputs w = some (c, root, sel) ∧
      FieldsConform c root (rootGroups c root sel) data := by
  unfold conformsData at h
  split at h
  · cases h
  · rename_i c root sel hc
    exact ⟨c, root, sel, hc, fieldsConformB_sound c _ (conformsF_sound c _) _ _ _ h⟩

end GqlModel.Exec
