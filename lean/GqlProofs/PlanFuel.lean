import GqlProofs.PlanForced
/-! # Fuel: what the request's fuel certainly suffices for

Phase one of M consumes fuel exactly along the algorithm's recursion (`GenP`: when the algorithm's run is not `fuelOut`, M's is `ok`
or `fail`), and ONE call of a closure runs phase one again with the request's fuel, for which the algorithm's in-place run is
lifted (`complete_fuel_le`). So neither ever runs out (`force_no_fuelOut`). The loop at a dethunk site (counter: fuel + 2) never
runs out either: the algorithm unwraps one nested deferred value per unit of fuel (`forceAll_nf`). What can run out although the
algorithm does not — at the SAME fuel value — are the two traversals of the dethunk phase: the FIFO queue of the breadth-first pass
(one unit per container of the response: their number is not bounded by the algorithm's recursion depth) and the depth-first
recursion (one unit per key and per level, keys in SORTED order while the algorithm visits them in plan order).
`Props/C01Plan.fuel_is_not_shared_witness` is a kernel-checked request where `execute` answers and `run` is `fuelOut` for the fuels
19…26. -/
namespace GqlModel.Plan
open GqlModel.Exec GqlModel.Coerce

section
variable {c : Ctx} {pv : Option Vars} {rank : String → Nat} {F : Nat}

theorem force_no_fuelOut (hac : Acyclic c.frags rank) (hfr : FragsOK c pv) (cl : Closure) (j : JVal)
    (hwit : Wit c pv rank F cl j) (mst : MSt) : (force c (recompute c.schema c.frags pv) F cl mst).1 ≠ .fuelOut := by
  obtain ⟨hn, hr⟩ := hwit
  rw [force_eq]
  cases hcr : cl.r with
  | none => exact absorbAt_ne_fuelOut _ _ _
  | some r =>
    cases r with
    | err => exact absorbAt_ne_fuelOut _ _ _
    | ok v =>
      rw [hcr] at hr
      obtain ⟨st, rS, stS, hS, hkf, hres⟩ := hr
      have hne : rS ≠ .fuelOut := by
        rcases hres with h | h
        · rw [h]; simp
        · rw [h.1]; simp
      have hc := (genP (F := F) hac hfr F (Nat.le_refl _)).complete true cl.t cl.rt cl.fid cl.fp cl.path v st
        (mst.logEv (.force cl.path)) rS stS hn hS hne hkf
      refine recover_ne_fuelOut ?_ fun _ => absorbAt_ne_fuelOut _ _ _
      cases rS with
      | ok j' =>
        obtain ⟨x, hx, _⟩ := hc
        rw [hx]; nofun
      | fail =>
        rcases hc with hc | ⟨cl', hcl', _⟩
        · rw [hc]; nofun
        · rw [hcl']; nofun
      | fuelOut => exact absurd rfl hne

end

mutual
/-- how many times a value has to be called until something that is no func comes out (a failing thunk / a func of another signature
counts once) -/
def thunkDepth : GoVal → Nat
  | .thunk r => resDepth r
  | .badFunc => 1
  | _ => 0
def resDepth : ThunkRes → Nat
  | .ok v => thunkDepth v + 1
  | .err => 1
end

def rDepth : Option ThunkRes → Nat
  | some r => resDepth r
  | none => 1

/-- calls still needed for a value under construction -/
def pdepth : PVal → Nat
  | .deferred cl => rDepth cl.r
  | _ => 0

theorem thunkDepth_of_funcOf {v : GoVal} {r : Option ThunkRes} (h : funcOf v = some r) : thunkDepth v = rDepth r := by
  cases v with
  | thunk tr => simp only [funcOf, Option.some.injEq] at h; subst h; simp [thunkDepth, rDepth]
  | badFunc => simp only [funcOf, Option.some.injEq] at h; subst h; simp [thunkDepth, rDepth]
  | _ => simp [funcOf] at h

theorem complete_thunkDepth_le (c : Ctx) : ∀ (f : Nat) (dfr : Bool) (t : GType) (rt fname : String) (nodes : List FieldNode)
    (p : Path) (v : GoVal) (st : St) (r : Res JVal) (st' : St),
    complete c f dfr t rt fname nodes p v st = (r, st') → r ≠ .fuelOut → thunkDepth v ≤ f
  | 0, dfr, t, rt, fname, nodes, p, v, st, r, st', h, hr => by
    rw [complete_zero] at h; exact absurd (Prod.mk.inj h).1.symm hr
  | f + 1, dfr, t, rt, fname, nodes, p, v, st, r, st', h, hr => by
    cases v with
    | thunk tr =>
      cases tr with
      | err => simp [thunkDepth, resDepth]
      | ok v' =>
        rw [complete_thunk] at h
        rcases hS : complete c f true t rt fname nodes p v' st with ⟨r1, st1⟩
        rw [hS] at h
        have hne : r1 ≠ .fuelOut := by
          intro he; subst he
          exact hr (Prod.mk.inj h).1.symm
        have := complete_thunkDepth_le c f true t rt fname nodes p v' st r1 st1 hS hne
        simp only [thunkDepth, resDepth]
        omega
    | badFunc => simp [thunkDepth]
    | _ => simp [thunkDepth]

section
variable {c : Ctx} {pv : Option Vars} {rank : String → Nat} {F : Nat}

theorem wit_rDepth {cl : Closure} {j : JVal} (hwit : Wit c pv rank F cl j) : rDepth cl.r ≤ F + 1 := by
  obtain ⟨_, hr⟩ := hwit
  cases hcr : cl.r with
  | none => simp [rDepth]
  | some r =>
    cases r with
    | err => simp [rDepth, resDepth]
    | ok v =>
      rw [hcr] at hr
      simp only at hr
      obtain ⟨st, rS, stS, hS, _, hres⟩ := hr
      have hne : rS ≠ .fuelOut := by
        rcases hres with h | h
        · rw [h]; simp
        · rw [h.1]; simp
      have := complete_thunkDepth_le c F true cl.t cl.rt _ _ cl.path v st rS stS hS hne
      simp only [rDepth, resDepth]
      omega

theorem force_pdepth (cl : Closure) (mst : MSt) (x : PVal) (h : (force c (recompute c.schema c.frags pv) F cl mst).1 = .ok x) :
    pdepth x + 1 ≤ rDepth cl.r := by
  rw [force_eq] at h
  have habs : ∀ (b : Bool) (s : MSt), (absorbAt b (PVal.leaf .null) s).1 = .ok x → x = .leaf .null := by
    intro b s hb
    cases b <;> cases hb
    rfl
  cases hcr : cl.r with
  | none =>
    simp only [hcr] at h
    rw [habs _ _ h]
    simp [pdepth, rDepth]
  | some r =>
    cases r with
    | err =>
      simp only [hcr] at h
      rw [habs _ _ h]
      simp [pdepth, rDepth, resDepth]
    | ok v =>
      simp only [hcr] at h
      rcases hM : mComplete c (recompute c.schema c.frags pv) F true cl.t cl.rt cl.fid cl.fp cl.path v (mst.logEv (.force cl.path)) with ⟨rM, mst1⟩
      rw [hM] at h
      cases rM with
      | ok y =>
        cases h
        cases hfo : funcOf v with
        | none =>
          have hnd := mComplete_not_deferred F true cl.t cl.rt cl.fid cl.fp cl.path v (mst.logEv (.force cl.path)) hfo x (by rw [hM])
          cases x with
          | deferred cl' => exact absurd rfl (hnd cl')
          | leaf _ => simp [pdepth, rDepth, resDepth]
          | list _ => simp [pdepth, rDepth, resDepth]
          | obj _ => simp [pdepth, rDepth, resDepth]
        | some r' =>
          -- the value is a func: M wrapped it at once
          have hy : x = .deferred { t := cl.t, rt := cl.rt, fid := cl.fid, fp := cl.fp, path := cl.path, r := r' } := by
            cases F with
            | zero => rw [mComplete_zero] at hM; cases hM
            | succ n =>
              rw [mComplete_func hfo] at hM
              cases hM
              rfl
          subst hy
          simp only [pdepth, rDepth, resDepth, thunkDepth_of_funcOf hfo]
          exact Nat.le_refl _
      | fail =>
        rw [recover_fail] at h
        rw [habs _ _ h]
        simp [pdepth, rDepth, resDepth]
      | fuelOut => cases h

/-- **the loop at a dethunk site never runs out of fuel** (its counter is the request's fuel + 2) -/
theorem forceLoop_nf (hac : Acyclic c.frags rank) (hfr : FragsOK c pv) (j : JVal) :
    ∀ (n : Nat) (v : PVal) (mst : MSt), SV c pv rank F v j → pdepth v + 1 ≤ n →
    (forceLoop (force c (recompute c.schema c.frags pv) F) n v mst).1 ≠ .fuelOut
  | 0, v, mst, _, h => by omega
  | n + 1, v, mst, hsv, hd => by
    cases v with
    | deferred cl =>
      rw [forceLoop_deferred]
      cases hsv with
      | deferred hwit =>
        refine andThen_ne_fuelOut (force_no_fuelOut hac hfr cl j hwit mst) fun x s hz => ?_
        have h2 := (force_forced hac hfr cl j hwit mst).1
        rw [hz] at h2
        have hx := force_pdepth (c := c) (pv := pv) (F := F) cl mst x (by rw [hz])
        simp only [pdepth] at hd
        exact forceLoop_nf hac hfr j n x s h2 (by omega)
    | _ => rw [forceLoop_succ]; nofun

theorem forceAll_nf (hac : Acyclic c.frags rank) (hfr : FragsOK c pv) (cl : Closure) (j : JVal)
    (hwit : Wit c pv rank F cl j) (mst : MSt) : (forceAll c (recompute c.schema c.frags pv) F cl mst).1 ≠ .fuelOut := by
  have := wit_rDepth hwit
  exact forceLoop_nf hac hfr j (F + 2) (.deferred cl) mst (.deferred hwit) (by simp only [pdepth]; omega)

end

end GqlModel.Plan
