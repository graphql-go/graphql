import GqlModel.Validate.Side
import GqlProofs.CoerceArgs
/-! # Literal validity = coercibility by the specification (bridge C02 ↔ C05)

`LiteralCoercible S t v`: for every assignment of runtime values that gives each variable occurring in the literal a
(non-null) value, the specification's literal coercion `Coerce.Spec.coerceLiteral` succeeds — the declarative reading
of "the literal is coercible to the type". `isValid_iff_coercible`: on a schema whose input-object fields have input
types, for a position of input type, `Coerce.isValidLiteralValue` (the model of the Go function the validation rules
call) says yes exactly for the coercible literals. The proof is C05's `lit_agree` plus: (1) `covered` implies C05's
technical hypothesis `varsProvided` (`provided_of_covered`), (2) a covering assignment exists (`coverVars`). -/
namespace GqlModel.Validate
open GqlModel.Coerce

/-! ## variables of a literal have a value -/

mutual
def covered (vars : Vars) : Value → Bool
  | .var x _ => !(lookupD vars x).isNull
  | .list vs _ => coveredList vars vs
  | .obj fs _ => coveredFields vars fs
  | _ => true
def coveredList (vars : Vars) : List Value → Bool
  | [] => true
  | v :: vs => covered vars v && coveredList vars vs
def coveredFields (vars : Vars) : List ObjField → Bool
  | [] => true
  | .mk _ v _ :: fs => covered vars v && coveredFields vars fs
end

def coveredOpt (vars : Vars) : Option Value → Bool
  | none => true
  | some v => covered vars v

theorem coveredList_mem {vars : Vars} : ∀ {vs : List Value}, coveredList vars vs = true → ∀ v ∈ vs, covered vars v = true
  | [], _, v, hv => by simp at hv
  | x :: xs, h, v, hv => by
    simp only [coveredList, Bool.and_eq_true] at h
    rcases List.mem_cons.1 hv with rfl | hv
    · exact h.1
    · exact coveredList_mem h.2 v hv

theorem coveredFields_mem {vars : Vars} : ∀ {fs : List ObjField}, coveredFields vars fs = true →
    ∀ f ∈ fs, covered vars f.value = true
  | [], _, f, hf => by simp at hf
  | .mk _ v _ :: fs, h, f, hf => by
    simp only [coveredFields, Bool.and_eq_true] at h
    rcases List.mem_cons.1 hf with rfl | hf
    · exact h.1
    · exact coveredFields_mem h.2 f hf

theorem covered_litLookup {vars : Vars} {fs : List ObjField} (k : String) (h : coveredFields vars fs = true) :
    coveredOpt vars (litLookup fs k) = true := by
  cases hl : litLookup fs k with
  | none => rfl
  | some v => obtain ⟨f, hf, rfl⟩ := litLookup_mem hl; exact coveredFields_mem h f hf

/-! ## schemas whose input positions have input types -/

/-- every field of every input object has an input type (scalar, enum, input object) — schema construction
guarantees it (definition.go: input-field types are checked for being input types) -/
def InputClosed (S : Schema) : Prop :=
  ∀ n n' fields dsc, S.find? n = some (.inputObject n' fields dsc) → ∀ f ∈ fields, inputKind S f.type.namedName = true

theorem provided_step (S : Schema) (vars : Vars) (self : GType → Option Value → Bool) (hS : InputClosed S)
    (ih : ∀ t l, inputKind S t.namedName = true → coveredOpt vars l = true → self t l = true) :
    ∀ t l, inputKind S t.namedName = true → coveredOpt vars l = true → varsProvidedStep S vars self t l = true := by
  intro t
  induction t with
  | nonNull t iht =>
    intro l hk hc
    cases l with
    | none => simp [varsProvidedStep]
    | some l =>
      cases l with
      | var x loc => simpa [varsProvidedStep, coveredOpt, covered] using hc
      | _ => simp only [varsProvidedStep]; exact iht _ hk hc
  | list t iht =>
    intro l hk hc
    cases l with
    | none => simp [varsProvidedStep]
    | some l =>
      cases l with
      | var x loc => simp [varsProvidedStep]
      | list ls loc =>
        simp only [varsProvidedStep, List.all_eq_true]
        intro x hx
        have : covered vars x = true := coveredList_mem (by simpa [coveredOpt, covered] using hc) x hx
        exact iht _ hk (by simpa [coveredOpt] using this)
      | _ => simp only [varsProvidedStep]; exact iht _ hk hc
  | named n =>
    intro l hk hc
    cases l with
    | none => simp [varsProvidedStep]
    | some l =>
      have hk' : inputKind S n = true := hk
      unfold inputKind at hk'
      cases hf : S.find? n with
      | none => simp [hf] at hk'
      | some td =>
        cases td with
        | inputObject n' fields dsc =>
          have hfields := hS n n' fields dsc hf
          cases l with
          | var x loc => simp [varsProvidedStep]
          | obj fs loc =>
            simp only [varsProvidedStep, hf, List.all_eq_true]
            intro f hfm
            have hcf : coveredFields vars fs = true := by simpa [coveredOpt, covered] using hc
            exact ih _ _ (hfields f hfm) (covered_litLookup f.name hcf)
          | _ => simp [varsProvidedStep, hf]
        | scalar _ _ _ => cases l <;> simp [varsProvidedStep, hf]
        | enum _ _ _ => cases l <;> simp [varsProvidedStep, hf]
        | object _ _ _ _ _ => simp [hf] at hk'
        | interface _ _ _ _ => simp [hf] at hk'
        | union _ _ _ _ => simp [hf] at hk'

theorem providedF_of_covered (S : Schema) (vars : Vars) (hS : InputClosed S) :
    ∀ (n : Nat) (t : GType) (l : Option Value), inputKind S t.namedName = true → coveredOpt vars l = true →
      varsProvidedF S vars n t l = true := by
  intro n
  induction n with
  | zero => intro t l _ _; rfl
  | succ n ih => intro t l hk hc; exact provided_step S vars _ hS ih t l hk hc

theorem provided_of_covered (S : Schema) (vars : Vars) (hS : InputClosed S) (t : GType) (l : Option Value)
    (hk : inputKind S t.namedName = true) (hc : coveredOpt vars l = true) : varsProvided S t l vars = true :=
  providedF_of_covered S vars hS _ t l hk hc

/-! ## a covering assignment exists -/

mutual
def varNames : Value → List String
  | .var x _ => [x]
  | .list vs _ => varNamesList vs
  | .obj fs _ => varNamesFields fs
  | _ => []
def varNamesList : List Value → List String
  | [] => []
  | v :: vs => varNames v ++ varNamesList vs
def varNamesFields : List ObjField → List String
  | [] => []
  | .mk _ v _ :: fs => varNames v ++ varNamesFields fs
end

mutual
theorem covered_of_names (vars : Vars) : ∀ (v : Value), (∀ x ∈ varNames v, (lookupD vars x).isNull = false) → covered vars v = true
  | .var x _, h => by simp [covered, h x (by simp [varNames])]
  | .list vs _, h => by unfold covered; exact coveredList_of_names vars vs (by simpa [varNames] using h)
  | .obj fs _, h => by unfold covered; exact coveredFields_of_names vars fs (by simpa [varNames] using h)
  | .int _ _, _ => rfl
  | .float _ _, _ => rfl
  | .str _ _, _ => rfl
  | .bool _ _, _ => rfl
  | .enum _ _, _ => rfl
theorem coveredList_of_names (vars : Vars) : ∀ (vs : List Value), (∀ x ∈ varNamesList vs, (lookupD vars x).isNull = false) →
    coveredList vars vs = true
  | [], _ => rfl
  | v :: vs, h => by
    simp only [coveredList, Bool.and_eq_true]
    exact ⟨covered_of_names vars v (fun x hx => h x (by simp [varNamesList, hx])),
           coveredList_of_names vars vs (fun x hx => h x (by simp [varNamesList, hx]))⟩
theorem coveredFields_of_names (vars : Vars) : ∀ (fs : List ObjField), (∀ x ∈ varNamesFields fs, (lookupD vars x).isNull = false) →
    coveredFields vars fs = true
  | [], _ => rfl
  | .mk _ v _ :: fs, h => by
    simp only [coveredFields, Bool.and_eq_true]
    exact ⟨covered_of_names vars v (fun x hx => h x (by simp [varNamesFields, hx])),
           coveredFields_of_names vars fs (fun x hx => h x (by simp [varNamesFields, hx]))⟩
end

/-- every variable of the literal gets the value `true` -/
def coverVars (v : Value) : Vars := (varNames v).map (fun x => (x, JVal.bool true))

theorem lookupD_const (names : List String) (x : String) (hx : x ∈ names) :
    (lookupD (names.map (fun y => (y, JVal.bool true))) x).isNull = false := by
  unfold lookupD JVal.lookup
  cases hf : List.find? (fun p => p.1 == x) (names.map (fun y => (y, JVal.bool true))) with
  | none =>
    have := List.find?_eq_none.1 hf (x, JVal.bool true) (List.mem_map.2 ⟨x, hx, rfl⟩)
    simp at this
  | some p =>
    have hm := List.mem_of_find?_eq_some hf
    obtain ⟨y, _, rfl⟩ := List.mem_map.1 hm
    rfl

theorem covered_coverVars (v : Value) : covered (coverVars v) v = true :=
  covered_of_names _ v (fun x hx => lookupD_const _ x hx)

/-! ## `isValidLiteralValue` says yes exactly for the coercible literals -/

/-- the literal is coercible to the type, whatever (non-null) values its variables have at run time -/
def LiteralCoercible (S : Schema) (t : GType) (v : Value) : Prop :=
  ∀ vars, covered vars v = true → ∃ r, Spec.coerceLiteral S t (some v) vars = .ok r

theorem isValid_iff_coercible (S : Schema) (hS : InputClosed S) (t : GType) (hk : inputKind S t.namedName = true)
    (v : Value) : isValidLiteralValue S t (some v) = true ↔ LiteralCoercible S t v := by
  constructor
  · intro hv vars hc
    have hp := provided_of_covered S vars hS t (some v) hk hc
    exact (lit_agree S t (some v) vars hp).ok_iff.1 hv
  · intro h
    have hc := covered_coverVars v
    have hp := provided_of_covered S (coverVars v) hS t (some v) hk hc
    exact (lit_agree S t (some v) (coverVars v) hp).ok_iff.2 (h _ hc)

/-! ## `Schema.plus` -/

theorem plus_find? (s : Schema) (n : String) : s.plus.find? n = s.resolve n := by
  unfold Schema.plus Schema.find? Schema.resolve Schema.find?
  simp only [List.find?_append]
  cases List.find? (fun t => t.name == n) s.types <;> rfl

theorem leafResolves_of_inputKind (s : Schema) (t : GType) (h : inputKind s.plus t.namedName = true) : leafResolves s t = true := by
  unfold inputKind at h
  unfold leafResolves
  rw [← plus_find?]
  cases hf : s.plus.find? t.namedName with
  | none => simp [hf] at h
  | some _ => rfl

/-- on positions of input type `validLiteral` is C05's model -/
theorem validLiteral_eq (s : Schema) (t : GType) (lit : Option Value) (h : inputKind s.plus t.namedName = true) :
    validLiteral s (some t) lit = isValidLiteralValue s.plus t lit := by
  simp [validLiteral, leafResolves_of_inputKind s t h]

end GqlModel.Validate
