import GqlProofs.PlanSim
import GqlProofs.PlanBfsSettle
import GqlProofs.GetAt
/-! # Phase two of M: forcing

`Forced R pendOf Pin mst out j`:
the forcing step or dethunk pass `out`, started in `mst` on a value that stands for `j` (relation `SV`) while the effects `Pin` were pending in
its closures, yields a value that stands for `j` again (`SVRes`), and `Pin` has become M's new effects, what is pending in the result, and
what was dropped (`PendOut`); it never escapes. One call of a closure is `Forced` by what `simP` says about the run its witness refers to;
the loops and the two traversals follow by the rule for `andThen`. -/
namespace GqlModel.Plan
open GqlModel.Exec GqlModel.Coerce

section sv
variable {c : Ctx} {pv : Option Vars} {rank : String → Nat} {F : Nat}

/-- outcome of forcing / of a dethunk pass on a value related to `j`. Never a failure: the witness of a closure excludes D-04c, so
what fails inside is absorbed by the closure's own catcher; M may still run out of fuel. -/
def SVRes {α β : Type} (R : α → β → Prop) (r : Res α) (j : β) : Prop :=
  match r with
  | .ok x => R x j
  | .fail => False
  | .fuelOut => True

theorem svRes_andThen {α β γ δ σ : Type} {R : α → γ → Prop} {R' : β → δ → Prop} {x : Res α × σ} {k : α → σ → Res β × σ}
    {j : γ} {j' : δ} (h : SVRes R x.1 j) (hk : ∀ a s, x = (.ok a, s) → R a j → SVRes R' (k a s).1 j') :
    SVRes R' (andThen x k).1 j' := by
  obtain ⟨_ | _ | _, s⟩ := x
  · exact hk _ s rfl h
  · exact h
  · trivial

theorem svf_setF {k : String} {v v' : PVal} (hvv : ∀ j, SV c pv rank F v j → SV c pv rank F v' j) :
    ∀ {fs : List (String × PVal)} {gs : List (String × JVal)}, SVf c pv rank F fs gs → lookupF fs k = some v →
    SVf c pv rank F (setF fs k v') gs
  | [], _, h, hl => by simp [lookupF] at hl
  | (k', x) :: rest, _, h, hl => by
    cases h with
    | cons h1 h2 =>
      simp only [setF]
      by_cases hk : (k' == k) = true
      · simp only [hk, if_true]
        simp only [lookupF, List.find?_cons, hk, Option.map_some, Option.some.injEq] at hl
        subst hl
        exact .cons (hvv _ h1) h2
      · simp only [hk, Bool.false_eq_true, if_false]
        have hk' : (k' == k) = false := by simpa using hk
        have hl' : lookupF rest k = some v := by
          simpa [lookupF, List.find?_cons, hk'] using hl
        exact .cons h1 (svf_setF hvv h2 hl')

theorem svf_lookup {k : String} {v : PVal} : ∀ {fs : List (String × PVal)} {gs : List (String × JVal)},
    SVf c pv rank F fs gs → lookupF fs k = some v → ∃ j, JVal.lookup gs k = some j ∧ SV c pv rank F v j
  | [], _, h, hl => by simp [lookupF] at hl
  | (k', x) :: rest, _, h, hl => by
    cases h with
    | @cons _ _ j _ js h1 h2 =>
      by_cases hk : (k' == k) = true
      · simp only [lookupF, List.find?_cons, hk, Option.map_some, Option.some.injEq] at hl
        subst hl
        exact ⟨j, by simp [JVal.lookup, hk], h1⟩
      · have hk' : (k' == k) = false := by simpa using hk
        have hl' : lookupF rest k = some v := by simpa [lookupF, List.find?_cons, hk'] using hl
        obtain ⟨j', hj', hsv⟩ := svf_lookup h2 hl'
        exact ⟨j', by simpa [JVal.lookup, List.find?_cons, hk'] using hj', hsv⟩

theorem svl_append_lists : ∀ {xs : List PVal} {js : List JVal} {ys : List PVal} {ks : List JVal},
    SVl c pv rank F xs js → SVl c pv rank F ys ks → SVl c pv rank F (xs ++ ys) (js ++ ks)
  | [], _, _, _, h1, h2 => by cases h1; exact h2
  | _ :: _, _, _, _, h1, h2 => by
    cases h1 with
    | cons a b => exact .cons a (svl_append_lists b h2)

theorem svl_set {v v' : PVal} (hvv : ∀ j, SV c pv rank F v j → SV c pv rank F v' j) :
    ∀ {xs : List PVal} {js : List JVal} (i : Nat), SVl c pv rank F xs js → xs[i]? = some v →
    SVl c pv rank F (xs.set i v') js
  | [], _, _, _, hl => by simp at hl
  | x :: xs, _, 0, h, hl => by
    cases h with
    | cons h1 h2 =>
      simp only [List.getElem?_cons_zero, Option.some.injEq] at hl
      subst hl
      exact .cons (hvv _ h1) h2
  | x :: xs, _, i + 1, h, hl => by
    cases h with
    | cons h1 h2 =>
      simp only [List.getElem?_cons_succ] at hl
      exact .cons h1 (svl_set hvv i h2 hl)

theorem svl_get {v : PVal} : ∀ {xs : List PVal} {js : List JVal} (i : Nat), SVl c pv rank F xs js → xs[i]? = some v →
    ∃ j, js[i]? = some j ∧ SV c pv rank F v j
  | [], _, _, _, hl => by simp at hl
  | x :: xs, _, 0, h, hl => by
    cases h with
    | cons h1 h2 =>
      simp only [List.getElem?_cons_zero, Option.some.injEq] at hl
      subst hl
      exact ⟨_, by simp, h1⟩
  | x :: xs, _, i + 1, h, hl => by
    cases h with
    | cons h1 h2 =>
      simp only [List.getElem?_cons_succ] at hl
      obtain ⟨j, hj, hsv⟩ := svl_get i h2 hl
      exact ⟨j, by simpa using hj, hsv⟩

def jchild : JVal → PathSeg → Option JVal
  | .obj gs, .key k => JVal.lookup gs k
  | .list js, .idx i => js[i]?
  | _, _ => none

theorem getAt_jchild (j : JVal) (seg : PathSeg) (p : Path) : j.getAt (seg :: p) = (jchild j seg).bind (·.getAt p) := by
  cases j with
  | obj gs =>
    cases seg with
    | key k => simp only [JVal.getAt, jchild]; cases JVal.lookup gs k <;> rfl
    | idx i => simp [JVal.getAt, jchild]
  | list js =>
    cases seg with
    | key k => simp [JVal.getAt, jchild]
    | idx i => simp only [JVal.getAt, jchild]; cases js[i]? <;> rfl
  | _ => cases seg <;> simp [JVal.getAt, jchild]

theorem sv_child {v w : PVal} {seg : PathSeg} {j : JVal} (h : SV c pv rank F v j) (hc : v.child seg = some w) :
    ∃ j', jchild j seg = some j' ∧ SV c pv rank F w j' := by
  cases h with
  | leaf _ => cases seg <;> cases hc
  | deferred _ => cases seg <;> cases hc
  | obj hf =>
    cases seg with
    | key k => exact svf_lookup hf hc
    | idx i => cases hc
  | list hl =>
    cases seg with
    | key k => cases hc
    | idx i => exact svl_get i hl hc

theorem sv_getAt : ∀ (a : Path) {root : PVal} {j : JVal} {v : PVal}, SV c pv rank F root j → root.getAt a = some v →
    ∃ j', JVal.getAt j a = some j' ∧ SV c pv rank F v j'
  | [], root, j, v, h, hg => by rw [getAt_nil] at hg; cases hg; exact ⟨j, Exec.getAt_nil j, h⟩
  | seg :: rest, root, j, v, h, hg => by
    rw [getAt_cons] at hg
    cases hc : root.child seg with
    | none => rw [hc] at hg; cases hg
    | some x =>
      rw [hc] at hg
      obtain ⟨jx, hjx, hsv⟩ := sv_child h hc
      obtain ⟨j', hj', hsv'⟩ := sv_getAt rest hsv hg
      exact ⟨j', by rw [getAt_jchild, hjx]; exact hj', hsv'⟩

theorem sv_setAt {cl : Closure} {nv : PVal} (hvv : ∀ j, SV c pv rank F (.deferred cl) j → SV c pv rank F nv j) (a : Path)
    {root : PVal} {j : JVal} (h : SV c pv rank F root j) (hg : root.getAt a = some (.deferred cl)) :
    SV c pv rank F (root.setAt a nv) j := by
  refine setAt_rec (P := fun j v => SV c pv rank F v j) (fun v seg w w' hc hww j hv => ?_) a hg hvv j h
  cases hv with
  | leaf _ => cases seg <;> cases hc
  | deferred _ => cases seg <;> cases hc
  | obj hf =>
    cases seg with
    | key k => exact .obj (svf_setF hww hf hc)
    | idx i => cases hc
  | list hl =>
    cases seg with
    | key k => cases hc
    | idx i => exact .list (svl_set hww i hl hc)

mutual
theorem sv_toJ : ∀ {x : PVal} {j : JVal}, SV c pv rank F x j → NoDef x → x.toJ? = some j
  | .leaf _, _, h, _ => by cases h; simp [PVal.toJ?]
  | .list xs, _, h, hn => by
    cases h with
    | list hl => simp only [PVal.toJ?, svl_toJ hl (by simpa [NoDef, PVal.AllCl] using hn)]; rfl
  | .obj fs, _, h, hn => by
    cases h with
    | obj hf => simp only [PVal.toJ?, svf_toJ hf (by simpa [NoDef, PVal.AllCl] using hn)]; rfl
  | .deferred cl, _, _, hn => absurd (allCl_deferred.1 hn) id
theorem svl_toJ : ∀ {xs : List PVal} {js : List JVal}, SVl c pv rank F xs js → PVal.AllClList (fun _ => False) xs →
    PVal.listToJ? xs = some js
  | [], _, h, _ => by cases h; rfl
  | x :: xs, _, h, hn => by
    cases h with
    | cons h1 h2 =>
      simp only [PVal.AllClList] at hn
      simp only [PVal.listToJ?, sv_toJ h1 hn.1, svl_toJ h2 hn.2]
theorem svf_toJ : ∀ {fs : List (String × PVal)} {gs : List (String × JVal)}, SVf c pv rank F fs gs →
    PVal.AllClFields (fun _ => False) fs → PVal.fieldsToJ? fs = some gs
  | [], _, h, _ => by cases h; rfl
  | (k, x) :: xs, _, h, hn => by
    cases h with
    | cons h1 h2 =>
      simp only [PVal.AllClFields] at hn
      simp only [PVal.fieldsToJ?, sv_toJ h1 hn.1, svf_toJ h2 hn.2]
end

end sv

section pendsplit
variable {c : Ctx} {F : Nat}

theorem pendF_mid (as bs : List (String × PVal)) (k : String) (y : PVal) :
    Fx.Perm (pendF c F (as ++ (k, y) :: bs)) ((pend c F y).app ((pendF c F as).app (pendF c F bs))) := by
  rw [pendF_append, pendF]
  simpa [Fx.flat] using Fx.rearr [pendF c F as, pend c F y, pendF c F bs] [0, 1, 2] [1, 0, 2] (by decide)

theorem pendL_mid (as bs : List PVal) (y : PVal) :
    Fx.Perm (pendL c F (as ++ y :: bs)) ((pend c F y).app ((pendL c F as).app (pendL c F bs))) := by
  rw [pendL_append, pendL]
  simpa [Fx.flat] using Fx.rearr [pendL c F as, pend c F y, pendL c F bs] [0, 1, 2] [1, 0, 2] (by decide)

theorem pendF_split {k : String} {x : PVal} {fs : List (String × PVal)} (h : lookupF fs k = some x) :
    ∃ R, Fx.Perm (pendF c F fs) ((pend c F x).app R) ∧ ∀ x', Fx.Perm (pendF c F (setF fs k x')) ((pend c F x').app R) := by
  obtain ⟨as, bs, rfl, hs⟩ := setF_of_lookupF h
  exact ⟨_, pendF_mid as bs k x, fun x' => hs x' ▸ pendF_mid as bs k x'⟩

theorem pendL_split {x : PVal} {xs : List PVal} (i : Nat) (h : xs[i]? = some x) :
    ∃ R, Fx.Perm (pendL c F xs) ((pend c F x).app R) ∧ ∀ x', Fx.Perm (pendL c F (xs.set i x')) ((pend c F x').app R) := by
  obtain ⟨hi, rfl⟩ := List.getElem?_eq_some_iff.1 h
  refine ⟨(pendL c F (xs.take i)).app (pendL c F (xs.drop (i + 1))), ?_, fun x' => ?_⟩
  · have := pendL_mid (c := c) (F := F) (xs.take i) (xs.drop (i + 1)) xs[i]
    rwa [← List.drop_eq_getElem_cons hi, List.take_append_drop] at this
  · rw [List.set_eq_take_append_cons_drop, if_pos hi]; exact pendL_mid _ _ x'
theorem pend_child_split {v w : PVal} {seg : PathSeg} (hc : v.child seg = some w) :
    ∃ R, Fx.Perm (pend c F v) ((pend c F w).app R) ∧ ∀ w', Fx.Perm (pend c F (v.setChild seg w')) ((pend c F w').app R) := by
  cases v with
  | obj fs =>
    cases seg with
    | key k => simpa only [pend, PVal.setChild] using pendF_split (c := c) (F := F) hc
    | idx i => cases hc
  | list xs =>
    cases seg with
    | key k => cases hc
    | idx i => simpa only [pend, PVal.setChild] using pendL_split (c := c) (F := F) i hc
  | leaf _ => cases seg <;> cases hc
  | deferred _ => cases seg <;> cases hc

/-- what is pending in a tree is what is pending at an address plus a frame that an assignment there leaves alone -/
theorem pend_split : ∀ (a : Path) {root old : PVal}, root.getAt a = some old →
    ∃ R, Fx.Perm (pend c F root) ((pend c F old).app R) ∧ ∀ nv, Fx.Perm (pend c F (root.setAt a nv)) ((pend c F nv).app R)
  | [], root, old, h => by
    rw [getAt_nil] at h; cases h
    exact ⟨Fx.nil, by simpa using Fx.Perm.refl _, fun nv => by rw [setAt_nil]; simpa using Fx.Perm.refl _⟩
  | seg :: rest, root, old, h => by
    rw [getAt_cons] at h
    cases hc : root.child seg with
    | none => rw [hc] at h; cases h
    | some x =>
      rw [hc] at h
      obtain ⟨R1, a1, a2⟩ := pend_split rest h
      obtain ⟨R2, b1, b2⟩ := pend_child_split (c := c) (F := F) hc
      refine ⟨R1.app R2, b1.trans (by simpa using Fx.Perm.app a1 (Fx.Perm.refl R2)), fun nv => ?_⟩
      rw [setAt_cons, hc]
      exact (b2 _).trans (by simpa using Fx.Perm.app (a2 nv) (Fx.Perm.refl R2))

end pendsplit

section forced
variable {c : Ctx} {pv : Option Vars} {rank : String → Nat} {F : Nat}

def Forced {α β : Type} (R : α → β → Prop) (pendOf : α → Fx) (Pin : Fx) (mst : MSt) (out : Res α × MSt) (j : β) : Prop :=
  SVRes R out.1 j ∧ PendOut pendOf Pin mst out

/-- A forcing step works off the part `Pold` of what is pending (`Pin ~ Pold ++ Fr`); the continuation gets what its value holds
pending together with the frame, and the equation of the first run. -/
theorem Forced.andThen {α α' β β' : Type} {R : α → β → Prop} {R' : α' → β' → Prop} {pendOf : α → Fx} {pendOf' : α' → Fx}
    {Pin Pold Fr : Fx} {mst : MSt} {x : Res α × MSt} {k : α → MSt → Res α' × MSt} {j : β} {j' : β'}
    (hs : Fx.Perm Pin (Pold.app Fr)) (h : Forced R pendOf Pold mst x j)
    (hk : ∀ a s, x = (.ok a, s) → R a j → Forced R' pendOf' ((pendOf a).app Fr) s (k a s) j') :
    Forced R' pendOf' Pin mst (andThen x k) j' :=
  ⟨svRes_andThen h.1 fun a s e hR => (hk a s e hR).1,
    PendOut.andThen hs h.2 fun a s e => (hk a s e (by have := h.1; rw [e] at this; exact this)).2⟩

theorem forced_ret {α β : Type} {R : α → β → Prop} (pendOf : α → Fx) (mst : MSt) {x : α} {j : β} (h : R x j) :
    Forced R pendOf (pendOf x) mst ((Res.ok x : Res α), mst) j := ⟨h, pendOut_ret pendOf mst x⟩

theorem Forced.of_perm {α β : Type} {R : α → β → Prop} {pendOf : α → Fx} {Pin Pin' : Fx} {mst : MSt} {x : Res α × MSt} {j : β}
    (hp : Fx.Perm Pin Pin') (h : Forced R pendOf Pin' mst x j) : Forced R pendOf Pin mst x j := ⟨h.1, h.2.of_perm hp⟩

theorem kf_nil_of_app {d st : St} (h : (St.app d st).kfThunk = st.kfThunk) : d.kfThunk = [] := by
  simp only [St.app] at h
  have := congrArg List.length h
  simp only [List.length_append] at this
  exact List.eq_nil_of_length_eq_zero (by omega)

/-- one call of a closure: what `simP` says about the run that the closure's witness refers to -/
theorem force_forced (hac : Acyclic c.frags rank) (hfr : FragsOK c pv) (cl : Closure) (j : JVal)
    (hwit : Wit c pv rank F cl j) (mst : MSt) :
    Forced (SV c pv rank F) (pend c F) (wFx c F cl) mst (force c (recompute c.schema c.frags pv) F cl mst) j := by
  obtain ⟨hn, hr⟩ := hwit
  rw [force_eq]
  have hbad : ∀ ms dM, MExt mst ms dM → dM = ⟨[(cl.path, true)], []⟩ → wFx c F cl = ⟨[(cl.path, true)], []⟩ →
      cl.t.isNonNull = false → j = .null →
      Forced (SV c pv rank F) (pend c F) (wFx c F cl) mst (absorbAt cl.t.isNonNull (.leaf .null) ms) j := by
    rintro ms dM m rfl hw hnn rfl
    rw [hnn, hw]
    exact ⟨.leaf _, _, Fx.nil, m, by simpa [pend] using Fx.Perm.refl _⟩
  cases hcr : cl.r with
  | none =>
    rw [hcr] at hr
    exact hbad _ _ (mExt_addErr mst cl.path true) rfl (by simp only [wFx, hcr]) hr.1 hr.2
  | some r =>
    rw [hcr] at hr
    cases r with
    | err =>
      exact hbad _ _ ((mExt_force mst cl.path).trans (mExt_addErr _ cl.path true)) (by simp) (by simp only [wFx, hcr]) hr.1 hr.2
    | ok v =>
      obtain ⟨st, rS, stS, hS, hkf, hres⟩ := hr
      obtain ⟨d, hd, hst⟩ := complete_from_empty c F hS
      have hkd : d.kfThunk = [] := kf_nil_of_app (by rw [← hst]; exact hkf)
      have hw : wFx c F cl = fxS d := by simp only [wFx, hcr, wRun]; rw [hd]
      have hsim := ((simP hac hfr F (Nat.le_refl _)).complete true cl.t cl.rt cl.fid cl.fp cl.path v St.empty
        (mst.logEv (.force cl.path)) hn).absorb
      rw [hd] at hsim
      have hx : recover ((rS, d) : Res JVal × St) (absorbAt cl.t.isNonNull .null) = (.ok j, d) := by
        rcases hres with rfl | ⟨rfl, hnn, rfl⟩
        · rfl
        · rw [recover_fail, hnn]; rfl
      rw [hx] at hsim
      dsimp only
      generalize recover (mComplete c (recompute c.schema c.frags pv) F true cl.t cl.rt cl.fid cl.fp cl.path v (mst.logEv (.force cl.path))) _ = y
        at hsim ⊢
      obtain ⟨rM, ms1⟩ := y
      obtain ⟨⟨b, hb, hsv⟩, dS, dM, e, mm, ⟨D, hp⟩, _⟩ := hsim (by simp) hkd
      cases hb
      rw [St.app_empty] at e
      subst e
      rw [hw]
      exact ⟨hsv, dM.app Fx.nil, D, (mExt_force mst cl.path).trans mm, by simpa using hp⟩

def FrcOK (c : Ctx) (pv : Option Vars) (rank : String → Nat) (F : Nat) (frc : Closure → MSt → Res PVal × MSt) : Prop :=
  ∀ cl j mst, Wit c pv rank F cl j → Forced (SV c pv rank F) (pend c F) (wFx c F cl) mst (frc cl mst) j

theorem forceLoop_forced {frc : Closure → MSt → Res PVal × MSt} (hf : FrcOK c pv rank F frc) (j : JVal) :
    ∀ (n : Nat) (v : PVal) (mst : MSt), SV c pv rank F v j →
    Forced (SV c pv rank F) (pend c F) (pend c F v) mst (forceLoop frc n v mst) j
  | 0, v, mst, _ => by rw [forceLoop_zero]; exact ⟨trivial, trivial⟩
  | n + 1, v, mst, h => by
    cases v with
    | deferred cl =>
      rw [forceLoop_deferred]
      cases h with
      | deferred hwit =>
        refine Forced.andThen (Fr := Fx.nil) (by simpa [pend] using Fx.Perm.refl (wFx c F cl)) (hf cl j mst hwit) fun x s _ hx => ?_
        rw [Fx.app_nil]; exact forceLoop_forced hf j n x s hx
    | _ => rw [forceLoop_succ]; exact forced_ret _ _ h

theorem forceAll_forced (hac : Acyclic c.frags rank) (hfr : FragsOK c pv) :
    FrcOK c pv rank F (forceAll c (recompute c.schema c.frags pv) F) := by
  intro cl j mst hwit
  have := forceLoop_forced (fun cl j mst hw => force_forced hac hfr cl j hw mst) j (F + 2) (.deferred cl) mst (.deferred hwit)
  simpa [pend, forceAll] using this

variable {frc : Closure → MSt → Res PVal × MSt}

/-- the three depth-first functions keep `SV` and never escape -/
structure DfsV (c : Ctx) (pv : Option Vars) (rank : String → Nat) (F : Nat) (frc : Closure → MSt → Res PVal × MSt)
    (n : Nat) : Prop where
  val : ∀ v j mst, SV c pv rank F v j → SVRes (SV c pv rank F) (dfsVal frc n v mst).1 j
  fields : ∀ ks fs gs mst, SVf c pv rank F fs gs → SVRes (SVf c pv rank F) (dfsFields frc n ks fs mst).1 gs
  items : ∀ xs js acc accj mst, SVl c pv rank F xs js → SVl c pv rank F acc accj →
    SVRes (SVl c pv rank F) (dfsItems frc n xs acc mst).1 (accj ++ js)

/-- the three depth-first functions: effect accounting -/
structure DfsA (c : Ctx) (pv : Option Vars) (rank : String → Nat) (F : Nat) (frc : Closure → MSt → Res PVal × MSt)
    (n : Nat) : Prop where
  val : ∀ v j mst, SV c pv rank F v j → PendOut (pend c F) (pend c F v) mst (dfsVal frc n v mst)
  fields : ∀ ks fs gs mst, SVf c pv rank F fs gs → PendOut (pendF c F) (pendF c F fs) mst (dfsFields frc n ks fs mst)
  items : ∀ xs js acc accj mst, SVl c pv rank F xs js → SVl c pv rank F acc accj →
    PendOut (pendL c F) ((pendL c F acc).app (pendL c F xs)) mst (dfsItems frc n xs acc mst)

structure DfsForced (c : Ctx) (pv : Option Vars) (rank : String → Nat) (F : Nat) (frc : Closure → MSt → Res PVal × MSt)
    (n : Nat) : Prop where
  val : ∀ v j mst, SV c pv rank F v j → Forced (SV c pv rank F) (pend c F) (pend c F v) mst (dfsVal frc n v mst) j
  fields : ∀ ks fs gs mst, SVf c pv rank F fs gs →
    Forced (SVf c pv rank F) (pendF c F) (pendF c F fs) mst (dfsFields frc n ks fs mst) gs
  items : ∀ xs js acc accj mst, SVl c pv rank F xs js → SVl c pv rank F acc accj →
    Forced (SVl c pv rank F) (pendL c F) ((pendL c F acc).app (pendL c F xs)) mst (dfsItems frc n xs acc mst) (accj ++ js)

theorem DfsForced.dfsV {n : Nat} (h : DfsForced c pv rank F frc n) : DfsV c pv rank F frc n :=
  ⟨fun v j mst hv => (h.val v j mst hv).1, fun ks fs gs mst hfs => (h.fields ks fs gs mst hfs).1,
    fun xs js acc accj mst hx ha => (h.items xs js acc accj mst hx ha).1⟩

theorem DfsForced.dfsA {n : Nat} (h : DfsForced c pv rank F frc n) : DfsA c pv rank F frc n :=
  ⟨fun v j mst hv => (h.val v j mst hv).2, fun ks fs gs mst hfs => (h.fields ks fs gs mst hfs).2,
    fun xs js acc accj mst hx ha => (h.items xs js acc accj mst hx ha).2⟩

theorem dfs_forced (hf : FrcOK c pv rank F frc) : ∀ n, DfsForced c pv rank F frc n
  | 0 => by
    refine ⟨?_, ?_, ?_⟩
    · intro v j mst _; rw [dfsVal_zero]; exact ⟨trivial, trivial⟩
    · intro ks fs gs mst _; rw [dfsFields_zero]; exact ⟨trivial, trivial⟩
    · intro xs js acc accj mst _ _; rw [dfsItems_zero]; exact ⟨trivial, trivial⟩
  | n + 1 => by
    have ih := dfs_forced hf n
    have descend : ∀ (x : PVal) (j : JVal) (mst : MSt), SV c pv rank F x j →
        Forced (SV c pv rank F) (pend c F) (pend c F x) mst (dfsDescend frc n x mst) j := by
      intro x j mst hx
      cases hx with
      | leaf j => exact forced_ret _ _ (.leaf _)
      | deferred hw => exact forced_ret _ _ (.deferred hw)
      | @obj fs gs hfs =>
        refine Forced.andThen (Fr := Fx.nil) (by simpa [pend] using Fx.Perm.refl (pendF c F fs))
          (ih.fields (sortedKeys fs) fs gs mst hfs) fun fs' s _ h => ?_
        exact (forced_ret (pend c F) s (SV.obj h)).of_perm (by simpa [pend] using Fx.Perm.refl (pendF c F fs'))
      | @list xs js hxs =>
        have h := ih.items xs js [] [] mst hxs .nil
        simp only [pendL, Fx.nil_app, List.nil_append] at h
        refine Forced.andThen (Fr := Fx.nil) (by simpa [pend] using Fx.Perm.refl (pendL c F xs)) h fun ys s _ h => ?_
        exact (forced_ret (pend c F) s (SV.list h)).of_perm (by simpa [pend] using Fx.Perm.refl (pendL c F ys))
    refine ⟨?_, ?_, ?_⟩
    · intro v j mst hv
      cases v with
      | deferred cl =>
        cases hv with
        | deferred hwit =>
          rw [dfsVal_deferred]
          refine Forced.andThen (Fr := Fx.nil) (by simpa [pend] using Fx.Perm.refl (wFx c F cl)) (hf cl j mst hwit) fun x s _ hx => ?_
          exact (descend x j s hx).of_perm (by simpa using Fx.Perm.refl (pend c F x))
      | leaf j' => exact descend (.leaf j') j mst hv
      | list xs => rw [dfsVal_value (v := .list xs) (fun _ => nofun)]; exact descend (.list xs) j mst hv
      | obj fs => rw [dfsVal_value (v := .obj fs) (fun _ => nofun)]; exact descend (.obj fs) j mst hv
    · intro ks fs gs mst hfs
      cases ks with
      | nil => rw [dfsFields_nil]; exact forced_ret _ _ hfs
      | cons k ks =>
        rw [dfsFields_cons]
        cases hl : lookupF fs k with
        | none => exact ih.fields ks fs gs mst hfs
        | some v =>
          obtain ⟨j0, -, hj0⟩ := svf_lookup hfs hl
          obtain ⟨R, s1, s2⟩ := pendF_split (c := c) (F := F) hl
          refine Forced.andThen s1 (ih.val v j0 mst hj0) fun v' s hz _ => ?_
          -- whatever `v` stands for, the settled value stands for
          have hset := svf_setF (v' := v') (fun j hj => by have := (ih.val v j mst hj).1; rw [hz] at this; exact this) hfs hl
          exact Forced.of_perm (s2 v').symm (ih.fields ks _ gs s hset)
    · intro xs js acc accj mst hxs hacc
      cases hxs with
      | nil => rw [dfsItems_nil, List.append_nil]; simp only [pendL, Fx.app_nil]; exact forced_ret _ _ hacc
      | @cons x j xs js hx hrest =>
        rw [dfsItems_cons]
        have t1 : Fx.Perm ((pendL c F acc).app (pendL c F (x :: xs))) ((pend c F x).app ((pendL c F acc).app (pendL c F xs))) := by
          simpa [Fx.flat, pendL] using Fx.rearr [pendL c F acc, pend c F x, pendL c F xs] [0, 1, 2] [1, 0, 2] (by decide)
        refine Forced.andThen t1 (ih.val x j mst hx) fun x' s _ hv => ?_
        have h := ih.items xs js (acc ++ [x']) (accj ++ [j]) s hrest (svl_append hv hacc)
        rw [pendL_snoc, List.append_assoc] at h
        exact h.of_perm (by simpa [Fx.flat] using Fx.rearr [pend c F x', pendL c F acc, pendL c F xs] [0, 1, 2] [1, 0, 2] (by decide))

theorem bfsEntries_forced (hf : FrcOK c pv rank F frc) (p : Path) (j : JVal) :
    ∀ (segs : List PathSeg) (root : PVal) (q : List Path) (mst : MSt), SV c pv rank F root j →
    Forced (fun (r : PVal × List Path) j => SV c pv rank F r.1 j) (fun (r : PVal × List Path) => pend c F r.1) (pend c F root) mst
      (bfsEntries frc p segs root q mst) j
  | [], root, q, mst, h => by
    rw [bfsEntries_nil]
    exact forced_ret (R := fun (r : PVal × List Path) j => SV c pv rank F r.1 j) (fun (r : PVal × List Path) => pend c F r.1) mst (x := (root, q)) h
  | seg :: rest, root, q, mst, h => by
    rw [bfsEntries_cons]
    cases hg : root.getAt (p ++ [seg]) with
    | none => exact bfsEntries_forced hf p j rest root q mst h
    | some x =>
      cases x with
      | deferred cl =>
        obtain ⟨j', -, hj'⟩ := sv_getAt _ h hg
        have hwit : Wit c pv rank F cl j' := by cases hj' with | deferred hw => exact hw
        obtain ⟨R, s1, s2⟩ := pend_split (c := c) (F := F) _ hg
        refine Forced.andThen (by simpa [pend] using s1) (hf cl j' mst hwit) fun v s hz _ => ?_
        refine (bfsEntries_forced hf p j rest _ _ s (sv_setAt (fun j'' hj'' => ?_) _ h hg)).of_perm (s2 v).symm
        -- whatever the closure stands for, what it yields stands for
        cases hj'' with
        | deferred hw =>
          have := (hf cl j'' mst hw).1
          rw [hz] at this
          exact this
      | leaf _ => exact bfsEntries_forced hf p j rest root _ mst h
      | list _ => exact bfsEntries_forced hf p j rest root _ mst h
      | obj _ => exact bfsEntries_forced hf p j rest root _ mst h

theorem bfsLoop_forced (hf : FrcOK c pv rank F frc) (j : JVal) :
    ∀ (n : Nat) (root : PVal) (q : List Path) (mst : MSt), SV c pv rank F root j →
    Forced (SV c pv rank F) (pend c F) (pend c F root) mst (bfsLoop frc n root q mst) j
  | 0, root, q, mst, _ => by rw [bfsLoop_zero]; exact ⟨trivial, trivial⟩
  | n + 1, root, [], mst, h => by rw [bfsLoop_nil]; exact forced_ret _ _ h
  | n + 1, root, p :: q, mst, h => by
    rw [bfsLoop_cons]
    cases root.getAt p with
    | none => exact bfsLoop_forced hf j n root q mst h
    | some cont =>
      refine Forced.andThen (Fr := Fx.nil) (by simpa using Fx.Perm.refl (pend c F root))
        (bfsEntries_forced hf p j (childSegs cont) root q mst h) fun r s _ hv => ?_
      exact (bfsLoop_forced hf j n r.1 r.2 s hv).of_perm (by simpa using Fx.Perm.refl (pend c F r.1))

end forced

end GqlModel.Plan
