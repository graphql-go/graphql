import GqlModel.PrinterTokens
import GqlModel.ValueReader
/-! `LexK items rest`, the lexing invariant of the printer's token view: every separator consists of space / newline /
comma, every token item carries a text that is a lexeme of its kind with its value (`TokText`), and a token that maximal
munch could extend (NAME, INT, FLOAT; a string, since `""` before `"` would open a block string; block strings only for
uniformity) is followed — in the rendered text, `rest` being what comes after the whole list — by nothing or by a
delimiter character (`StartsDelim`).

"What comes next does not continue the token" is said once per level: `Reader.Delim` / `TypeDelim` / `HeadNot` / `HeadOK`
on the characters the reference reader sees (ValueReader, PrinterRead), `StartsDelim` / `SD1` on the characters of
rendered items (here, PrinterPrints), `DelimB` / `Lexer.NextNot` on bytes (RoundTripLexName, LexerMunch), `NextNe` /
`NextNotName` / `FollowSel` on tokens (PrinterDerive). -/
namespace GqlModel.RoundTrip
open GqlModel.Printer

abbrev Chars := List Char

def indentIter : Nat → Chars → Chars
  | 0, t => t
  | j+1, t => indentC (indentIter j t)

/-- the printed block form of a description (before any `indent`) -/
def descText (t : Chars) : Chars :=
  if t.contains '\n' then tq ++ ['\n'] ++ t ++ ['\n'] ++ tq else tq ++ t ++ tq

theorem descC_some (s : String) :
    descC (some s) = if descBlockSafeC s.toList then descText s.toList else quoteC s.toList := by
  simp only [descC, descText]
  by_cases h : descBlockSafeC s.toList = true <;> simp [h]

def isDelimChar (c : Char) : Bool :=
  c == ' ' || c == '\n' || c == ',' || c == '!' || c == '$' || c == '&' || c == '(' || c == ')' || c == ':' || c == '=' ||
    c == '@' || c == '[' || c == ']' || c == '{' || c == '|' || c == '}'

/-- empty, or the first character is an Ignored character or a one-character punctuator -/
def StartsDelim (cs : Chars) : Prop :=
  match cs with
  | [] => True
  | c :: _ => isDelimChar c = true

def punctChar : TokenKind → Option Char
  | .bang => some '!' | .dollar => some '$' | .amp => some '&' | .parenL => some '(' | .parenR => some ')'
  | .colon => some ':' | .equals => some '=' | .at => some '@' | .bracketL => some '[' | .bracketR => some ']'
  | .braceL => some '{' | .pipe => some '|' | .braceR => some '}'
  | _ => none

/-- kinds whose lexeme maximal munch could extend into the next characters -/
def sticky : TokenKind → Bool
  | .name | .int | .float | .string | .blockString => true
  | _ => false

/-- `t` is a way of writing a token of kind `k` with value `v` that the printer uses -/
def TokText (k : TokenKind) (v : String) (t : Chars) : Prop :=
  match k with
  | .name => t = v.toList ∧ Reader.isNameC t = true
  | .int => t = v.toList ∧ Reader.isIntLit t = true
  | .float => t = v.toList ∧ Reader.IsFloatLit t
  | .string => t = quoteC v.toList
  | .blockString => descBlockSafeC v.toList = true ∧ ∃ j, t = indentIter j (descText v.toList)
  | .spread => v = "" ∧ t = ['.', '.', '.']
  | .eof => False
  | k => v = "" ∧ ∃ c, punctChar k = some c ∧ t = [c]

theorem tokText_cases {P : TokenKind → Prop} {v : String} {t : Chars}
    (name : t = v.toList → Reader.isNameC t = true → P .name)
    (int : t = v.toList → Reader.isIntLit t = true → P .int)
    (float : t = v.toList → Reader.IsFloatLit t → P .float)
    (string : t = quoteC v.toList → P .string)
    (block : descBlockSafeC v.toList = true → ∀ j, t = indentIter j (descText v.toList) → P .blockString)
    (spread : v = "" → t = ['.', '.', '.'] → P .spread)
    (punct : ∀ k c, v = "" → punctChar k = some c → t = [c] → P k)
    {k : TokenKind} (h : TokText k v t) : P k := by
  have pun : ∀ k', (v = "" ∧ ∃ c, punctChar k' = some c ∧ t = [c]) → P k' :=
    fun k' ⟨hv, c, hc, ht⟩ => punct k' c hv hc ht
  cases k with
  | name => exact name h.1 h.2
  | int => exact int h.1 h.2
  | float => exact float h.1 h.2
  | string => exact string h
  | blockString => obtain ⟨hs, j, e⟩ := h; exact block hs j e
  | spread => exact spread h.1 h.2
  | eof => exact h.elim
  | _ => exact pun _ h

def LexK : List Item → Chars → Prop
  | [], _ => True
  | .sep t :: is, rest => t.all isIgnoredChar = true ∧ LexK is rest
  | .tok k v t :: is, rest => TokText k v t ∧ (sticky k = true → StartsDelim (render is ++ rest)) ∧ LexK is rest

end GqlModel.RoundTrip
