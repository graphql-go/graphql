import GqlProofs.RoundTripUtf8
import GqlProofs.LexerLexeme
import GqlModel.ValueReader
/-! C08 byte level — NAME tokens: `utf8 name ++ rest`, where `name` satisfies `Reader.isNameC` (what `WFDocument` demands
of every name) and `rest` is empty or starts with a byte that cannot continue a name / number (`DelimB`), begins with a
NAME lexeme of the grammar (`Lexer.Lexeme`), so maximal munch stops exactly at the end of the name. -/
namespace GqlModel.RoundTrip
open GqlModel.Lexer GqlModel.Lexer.Spec

/-- byte of an ASCII character -/
def byteOf (c : Char) : UInt8 := UInt8.ofNat c.toNat

theorem utf8_cons_ascii (c : Char) (cs : Chars) (h : c.toNat < 128) : utf8 (c :: cs) = byteOf c :: utf8 cs := by
  rw [utf8_cons, enc_ascii c h]; rfl

theorem byteOf_toNat (c : Char) (h : c.toNat < 128) : (byteOf c).toNat = c.toNat := by
  simp only [byteOf, UInt8.toNat_ofNat']; omega

/-- the bytes the printer puts after a token: space, newline, comma, or one of the one-byte punctuators -/
def isDelimByte (b : UInt8) : Prop :=
  b = 32 ∨ b = 10 ∨ b = 44 ∨ b = 33 ∨ b = 36 ∨ b = 38 ∨ b = 40 ∨ b = 41 ∨ b = 58 ∨ b = 61 ∨ b = 64 ∨ b = 91 ∨ b = 93 ∨
    b = 123 ∨ b = 124 ∨ b = 125
instance (b : UInt8) : Decidable (isDelimByte b) := by unfold isDelimByte; infer_instance

def DelimB (rest : Bytes) : Prop :=
  match rest with
  | [] => True
  | b :: _ => isDelimByte b

theorem delim_toNat {b : UInt8} (h : isDelimByte b) :
    b.toNat = 32 ∨ b.toNat = 10 ∨ b.toNat = 44 ∨ b.toNat = 33 ∨ b.toNat = 36 ∨ b.toNat = 38 ∨ b.toNat = 40 ∨ b.toNat = 41 ∨
      b.toNat = 58 ∨ b.toNat = 61 ∨ b.toNat = 64 ∨ b.toNat = 91 ∨ b.toNat = 93 ∨ b.toNat = 123 ∨ b.toNat = 124 ∨ b.toNat = 125 := by
  unfold isDelimByte at h
  bnorm at h
  exact h

theorem delim_not_nameCont {b : UInt8} (h : isDelimByte b) : ¬ isNameContByte b := by
  have := delim_toNat h
  unfold isNameContByte isNameStartByte isDigitByte
  bnorm; omega

theorem delim_not_digit {b : UInt8} (h : isDelimByte b) : ¬ isDigitByte b := by
  have := delim_toNat h
  unfold isDigitByte; omega

theorem delim_not_num {b : UInt8} (h : isDelimByte b) : b ≠ 46 ∧ b ≠ 69 ∧ b ≠ 101 ∧ b ≠ 34 := by
  have := delim_toNat h
  bnorm; omega

theorem nameStart_ascii {c : Char} (h : Reader.isNameStart c = true) : c.toNat < 128 := by
  simp only [Reader.isNameStart, Bool.or_eq_true, Bool.and_eq_true, decide_eq_true_eq] at h; omega

theorem digit_ascii {c : Char} (h : Reader.isDigit c = true) : c.toNat < 128 := by
  simp only [Reader.isDigit, Bool.and_eq_true, decide_eq_true_eq] at h; omega

theorem nameCont_ascii {c : Char} (h : Reader.isNameCont c = true) : c.toNat < 128 := by
  simp only [Reader.isNameCont, Bool.or_eq_true] at h
  rcases h with h | h
  · exact nameStart_ascii h
  · exact digit_ascii h

theorem nameStart_byte {c : Char} (h : Reader.isNameStart c = true) : isNameStartByte (byteOf c) := by
  have ha := nameStart_ascii h
  simp only [Reader.isNameStart, Bool.or_eq_true, Bool.and_eq_true, decide_eq_true_eq] at h
  unfold isNameStartByte
  rw [byteOf_toNat c ha]
  bnorm
  rw [byteOf_toNat c ha]
  omega

theorem digit_byte {c : Char} (h : Reader.isDigit c = true) : isDigitByte (byteOf c) := by
  have ha := digit_ascii h
  simp only [Reader.isDigit, Bool.and_eq_true, decide_eq_true_eq] at h
  unfold isDigitByte
  rw [byteOf_toNat c ha]
  omega

theorem nameCont_byte {c : Char} (h : Reader.isNameCont c = true) : isNameContByte (byteOf c) := by
  simp only [Reader.isNameCont, Bool.or_eq_true] at h
  rcases h with h | h
  · exact Or.inl (nameStart_byte h)
  · exact Or.inr (digit_byte h)

theorem all_byte {p : Char → Bool} {q : UInt8 → Prop} (hp : ∀ c, p c = true → c.toNat < 128) (hq : ∀ c, p c = true → q (byteOf c))
    {cs : Chars} (h : cs.all p = true) : ∀ b ∈ utf8 cs, q b := by
  intro b hb
  rw [utf8_ascii cs (fun c hc => hp c (List.all_eq_true.mp h c hc))] at hb
  obtain ⟨c, hc, rfl⟩ := List.mem_map.mp hb
  exact hq c (List.all_eq_true.mp h c hc)

theorem isNameC_ascii {nm : Chars} (h : Reader.isNameC nm = true) : asciiC nm := by
  match nm, h with
  | c :: r, h =>
    simp only [Reader.isNameC, Bool.and_eq_true] at h
    intro x hx
    rcases List.mem_cons.mp hx with rfl | hx
    · exact nameStart_ascii h.1
    · exact nameCont_ascii (List.all_eq_true.mp h.2 x hx)

theorem delimB_head {rest : Bytes} (h : DelimB rest) : ∀ d, rest.head? = some d → isDelimByte d := by
  intro d hd
  cases rest with
  | nil => simp at hd
  | cons b r => simp only [List.head?_cons, Option.some.injEq] at hd; subst hd; exact h

theorem name_lexeme {nm : Chars} {rest : Bytes} (h : Reader.isNameC nm = true) (hr : DelimB rest) :
    Lexeme .name (utf8 nm) (utf8 nm) rest := by
  match nm, h with
  | c :: r, h =>
    simp only [Reader.isNameC, Bool.and_eq_true] at h
    rw [utf8_cons_ascii c r (nameStart_ascii h.1)]
    exact .name (nameStart_byte h.1) (all_byte (fun _ => nameCont_ascii) (fun _ => nameCont_byte) h.2)
      (fun d hd => delim_not_nameCont (delimB_head hr d hd))

end GqlModel.RoundTrip
