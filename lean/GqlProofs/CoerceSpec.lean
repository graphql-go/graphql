import GqlProofs.CoerceNum
/-! C05: the library's validity/coercion functions agree with the specification (step lemmas and fuel induction). -/
namespace GqlModel.Coerce
open Spec

theorem isNumericString_false {x : String} (h : isNumericString x = false) : parseDec x.toList = none := by
  unfold isNumericString at h
  cases hp : parseDec x.toList <;> simp [hp] at h ⊢

theorem agree_table (n : String) (r : JVal) :
    Agree (!r.isNull) (match r with | .null => .error (.badScalar n) | r => .ok r) r := by
  cases r <;> first | exact Agree.error_null _ | exact Agree.ok_nonNull rfl

theorem scalar_agree (n : String) (k : ScalarKind) (v : JVal) (hs : strictScalar k v = true) :
    Agree (!(parseValue k v).isNull) (scalarValue n k v) (parseValue k v) := by
  cases k <;> cases v
  case int.int i =>
    simp only [parseValue, scalarValue, coerceInt]
    by_cases h : inInt32 i = true <;> simp only [h, ↓reduceIte] <;>
      first | exact Agree.error_null _ | exact Agree.ok_nonNull rfl
  case int.str x =>
    simp only [strictScalar, Bool.not_eq_true'] at hs
    simp only [parseValue, scalarValue, coerceInt, isNumericString_false hs]
    split <;> exact Agree.error_null _
  case float.str x =>
    simp only [strictScalar, Bool.not_eq_true'] at hs
    simp only [parseValue, scalarValue, coerceFloat, isNumericString_false hs]
    split <;> exact Agree.error_null _
  -- every other pair computes: both reject, both return the same value, or `strictScalar` excludes it
  all_goals first | exact Agree.error_null _ | exact Agree.ok_nonNull rfl | exact agree_table n _ | cases hs

theorem enumByName_agree (n : String) (vals : List EnumValueS) (x : String) :
    Agree (!(enumByName vals x).isNull) (enumValue n vals x) (enumByName vals x) := by
  unfold enumByName enumValue
  cases vals.find? (fun ev => ev.name == x) with
  | none => exact Agree.error_null _
  | some ev => exact Agree.ok_nonNull (enumInternal_ne_null ev)

theorem enum_agree (n : String) (vals : List EnumValueS) (v : JVal) :
    Agree (!(enumParseValue vals v).isNull)
      (match v with
       | .str x => enumValue n vals x
       | _ => .error (.unknownEnumValue n)) (enumParseValue vals v) := by
  cases v <;> first | exact enumByName_agree n vals _ | exact Agree.error_null _

/-- the fields of an input object, for values and literals alike (`arg f` is what is supplied for field `f`) -/
theorem fields_agree {α : Type} (fields : List InputFieldS) (arg : InputFieldS → α) (selfV : GType → α → Bool)
    (selfS : GType → α → Except Err JVal) (selfC : GType → α → JVal)
    (ih : ∀ f ∈ fields, Agree (selfV f.type (arg f)) (selfS f.type (arg f)) (selfC f.type (arg f))) :
    Agree (fields.all fun f => selfV f.type (arg f)) (mapE (fun f => fieldResult f (selfS f.type (arg f))) fields)
      (fields.map fun f => Coerce.fieldEntry f (selfC f.type (arg f))) :=
  mapE_agree _ _ _ fields fun f hf => by
    rcases ih f hf with ⟨h1, h2⟩ | ⟨h1, e, h2⟩
    · left; simp [h1, h2, fieldResult, spec_fieldEntry_eq]
    · right; simp [h1, h2, fieldResult]

theorem varStep_agree (s : Schema) (selfT selfV : GType → JVal → Bool) (selfC : GType → JVal → JVal)
    (selfS : GType → JVal → Except Err JVal)
    (ih : ∀ t v, selfT t v = true → Agree (selfV t v) (selfS t v) (selfC t v)) :
    ∀ t v, strictStep s selfT t v = true →
      Agree (validStep s selfV t v) (varStep s selfS t v) (coerceStep s selfC t v) := by
  intro t
  induction t with
  | nonNull t iht =>
    intro v hs
    simp only [strictStep, validStep, varStep, coerceStep] at hs ⊢
    by_cases hn : v.isNull = true
    · right; simp [hn]
    · simp only [hn] at hs ⊢
      exact iht v (by simpa using hs)
  | list t iht =>
    intro v hs
    cases v with
    | null => left; simp [validStep, varStep, coerceStep]
    | list xs =>
      simp only [strictStep, List.all_eq_true] at hs
      have := mapE_agree (validStep s selfV t) (varStep s selfS t) (coerceStep s selfC t) xs
        (fun x hx => iht x (hs x hx))
      simp only [validStep, varStep, coerceStep]
      exact this.wrap (fun h => by simp [h]) (fun e h => by simp [h])
    | _ =>
      simp only [strictStep] at hs
      have := iht _ hs
      simp only [validStep, varStep, coerceStep]
      exact this.wrap (fun h => by simp [h]) (fun e h => by simp [h])
  | named n =>
    intro v hs
    simp only [strictStep, validStep, varStep, coerceStep] at hs ⊢
    by_cases hn : v.isNull = true
    · left; simp [hn]
    · simp only [hn] at hs ⊢
      cases hf : s.find? n with
      | none => simp [hf] at hs
      | some td =>
        cases td with
        | scalar nm k d =>
          simp only [hf] at hs ⊢
          exact scalar_agree n k v (by simpa using hs)
        | enum nm vals d =>
          simp only [hf] at hs ⊢
          exact enum_agree n vals v
        | inputObject nm fields d =>
          simp only [hf] at hs ⊢
          cases v with
          | obj kv =>
            simp only [Bool.false_eq_true, if_false, List.all_eq_true] at hs
            have hfs := fields_agree fields (fun f => lookupD kv f.name) selfV selfS selfC
              (fun f hf' => ih f.type _ (hs f hf'))
            by_cases hk : (kv.all (fun p => knownField fields p.1)) = true
            · rcases hfs with ⟨h1, h2⟩ | ⟨h1, e, h2⟩
              · left; simp [hk, h1, h2, objectOf]
              · right; simp [hk, h1, h2]
            · right; simp [hk]
          | _ => right; simp
        | _ => simp [hf] at hs

theorem agree_float (n : String) {o : Option JVal} (h : ∀ r, o = some r → r.isNull = false) :
    Agree (!(o.getD .null).isNull) (match o with | some r => .ok r | none => .error (.badScalar n)) (o.getD .null) := by
  cases o with
  | none => exact Agree.error_null _
  | some r => exact Agree.ok_nonNull (h r rfl)

theorem scalarLit_agree (n : String) (k : ScalarKind) (l : Value) :
    Agree (!(parseLiteral k l).isNull) (scalarLiteral n k l) (parseLiteral k l) := by
  cases k <;> cases l
  case int.int raw _ =>
    simp only [parseLiteral, scalarLiteral]
    cases intOfChars raw.toList with
    | none => exact Agree.error_null _
    | some i =>
      by_cases h : inInt32 i = true <;> simp only [h, ↓reduceIte] <;>
        first | exact Agree.error_null _ | exact Agree.ok_nonNull rfl
  case float.int raw _ => exact agree_float n (fun _ => parseFloatLit_ne_null)
  case float.float raw _ => exact agree_float n (fun _ => parseFloatLit_ne_null)
  all_goals first | exact Agree.error_null _ | exact Agree.ok_nonNull rfl | exact agree_table n _

theorem enumLit_agree (n : String) (vals : List EnumValueS) (l : Value) :
    Agree (!(enumParseLiteral vals l).isNull)
      (match l with
       | .enum x _ => enumValue n vals x
       | _ => .error (.unknownEnumValue n)) (enumParseLiteral vals l) := by
  cases l <;> first | exact enumByName_agree n vals _ | exact Agree.error_null _

theorem litStep_agree (s : Schema) (vars : Vars) (selfP selfV : GType → Option Value → Bool)
    (selfA : GType → Option Value → JVal) (selfS : GType → Option Value → Except Err JVal)
    (ih : ∀ t l, selfP t l = true → Agree (selfV t l) (selfS t l) (selfA t l)) :
    ∀ t l, varsProvidedStep s vars selfP t l = true →
      Agree (validLitStep s selfV t l) (litStep s vars selfS t l) (fromASTStep s vars selfA t l) := by
  intro t
  induction t with
  | nonNull t iht =>
    intro lit hp
    cases lit with
    | none => right; simp [validLitStep, litStep]
    | some l =>
      cases l with
      | var x loc =>
        simp only [varsProvidedStep] at hp
        have hv : validLitStep s selfV (.nonNull t) (some (.var x loc)) = true := by
          simp only [validLitStep]
          exact validLitStep_var s selfV t x loc
        left
        refine ⟨hv, ?_⟩
        simp only [litStep, fromASTStep]
        simp at hp
        simp [hp]
      | _ =>
        simp only [varsProvidedStep] at hp
        have := iht _ hp
        simpa only [validLitStep, litStep, fromASTStep] using this
  | list t iht =>
    intro lit hp
    cases lit with
    | none => left; simp [validLitStep, litStep, fromASTStep]
    | some l =>
      cases l with
      | var x loc => left; simp [validLitStep, litStep, fromASTStep]
      | list ls loc =>
        simp only [varsProvidedStep, List.all_eq_true] at hp
        have := mapE_agree (fun l => validLitStep s selfV t (some l)) (fun l => litStep s vars selfS t (some l))
          (fun l => fromASTStep s vars selfA t (some l)) ls (fun x hx => iht _ (hp x hx))
        simp only [validLitStep, litStep, fromASTStep]
        exact this.wrap (fun h => by simp [h]) (fun e h => by simp [h])
      | _ =>
        simp only [varsProvidedStep] at hp
        have := iht _ hp
        simp only [validLitStep, litStep, fromASTStep]
        exact this.wrap (fun h => by simp [h]) (fun e h => by simp [h])
  | named n =>
    intro lit hp
    cases lit with
    | none => left; simp [validLitStep, litStep, fromASTStep]
    | some l =>
      cases l with
      | var x loc => left; simp [validLitStep, litStep, fromASTStep]
      | _ =>
        simp only [varsProvidedStep, validLitStep, litStep, fromASTStep] at hp ⊢
        cases hf : s.find? n with
        | none => simp [hf] at hp
        | some td =>
          cases td with
          | scalar nm k d => exact scalarLit_agree n k _
          | enum nm vals d => exact enumLit_agree n vals _
          | inputObject nm fields d =>
            -- only an object literal is accepted: its fields
            first
            | right; simp; done
            | rename_i fs loc
              simp only [hf] at hp ⊢
              simp only [List.all_eq_true] at hp
              have hfs := fields_agree fields (fun f => litLookup fs f.name) selfV selfS selfA
                (fun f hf' => ih f.type _ (hp f hf'))
              by_cases hk : (fs.all (fun f => knownField fields f.name.value)) = true
              · rcases hfs with ⟨h1, h2⟩ | ⟨h1, e, h2⟩
                · left; simp [hk, h1, h2, objectOf]
                · right; simp [hk, h1, h2]
              · right; simp [hk]
          | _ => simp [hf] at hp

theorem var_agreeF (s : Schema) : ∀ (n : Nat) (t : GType) (v : JVal), strictlyTypedF s n t v = true →
    Agree (isValidInputValueF s n t v) (coerceVariableF s n t v) (coerceValueF s n t v) := by
  intro n
  induction n with
  | zero => intro t v h; simp [strictlyTypedF, iter] at h
  | succ n ih =>
    intro t v h
    exact varStep_agree s _ _ _ _ ih t v h

theorem lit_agreeF (s : Schema) (vars : Vars) : ∀ (n : Nat) (t : GType) (l : Option Value),
    varsProvidedF s vars n t l = true →
    Agree (isValidLiteralValueF s n t l) (coerceLiteralF s vars n t l) (valueFromASTF s vars n t l) := by
  intro n
  induction n with
  | zero =>
    intro t l _
    right
    exact ⟨rfl, .fuel, rfl⟩
  | succ n ih =>
    intro t l h
    exact litStep_agree s vars _ _ _ _ ih t l h

theorem lit_agree (s : Schema) (t : GType) (l : Option Value) (vars : Vars) (hp : varsProvided s t l vars = true) :
    Agree (isValidLiteralValue s t l) (coerceLiteral s t l vars) (valueFromAST s t l vars) :=
  lit_agreeF s vars _ t l hp

theorem var_agree (s : Schema) (t : GType) (v : JVal) (hs : strictlyTyped s v t = true) :
    Agree (isValidInputValue s t v) (coerceVariable s t (some v)) (coerceValue s t v) :=
  var_agreeF s _ t v hs

end GqlModel.Coerce
