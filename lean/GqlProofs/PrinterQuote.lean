import GqlModel.PrinterBytes
/-! `unquoteB (quoteB s ++ rest) = some (s, rest)` for every byte string `s` and every continuation `rest`.

`escB b` has one of three shapes (`escB_cases`): a two-byte escape `\e` that `unescapeB` maps back to `b`, the
six-byte `\u00XY` of a byte below 0x80, or `b` itself when `b` is neither a quote, a backslash nor a control byte.

This byte model `quoteB` feeds only the quoting clauses of Props/C08 (`quote_unquote`, `quote_injective`,
`quote_emits_no_control_byte`); the print/lex round trip uses the character model
`Printer.quoteC` (PrinterQuoteText) and reaches the lexer's `Lexer.quoteString` through `utf8_quoteC` (RoundTripQuote). -/
namespace GqlModel.Printer.Bytes

theorem hexDigitB_table : ∀ n : Fin 16, hexVal (hexDigitB n) = some n.val ∧ 32 ≤ hexDigitB n := by decide

theorem hexVal_hexDigitB (n : Nat) (h : n < 16) : hexVal (hexDigitB n) = some n := (hexDigitB_table ⟨n, h⟩).1

theorem toUInt8_toNat (b : B) : (b.toNat).toUInt8 = b := by
  cases b; simp [Nat.toUInt8, UInt8.toNat, UInt8.ofNat]

theorem unquoteBodyB_escape {rest rest' x : List B} (n : Nat) (h : unescapeB rest = some (x, rest')) :
    unquoteBodyB (n + 1) (92 :: rest) = (unquoteBodyB n rest').map (fun (v, r) => (x ++ v, r)) := by
  rw [unquoteBodyB, if_neg (by decide), if_pos rfl, h]

theorem unquoteBodyB_plain {b : B} (n : Nat) (rest : List B) (h1 : b ≠ 34) (h2 : b ≠ 92) (h3 : 32 ≤ b) :
    unquoteBodyB (n + 1) (b :: rest) = (unquoteBodyB n rest).map (fun (v, r) => (b :: v, r)) := by
  have h4 : ¬ (b = 10 ∨ b = 13) := by rintro (rfl | rfl) <;> exact absurd h3 (by decide)
  rw [unquoteBodyB, if_neg h1, if_neg h2, if_neg h4, if_neg (fun h => absurd h3 (UInt8.not_le.mpr h.1))]

theorem unescapeB_hex (b : B) (h : b.toNat < 128) (rest : List B) :
    unescapeB (117 :: 48 :: 48 :: hexDigitB (b.toNat / 16) :: hexDigitB (b.toNat % 16) :: rest) = some ([b], rest) := by
  have h0 : hexVal 48 = some 0 := by decide
  have hb : encodeRune (0 * 4096 + 0 * 256 + b.toNat / 16 * 16 + b.toNat % 16) = [b] := by
    rw [show 0 * 4096 + 0 * 256 + b.toNat / 16 * 16 + b.toNat % 16 = b.toNat by omega, encodeRune, if_pos h,
      toUInt8_toNat]
  simp only [unescapeB, h0, hexVal_hexDigitB _ (show b.toNat / 16 < 16 by omega),
    hexVal_hexDigitB _ (Nat.mod_lt _ (by decide)), hb]
  simp

theorem escB_cases (b : B) :
    (∃ e, escB b = [92, e] ∧ 32 ≤ e ∧ ∀ rest, unescapeB (e :: rest) = some ([b], rest)) ∨
    (escB b = [92, 117, 48, 48, hexDigitB (b.toNat / 16), hexDigitB (b.toNat % 16)] ∧ b.toNat < 128) ∨
    (escB b = [b] ∧ b ≠ 34 ∧ b ≠ 92 ∧ 32 ≤ b) := by
  by_cases h1 : b = 34
  · subst h1; exact .inl ⟨34, rfl, by decide, fun _ => rfl⟩
  by_cases h2 : b = 92
  · subst h2; exact .inl ⟨92, rfl, by decide, fun _ => rfl⟩
  by_cases h3 : b = 8
  · subst h3; exact .inl ⟨98, rfl, by decide, fun _ => rfl⟩
  by_cases h4 : b = 12
  · subst h4; exact .inl ⟨102, rfl, by decide, fun _ => rfl⟩
  by_cases h5 : b = 10
  · subst h5; exact .inl ⟨110, rfl, by decide, fun _ => rfl⟩
  by_cases h6 : b = 13
  · subst h6; exact .inl ⟨114, rfl, by decide, fun _ => rfl⟩
  by_cases h7 : b = 9
  · subst h7; exact .inl ⟨116, rfl, by decide, fun _ => rfl⟩
  by_cases h8 : b < 32 ∨ b = 127
  · refine .inr (.inl ⟨?_, ?_⟩)
    · rw [escB, if_neg h1, if_neg h2, if_neg h3, if_neg h4, if_neg h5, if_neg h6, if_neg h7, if_pos h8]
    · rcases h8 with h | rfl
      · exact Nat.lt_trans (UInt8.lt_iff_toNat_lt.mp h) (by decide)
      · decide
  · refine .inr (.inr ⟨?_, h1, h2, UInt8.not_lt.mp fun h => h8 (.inl h)⟩)
    rw [escB, if_neg h1, if_neg h2, if_neg h3, if_neg h4, if_neg h5, if_neg h6, if_neg h7, if_neg h8]

/-- one loop iteration of `readString` undoes one iteration of `quoteString` -/
theorem escB_step (b : B) (n : Nat) (rest : List B) :
    unquoteBodyB (n + 1) (escB b ++ rest) = (unquoteBodyB n rest).map (fun (v, r) => (b :: v, r)) := by
  rcases escB_cases b with ⟨e, he, _, hu⟩ | ⟨he, hb⟩ | ⟨he, h1, h2, h3⟩
  · rw [he]; exact unquoteBodyB_escape n (hu rest)
  · rw [he]; exact unquoteBodyB_escape n (unescapeB_hex b hb rest)
  · rw [he]; exact unquoteBodyB_plain n rest h1 h2 h3

theorem escB_length (b : B) : 1 ≤ (escB b).length := by
  rcases escB_cases b with ⟨e, he, _⟩ | ⟨he, _⟩ | ⟨he, _⟩ <;> rw [he] <;> simp

/-- every byte `quoteString` emits between the two quotes is ≥ 0x20: the printed form of a string value never
contains a raw line terminator or other control byte (so `indent` never touches string values) -/
theorem escB_printable (b : B) : ∀ x ∈ escB b, 32 ≤ x := by
  have hd (n : Nat) (h : n < 16) : 32 ≤ hexDigitB n := (hexDigitB_table ⟨n, h⟩).2
  intro x hx
  rcases escB_cases b with ⟨e, he, h32, _⟩ | ⟨he, hb⟩ | ⟨he, _, _, h3⟩ <;> rw [he] at hx <;>
    simp only [List.mem_cons, List.mem_nil_iff, or_false] at hx
  · rcases hx with rfl | rfl
    · decide
    · exact h32
  · rcases hx with rfl | rfl | rfl | rfl | rfl | rfl
    · decide
    · decide
    · decide
    · decide
    · exact hd _ (by omega)
    · exact hd _ (Nat.mod_lt _ (by decide))
  · exact hx ▸ h3

theorem quoteB_roundtrip (s rest : List B) :
    ∀ n, s.length < n → unquoteBodyB n (quoteBodyB s ++ 34 :: rest) = some (s, rest) := by
  induction s with
  | nil =>
    intro n hn
    obtain ⟨m, rfl⟩ := Nat.exists_eq_add_one_of_ne_zero (n := n) (by simp at hn; omega)
    simp [quoteBodyB, unquoteBodyB]
  | cons b bs ih =>
    intro n hn
    obtain ⟨m, rfl⟩ := Nat.exists_eq_add_one_of_ne_zero (n := n) (by simp at hn; omega)
    simp only [quoteBodyB, List.append_assoc]
    rw [escB_step, ih m (by simp at hn; omega)]
    rfl

theorem quoteBodyB_length (s : List B) : s.length ≤ (quoteBodyB s).length := by
  induction s with
  | nil => simp [quoteBodyB]
  | cons b bs ih => simp only [quoteBodyB, List.length_append, List.length_cons]; have := escB_length b; omega

theorem unquoteB_quoteB (s rest : List B) : unquoteB (quoteB s ++ rest) = some (s, rest) := by
  simp only [quoteB, unquoteB, List.cons_append, List.append_assoc]
  apply quoteB_roundtrip
  have := quoteBodyB_length s
  simp; omega

end GqlModel.Printer.Bytes
