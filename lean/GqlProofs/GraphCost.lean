import GqlProofs.CycleFrame
/-! # C19: the step counters of `GqlModel/GraphCost.lean` — counts and bounds

The loops with counters are described, with their erasure lemmas (the twins ARE the modelled algorithms), where their
correctness is proved: `FragmentSpreadsSpec` (`fragmentSpreads_run`), `ValidateGraph` (`rrf_run`), `CycleFrame`
(`cycleRunC_eff`). -/
namespace GqlModel.Validate.Graph

theorem wt_le_wtN (stk : List SelectionSet) : wt stk ≤ wtN stk := by
  induction stk with
  | nil => simp [wt, wtN]
  | cons s stk ih => simp only [wt, wtN]; omega

/-- one uncached `FragmentSpreads(ss)` pops every selection set at or below `ss` once and scans every selection once -/
theorem fsSteps_eq (ss : SelectionSet) : fsSteps ss = setsSet ss + selsSet ss :=
  (fragmentSpreads_run ss).2.1

theorem fragmentSpreads_length (ss : SelectionSet) : (fragmentSpreads ss).length = nSpreadsSet ss :=
  (fragmentSpreads_run ss).2.2.length_eq

/-- steps of one `RecursivelyReferencedFragments(op)`: the operation's selection set and the selection set of every
fragment it returns are popped exactly once -/
theorem rrfSteps_eq (tbl : List Frag) (fsCost : SelectionSet → Nat) (opSel : SelectionSet) :
    rrfSteps tbl fsCost opSel =
      popCost fsCost opSel + popSum fsCost ((recursivelyReferenced tbl opSel).map (·.sel)) := by
  obtain ⟨_, _, h, _⟩ := rrf_run tbl fsCost opSel
  exact h

theorem popSum_map_sel (fsCost) (l : List Frag) :
    popSum fsCost (l.map (·.sel)) = (l.map (fun f => popCost fsCost f.sel)).sum := by
  rw [popSum, List.map_map]; rfl

theorem popSum_le (fsCost) (tbl : List Frag) (l : List Frag) (h : ∀ f, f ∈ l → f ∈ tbl) :
    popSum fsCost (l.map (·.sel)) ≤ l.length * maxPop fsCost tbl := by
  rw [popSum_map_sel]
  exact sum_map_le_mul fun f hf => le_of_max_rec (h := maxPop fsCost) (fun _ _ => rfl) (h f hf)

/-- closed bound: the closure of one operation costs its own node plus at most one pop per fragment DEFINITION —
whatever the spread graph looks like (cycles, duplicate names) -/
theorem rrfSteps_le (tbl : List Frag) (fsCost : SelectionSet → Nat) (opSel : SelectionSet) :
    rrfSteps tbl fsCost opSel ≤ popCost fsCost opSel + tbl.length * maxPop fsCost tbl := by
  obtain ⟨_, hf⟩ := rrf_fresh tbl opSel
  have h1 := rrfSteps_eq tbl fsCost opSel
  have := popSum_le fsCost tbl _ hf.sub
  have hm := Nat.mul_le_mul_right (maxPop fsCost tbl) (rrf_length_le tbl opSel)
  omega

/-- NoFragmentCycles: at most one `detectCycleRecursive` call per fragment definition, at most `maxSpreads` loop
iterations per call, and every error copies a path no longer than the recursion is deep -/
theorem cycleRunC_le (tbl : List Frag) :
    (cycleRunC tbl).2.calls ≤ tbl.length ∧
    (cycleRunC tbl).2.iters ≤ (cycleRunC tbl).2.calls * maxSpreads tbl ∧
    (cycleRunC tbl).2.errLen ≤ (cycleRunC tbl).2.iters * (tbl.length + 2) := by
  obtain ⟨_, _, _, dc, di, de, hs⟩ := cycleRunC_eff tbl
  have c1 := hs.calls; have i1 := hs.iters; have l1 := hs.errLen; have t1 := hs.errLe
  simp only [Nat.zero_add] at c1 i1 l1 t1
  rw [c1, i1, l1]
  exact ⟨Nat.le_trans (Nat.le_trans (Nat.le_add_right _ _) hs.fresh) (Nat.le_of_lt_succ (unc_lt_fuel tbl _)),
    hs.itersLe, t1⟩

theorem sum_le_of_distinct_names (g : Frag → Nat) : ∀ (l tbl : List Frag),
    (l.map (·.name.value)).Nodup → (∀ f, f ∈ l → f ∈ tbl) → (l.map g).sum ≤ (tbl.map g).sum
  | [], tbl, _, _ => by simp
  | f :: rest, tbl, hnd, hsub => by
    obtain ⟨a, b, rfl⟩ := List.append_of_mem (hsub f List.mem_cons_self)
    have hnd' : f.name.value ∉ rest.map (·.name.value) ∧ (rest.map (·.name.value)).Nodup :=
      List.nodup_cons.1 hnd
    have hrest : ∀ x, x ∈ rest → x ∈ a ++ b := by
      intro x hx
      have hm := hsub x (List.mem_cons_of_mem _ hx)
      have hne : x ≠ f := fun h => hnd'.1 (List.mem_map.2 ⟨x, hx, by rw [h]⟩)
      simp only [List.mem_append, List.mem_cons] at hm ⊢
      rcases hm with h | h | h
      · exact Or.inl h
      · exact absurd h hne
      · exact Or.inr h
    have ih := sum_le_of_distinct_names g rest (a ++ b) hnd'.2 hrest
    simp only [List.map_cons, List.sum_cons, List.map_append, List.sum_append_nat] at ih ⊢
    omega

mutual
theorem sets_sels_le_sel : ∀ x : Selection, setsSel x + selsSel x ≤ nodesSel x
  | .field alias n args ds sel l => by
    have := sets_sels_le_opt sel
    show setsOpt sel + (1 + selsOpt sel) ≤ 2 + _ + nodesArgs args + nodesDirs ds + nodesOpt sel
    omega
  | .spread n ds l => by
    show 0 + 1 ≤ 2 + nodesDirs ds
    omega
  | .inline tc ds ss l => by
    have := sets_sels_le_set ss
    show setsSet ss + (1 + selsSet ss) ≤ 1 + _ + nodesDirs ds + nodesSet ss
    omega
theorem sets_sels_le_set : ∀ x : SelectionSet, setsSet x + selsSet x ≤ nodesSet x
  | .mk sels l => by
    have := sets_sels_le_sels sels
    show 1 + setsSels sels + selsSels sels ≤ 1 + nodesSels sels
    omega
theorem sets_sels_le_opt : ∀ x : Option SelectionSet, setsOpt x + selsOpt x ≤ nodesOpt x
  | none => Nat.le_refl _
  | some ss => sets_sels_le_set ss
theorem sets_sels_le_sels : ∀ x : List Selection, setsSels x + selsSels x ≤ nodesSels x
  | [] => Nat.le_refl _
  | x :: xs => by
    have := sets_sels_le_sel x
    have := sets_sels_le_sels xs
    show setsSel x + setsSels xs + (selsSel x + selsSels xs) ≤ nodesSel x + nodesSels xs
    omega
end

mutual
theorem spreads_le_sel : ∀ x : Selection, (spreadsSel x).length ≤ selsSel x
  | .field _ _ _ _ sel _ => Nat.le_trans (spreads_le_opt sel) (Nat.le_add_left _ 1)
  | .spread _ _ _ => Nat.le_refl 1
  | .inline _ _ ss _ => Nat.le_trans (spreads_le_set ss) (Nat.le_add_left _ 1)
theorem spreads_le_set : ∀ x : SelectionSet, (spreadsSet x).length ≤ selsSet x
  | .mk sels _ => spreads_le_sels sels
theorem spreads_le_opt : ∀ x : Option SelectionSet, (spreadsOpt x).length ≤ selsOpt x
  | none => Nat.le_refl 0
  | some ss => spreads_le_set ss
theorem spreads_le_sels : ∀ x : List Selection, (spreadsSels x).length ≤ selsSels x
  | [] => Nat.le_refl 0
  | x :: xs => by
    show (spreadsSel x ++ spreadsSels xs).length ≤ selsSel x + selsSels xs
    rw [List.length_append]
    exact Nat.add_le_add (spreads_le_sel x) (spreads_le_sels xs)
end

theorem fsSteps_le_nodes (ss : SelectionSet) : fsSteps ss ≤ nodesSet ss := by
  rw [fsSteps_eq]; exact sets_sels_le_set ss

theorem nSpreads_le_nodes (ss : SelectionSet) : nSpreadsSet ss ≤ nodesSet ss := by
  have h1 := spreads_le_set ss
  have h2 := sets_sels_le_set ss
  simp only [nSpreadsSet]; omega

mutual
theorem valueUsages_le (s : Schema) : ∀ (t : Option GType) (v : Value), (valueUsages s t v).length ≤ nodesValue v
  | _, .var _ _ => Nat.le_succ 1
  | t, .list vs _ => Nat.le_trans (valuesUsages_le s (listItemType t) vs) (Nat.le_add_left _ 1)
  | t, .obj fs _ => Nat.le_trans (objFieldsUsages_le s t fs) (Nat.le_add_left _ 1)
  | _, .int _ _ => Nat.zero_le _
  | _, .float _ _ => Nat.zero_le _
  | _, .str _ _ => Nat.zero_le _
  | _, .bool _ _ => Nat.zero_le _
  | _, .enum _ _ => Nat.zero_le _
theorem valuesUsages_le (s : Schema) : ∀ (t : Option GType) (vs : List Value), (valuesUsages s t vs).length ≤ nodesValues vs
  | t, [] => Nat.le_refl 0
  | t, v :: vs => by
    show (valueUsages s t v ++ valuesUsages s t vs).length ≤ nodesValue v + nodesValues vs
    rw [List.length_append]
    exact Nat.add_le_add (valueUsages_le s t v) (valuesUsages_le s t vs)
theorem objFieldUsages_le (s : Schema) : ∀ (t : Option GType) (f : ObjField), (objFieldUsages s t f).length ≤ nodesObjField f
  | t, .mk n v _ => Nat.le_trans (valueUsages_le s (inputFieldType s t n.value) v) (Nat.le_add_left _ 2)
theorem objFieldsUsages_le (s : Schema) : ∀ (t : Option GType) (fs : List ObjField), (objFieldsUsages s t fs).length ≤ nodesObjFields fs
  | t, [] => Nat.le_refl 0
  | t, f :: fs => by
    show (objFieldUsages s t f ++ objFieldsUsages s t fs).length ≤ nodesObjField f + nodesObjFields fs
    rw [List.length_append]
    exact Nat.add_le_add (objFieldUsages_le s t f) (objFieldsUsages_le s t fs)
end

theorem argsUsages_le (s : Schema) (dir : Option DirectiveDefS) (fd : Option FieldDefS) (args : List Argument) :
    (argsUsages s dir fd args).length ≤ nodesArgs args := by
  rw [argsUsages, List.length_flatMap]
  exact sum_map_le_sum_map fun a _ => Nat.le_trans (valueUsages_le s _ a.value) (Nat.le_add_left _ 2)

theorem dirsUsages_le (s : Schema) (dirs : List Directive) : (dirsUsages s dirs).length ≤ nodesDirs dirs := by
  rw [dirsUsages, List.length_flatMap]
  exact sum_map_le_sum_map fun d _ => Nat.le_trans (argsUsages_le s _ none d.args) (Nat.le_add_left _ 2)

mutual
theorem selUsages_le (s : Schema) : ∀ (c : TCtx) (x : Selection), (selUsages s c x).length ≤ nodesSel x
  | c, .field alias nm args dirs sel l => by
    have h1 := argsUsages_le s none (c.enterField s nm.value).fieldDef args
    have h2 := dirsUsages_le s dirs
    have h3 := optUsages_le s (c.enterField s nm.value) sel
    show (argsUsages s none (c.enterField s nm.value).fieldDef args ++ dirsUsages s dirs ++
      optUsages s (c.enterField s nm.value) sel).length ≤ 2 + _ + nodesArgs args + nodesDirs dirs + nodesOpt sel
    rw [List.length_append, List.length_append]
    omega
  | c, .spread n dirs l => Nat.le_trans (dirsUsages_le s dirs) (Nat.le_add_left _ 2)
  | c, .inline tc dirs ss l => by
    have h2 := dirsUsages_le s dirs
    have h3 := setUsages_le s (c.enterInline s tc) ss
    show (dirsUsages s dirs ++ setUsages s (c.enterInline s tc) ss).length ≤ 1 + _ + nodesDirs dirs + nodesSet ss
    rw [List.length_append]
    omega
theorem setUsages_le (s : Schema) : ∀ (c : TCtx) (x : SelectionSet), (setUsages s c x).length ≤ nodesSet x
  | c, .mk sels _ => Nat.le_trans (selsUsages_le s (c.enterSelSet s) sels) (Nat.le_add_left _ 1)
theorem optUsages_le (s : Schema) : ∀ (c : TCtx) (x : Option SelectionSet), (optUsages s c x).length ≤ nodesOpt x
  | _, none => Nat.le_refl 0
  | c, some ss => setUsages_le s c ss
theorem selsUsages_le (s : Schema) : ∀ (c : TCtx) (x : List Selection), (selsUsages s c x).length ≤ nodesSels x
  | c, [] => Nat.le_refl 0
  | c, x :: xs => by
    show (selUsages s c x ++ selsUsages s c xs).length ≤ nodesSel x + nodesSels xs
    rw [List.length_append]
    exact Nat.add_le_add (selUsages_le s c x) (selsUsages_le s c xs)
end

theorem varUsagesOp_le (s : Schema) (o : Op) : (varUsagesOp s o).length ≤ nodesOp o := by
  have h1 := dirsUsages_le s o.dirs
  have h2 := setUsages_le s (TCtx.enterOp s o.kind) o.sel
  simp only [varUsagesOp, nodesOp, List.length_append]; omega

theorem varUsagesFrag_le (s : Schema) (f : Frag) : (varUsagesFrag s f).length ≤ nodesFrag f := by
  have h1 := dirsUsages_le s f.dirs
  have h2 := setUsages_le s (TCtx.enterFragment s f.typeCond) f.sel
  simp only [varUsagesFrag, nodesFrag, List.length_append]; omega

theorem vars_le_nodesOp (o : Op) : o.vars.length ≤ nodesOp o := by
  have : o.vars.length ≤ (o.vars.map nodesVarDef).sum :=
    length_le_sum_map fun v _ => by unfold nodesVarDef; omega
  unfold nodesOp; omega

theorem nodesSet_le_op (o : Op) : nodesSet o.sel ≤ nodesOp o := by simp only [nodesOp]; omega
theorem nodesSet_le_frag (f : Frag) : nodesSet f.sel ≤ nodesFrag f := by simp only [nodesFrag]; omega

theorem recursiveUsages_length (s : Schema) (tbl : List Frag) (o : Op) :
    (recursiveUsages s tbl o).length =
      (varUsagesOp s o).length + ((recursivelyReferenced tbl o.sel).map (fun f => (varUsagesFrag s f).length)).sum := by
  simp only [recursiveUsages, List.length_append, List.length_flatMap]

theorem cyclesWork_le (tbl : List Frag) (X S : Nat) (hS : maxSpreads tbl ≤ S) :
    cyclesWork tbl X ≤ cyclesBound tbl.length S X := by
  obtain ⟨h1, h2, h3⟩ := cycleRunC_le tbl
  simp only [cyclesWork, cyclesBound]
  generalize (cycleRunC tbl).2.calls = c at *
  generalize (cycleRunC tbl).2.iters = i at *
  generalize (cycleRunC tbl).2.errLen = e at *
  have a1 : c * (1 + X) ≤ tbl.length * (1 + X) := Nat.mul_le_mul_right _ h1
  have a2 : i ≤ tbl.length * S := Nat.le_trans h2 (Nat.mul_le_mul h1 hS)
  have a3 : e ≤ tbl.length * S * (tbl.length + 2) := Nat.le_trans h3 (Nat.mul_le_mul_right _ a2)
  omega

def opNodes (d : Document) : Nat := ((opDefs d).map nodesOp).sum
def fragNodes (d : Document) : Nat := ((fragDefs d).map nodesFrag).sum

section
variable (s : Schema) (d : Document)

theorem fragNodes_mul (k : Nat) : ((fragDefs d).map (fun f => k * nodesFrag f)).sum = k * fragNodes d :=
  sum_map_mul_left k nodesFrag _

theorem rrfSteps_uncached_le (o : Op) :
    rrfSteps (fragDefs d) fsSteps o.sel ≤ 1 + (fragDefs d).length + 2 * (nodesOp o + fragNodes d) := by
  obtain ⟨_, hf⟩ := rrf_fresh (fragDefs d) o.sel
  rw [rrfSteps_eq, popSum_map_sel]
  have hs := sum_le_of_distinct_names (fun f => popCost fsSteps f.sel) _ (fragDefs d) hf.nodup hf.sub
  have hb : ((fragDefs d).map (fun f => popCost fsSteps f.sel)).sum ≤
      (fragDefs d).length * 1 + ((fragDefs d).map (fun f => 2 * nodesFrag f)).sum :=
    sum_map_le_mul_add fun f _ => by
      have := fsSteps_le_nodes f.sel
      have := nSpreads_le_nodes f.sel
      have := nodesSet_le_frag f
      unfold popCost; omega
  rw [fragNodes_mul] at hb
  have := fsSteps_le_nodes o.sel
  have := nSpreads_le_nodes o.sel
  have := nodesSet_le_op o
  have hp : popCost fsSteps o.sel = 1 + fsSteps o.sel + nSpreadsSet o.sel := rfl
  omega

theorem rrfSteps_cached_le (o : Op) :
    rrfSteps (fragDefs d) (fun _ => 1) o.sel ≤
      2 + nSpreadsSet o.sel + 2 * (fragDefs d).length + ((fragDefs d).map (fun f => nSpreadsSet f.sel)).sum := by
  obtain ⟨_, hf⟩ := rrf_fresh (fragDefs d) o.sel
  rw [rrfSteps_eq, popSum_map_sel]
  have hs := sum_le_of_distinct_names (fun f => popCost (fun _ => 1) f.sel) _ (fragDefs d) hf.nodup hf.sub
  have hb : ((fragDefs d).map (fun f => popCost (fun _ => 1) f.sel)).sum ≤
      (fragDefs d).length * 2 + ((fragDefs d).map (fun f => nSpreadsSet f.sel)).sum :=
    sum_map_le_mul_add fun f _ => Nat.le_refl _
  have hp : popCost (fun _ => 1) o.sel = 1 + 1 + nSpreadsSet o.sel := rfl
  omega

theorem closure_usages_le (o : Op) :
    ((recursivelyReferenced (fragDefs d) o.sel).map (fun f => (varUsagesFrag s f).length)).sum ≤
      ((fragDefs d).map (fun f => (varUsagesFrag s f).length)).sum := by
  obtain ⟨_, hf⟩ := rrf_fresh (fragDefs d) o.sel
  exact sum_le_of_distinct_names _ _ _ hf.nodup hf.sub

theorem closure_traversals_le (o : Op) :
    ((recursivelyReferenced (fragDefs d) o.sel).map (fun f => vuCostFrag f + (varUsagesFrag s f).length)).sum ≤
      3 * fragNodes d := by
  obtain ⟨_, hf⟩ := rrf_fresh (fragDefs d) o.sel
  refine Nat.le_trans (sum_le_of_distinct_names _ _ _ hf.nodup hf.sub) ?_
  rw [← fragNodes_mul]
  exact sum_map_le_sum_map fun f _ => by
    have := varUsagesFrag_le s f
    unfold vuCostFrag; omega

theorem fragUsages_le_fragNodes :
    ((fragDefs d).map (fun f => (varUsagesFrag s f).length)).sum ≤ fragNodes d :=
  sum_map_le_sum_map fun f _ => varUsagesFrag_le s f

theorem fragSpreads_le_fragNodes : ((fragDefs d).map (fun f => nSpreadsSet f.sel)).sum ≤ fragNodes d :=
  sum_map_le_sum_map fun f _ => Nat.le_trans (nSpreads_le_nodes f.sel) (nodesSet_le_frag f)

theorem maxSpreads_le_docSpreads : maxSpreads (fragDefs d) ≤ docSpreads d :=
  max_rec_le rfl (fun _ _ => rfl) fun _ hf =>
    Nat.le_trans (le_sum_map_of_mem (fun f => nSpreadsSet f.sel) hf) (Nat.le_add_left _ _)

theorem docSpreads_le_docNodes : docSpreads d ≤ docNodes d :=
  Nat.add_le_add
    (sum_map_le_sum_map fun o _ => Nat.le_trans (nSpreads_le_nodes o.sel) (nodesSet_le_op o))
    (fragSpreads_le_fragNodes d)

theorem docUsages_le_docNodes : docUsages s d ≤ docNodes d :=
  Nat.add_le_add (sum_map_le_sum_map fun o _ => varUsagesOp_le s o) (fragUsages_le_fragNodes s d)

theorem graphBoundUncached_arith {O F N c A B : Nat} (hc : c ≤ cyclesBound F N N)
    (hA : A ≤ O * (1 + F + 2 * N)) (hB : B ≤ O * (3 + 3 * F + 19 * N)) :
    c + (A + F) + B ≤ graphBoundUncached O F N := by
  have e : O * (4 + 4 * F + 21 * N) = O * (1 + F + 2 * N) + O * (3 + 3 * F + 19 * N) := by
    rw [← Nat.mul_add]; congr 1; omega
  unfold graphBoundUncached
  rw [e]
  omega

/-- the summands of `graphWorkCached`, in its order: `a`, `b` the `FragmentSpreads` steps of the operations and of the
fragments, `g`, `h` their variable-usage traversals, `e` the closures, `c` the cycle rule, `O + F` the unused-fragment
rule, `f` the loops over the usages; `oN`, `fN` are `opNodes`, `fragNodes` -/
theorem graphBoundCached_arith {O F N S U oN fN a b g h c e f : Nat} (hN : N = oN + fN) (ha : a ≤ oN) (hb : b ≤ fN)
    (hg : g = 2 * oN) (hh : h = 2 * fN) (hc : c ≤ cyclesBound F S 1) (he : e ≤ O * (2 + 3 * F + S + U))
    (hf : f ≤ O * (3 + 3 * U) + oN) :
    a + b + (g + h) + e + c + (O + F) + f ≤ graphBoundCached O F N S U := by
  have hO : O * (6 + 3 * F + S + 4 * U) = O * (2 + 3 * F + S + U) + O * (3 + 3 * U) + O := by
    rw [← Nat.mul_add, ← Nat.mul_succ]; congr 1; omega
  unfold graphBoundCached
  rw [hO]
  omega

end

end GqlModel.Validate.Graph
