import GqlProofs.ValueIgnores
/-! The relation "same selection up to source locations and up to argument lists that evaluate alike at the type the
selection is executed at" (`RSel`/`ROpt`/`RSet`/`RList`), and the one way to establish it without rewriting anything: the
same location-free image, under variable maps that agree on the variables mentioned (`RSel_of_image`). -/
namespace GqlModel.Normalize
open GqlModel.Coerce

theorem optVars_argLookup (as : List Argument) (k : String) : ∀ x ∈ optVars (argLookup as k), x ∈ argsVars as := by
  intro x hx
  cases hl : argLookup as k with
  | none => rw [hl] at hx; cases hx
  | some v =>
    obtain ⟨a, ha, rfl⟩ := argLookup_mem hl
    rw [hl] at hx
    exact List.mem_flatMap.mpr ⟨a, ha, hx⟩

theorem getArgumentValues_congr (s : Schema) (defs : List ArgDef) (as : List Argument) (vars1 vars2 : Vars)
    (h : ∀ x ∈ argsVars as, lookupD vars1 x = lookupD vars2 x) :
    getArgumentValues s defs as vars1 = getArgumentValues s defs as vars2 := by
  unfold getArgumentValues
  congr 1
  apply filterMap_congr'
  intro d _
  simp only [argEntry]
  rw [valueFromAST_congr s d.type _ vars1 vars2 (fun x hx => h x (optVars_argLookup as d.name x hx))]

section Strip
open GqlModel.Exec

theorem argLookup_strip (as : List Argument) (k : String) :
    argLookup (as.map Argument.stripLoc) k = (argLookup as k).map Value.stripLoc := by
  simp only [argLookup_eq_find?, ← List.map_reverse, List.find?_map, Option.map_map, Function.comp_def, Argument.stripLoc, Name.stripLoc]

theorem valueFromAST_strip_opt (s : Schema) (t : GType) (l : Option Value) (vars : Vars) :
    valueFromAST s t (l.map Value.stripLoc) vars = valueFromAST s t l vars := by
  cases l with
  | none => rfl
  | some v => exact valueFromAST_strip s t v vars

theorem getArgumentValues_strip (s : Schema) (defs : List ArgDef) (as : List Argument) (vars : Vars) :
    getArgumentValues s defs (as.map Argument.stripLoc) vars = getArgumentValues s defs as vars := by
  unfold getArgumentValues
  congr 1
  apply filterMap_congr'
  intro d _
  simp only [argEntry, argLookup_strip, valueFromAST_strip_opt]

theorem getArgumentValues_of_stripEq (s : Schema) (defs : List ArgDef) (as as' : List Argument) (vars : Vars)
    (h : as.map Argument.stripLoc = as'.map Argument.stripLoc) :
    getArgumentValues s defs as' vars = getArgumentValues s defs as vars := by
  rw [← getArgumentValues_strip s defs as', ← h, getArgumentValues_strip]

/-- inclusion reads of a directive list the names and, of the last `@skip` and the last `@include`, what `if` evaluates to:
a list rewritten member by member (`f`) that keeps both decides alike -/
theorem included_map (s : Schema) (vars vars' : Vars) (f : Directive → Directive) (dirs : List Directive)
    (hname : ∀ d, (f d).name.value = d.name.value)
    (hargs : ∀ d ∈ dirs, getArgumentValues s ifArg (f d).args vars' = getArgumentValues s ifArg d.args vars) :
    included s vars' (dirs.map f) = included s vars dirs := by
  have hfilter : ∀ n : String, (dirs.map f).filter (fun d => d.name.value == n) =
      (dirs.filter (fun d => d.name.value == n)).map f := fun n => by
    rw [List.filter_map]
    exact congrArg (List.map f) (List.filter_congr fun d _ => congrArg (· == n) (hname d))
  have key : ∀ (n : String) (d : Directive), (dirs.filter (fun d => d.name.value == n)).getLast? = some d →
      getArgumentValues s ifArg (f d).args vars' = getArgumentValues s ifArg d.args vars :=
    fun n d hd => hargs d (List.mem_filter.mp (List.mem_of_getLast? hd)).1
  unfold included
  simp only [hfilter, List.getLast?_map]
  cases hs : (dirs.filter (fun d => d.name.value == "skip")).getLast? with
  | none =>
    cases hi : (dirs.filter (fun d => d.name.value == "include")).getLast? with
    | none => rfl
    | some di => simp only [Option.map_some, Option.map_none, key _ di hi]
  | some ds =>
    cases hi : (dirs.filter (fun d => d.name.value == "include")).getLast? with
    | none => simp only [Option.map_some, Option.map_none, key _ ds hs]
    | some di => simp only [Option.map_some, key _ ds hs, key _ di hi]

theorem included_congr (s : Schema) (vars1 vars2 : Vars) (dirs : List Directive)
    (h : ∀ x ∈ dirsVars dirs, lookupD vars1 x = lookupD vars2 x) :
    included s vars1 dirs = included s vars2 dirs := by
  have := included_map s vars2 vars1 id dirs (fun _ => rfl)
    fun d hd => getArgumentValues_congr s _ _ _ _ (fun x hx => h x (List.mem_flatMap.mpr ⟨d, hd, hx⟩))
  rwa [List.map_id] at this

theorem included_strip (s : Schema) (vars : Vars) (dirs : List Directive) :
    included s vars (dirs.map Directive.stripLoc) = included s vars dirs :=
  included_map s vars vars Directive.stripLoc dirs (fun _ => rfl) fun d _ => getArgumentValues_strip s _ d.args vars

theorem included_of_stripEq (s : Schema) (vars : Vars) (dirs dirs' : List Directive)
    (h : dirs.map Directive.stripLoc = dirs'.map Directive.stripLoc) : included s vars dirs' = included s vars dirs := by
  rw [← included_strip s vars dirs', ← h, included_strip]

theorem namedName_strip (t : TypeRef) : t.stripLoc.namedName = t.namedName := by
  induction t with
  | named n l => rfl
  | list t l ih => simpa [TypeRef.stripLoc, TypeRef.namedName] using ih
  | nonNull t l ih => simpa [TypeRef.stripLoc, TypeRef.namedName] using ih

theorem condApplies_of_stripEq (s : Schema) (tc tc' : Option TypeRef) (h : tc.map TypeRef.stripLoc = tc'.map TypeRef.stripLoc)
    (Q : String) : condApplies s tc' Q = condApplies s tc Q := by
  cases tc with
  | none => cases tc' with
    | none => rfl
    | some _ => simp at h
  | some t => cases tc' with
    | none => simp at h
    | some t' =>
      simp only [Option.map_some, Option.some.injEq] at h
      have : t'.namedName = t.namedName := by rw [← namedName_strip t', ← h, namedName_strip]
      simp only [condApplies, this]

end Strip

section Rel
variable (s : Schema) (vars vars' : Vars)

def Ag (x : String) : Prop := lookupD vars' x = lookupD vars x

mutual
/-- `RSel P x y`: `y` is `x` up to source locations, with argument lists (and nested selections) replaced by ones that
evaluate alike when the selection is executed at runtime object type `P`, and directives that decide inclusion alike.
The sub-selection of a field is related at the field's own type when that is an object type, at EVERY type `T` otherwise:
an abstract type is executed at a runtime type only the data determines, and the normaliser leaves such sub-selections alone. -/
def RSel : String → Selection → Selection → Prop
  | P, .field al nm args dirs sel _, y =>
    ∃ al' nm' args' dirs' sel' loc', y = .field al' nm' args' dirs' sel' loc' ∧
      al'.map (·.value) = al.map (·.value) ∧ nm'.value = nm.value ∧
      Exec.included s vars' dirs' = Exec.included s vars dirs ∧
      ∀ fd, Exec.fieldDef? s P nm.value = some fd →
        getArgumentValues s fd.args args' vars' = getArgumentValues s fd.args args vars ∧
        ∀ T, (s.isObject fd.type.namedName = true → T = fd.type.namedName) → ROpt T sel sel'
  | P, .inline tc dirs ss _, y =>
    ∃ tc' dirs' ss' loc', y = .inline tc' dirs' ss' loc' ∧
      (∀ Q, Exec.condApplies s tc' Q = Exec.condApplies s tc Q) ∧
      Exec.included s vars' dirs' = Exec.included s vars dirs ∧
      (Exec.condApplies s tc P = true → RSet P ss ss')
  | _, .spread n d _, y =>
    ∃ n' d' l', y = .spread n' d' l' ∧ n'.value = n.value ∧ Exec.included s vars' d' = Exec.included s vars d
def ROpt : String → Option SelectionSet → Option SelectionSet → Prop
  | _, none, y => y = none
  | P, some ss, y => ∃ ss', y = some ss' ∧ RSet P ss ss'
def RSet : String → SelectionSet → SelectionSet → Prop
  | P, .mk sels _, y => ∃ sels' loc', y = .mk sels' loc' ∧ RList P sels sels'
def RList : String → List Selection → List Selection → Prop
  | _, [], y => y = []
  | P, x :: xs, y => ∃ x' xs', y = x' :: xs' ∧ RSel P x x' ∧ RList P xs xs'
end

mutual
theorem RSel_of_image : ∀ (x y : Selection) (P : String), x.stripLoc = y.stripLoc → (∀ v ∈ selVars x, Ag vars vars' v) →
    RSel s vars vars' P x y
  | .field al nm args dirs sel loc, y, P, h, hag => by
    cases y with
    | field al' nm' args' dirs' sel' loc' =>
      simp only [Selection.stripLoc, Selection.field.injEq] at h
      obtain ⟨hal, hnm, hargs, hdirs, hsel, _⟩ := h
      simp only [selVars, List.mem_append] at hag
      simp only [RSel]
      refine ⟨al', nm', args', dirs', sel', loc', rfl, ?_, ?_, ?_, ?_⟩
      · have := congrArg (Option.map (·.value)) hal
        simp only [Option.map_map] at this
        have e : ((fun n : Name => n.value) ∘ Name.stripLoc) = (fun n : Name => n.value) := rfl
        rw [e] at this
        exact this.symm
      · exact (congrArg (·.value) hnm).symm
      · exact (included_of_stripEq s vars' dirs dirs' hdirs).trans
          (included_congr s vars' vars dirs (fun v hv => hag v (Or.inl (Or.inr hv))))
      · intro fd _
        exact ⟨(getArgumentValues_of_stripEq s fd.args args args' vars' hargs).trans
            (getArgumentValues_congr s fd.args args vars' vars (fun v hv => hag v (Or.inl (Or.inl hv)))),
          fun T _ => ROpt_of_image sel sel' T hsel (fun v hv => hag v (Or.inr hv))⟩
    | _ => simp [Selection.stripLoc] at h
  | .inline tc dirs ss loc, y, P, h, hag => by
    cases y with
    | inline tc' dirs' ss' loc' =>
      simp only [Selection.stripLoc, Selection.inline.injEq] at h
      obtain ⟨htc, hdirs, hss, _⟩ := h
      simp only [selVars, List.mem_append] at hag
      simp only [RSel]
      exact ⟨tc', dirs', ss', loc', rfl, condApplies_of_stripEq s tc tc' htc,
        (included_of_stripEq s vars' dirs dirs' hdirs).trans
          (included_congr s vars' vars dirs (fun v hv => hag v (Or.inl hv))),
        fun _ => RSet_of_image ss ss' P hss (fun v hv => hag v (Or.inr hv))⟩
    | _ => simp [Selection.stripLoc] at h
  | .spread n d l, y, P, h, hag => by
    cases y with
    | spread n' d' l' =>
      simp only [Selection.stripLoc, Selection.spread.injEq] at h
      obtain ⟨hn, hd, _⟩ := h
      simp only [selVars] at hag
      simp only [RSel]
      exact ⟨n', d', l', rfl, (congrArg (·.value) hn).symm,
        (included_of_stripEq s vars' d d' hd).trans (included_congr s vars' vars d hag)⟩
    | _ => simp [Selection.stripLoc] at h
termination_by structural x => x
theorem ROpt_of_image : ∀ (x y : Option SelectionSet) (P : String),
    SelectionSet.stripLocOpt x = SelectionSet.stripLocOpt y → (∀ v ∈ optSetVars x, Ag vars vars' v) →
    ROpt s vars vars' P x y
  | none, y, P, h, _ => by
    cases y with
    | none => simp [ROpt]
    | some _ => simp [SelectionSet.stripLocOpt] at h
  | some ss, y, P, h, hag => by
    cases y with
    | none => simp [SelectionSet.stripLocOpt] at h
    | some ss' =>
      simp only [SelectionSet.stripLocOpt, Option.some.injEq] at h
      simp only [ROpt]
      exact ⟨ss', rfl, RSet_of_image ss ss' P h hag⟩
termination_by structural x => x
theorem RSet_of_image : ∀ (x y : SelectionSet) (P : String), x.stripLoc = y.stripLoc →
    (∀ v ∈ setVars x, Ag vars vars' v) → RSet s vars vars' P x y
  | .mk sels loc, .mk sels' loc', P, h, hag => by
    simp only [SelectionSet.stripLoc, SelectionSet.mk.injEq, and_true] at h
    simp only [RSet]
    exact ⟨sels', loc', rfl, RList_of_image sels sels' P h hag⟩
termination_by structural x => x
theorem RList_of_image : ∀ (xs ys : List Selection) (P : String),
    Selection.stripLocList xs = Selection.stripLocList ys → (∀ v ∈ selsVars xs, Ag vars vars' v) →
    RList s vars vars' P xs ys
  | [], ys, P, h, _ => by
    cases ys with
    | nil => simp [RList]
    | cons _ _ => simp [Selection.stripLocList] at h
  | x :: xs, ys, P, h, hag => by
    cases ys with
    | nil => simp [Selection.stripLocList] at h
    | cons y ys =>
      simp only [Selection.stripLocList, List.cons.injEq] at h
      simp only [selsVars, List.mem_append] at hag
      simp only [RList]
      exact ⟨y, ys, rfl, RSel_of_image x y P h.1 (fun v hv => hag v (Or.inl hv)),
        RList_of_image xs ys P h.2 (fun v hv => hag v (Or.inr hv))⟩
termination_by structural xs => xs
end

theorem ROpt_refl : ∀ (x : Option SelectionSet) (P : String), (∀ v ∈ optSetVars x, Ag vars vars' v) → ROpt s vars vars' P x x :=
  fun x P h => ROpt_of_image s vars vars' x x P rfl h
theorem RSet_refl : ∀ (x : SelectionSet) (P : String), (∀ v ∈ setVars x, Ag vars vars' v) → RSet s vars vars' P x x :=
  fun x P h => RSet_of_image s vars vars' x x P rfl h
theorem RList_refl : ∀ (xs : List Selection) (P : String), (∀ v ∈ selsVars xs, Ag vars vars' v) → RList s vars vars' P xs xs :=
  fun xs P h => RList_of_image s vars vars' xs xs P rfl h

end Rel

end GqlModel.Normalize
