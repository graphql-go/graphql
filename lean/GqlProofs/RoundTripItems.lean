import GqlProofs.RoundTripLexString
import GqlProofs.LexerExtra
import GqlProofs.PrinterTokens
/-! C08 byte level — lexing an item list.  A token text the printer uses (`TokText`), followed by a delimiter where
maximal munch could go on, is a lexeme of the grammar (`tokText_lexeme`).  Under `LexK items []` the spec tokeniser on the
UTF-8 bytes of `render items` yields exactly `lexItems items` — each token with kind, value, byte offsets and the Ignored
gap before it, then EOF (`lexLoopG_items`); all gaps are ASCII. -/
namespace GqlModel.RoundTrip
open GqlModel.Lexer GqlModel.Lexer.Spec GqlModel.Printer

theorem delimB_of_startsDelim {cs : Chars} (h : StartsDelim cs) : DelimB (utf8 cs) := by
  cases cs with
  | nil => trivial
  | cons c r =>
    simp only [StartsDelim, isDelimChar, Bool.or_eq_true, beq_iff_eq] at h
    have e : ∀ d : Char, d.toNat < 128 → utf8 (d :: r) = byteOf d :: utf8 r := fun d hd => utf8_cons_ascii d r hd
    -- down to the sixteen equations `c = _`, which `rcases` substitutes
    repeat' rcases h with h | h
    all_goals (rw [e _ (by decide)]; show isDelimByte _; decide +kernel)

theorem punctChar_byte {k : TokenKind} {c : Char} (h : punctChar k = some c) :
    utf8 [c] = [byteOf c] ∧ punctuatorByte (byteOf c) = some k := by
  cases k <;> simp only [punctChar, Option.some.injEq, reduceCtorEq] at h <;> subst h <;>
    exact ⟨by decide +kernel, by decide +kernel⟩

theorem utf8_empty_string : utf8 ("" : String).toList = [] := by decide

theorem tokText_lexeme {k : TokenKind} {v : String} {t : Chars} (h : TokText k v t) (restB : List UInt8)
    (hr : sticky k = true → DelimB restB) : Lexeme k (utf8 t) (utf8 v.toList) restB := by
  refine tokText_cases (P := fun k => (sticky k = true → DelimB restB) → Lexeme k (utf8 t) (utf8 v.toList) restB)
    ?name ?int ?float ?string ?block ?spread ?punct h hr
  case name => rintro rfl hn hr; exact name_lexeme hn (hr rfl)
  case int => rintro rfl hn hr; exact int_lexeme hn (hr rfl)
  case float => rintro rfl hn hr; exact float_lexeme hn (hr rfl)
  case string =>
    rintro rfl hr
    refine string_lexeme _ ?_
    match restB, hr rfl with
    | [], _ => exact nofun
    | b :: _, hd => exact fun e => (delim_not_num (show isDelimByte b from hd)).2.2.2 (Option.some.inj e)
  case block => rintro hs j rfl _; exact block_lexeme j restB hs
  case spread =>
    rintro rfl rfl _
    rw [show utf8 ['.', '.', '.'] = [46, 46, 46] by decide, utf8_empty_string]
    exact .spread restB
  case punct =>
    rintro k c rfl hc rfl _
    obtain ⟨hb, hp⟩ := punctChar_byte hc
    rw [hb, utf8_empty_string]; exact .punct restB hp

theorem tokText_token {k : TokenKind} {v : String} {t : Chars} (h : TokText k v t) (restB : List UInt8)
    (hr : sticky k = true → DelimB restB) :
    token (utf8 t ++ restB) = .ok (k, (utf8 t).length, utf8 v.toList) ∧ 0 < (utf8 t).length :=
  ⟨token_complete (tokText_lexeme h restB hr), (tokText_lexeme h restB hr).length_pos⟩

/-- what the tokeniser is expected to produce: (gap, token) pairs, then EOF -/
def lexItems : List Item → List UInt8 → Nat → List (List UInt8 × LTok)
  | [], g, off => [(g, ⟨.eof, off + g.length, off + g.length, []⟩)]
  | .sep t :: is, g, off => lexItems is (g ++ utf8 t) off
  | .tok k v t :: is, g, off =>
    (g, ⟨k, off + g.length, off + g.length + (utf8 t).length, utf8 v.toList⟩) ::
      lexItems is [] (off + g.length + (utf8 t).length)

def IgnB (g : List UInt8) : Prop := ∀ b ∈ g, b = 32 ∨ b = 10 ∨ b = 44

theorem ignB_utf8 {t : Chars} (h : t.all isIgnoredChar = true) : IgnB (utf8 t) := by
  intro b hb
  obtain ⟨c, hc, hb⟩ := List.mem_flatMap.1 hb
  have := List.all_eq_true.1 h c hc
  simp only [isIgnoredChar, Bool.or_eq_true, beq_iff_eq] at this
  rcases this with (rfl | rfl) | rfl
  · rw [enc_space] at hb; exact .inl (List.mem_singleton.1 hb)
  · rw [enc_nl] at hb; exact .inr (.inl (List.mem_singleton.1 hb))
  · rw [enc_comma] at hb; exact .inr (.inr (List.mem_singleton.1 hb))

theorem ignB_append {a b : List UInt8} (ha : IgnB a) (hb : IgnB b) : IgnB (a ++ b) := List.forall_mem_append.2 ⟨ha, hb⟩

theorem ignoredLen_gap : ∀ (g X : List UInt8), IgnB g → ignoredLen false (g ++ X) = g.length + ignoredLen false X
  | [], X, _ => by simp
  | b :: g, X, h => by
    have hb : b = 9 ∨ b = 32 ∨ b = 10 ∨ b = 13 ∨ b = 44 := by
      rcases h b (by simp) with h | h | h
      · exact Or.inr (Or.inl h)
      · exact Or.inr (Or.inr (Or.inl h))
      · exact Or.inr (Or.inr (Or.inr (Or.inr h)))
    rw [List.cons_append, ignoredLen_false_cons, if_pos hb, ignoredLen_gap g X (fun x hx => h x (by simp [hx]))]
    simp only [List.length_cons]; omega

theorem hasHigh_ignB {g : List UInt8} (h : IgnB g) : hasHigh g = false := by
  simp only [hasHigh, List.any_eq_false, decide_eq_true_eq, Nat.not_le]
  intro b hb
  rcases h b hb with rfl | rfl | rfl <;> decide

theorem lexLoopG_items : ∀ (is : List Item) (g : List UInt8) (off f : Nat), LexK is [] → IgnB g →
    (g ++ utf8 (render is)).length < f →
    lexLoopG f (g ++ utf8 (render is)) off = ⟨lexItems is g off, none⟩
  | [], g, off, f, _, hg, hf => by
    match f, hf with
    | f + 1, _ =>
      simp only [render_nil, utf8_nil, List.append_nil]
      have hi : ignoredLen false g = g.length := by
        have := ignoredLen_gap g [] hg
        simpa [ignoredLen] using this
      have hd : g.drop (ignoredLen false g) = [] := by rw [hi]; exact List.drop_length
      rw [lexLoopG_eof f g off hd, hi, List.take_length]
      rfl
  | .sep t :: is, g, off, f, hk, hg, hf => by
    have e : g ++ utf8 (render (.sep t :: is)) = (g ++ utf8 t) ++ utf8 (render is) := by
      simp [Item.text]
    rw [e] at hf ⊢
    exact lexLoopG_items is (g ++ utf8 t) off f hk.2 (ignB_append hg (ignB_utf8 hk.1)) hf
  | .tok k v t :: is, g, off, f, hk, hg, hf => by
    obtain ⟨ht, hfollow, hrest⟩ := hk
    have hr : sticky k = true → DelimB (utf8 (render is)) := by
      intro hs
      have := hfollow hs
      rw [List.append_nil] at this
      exact delimB_of_startsDelim this
    obtain ⟨htok, hpos⟩ := tokText_token ht (utf8 (render is)) hr
    have e : g ++ utf8 (render (.tok k v t :: is)) = g ++ (utf8 t ++ utf8 (render is)) := by
      simp [Item.text]
    rw [e] at hf ⊢
    match hX : utf8 t ++ utf8 (render is), htok with
    | [], htok => simp [token] at htok
    | c :: r, htok =>
      match f, hf with
      | f + 1, hf =>
        have hi : ignoredLen false (g ++ c :: r) = g.length := by
          rw [ignoredLen_gap g _ hg, token_ok_ignoredLen htok]; rfl
        have hd : (g ++ c :: r).drop (ignoredLen false (g ++ c :: r)) = c :: r := by
          rw [hi]; exact List.drop_left
        rw [lexLoopG_ok f (g ++ c :: r) off hd htok, hi]
        have hdrop : (c :: r).drop (utf8 t).length = [] ++ utf8 (render is) := by
          rw [← hX]; simp
        have hlen : ([] ++ utf8 (render is)).length < f := by
          simp only [List.nil_append]
          simp only [List.length_append] at hf
          omega
        rw [hdrop, lexLoopG_items is [] _ f hrest (by intro b hb; simp at hb) hlen]
        simp only [List.take_left', lexItems, makeToken]

theorem lexItems_gaps : ∀ (is : List Item) (g : List UInt8) (off : Nat), LexK is [] → IgnB g →
    ∀ gt ∈ lexItems is g off, hasHigh gt.1 = false
  | [], g, off, _, hg, gt, hgt => by
    simp only [lexItems, List.mem_cons, List.mem_nil_iff, or_false] at hgt
    subst hgt; exact hasHigh_ignB hg
  | .sep t :: is, g, off, hk, hg, gt, hgt =>
    lexItems_gaps is (g ++ utf8 t) off hk.2 (ignB_append hg (ignB_utf8 hk.1)) gt hgt
  | .tok k v t :: is, g, off, hk, hg, gt, hgt => by
    simp only [lexItems, List.mem_cons] at hgt
    rcases hgt with rfl | hgt
    · exact hasHigh_ignB hg
    · exact lexItems_gaps is [] _ hk.2.2 (by intro b hb; simp at hb) gt hgt

end GqlModel.RoundTrip
