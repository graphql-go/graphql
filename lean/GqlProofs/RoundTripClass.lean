import GqlProofs.RoundTripUtf8
/-! # C08 byte level — transferring character predicates to byte predicates through `utf8`

A predicate on characters that is decided by the code below 0x80 and constant above (is it a quote, a backslash, a
newline, white space, a control character …) corresponds to the same predicate on bytes: an ASCII character is one
byte with the same code, every byte of another character is ≥ 0x80.  `Compat P Q` says so; `all`/`any`/`head?`/
`getLast?`/`contains` then commute with `utf8`. -/
namespace GqlModel.RoundTrip

/-- the byte predicate `Q` says on every byte of a character's encoding what `P` says on the character -/
def Compat (P : Char → Bool) (Q : UInt8 → Bool) : Prop := ∀ c, ∀ b ∈ String.utf8EncodeChar c, Q b = P c

theorem compat_of_nat (f : Nat → Bool) (hf : ∀ n, 128 ≤ n → f n = f 128) :
    Compat (fun c => f c.toNat) (fun b => f b.toNat) := by
  intro c b hb
  rcases enc_cases c with ⟨_, b', he, hn⟩ | ⟨hge, hall⟩
  · rw [he] at hb; simp only [List.mem_cons, List.mem_nil_iff, or_false] at hb; subst hb; simp only [hn]
  · simp only [hf _ (hall b hb), hf _ hge]

theorem all_utf8 {P : Char → Bool} {Q : UInt8 → Bool} (h : Compat P Q) (cs : Chars) : (utf8 cs).all Q = cs.all P := by
  rw [utf8, List.all_flatMap]
  refine List.all_congr rfl fun c => ?_
  obtain ⟨b, bs, he⟩ := List.exists_cons_of_ne_nil (enc_ne_nil c)
  have hb := h c b (he ▸ List.mem_cons_self)
  rw [Bool.eq_iff_iff, List.all_eq_true]
  exact ⟨fun hq => hb ▸ hq b (he ▸ List.mem_cons_self), fun hp x hx => (h c x hx).trans hp⟩

theorem utf8_isEmpty (cs : Chars) : (utf8 cs).isEmpty = cs.isEmpty := by
  rw [Bool.eq_iff_iff, List.isEmpty_iff, List.isEmpty_iff, utf8_eq_nil]

theorem head_utf8 {P : Char → Bool} {Q : UInt8 → Bool} (h : Compat P Q) (c : Char) (cs : Chars) :
    ∃ b bs, utf8 (c :: cs) = b :: bs ∧ Q b = P c := by
  match he : String.utf8EncodeChar c with
  | [] => exact absurd he (enc_ne_nil c)
  | b :: bs => exact ⟨b, bs ++ utf8 cs, by simp [he], h c b (by simp [he])⟩

theorem getLast_utf8 {P : Char → Bool} {Q : UInt8 → Bool} (h : Compat P Q) (cs : Chars) :
    ((utf8 cs).getLast?.map Q) = (cs.getLast?.map P) := by
  rw [utf8, List.getLast?_flatMap, List.getLast?_eq_head?_reverse]
  cases cs.reverse with
  | nil => rfl
  | cons c r =>
    have hne := enc_ne_nil c
    rw [List.findSome?_cons, List.getLast?_eq_some_getLast hne]
    simp [h c _ (List.getLast_mem hne)]

theorem compat_eq (d : Char) (hd : d.toNat < 128) : Compat (fun c => c == d) (fun b => b == UInt8.ofNat d.toNat) := by
  have hc := compat_of_nat (fun n => n == d.toNat)
    (by intro n hn; show (n == d.toNat) = (128 == d.toNat); rw [Bool.eq_iff_iff]; simp only [beq_iff_eq]; omega)
  intro c b hb
  have e1 : (b == UInt8.ofNat d.toNat) = (b.toNat == d.toNat) := by
    rw [Bool.eq_iff_iff]; simp only [beq_iff_eq]; rw [← UInt8.toNat_inj, toNat_ofNat_lt (by omega)]
  have e2 : (c == d) = (c.toNat == d.toNat) := by
    rw [Bool.eq_iff_iff]; simp only [beq_iff_eq, ← Char.toNat_inj]
  show (b == _) = (c == d)
  rw [e1, e2]; exact hc c b hb

theorem compat_quote : Compat (fun c => c == '"') (fun b => b == 34) := compat_eq '"' (by decide)
theorem compat_bslash : Compat (fun c => c == '\\') (fun b => b == 92) := compat_eq '\\' (by decide)
theorem compat_nl : Compat (fun c => c == '\n') (fun b => b == 10) := compat_eq '\n' (by decide)

theorem compat_or {P P' : Char → Bool} {Q Q' : UInt8 → Bool} (h : Compat P Q) (h' : Compat P' Q') :
    Compat (fun c => P c || P' c) (fun b => Q b || Q' b) := by
  intro c b hb; simp only [h c b hb, h' c b hb]

theorem compat_not {P : Char → Bool} {Q : UInt8 → Bool} (h : Compat P Q) : Compat (fun c => !P c) (fun b => !Q b) := by
  intro c b hb; simp only [h c b hb]

theorem any_utf8 {P : Char → Bool} {Q : UInt8 → Bool} (h : Compat P Q) (cs : Chars) : (utf8 cs).any Q = cs.any P := by
  rw [List.any_eq_not_all_not, List.any_eq_not_all_not, all_utf8 (compat_not h)]

theorem compat_ws : Compat (fun c => c == ' ' || c == '\t') (fun b => b == 32 || b == 9) :=
  compat_or (compat_eq ' ' (by decide)) (compat_eq '\t' (by decide))

theorem compat_ge32 : Compat (fun c => decide (c.toNat ≥ 32)) (fun b => decide (32 ≤ b.toNat)) := by
  have := compat_of_nat (fun n => decide (32 ≤ n)) (by intro n hn; show decide (32 ≤ n) = decide (32 ≤ 128); rw [Bool.eq_iff_iff]; simp only [decide_eq_true_eq]; omega)
  exact this

theorem contains_utf8 {d : Char} {e : UInt8} (h : Compat (fun c => c == d) (fun b => b == e)) (cs : Chars) :
    (utf8 cs).contains e = cs.contains d := by
  have h1 : (utf8 cs).contains e = (utf8 cs).any (fun b => b == e) := by
    rw [List.contains_eq_any_beq]; congr 1; funext b; exact Bool.beq_comm
  have h2 : cs.contains d = cs.any (fun c => c == d) := by
    rw [List.contains_eq_any_beq]; congr 1; funext b; exact Bool.beq_comm
  rw [h1, h2, any_utf8 h]

end GqlModel.RoundTrip
